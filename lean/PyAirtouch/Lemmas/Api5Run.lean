import PyAirtouch.Lemmas.Api5Step
/-!
# Runs of the AirTouch 5 API model

Under frames the handshake only moves forward (`frames_mono`), and frames then the awaited answer move it beyond the
answered state (`noise_then_answer`); with a waiting `init()` and a console that never completes the handshake nothing
happens but the time-out (`Silent`, `silent_step`, `silent_run`); the handshake requests among the outputs of an answer
(`handshakeSends`, `answer_sends`, `not_answer_out`).
-/
namespace PyAirtouch.Lemmas.Api5
open PyAirtouch.Model PyAirtouch.Model.Api5 PyAirtouch.Model.At5 PyAirtouch.Model.At5.Registry
open PyAirtouch.Model.TimerCommon (AcTimerState AcTimerStatusData)
open PyAirtouch.Model.Heartbeat
open PyAirtouch.Gen PyAirtouch.Gen.Api5

/-- what the console can make arrive: a decodable frame or an undecodable one -/
def Op.isFrame : Op → Bool
  | .msg _ _ | .undecodable _ => true
  | _ => false

theorem frame_mono (s : State) (o : Op) (h : Op.isFrame o = true) : Mono s (apiStep s o).1 := by
  cases o <;> simp [Op.isFrame] at h
  · exact doMsg_mono s _ _
  · exact Mono.refl s

/-- `CONNECTED` only with the event set: what `Mono.connected` hands on along frames -/
def ConnInit (s : State) : Prop := s.st = .CONNECTED → s.initialised = true

theorem mono_connInit {s s' : State} (h : Mono s s') (hc : ConnInit s) : ConnInit s' := by
  intro h1
  by_cases h2 : s.st = .CONNECTED
  · exact h.initialised (hc h2)
  · exact h.connected h1 h2

theorem frames_mono (s : State) (ops : List Op) (hall : ∀ o ∈ ops, Op.isFrame o = true) (hs : Handshaking s) (hc : ConnInit s) :
    Handshaking (runS s ops) ∧ ConnInit (runS s ops) ∧ rank s.st ≤ rank (runS s ops).st :=
  runS_eq s ops ▸ FoldW.foldW_inv (I := fun t => Handshaking t ∧ ConnInit t ∧ rank s.st ≤ rank t.st) ops s
    ⟨hs, hc, Nat.le_refl _⟩ fun t o ho ⟨h1, h2, h3⟩ =>
      have hm := frame_mono t o (hall o ho)
      ⟨(mono_handshaking hm h1).1, mono_connInit hm h2, Nat.le_trans h3 (mono_handshaking hm h1).2⟩

theorem noise_then_answer (s : State) (hs : Handshaking s) (hc : ConnInit s) (st : AirTouchState)
    (hk : rank st ≤ rank s.st) (h7 : rank st ≤ 7) (n : List Op) (hn : ∀ o ∈ n, Op.isFrame o = true)
    (toAddr : Nat) (m : Msg) (ha : answers st toAddr m = true) (hok : (runS s n).st = st → abilityOk (runS s n) m) :
    Handshaking (runS (runS s n) [.msg toAddr m]) ∧ ConnInit (runS (runS s n) [.msg toAddr m]) ∧
      rank st + 1 ≤ rank (runS (runS s n) [.msg toAddr m]).st := by
  obtain ⟨h1, h2, h3⟩ := frames_mono s n hn hs hc
  have hm := frame_mono (runS s n) (.msg toAddr m) rfl
  obtain ⟨g1, g2⟩ := mono_handshaking hm h1
  refine ⟨g1, mono_connInit hm h2, ?_⟩
  by_cases he : rank (runS s n).st = rank st
  · have hst := rank_inj he
    have := answer_advances (runS s n) toAddr m h1 (by rw [hst]; exact ha) (hok hst)
    show _ ≤ rank (doMsg _ toAddr m).1.st
    rw [this, rank_nextState _ (by rw [hst]; exact h7), hst]
    exact Nat.le_refl _
  · have : rank st < rank (runS s n).st := by omega
    exact Nat.le_trans this g2

/-! ### silence: a waiting `init()` and a console that never completes the handshake -/

/-- one `init()` is waiting with deadline `d` (or has timed out), the event is clear, the heartbeat manager idle -/
structure Silent (d : Nat) (s : State) : Prop where
  idle : HbIdle s.hb
  ninit : s.initialised = false
  sockOpen : s.sockOpen = true
  pend : s.pendingInits = if s.now < d then [d] else []
  notConn : s.st ≠ .CONNECTED

/-- ops under which the handshake cannot complete: time passing, connection changes, undecodable frames, and any frame
that is not an answer to the last request (the zone-status request) -/
def Op.isQuiet : Op → Bool
  | .adv _ | .conn _ | .undecodable _ => true
  | .msg toAddr m => !answers .INIT_ZONE_STATUS toAddr m
  | _ => false

/-- what such an op can emit -/
def SilentOut (s : State) (d : Nat) (op : Op) (o : Out) : Prop :=
  match o with
  | .send _ _ _ | .notifyAt _ | .notifyAc _ _ _ | .notifyZone _ _ | .undecodable _ => True
  | .subscriberExc _ => ∃ toAddr m, op = .msg toAddr m      -- only a frame handler's exception (e.g. `KeyError`)
  | .result t => t = "init False" ∧ ∃ n, op = .adv n ∧ s.now < d ∧ d ≤ s.now + n
  | _ => False

theorem silentOut_of_sn {s : State} {d : Nat} {op : Op} {o : Out} (h : SendOrNotify o) : SilentOut s d op o := by
  cases o <;> simp [SendOrNotify, Out.isSend, Out.isNotify] at h <;> trivial

/-- ticks an op lets pass -/
def Op.ticks : Op → Nat
  | .adv n => n
  | _ => 0

theorem apiStep_now (s : State) (op : Op) : (apiStep s op).1.now = s.now + Op.ticks op := by
  have st := apiStep_step s op
  generalize apiStep s op = r at st ⊢
  cases st with
  | call op s1 out hp e => exact e.now.trans (by cases op <;> first | rfl | cases hp)
  | frame a m s1 out k | resp a m s1 out k => exact k.same.now
  | last a m s1 pre _ _ _ _ e => exact e.now
  | _ => rfl

theorem silent_step (d : Nat) (s : State) (op : Op) (h : Silent d s) (hq : Op.isQuiet op = true) :
    Silent d (apiStep s op).1 ∧ (∀ o ∈ (apiStep s op).2, SilentOut s d op o) ∧
    (Out.result "init False" ∈ (apiStep s op).2 ↔ ∃ n, op = .adv n ∧ s.now < d ∧ d ≤ s.now + n) ∧
    (apiStep s op).1.now = s.now + Op.ticks op := by
  -- `SilentOut` of `RESULT init False` is the left-to-right half of the third claim
  suffices main : Silent d (apiStep s op).1 ∧ (∀ o ∈ (apiStep s op).2, SilentOut s d op o) ∧
      ((∃ n, op = .adv n ∧ s.now < d ∧ d ≤ s.now + n) → Out.result "init False" ∈ (apiStep s op).2) from
    ⟨main.1, main.2.1, ⟨fun ho => (main.2.1 _ ho).2, main.2.2⟩, apiStep_now s op⟩
  have st := apiStep_step s op
  generalize apiStep s op = r at st ⊢
  -- not the frame that completes the handshake: the manager is left alone, so it is still idle
  have ord : ∀ {a m s1 out}, Ordinary s a m s1 out → Silent d s1 ∧ ∀ o ∈ out, SilentOut s d (.msg a m) o :=
    fun {a m _ _} k =>
      ⟨⟨k.same.hb ▸ h.idle, k.same.initialised.trans h.ninit, k.same.sockOpen.trans h.sockOpen,
        by rw [k.same.pendingInits, k.same.now]; exact h.pend, fun hc => h.notConn (k.connected_iff.1 hc)⟩,
       fun o hm => (k.out o hm).elim silentOut_of_sn fun ⟨c, hc⟩ => hc ▸ ⟨a, m, rfl⟩⟩
  cases st with
  | init | shutdown => cases hq
  | call op s1 out hp => cases op <;> first | (cases hp; done) | (cases hq; done)
  | junk c => exact ⟨h, fun o ho => (by cases List.mem_singleton.1 ho; trivial), fun ⟨n, hn, _⟩ => nomatch hn⟩
  | deaf a m => exact ⟨h, List.forall_mem_nil _, fun ⟨n, hn, _⟩ => nomatch hn⟩
  | last a m s1 pre _ _ ha => simp [Op.isQuiet, ha] at hq
  | conn up st' out e2 _ ho =>
    refine ⟨⟨(hbStep_idle (.conn up s.now) h.idle nofun).1, h.ninit, h.sockOpen, h.pend, ?_⟩,
      fun o hm => silentOut_of_sn (.inl (ho h.sockOpen o hm)), fun ⟨n, hn, _⟩ => nomatch hn⟩
    rcases e2 with rfl | ⟨rfl, _⟩
    · exact h.notConn
    · nofun
  | frame a m s1 out k => exact ⟨(ord k).1, (ord k).2, fun ⟨n, hn, _⟩ => nomatch hn⟩
  | resp a m s1 out k =>
    obtain ⟨i1, i2⟩ := hbStep_idle (.resp s.now) h.idle nofun
    rw [i2, List.append_nil]
    have h1 := (ord k).1
    exact ⟨⟨i1, h1.ninit, h1.sockOpen, h1.pend, h1.notConn⟩, (ord k).2,
      fun ⟨n, hn, _⟩ => nomatch hn⟩
  | adv n =>
    obtain ⟨h1, h2⟩ := advOut_idle h.idle (s.pendingInits.filter (· ≤ s.now + n)) (s.now + n)
    rw [h1]
    refine ⟨⟨h2, h.ninit, h.sockOpen, ?_, h.notConn⟩, ?_, ?_⟩
    · show s.pendingInits.filter (s.now + n < ·) = if s.now + n < d then [d] else []
      rw [h.pend]
      by_cases hd : s.now < d <;> by_cases hd2 : s.now + n < d <;> simp [hd, hd2] <;> omega
    · intro o ho
      simp only [List.mem_map, List.mem_filter, h.pend] at ho
      obtain ⟨x, ⟨hx, hle⟩, rfl⟩ := ho
      by_cases hd : s.now < d
      · simp [hd] at hx; subst hx
        exact ⟨rfl, n, rfl, hd, by simpa using hle⟩
      · simp [hd] at hx
    · rintro ⟨n', hn', hd, hle⟩
      cases hn'
      simp only [List.mem_map, List.mem_filter, h.pend]
      exact ⟨d, ⟨by simp [hd], by simpa using hle⟩, trivial⟩

theorem silent_init (s : State) (hi : HbIdle s.hb) (hn : s.initialised = false) (hp : s.pendingInits = []) :
    Silent (s.now + initTimeout) (apiStep s .init).1 ∧ (apiStep s .init).2 = [.opened] ∧
      (apiStep s .init).1.now = s.now := by
  have e : apiStep s .init = ({ s with st := .CONNECTING, sockSubscribed := true, sockOpen := true, pendingInits := [s.now + initTimeout] }, [.opened]) := by
    simp [apiStep, doInit, hn, hp]
  rw [e]
  refine ⟨⟨hi, hn, rfl, ?_, by simp⟩, rfl, rfl⟩
  simp [initTimeout]

theorem silent_run (d : Nat) (s : State) (ops : List Op) (h : Silent d s) (hq : ∀ o ∈ ops, Op.isQuiet o = true) :
    Silent d (runS s ops) ∧ (runS s ops).now = s.now + (ops.map Op.ticks).sum := by
  induction ops generalizing s with
  | nil => exact ⟨h, by simp⟩
  | cons o ops ih =>
    obtain ⟨h1, _, _, h4⟩ := silent_step d s o h (hq o (by simp))
    obtain ⟨g1, g2⟩ := ih (apiStep s o).1 h1 (fun o' ho' => hq o' (by simp [ho']))
    refine ⟨g1, ?_⟩
    simp only [runS_cons, g2, List.map_cons, List.sum_cons, h4]
    omega

/-- the sends of an output list other than error-information requests (which accompany AC status reports) -/
def handshakeSends (out : List Out) : List (Policy × Msg) :=
  out.filterMap fun o => match o with
    | .send p m _ => if isErrInfoRequest m then none else some (p, m)
    | _ => none

theorem handshakeSends_append (a b : List Out) : handshakeSends (a ++ b) = handshakeSends a ++ handshakeSends b := by
  simp [handshakeSends, List.filterMap_append]

theorem handshakeSends_nil {l : List Out} (h : ∀ o ∈ l, ErrOrNotify o) : handshakeSends l = [] := by
  refine List.filterMap_eq_nil_iff.2 fun o ho => ?_
  rcases h o ho with hn | ⟨ac, rfl⟩
  · cases o <;> first | rfl | cases hn
  · rfl

theorem answer_sends (s : State) (toAddr : Nat) (m : Msg) (hs : Handshaking s) (h6 : rank s.st ≤ 6)
    (hi : HbIdle s.hb) (ha : answers s.st toAddr m = true) (hok : abilityOk s m) :
    handshakeSends (doMsg s toAddr m).2 = ((requestFor (nextState s.st)).map fun r => (Policy.connected, r)).toList := by
  have hctl := (digest_touch m s).ctl
  rcases proceed_cases s.st (answers_rank ha).1 (answers_rank ha).2 with ⟨_, req, hreq, hp⟩ | ⟨hst, _⟩
  · have e : handleMessage s toAddr m =
        ⟨{ (digest m s).s with st := nextState s.st }, (digest m s).out ++ [.send .connected req false], none⟩ := by
      rw [handleMessage_eq, if_pos ha, andThen_none _ _ (digest_exc hs.sockOpen hok), hp]
      simp only [sendMsg_open { (digest m s).s with st := nextState s.st } _ _ _ (hctl.sockOpen.trans hs.sockOpen)]
    -- the op emits what the handler emits and, the heartbeat manager being idle, nothing else
    have hout : (doMsg s toAddr m).2 = (digest m s).out ++ [.send .connected req false] := by
      rw [doMsg_eq, if_pos hs.sockSubscribed]
      split
      · -- the manager is idle and ignores the response
        rw [(hbStep_idle (.resp _) (by rw [e]; exact hctl.hb ▸ hi) nofun).2, e]; simp only [excOut, List.append_nil]
      · rw [e]; simp only [excOut, List.append_nil]
    rw [hout, handshakeSends_append, handshakeSends_nil (digest_touch m s).out, hreq]
    simp [handshakeSends, (requestFor_spec hreq).2]
  · rw [hst] at h6; exact absurd h6 (by decide)

/-- only the ability answer has a side condition -/
theorem abilityOk_of_other (s' : State) (st : AirTouchState) (toAddr : Nat) (m : Msg) (ha : answers st toAddr m = true)
    (hne : st ≠ .INIT_AC_ABILITY) : abilityOk s' m := by
  unfold abilityOk
  split
  · exfalso
    cases st <;> simp [answers] at ha
    exact hne rfl
  · trivial

theorem not_answer_out (s : State) (toAddr : Nat) (m : Msg) (hne : s.st ≠ .CONNECTED) (hi : HbIdle s.hb)
    (ha : answers s.st toAddr m = false) :
    (doMsg s toAddr m).1.st = s.st ∧ ∀ o ∈ (doMsg s toAddr m).2, o.isNotify = true := by
  obtain ⟨h1, h2, h3⟩ := handleMessage_not_answer s toAddr m ha hne
  refine ⟨?_, fun o ho => ?_⟩
  · rw [doMsg_st, if_neg fun h => Bool.false_ne_true (ha.symm.trans h.2.1)]
  · rcases doMsg_out_mem ho with ⟨_, ho | ⟨c, hc, _⟩ | ho⟩
    · exact h3 o ho
    · rw [h2] at hc; cases hc
    · rw [(hbStep_idle (.resp _) (h1.hb ▸ hi) nofun).2] at ho; cases ho

end PyAirtouch.Lemmas.Api5
