import PyAirtouch.Model.Frame
import PyAirtouch.Model.At4.Hdr
import PyAirtouch.Lemmas.Crc
import PyAirtouch.Lemmas.RegistryCommon
/-!
# The framing layer (`Model/Frame.lean`)

`parseOne` decides on a prefix of the stream, and more bytes behind it do not change the decision; hence `parseAll`
and `feed` do not depend on how the stream is cut into segments (`feedAll_eq_feed_flatten`, C13; `Settled` is the
state between segments).  Only frames whose check value validated are delivered (C06, C17), and what the send path
writes the receive path delivers (`frame_roundtrip`, C03; the two header codecs are in `Lemmas/Hdr.lean`).

The stages of `parseOne` are named here (`afterHdr`: the header is buffered; `checked`: the whole frame is); its
equations are `parseOne_eq`, `afterHdr_ok` and `parseOne_frame`, and `parseOne_cases` cuts any buffer at the places
the header's length field gives: too little to tell, a header rejected whatever follows, or a whole frame at the head.

`parseAll` runs on fuel, and `feed` hands it the length of the buffer plus one.  `Parses p bs ds st` is its graph on
any fuel above the length of `bs` (`parseAll_parses`, `Parses.eq_parseAll`; `feed_parses` and `Parses.feed` are these
two at `feed`'s fuel, and `parseAll_fuel` follows).  Everything else about reception (`Parses.settled`,
`Parses.append_dead`, `Parses.append_live`, and from them `feed_append` and segmentation independence) is an induction
over `Parses` and mentions no fuel.  `parseAll_buf_length` and `parseAll_dead_buf` hold for every fuel, also for a run
that the fuel cuts short, which `Parses` does not describe; they are inductions over `parseAll` itself.
-/
namespace PyAirtouch.Lemmas.Frame
open PyAirtouch.Model PyAirtouch.Model.Frame

variable {H M : Type}

/-- what `parseOne` does once header, message bytes and check bytes are all there -/
def checked (p : Proto H M) (h : H) (ck mb crc rest : Bytes) : Outcome H M :=
  match crcValidate (ck ++ mb) crc with
  | .result true =>
    match p.decodeMsg h mb with
    | .error e => .reject (some e)
    | .ok (m, mrem) => if mrem ≠ [] then .reject (some .decodeError) else .deliver h m rest
  | .result false => .reject none
  | _ => .reject (some .valueError)

/-- what `parseOne` does once the whole header is buffered -/
def afterHdr (p : Proto H M) (hb r1 : Bytes) : Outcome H M :=
  match p.decodeHdr hb with
  | .error e => .reject (some e)
  | .ok (h, hrem, ck) =>
    if hrem ≠ [] then .reject (some .decodeError) else
    let n := p.msgLen h
    if r1.length < n + 2 then .needMore else
    checked p h ck (r1.take n) ((r1.drop n).take 2) (r1.drop (n + 2))

theorem parseOne_eq (p : Proto H M) (bs : Bytes) :
    parseOne p bs = if bs.length < p.headerLength then .needMore
      else afterHdr p (bs.take p.headerLength) (bs.drop p.headerLength) := rfl

/-- what happens to an outcome when more bytes arrive behind a decided one -/
def Outcome.extend (more : Bytes) : Outcome H M → Outcome H M
  | .deliver h m rest => .deliver h m (rest ++ more)
  | o => o

theorem checked_append (p : Proto H M) (h : H) (ck mb crc rest more : Bytes) :
    checked p h ck mb crc (rest ++ more) = Outcome.extend more (checked p h ck mb crc rest) := by
  unfold checked
  cases crcValidate (ck ++ mb) crc with
  | valueError => rfl
  | overflow => rfl
  | result b =>
    cases b with
    | false => rfl
    | true =>
      cases p.decodeMsg h mb with
      | error e => rfl
      | ok w =>
        obtain ⟨m, mrem⟩ := w
        cases mrem <;> rfl

theorem checked_deliver_inv (p : Proto H M) {h h' : H} {ck mb crc rest rest' : Bytes} {m : M}
    (hd : checked p h ck mb crc rest = .deliver h' m rest') :
    h' = h ∧ crcValidate (ck ++ mb) crc = .result true ∧ p.decodeMsg h mb = .ok (m, []) ∧ rest' = rest := by
  unfold checked at hd
  split at hd
  · split at hd
    · cases hd
    · rename_i hcrc _ m' mrem hmsg
      cases mrem with
      | cons x xs => simp at hd
      | nil =>
        simp only [ne_eq, not_true_eq_false, ↓reduceIte] at hd
        cases hd
        exact ⟨rfl, hcrc, hmsg, rfl⟩
  · cases hd
  · cases hd

theorem afterHdr_cases (p : Proto H M) (hb : Bytes) :
    (∃ e, ∀ r1, afterHdr p hb r1 = .reject (some e)) ∨ ∃ h ck, p.decodeHdr hb = .ok (h, [], ck) := by
  unfold afterHdr
  cases p.decodeHdr hb with
  | error e => exact .inl ⟨e, fun _ => rfl⟩
  | ok v =>
    obtain ⟨h, hrem, ck⟩ := v
    cases hrem with
    | cons x xs => exact .inl ⟨.decodeError, fun _ => rfl⟩
    | nil => exact .inr ⟨h, ck, rfl⟩

theorem afterHdr_ok (p : Proto H M) {hb ck : Bytes} {h : H} (hdec : p.decodeHdr hb = .ok (h, [], ck))
    (r1 : Bytes) :
    afterHdr p hb r1 = if r1.length < p.msgLen h + 2 then .needMore else
      checked p h ck (r1.take (p.msgLen h)) ((r1.drop (p.msgLen h)).take 2) (r1.drop (p.msgLen h + 2)) := by
  unfold afterHdr
  simp only [hdec, ne_eq, not_true_eq_false, ↓reduceIte]

theorem parseOne_frame (p : Proto H M) (hb mb crc rest ck : Bytes) (h : H) (hhb : hb.length = p.headerLength)
    (hdec : p.decodeHdr hb = .ok (h, [], ck)) (hmb : mb.length = p.msgLen h) (hcrc : crc.length = 2) :
    parseOne p (hb ++ mb ++ crc ++ rest) = checked p h ck mb crc rest := by
  have hl : ¬ (hb ++ (mb ++ (crc ++ rest))).length < p.headerLength := by
    simp only [List.length_append]; omega
  have hl' : ¬ (mb ++ (crc ++ rest)).length < p.msgLen h + 2 := by
    simp only [List.length_append]; omega
  rw [List.append_assoc, List.append_assoc, parseOne_eq, if_neg hl, List.take_left' hhb, List.drop_left' hhb,
    afterHdr_ok p hdec, if_neg hl', List.take_left' hmb, List.drop_left' hmb, List.take_left' hcrc,
    ← List.append_assoc, List.drop_left' (by simp only [List.length_append]; omega)]

/-- the three things `parseOne` can find at the head of a buffer: too little to tell; a header it rejects, whatever
    follows; or a whole frame, cut where the header's length field says -/
theorem parseOne_cases (p : Proto H M) (bs : Bytes) :
    parseOne p bs = .needMore ∨ (∃ e, ∀ more, parseOne p (bs ++ more) = .reject (some e)) ∨
    ∃ hb mb crc rest h ck, bs = hb ++ mb ++ crc ++ rest ∧ hb.length = p.headerLength ∧
      p.decodeHdr hb = .ok (h, [], ck) ∧ mb.length = p.msgLen h ∧ crc.length = 2 := by
  by_cases hl : bs.length < p.headerLength
  · exact .inl (if_pos hl)
  rcases afterHdr_cases p (bs.take p.headerLength) with ⟨e, he⟩ | ⟨h, ck, hdec⟩
  · refine .inr (.inl ⟨e, fun more => ?_⟩)
    rw [parseOne_eq, if_neg (by simp only [List.length_append]; omega),
      List.take_append_of_le_length (by omega), he]
  by_cases hl' : (bs.drop p.headerLength).length < p.msgLen h + 2
  · exact .inl (by rw [parseOne_eq, if_neg hl, afterHdr_ok p hdec, if_pos hl'])
  rw [List.length_drop] at hl'
  refine .inr (.inr ⟨_, ((bs.drop p.headerLength).take (p.msgLen h)),
    ((bs.drop p.headerLength).drop (p.msgLen h)).take 2, (bs.drop p.headerLength).drop (p.msgLen h + 2), h, ck,
    ?_, ?_, hdec, ?_, ?_⟩)
  · rw [List.append_assoc, List.append_assoc, ← List.drop_drop, List.take_append_drop,
      List.take_append_drop, List.take_append_drop]
  · rw [List.length_take]; omega
  · rw [List.length_take, List.length_drop]; omega
  · rw [List.length_take, List.length_drop, List.length_drop]; omega

theorem parseOne_append_of_ne_needMore (p : Proto H M) (bs more : Bytes)
    (h : parseOne p bs ≠ .needMore) :
    parseOne p (bs ++ more) = Outcome.extend more (parseOne p bs) := by
  rcases parseOne_cases p bs with hn | ⟨e, he⟩ | ⟨hb, mb, crc, rest, hd, ck, rfl, hhb, hdec, hmb, hcrc⟩
  · exact absurd hn h
  · rw [he, ← bs.append_nil, he]; rfl
  · rw [List.append_assoc _ rest, parseOne_frame p hb mb crc _ ck hd hhb hdec hmb hcrc,
      parseOne_frame p hb mb crc _ ck hd hhb hdec hmb hcrc]
    exact checked_append ..

/-- a delivered frame stays delivered, with the same header and message, whatever arrives behind it -/
theorem parseOne_deliver_append (p : Proto H M) {bs : Bytes} {h : H} {m : M} {rest : Bytes}
    (hd : parseOne p bs = .deliver h m rest) (more : Bytes) :
    parseOne p (bs ++ more) = .deliver h m (rest ++ more) := by
  rw [parseOne_append_of_ne_needMore p bs more (by rw [hd]; intro c; cases c), hd]; rfl

/-- a rejected stream stays rejected, for the same reason, whatever arrives behind it -/
theorem parseOne_reject_append (p : Proto H M) {bs : Bytes} {e : Option DecErr}
    (hd : parseOne p bs = .reject e) (more : Bytes) :
    parseOne p (bs ++ more) = .reject e := by
  rw [parseOne_append_of_ne_needMore p bs more (by rw [hd]; intro c; cases c), hd]; rfl

theorem parseOne_deliver_valid (p : Proto H M) {bs : Bytes} {h : H} {m : M} {rest : Bytes}
    (hd : parseOne p bs = .deliver h m rest) :
    ∃ hb mb crc ck, bs = hb ++ mb ++ crc ++ rest ∧ hb.length = p.headerLength ∧
      mb.length = p.msgLen h ∧ crc.length = 2 ∧ p.decodeHdr hb = .ok (h, [], ck) ∧
      crcValidate (ck ++ mb) crc = .result true ∧ p.decodeMsg h mb = .ok (m, []) := by
  rcases parseOne_cases p bs with hn | ⟨e, he⟩ | ⟨hb, mb, crc, rest', h', ck, rfl, hhb, hdec, hmb, hcrc⟩
  · cases hn.symm.trans hd
  · have := he []
    rw [List.append_nil, hd] at this
    cases this
  · rw [parseOne_frame p hb mb crc _ ck h' hhb hdec hmb hcrc] at hd
    obtain ⟨rfl, hv, hmsg, rfl⟩ := checked_deliver_inv p hd
    exact ⟨hb, mb, crc, ck, rfl, hhb, hmb, hcrc, hdec, hv, hmsg⟩

theorem parseOne_deliver_consumes (p : Proto H M) {bs : Bytes} {h : H} {m : M} {rest : Bytes}
    (hd : parseOne p bs = .deliver h m rest) :
    rest.length + p.headerLength + 2 ≤ bs.length ∧ ∃ consumed, bs = consumed ++ rest := by
  obtain ⟨hb, mb, crc, ck, rfl, hhb, hmb, hcrc, -⟩ := parseOne_deliver_valid p hd
  refine ⟨?_, hb ++ mb ++ crc, rfl⟩
  simp only [List.length_append]; omega

/-- a frame whose header decodes but whose check value does not validate is rejected as a CRC failure
    (and its message bytes never reach a decoder: the result does not depend on `decodeMsg`) -/
theorem parseOne_bad_crc (p : Proto H M) (hb mb crc rest ck : Bytes) (h : H)
    (hhb : hb.length = p.headerLength) (hdec : p.decodeHdr hb = .ok (h, [], ck))
    (hmb : mb.length = p.msgLen h) (hcrc : crc.length = 2)
    (hbad : crcValidate (ck ++ mb) crc = .result false) :
    parseOne p (hb ++ mb ++ crc ++ rest) = .reject none := by
  rw [parseOne_frame p hb mb crc rest ck h hhb hdec hmb hcrc, checked, hbad]

theorem parseAll_succ (p : Proto H M) (f : Nat) (bs : Bytes) :
    parseAll p (f + 1) bs =
      match parseOne p bs with
      | .needMore => ([], ⟨bs, false⟩)
      | .reject _ => ([], ⟨[], true⟩)
      | .deliver h m rest => ((h, m) :: (parseAll p f rest).1, (parseAll p f rest).2) := by
  rw [parseAll]
  cases parseOne p bs <;> rfl

/-- the frames the buffered stream `bs` yields and the receiver state it leaves -/
inductive Parses (p : Proto H M) : Bytes → List (H × M) → RState → Prop
  | needMore {bs} (h : parseOne p bs = .needMore) : Parses p bs [] ⟨bs, false⟩
  | reject {bs e} (h : parseOne p bs = .reject e) : Parses p bs [] ⟨[], true⟩
  | deliver {bs h m rest ds st} (hd : parseOne p bs = .deliver h m rest) (hr : Parses p rest ds st) :
      Parses p bs ((h, m) :: ds) st

theorem parseAll_parses (p : Proto H M) (f : Nat) (bs : Bytes) (h : bs.length < f) :
    Parses p bs (parseAll p f bs).1 (parseAll p f bs).2 := by
  fun_induction parseAll p f bs with
  | case1 bs => omega
  | case2 fuel bs hpo => exact .needMore hpo
  | case3 fuel bs e hpo => exact .reject hpo
  | case4 fuel bs h' m rest hpo ds st hrec ih =>
    rw [hrec] at ih
    exact .deliver hpo (ih (by have := (parseOne_deliver_consumes p hpo).1; omega))

theorem Parses.eq_parseAll {p : Proto H M} {bs ds st} (hp : Parses p bs ds st) :
    ∀ f, bs.length < f → parseAll p f bs = (ds, st) := by
  induction hp with
  | needMore h => intro f hf; cases f with | zero => omega | succ f => rw [parseAll_succ, h]
  | reject h => intro f hf; cases f with | zero => omega | succ f => rw [parseAll_succ, h]
  | deliver hd _ ih =>
    intro f hf
    cases f with
    | zero => omega
    | succ f =>
      rw [parseAll_succ, hd]
      simp only
      rw [ih f (by have := (parseOne_deliver_consumes p hd).1; omega)]

theorem parseAll_fuel (p : Proto H M) : ∀ (f1 f2 : Nat) (bs : Bytes),
    bs.length < f1 → bs.length < f2 → parseAll p f1 bs = parseAll p f2 bs :=
  fun f1 f2 bs h1 h2 => (parseAll_parses p f2 bs h2).eq_parseAll f1 h1

/-- nothing more can be done with the buffered bytes alone -/
def Settled (p : Proto H M) (s : RState) : Prop := s.dead = true ∨ parseOne p s.buf = .needMore

theorem Parses.settled {p : Proto H M} {bs ds st} (hp : Parses p bs ds st) : Settled p st := by
  induction hp with
  | needMore h => exact .inr h
  | reject h => exact .inl rfl
  | deliver _ _ ih => exact ih

/-- once a rejection has killed the stream, what arrives behind it changes nothing -/
theorem Parses.append_dead {p : Proto H M} {a ds st} (hp : Parses p a ds st) (b : Bytes) :
    st.dead = true → Parses p (a ++ b) ds st := by
  induction hp with
  | needMore h => exact nofun
  | reject h => exact fun _ => .reject (parseOne_reject_append p h b)
  | deliver hd _ ih => exact fun h => .deliver (parseOne_deliver_append p hd b) (ih h)

/-- on a live stream, parsing `a ++ b` is parsing `a`, then parsing what `a` left with `b` behind it -/
theorem Parses.append_live {p : Proto H M} {a ds st} (hp : Parses p a ds st) (b : Bytes) :
    st.dead = false → ∀ {ds' st'}, Parses p (st.buf ++ b) ds' st' → Parses p (a ++ b) (ds ++ ds') st' := by
  induction hp with
  | needMore h => exact fun _ _ _ h' => h'
  | reject h => exact nofun
  | deliver hd _ ih => exact fun h _ _ h' => .deliver (parseOne_deliver_append p hd b) (ih h h')

theorem parseAll_buf_length (p : Proto H M) : ∀ (f : Nat) (bs : Bytes),
    (parseAll p f bs).2.buf.length ≤ bs.length := by
  intro f bs
  fun_induction parseAll p f bs with
  | case1 bs => exact Nat.le_refl _
  | case2 fuel bs hpo => exact Nat.le_refl _
  | case3 fuel bs e hpo => exact Nat.zero_le _
  | case4 fuel bs h m rest hpo ds st hrec ih =>
    have := (parseOne_deliver_consumes p hpo).1
    rw [hrec] at ih
    simp only at ih ⊢
    omega

theorem parseAll_dead_buf (p : Proto H M) : ∀ (f : Nat) (bs : Bytes),
    (parseAll p f bs).2.dead = true → (parseAll p f bs).2.buf = [] := by
  intro f bs
  fun_induction parseAll p f bs with
  | case1 bs => intro h; cases h
  | case2 fuel bs hpo => intro h; cases h
  | case3 fuel bs e hpo => intro _; rfl
  | case4 fuel bs h m rest hpo ds st hrec ih => rw [hrec] at ih; exact ih

/-- a segment arriving at a live receiver: `feed` gives its buffer fuel enough -/
theorem Parses.feed {p : Proto H M} {buf seg ds st} (hp : Parses p (buf ++ seg) ds st) :
    feed p ⟨buf, false⟩ seg = (ds, st) :=
  hp.eq_parseAll _ (Nat.lt_succ_self _)

theorem feed_parses (p : Proto H M) (buf seg : Bytes) :
    Parses p (buf ++ seg) (feed p ⟨buf, false⟩ seg).1 (feed p ⟨buf, false⟩ seg).2 :=
  parseAll_parses p _ _ (Nat.lt_succ_self _)

theorem feed_settled (p : Proto H M) (s : RState) (seg : Bytes) : Settled p (feed p s seg).2 := by
  rcases s with ⟨buf, _ | _⟩
  · exact (feed_parses p buf seg).settled
  · exact Or.inl rfl

/-- for every `s`, settled or not: `feed` parses everything it can each time -/
theorem feed_append (p : Proto H M) (s : RState) (a b : Bytes) :
    feed p s (a ++ b) =
      (let r1 := feed p s a; let r2 := feed p r1.2 b; (r1.1 ++ r2.1, r2.2)) := by
  rcases s with ⟨buf, _ | _⟩
  · have h := feed_parses p buf a
    rcases hr : feed p ⟨buf, false⟩ a with ⟨ds, buf', _ | _⟩
    · rw [hr] at h
      exact (List.append_assoc .. ▸ h.append_live b rfl (feed_parses p buf' b)).feed
    · rw [hr] at h
      exact (List.append_assoc .. ▸ h.append_dead b rfl).feed.trans (congrArg (·, _) (List.append_nil ds).symm)
  · rfl

theorem feed_nil (p : Proto H M) (s : RState) (hs : Settled p s) : feed p s [] = ([], s) := by
  rcases s with ⟨buf, _ | _⟩
  · exact Parses.feed (by rw [List.append_nil]; exact .needMore (hs.resolve_left Bool.noConfusion))
  · rfl

theorem feedAll_eq_feed_flatten_of_settled (p : Proto H M) (segs : List Bytes) :
    ∀ s, Settled p s → feedAll p s segs = feed p s segs.flatten := by
  induction segs with
  | nil => intro s hs; rw [List.flatten_nil, feed_nil p s hs]; rfl
  | cons seg segs ih =>
    intro s hs
    rw [List.flatten_cons, feed_append, feedAll]
    simp only
    rw [ih _ (feed_settled p s seg)]

/-- however TCP cuts the byte stream into segments (empty ones included), the frames delivered, their
    order and the final receiver state are those of the whole stream arriving at once -/
theorem feedAll_eq_feed_flatten (p : Proto H M) (hpos : 0 < p.headerLength) (segs : List Bytes) :
    feedAll p ⟨[], false⟩ segs = feed p ⟨[], false⟩ segs.flatten :=
  feedAll_eq_feed_flatten_of_settled p segs _ (Or.inr (if_pos hpos))

theorem any_two_segmentations (p : Proto H M) (hpos : 0 < p.headerLength) (segs1 segs2 : List Bytes)
    (h : segs1.flatten = segs2.flatten) :
    feedAll p ⟨[], false⟩ segs1 = feedAll p ⟨[], false⟩ segs2 := by
  rw [feedAll_eq_feed_flatten p hpos, feedAll_eq_feed_flatten p hpos, h]

theorem frame_eq_some (hb ck payload : Bytes) (hck : AllBytes ck) (hpl : AllBytes payload) :
    frame hb ck payload = some (hb ++ payload ++ PyAirtouch.Spec.checkBytes (ck ++ payload)) := by
  unfold frame
  rw [Crc.calculate_eq_modbus _ (RegistryCommon.allBytes_append.mpr ⟨hck, hpl⟩)]
  rfl

theorem frame_eq (hb ck payload fr : Bytes) (hck : AllBytes ck) (hpl : AllBytes payload)
    (hfr : frame hb ck payload = some fr) :
    fr = hb ++ payload ++ PyAirtouch.Spec.checkBytes (ck ++ payload) :=
  Option.some.inj (hfr.symm.trans (frame_eq_some hb ck payload hck hpl))

/-- what the send path emits, the receive path delivers (and leaves the bytes behind it untouched) -/
theorem frame_roundtrip (p : Proto H M) (hb ck payload fr rest : Bytes) (h : H) (m : M)
    (hhb : hb.length = p.headerLength) (hdec : p.decodeHdr hb = .ok (h, [], ck))
    (hlen : p.msgLen h = payload.length) (hmsg : p.decodeMsg h payload = .ok (m, []))
    (hck : ∀ b ∈ ck, b < 256) (hpl : ∀ b ∈ payload, b < 256)
    (hfr : frame hb ck payload = some fr) :
    parseOne p (fr ++ rest) = .deliver h m rest := by
  have hcl : (PyAirtouch.Spec.checkBytes (ck ++ payload)).length = 2 := rfl
  rw [frame_eq hb ck payload fr hck hpl hfr, parseOne_frame p hb payload _ rest ck h hhb hdec hlen.symm hcl,
    checked, Crc.validate_iff _ _ (RegistryCommon.allBytes_append.mpr ⟨hck, hpl⟩) hcl]
  simp only [decide_true, hmsg, ne_eq, not_true_eq_false, ↓reduceIte]

/-! ### non-vacuity: the vendor's AT4 group-status request `55 55 80 b0 01 2b 00 00 f5 2f` -/

section Examples
open PyAirtouch.Model.At4.Hdr

/-- AT4 headers with a message decoder that returns the raw message bytes -/
def at4Raw : Proto At4Header Bytes :=
  { headerLength := headerLength, decodeHdr := decode, msgLen := fun h => h.message_length,
    decodeMsg := fun _ bs => .ok (bs, []) }

def exFrame : Bytes := [0x55, 0x55, 0x80, 0xb0, 0x01, 0x2b, 0x00, 0x00, 0xf5, 0x2f]
def exHdr : At4Header :=
  { to_address := 0x80, from_address := 0xb0, packet_id := 1, message_id := 0x2b, message_length := 0 }

-- the send path produces exactly the vendor's bytes
example : (encode exHdr).toOption.bind (fun r => frame r.1 r.2 []) = some exFrame := by decide +kernel
-- two frames cut at awkward places (and an empty segment): both delivered, in order, nothing left over
example : feedAll at4Raw ⟨[], false⟩ [exFrame.take 3, [], exFrame.drop 3 ++ exFrame.take 9, exFrame.drop 9] =
    ([(exHdr, []), (exHdr, [])], ⟨[], false⟩) := by decide +kernel
-- one damaged bit in the second frame: the first is delivered, then the stream is dead
example : feedAll at4Raw ⟨[], false⟩ [exFrame ++ [0x55, 0x55, 0x80, 0xb0, 0x01, 0x2f, 0x00, 0x00, 0xf5], [0x2f], exFrame] =
    ([(exHdr, [])], ⟨[], true⟩) := by decide +kernel

end Examples

end PyAirtouch.Lemmas.Frame
