import PyAirtouch.Lemmas.Api4Records
/-!
# The four kinds of status record

`update_ac_status`, `update_ac_timer_status`, `update_ac_error_info` and `update_group_status` are one method: look the
object up under the record's number (`key`); if the part of the object the record speaks of (`get`) already has the
record's value (`val`) do nothing; otherwise replace the object (`put`) and emit what a change emits (`evs`).  `Kind` is
that method with its parameters, `Kind.update` the method.  What one update and what a loop `foldEv K.update` of them
stores, emits and leaves alone is proved here for every kind; the four methods of the model are the instances
`acStatusK`, `acTimerK`, `errInfoK`, `groupK` (`StatusKind`).
-/
namespace PyAirtouch.Lemmas.Api4
open PyAirtouch.Model PyAirtouch.Model.Api4 PyAirtouch.Model.At4
open PyAirtouch.Model.TimerCommon (AcTimerState AcTimerStatusData)

/-- a kind of status record `ρ` about the objects `ω` of one table: it replaces the part `get` of the object by `val`
    of the record -/
structure Kind (ρ ω β : Type) [DecidableEq β] where
  tbl : Table ω
  key : ρ → Nat
  val : ρ → β
  get : ω → β
  put : ρ → ω → ω
  get_put : ∀ r o, get (put r o) = val r
  put_numbered : ∀ {r o}, tbl.Numbered o (key r) → tbl.Numbered (put r o) (key r)
  /-- what a change emits, from the state and the object before it -/
  evs : State → ρ → ω → List Ev

variable {ρ ω β : Type} [DecidableEq β]

def Kind.update (K : Kind ρ ω β) (s : State) (r : ρ) : State × List Ev :=
  match K.tbl.find s (K.key r) with
  | none => (s, [])
  | some o => if K.get o = K.val r then (s, []) else (K.tbl.set s (K.key r) (K.put r o), K.evs s r o)

/-- the object after the record has been applied to it -/
def Kind.after (K : Kind ρ ω β) (r : ρ) (o : ω) : ω := if K.get o = K.val r then o else K.put r o

theorem Kind.get_after (K : Kind ρ ω β) (r : ρ) (o : ω) : K.get (K.after r o) = K.val r := by
  unfold Kind.after; split
  · assumption
  · exact K.get_put r o

theorem Kind.after_eq_put (K : Kind ρ ω β) (h : ∀ r o, K.get o = K.val r → K.put r o = o) (r : ρ) (o : ω) :
    K.after r o = K.put r o := by
  unfold Kind.after; split
  · next he => exact (h r o he).symm
  · rfl

theorem Kind.update_same (K : Kind ρ ω β) {s : State} {r : ρ} {o : ω} (hf : K.tbl.find s (K.key r) = some o)
    (h : K.get o = K.val r) : K.update s r = (s, []) := by
  simp only [Kind.update, hf, if_pos h]

theorem Kind.update_changed (K : Kind ρ ω β) {s : State} {r : ρ} {o : ω} (hf : K.tbl.find s (K.key r) = some o)
    (h : K.get o ≠ K.val r) : K.update s r = (K.tbl.set s (K.key r) (K.put r o), K.evs s r o) := by
  simp only [Kind.update, hf, if_neg h]

/-- **notified exactly when the stored record changes**: what a known object's record emits -/
theorem Kind.events_of_find (K : Kind ρ ω β) {s : State} {r : ρ} {o : ω} (hf : K.tbl.find s (K.key r) = some o) :
    (K.update s r).2 = if K.get o = K.val r then [] else K.evs s r o := by
  split
  · next h => rw [K.update_same hf h]
  · next h => rw [K.update_changed hf h]

theorem Kind.update_noop (K : Kind ρ ω β) (s : State) (r : ρ)
    (h : ∀ o, K.tbl.find s (K.key r) = some o → K.get o = K.val r) : K.update s r = (s, []) := by
  cases hf : K.tbl.find s (K.key r) with
  | none => simp only [Kind.update, hf]
  | some o => exact K.update_same hf (h o hf)

theorem Kind.update_cases (K : Kind ρ ω β) (s : State) (r : ρ) :
    K.update s r = (s, []) ∨ ∃ o, K.tbl.find s (K.key r) = some o ∧ K.get o ≠ K.val r ∧
      K.update s r = (K.tbl.set s (K.key r) (K.put r o), K.evs s r o) := by
  cases hf : K.tbl.find s (K.key r) with
  | none => exact .inl (K.update_noop s r fun o ho => by rw [hf] at ho; cases ho)
  | some o =>
    by_cases h : K.get o = K.val r
    · exact .inl (K.update_same hf h)
    · exact .inr ⟨o, rfl, h, K.update_changed hf h⟩

theorem Kind.update_objs (K : Kind ρ ω β) (s : State) (r : ρ) :
    (K.update s r).1 = { s with acObjs := (K.update s r).1.acObjs, zoneObjs := (K.update s r).1.zoneObjs } := by
  rcases K.update_cases s r with e | ⟨o, _, _, e⟩ <;> rw [e]
  exact K.tbl.set_objs _ _ _

theorem Kind.find_update (K : Kind ρ ω β) {s : State} (hinv : Inv s) (r : ρ) (k : Nat) :
    K.tbl.find (K.update s r).1 k = (K.tbl.find s k).map fun o => if k = K.key r then K.after r o else o := by
  unfold Kind.update Kind.after
  by_cases hk : k = K.key r
  · subst hk
    cases hf : K.tbl.find s (K.key r) with
    | none => simp [hf]
    | some o =>
      by_cases hs : K.get o = K.val r
      · simp [hs, hf]
      · simp [hs, K.tbl.find_set hinv, hf]
  · cases hf : K.tbl.find s (K.key r) with
    | none => simp [hk]
    | some o =>
      by_cases hs : K.get o = K.val r
      · simp [hs, hk]
      · simp [hs, hk, K.tbl.find_set hinv]

theorem Kind.inv_update (K : Kind ρ ω β) {s : State} (hinv : Inv s) (r : ρ) : Inv (K.update s r).1 := by
  rcases K.update_cases s r with e | ⟨o, hf, _, e⟩ <;> rw [e]
  · exact hinv
  · exact K.tbl.inv_set hinv (K.put_numbered (K.tbl.numbered hinv hf))

theorem Kind.inv_fold (K : Kind ρ ω β) {s : State} (h : Inv s) (l : List ρ) : Inv (foldEv K.update s l).1 :=
  foldEv_inv Inv _ (fun _ x hs => K.inv_update hs x) s l h

theorem Kind.fold_objs (K : Kind ρ ω β) (s : State) (l : List ρ) :
    (foldEv K.update s l).1 =
      { s with acObjs := (foldEv K.update s l).1.acObjs, zoneObjs := (foldEv K.update s l).1.zoneObjs } :=
  foldEv_objs _ K.update_objs s l

/-! A kind of the air-conditioner table leaves everything but `acObjs` alone, a kind of the zone table everything but
`zoneObjs` (`fold_objs` is what holds of a kind whose table is not known). -/

theorem Kind.update_acFrame {ρ β : Type} [DecidableEq β] (K : Kind ρ AcObj β) (h : K.tbl = acTable) (s : State) (r : ρ) :
    (K.update s r).1 = { s with acObjs := (K.update s r).1.acObjs } := by
  rcases K.update_cases s r with e | ⟨o, _, _, e⟩ <;> rw [e]
  rw [h]; exact setAc_frame _ _ _

theorem Kind.fold_acFrame {ρ β : Type} [DecidableEq β] (K : Kind ρ AcObj β) (h : K.tbl = acTable) (s : State)
    (l : List ρ) : (foldEv K.update s l).1 = { s with acObjs := (foldEv K.update s l).1.acObjs } :=
  foldEv_frame_ac _ (K.update_acFrame h) s l

theorem Kind.update_zoneFrame {ρ β : Type} [DecidableEq β] (K : Kind ρ ZoneObj β) (h : K.tbl = zoneTable) (s : State)
    (r : ρ) : (K.update s r).1 = { s with zoneObjs := (K.update s r).1.zoneObjs } := by
  rcases K.update_cases s r with e | ⟨o, _, _, e⟩ <;> rw [e]
  rw [h]; exact setZone_frame _ _ _

theorem Kind.fold_zoneFrame {ρ β : Type} [DecidableEq β] (K : Kind ρ ZoneObj β) (h : K.tbl = zoneTable) (s : State)
    (l : List ρ) : (foldEv K.update s l).1 = { s with zoneObjs := (foldEv K.update s l).1.zoneObjs } :=
  foldEv_frame_zone _ (K.update_zoneFrame h) s l

/-- the object numbered `k` after a loop of records -/
def Kind.run (K : Kind ρ ω β) (k : Nat) (l : List ρ) (o : ω) : ω :=
  l.foldl (fun o r => if k = K.key r then K.after r o else o) o

theorem Kind.find_fold (K : Kind ρ ω β) {s : State} (hinv : Inv s) (l : List ρ) (k : Nat) :
    K.tbl.find (foldEv K.update s l).1 k = (K.tbl.find s k).map (K.run k l) :=
  obs_foldEv K.update (K.tbl.find · k) (fun r o => if k = K.key r then K.after r o else o)
    (fun _ x h => K.inv_update h x) (fun _ x h => K.find_update h x k) s hinv l

theorem Kind.get_run (K : Kind ρ ω β) (k : Nat) (l : List ρ) (o : ω) :
    K.get (K.run k l o) = ((lastFor K.key k l).map K.val).getD (K.get o) := by
  unfold Kind.run
  induction l generalizing o with
  | nil => rfl
  | cons r rs ih =>
    rw [List.foldl_cons, ih]
    simp only [lastFor]
    cases lastFor K.key k rs with
    | some x => rfl
    | none =>
      by_cases hk : k = K.key r
      · subst hk; simp [K.get_after]
      · have : ¬ K.key r = k := fun e => hk e.symm
        simp [hk, this]

theorem Kind.get_run_self {ρ ω : Type} [DecidableEq ρ] (K : Kind ρ ω ρ) (hv : ∀ r, K.val r = r) (k : Nat) (l : List ρ)
    (o : ω) : K.get (K.run k l o) = (lastFor K.key k l).getD (K.get o) := by
  rw [K.get_run]
  cases lastFor K.key k l with
  | none => rfl
  | some r => exact hv r

theorem Kind.proj_run (K : Kind ρ ω β) {γ} (proj : ω → γ) (hp : ∀ r o, proj (K.put r o) = proj o) (k : Nat)
    (l : List ρ) (o : ω) : proj (K.run k l o) = proj o := by
  unfold Kind.run
  induction l generalizing o with
  | nil => rfl
  | cons r rs ih =>
    rw [List.foldl_cons, ih]
    split
    · unfold Kind.after; split
      · rfl
      · exact hp r o
    · rfl

/-- **what is stored after a loop of records is what the last record for that number said** -/
theorem Kind.stored (K : Kind ρ ω β) {s : State} (hinv : Inv s) (l : List ρ) (k : Nat) :
    (K.tbl.find (foldEv K.update s l).1 k).map K.get =
      (K.tbl.find s k).map fun o => ((lastFor K.key k l).map K.val).getD (K.get o) := by
  rw [K.find_fold hinv, Option.map_map]
  congr 1; funext o
  exact K.get_run k l o

/-- **a list of records with distinct numbers is silent the second time**: in any state `t` whose objects are those
    after the first pass, every record is already stored -/
theorem Kind.fold_twice (K : Kind ρ ω β) {s : State} (hinv : Inv s) (l : List ρ) (hnd : (l.map K.key).Nodup)
    (t : State) (ht : ∀ k, K.tbl.find t k = K.tbl.find (foldEv K.update s l).1 k) :
    foldEv K.update t l = (t, []) := by
  apply foldEv_noop
  intro r hr
  apply K.update_noop
  intro o hf
  have h1 := K.stored hinv l (K.key r)
  rw [← ht, hf, lastFor_of_nodup K.key l hnd r hr] at h1
  cases hs : K.tbl.find s (K.key r) with
  | none => simp [hs] at h1
  | some o0 => simpa [hs] using h1

theorem Kind.fold_unknown (K : Kind ρ ω β) (s : State) (l : List ρ) (h : ∀ r ∈ l, K.tbl.find s (K.key r) = none) :
    foldEv K.update s l = (s, []) :=
  foldEv_noop _ _ _ fun r hr => K.update_noop _ r fun o ho => by rw [h r hr] at ho; cases ho

def acStatusK : Kind X2D.AcStatusData AcObj X2D.AcStatusData where
  tbl := acTable
  key := (·.ac_number)
  val := id
  get := (·.status)
  put r a := { a with status := r, errInfo := if r.error_code ≠ 0 then a.errInfo else none }
  get_put _ _ := rfl
  put_numbered h := ⟨rfl, h.2⟩
  evs _ r a :=
    (if r.error_code ≠ 0 then [Ev.send .connected (errInfoRequest r.ac_number)] else []) ++
      notifyAcAll { a with status := r, errInfo := if r.error_code ≠ 0 then a.errInfo else none }

def acTimerK : Kind AcTimerStatusData AcObj AcTimerStatusData where
  tbl := acTable
  key := (·.ac_number)
  val := id
  get := (·.timer)
  put r a := { a with timer := r }
  get_put _ _ := rfl
  put_numbered h := ⟨h.1, rfl⟩
  evs _ r a := notifyAcAll { a with timer := r }

def errInfoK : Kind FF10.AcErrorInformationMessage AcObj (Option Bytes) where
  tbl := acTable
  key := (·.ac_number)
  val := (·.error_info)
  get := (·.errInfo)
  put m a := { a with errInfo := m.error_info }
  get_put _ _ := rfl
  put_numbered h := h
  evs _ m a := notifyAcAll { a with errInfo := m.error_info }

def groupK : Kind X2B.GroupStatusData ZoneObj X2B.GroupStatusData where
  tbl := zoneTable
  key := (·.group_number)
  val := id
  get := (·.status)
  put g z := { z with status := g }
  get_put _ _ := rfl
  put_numbered _ := rfl
  evs s g z := (z.subs.map fun sb => Ev.notifyZone g.group_number sb.sid) ++
    (acsOfZoneKey s g.group_number).flatMap notifyAcGeneral

theorem acTable_find : acTable.find = State.findAc := rfl

theorem updateAcStatus_kind (s : State) (r : X2D.AcStatusData) : updateAcStatus s r = acStatusK.update s r := by
  unfold updateAcStatus Kind.update; dsimp only [acStatusK, acTable, id]; cases s.findAc r.ac_number <;> rfl
theorem updateAcTimer_kind (s : State) (r : AcTimerStatusData) : updateAcTimer s r = acTimerK.update s r := by
  unfold updateAcTimer Kind.update; dsimp only [acTimerK, acTable, id]; cases s.findAc r.ac_number <;> rfl
theorem updateErrInfo_kind (s : State) (m : FF10.AcErrorInformationMessage) :
    updateErrInfo s m = errInfoK.update s m := by
  unfold updateErrInfo Kind.update; dsimp only [errInfoK, acTable]; cases s.findAc m.ac_number <;> rfl
theorem updateGroupStatus_kind (s : State) (g : X2B.GroupStatusData) : updateGroupStatus s g = groupK.update s g := by
  unfold updateGroupStatus Kind.update; dsimp only [groupK, zoneTable, id]; cases s.zoneOf g.group_number <;> rfl

/-- the kinds of record the model has; a fact about all four is proved by `cases` on this -/
inductive StatusKind : {ρ ω β : Type} → [DecidableEq β] → Kind ρ ω β → Prop
  | acStatus : StatusKind acStatusK
  | acTimer : StatusKind acTimerK
  | errInfo : StatusKind errInfoK
  | group : StatusKind groupK

end PyAirtouch.Lemmas.Api4
