/-!
# Running a label sequence under a side condition

The models run a label sequence by folding a partial step function over it; several theorems restrict the histories by
a condition on each label in the state it is applied to (`runD`, `runH`, `runG`, `runXH`).  `runW ok stp` is that fold
once, for any condition and any step function, with the facts every instance needs: a weaker condition admits the same
run (`runW_mono`), the last label can be split off (`runW_snoc`), induction newest label last (`runW_induction`), and
relabelling (`runW_map`).  Each instance is `runW` by unfolding (`runH_eq` etc., next to the instance).
-/
namespace PyAirtouch.Lemmas.RunWith

variable {σ L L' : Type}

def runW (ok : σ → L → Bool) (stp : σ → L → Option σ) : σ → List L → Option σ
  | s, [] => some s
  | s, l :: ls => if ok s l then (stp s l).bind (fun s' => runW ok stp s' ls) else none

/-- the condition that admits every label: `runW always stp` is the unrestricted fold -/
def always (_ : σ) (_ : L) : Bool := true

theorem runW_cons {ok : σ → L → Bool} {stp : σ → L → Option σ} {s s' : σ} {l : L} {ls : List L} :
    runW ok stp s (l :: ls) = some s' ↔ ∃ m, ok s l = true ∧ stp s l = some m ∧ runW ok stp m ls = some s' := by
  simp only [runW]
  split
  · rename_i hok
    cases hs : stp s l with
    | none => exact ⟨fun h => (nomatch h), fun ⟨_, _, h, _⟩ => (nomatch h)⟩
    | some m => exact ⟨fun h => ⟨m, hok, rfl, h⟩, fun ⟨_, _, h, hr⟩ => by cases h; exact hr⟩
  · rename_i hok
    exact ⟨fun h => (nomatch h), fun ⟨_, h, _⟩ => absurd h hok⟩

theorem runW_mono {ok ok' : σ → L → Bool} {stp : σ → L → Option σ} (h : ∀ s l, ok s l = true → ok' s l = true)
    {ls : List L} : ∀ {s s' : σ}, runW ok stp s ls = some s' → runW ok' stp s ls = some s' := by
  induction ls with
  | nil => exact fun hr => hr
  | cons l ls ih =>
    intro s s' hr
    obtain ⟨m, hok, hs, hr⟩ := runW_cons.1 hr
    exact runW_cons.2 ⟨m, h s l hok, hs, ih hr⟩

theorem runW_snoc {ok : σ → L → Bool} {stp : σ → L → Option σ} {s' : σ} {l : L} {ls : List L} : ∀ {s : σ},
    runW ok stp s (ls ++ [l]) = some s' ↔ ∃ m, runW ok stp s ls = some m ∧ ok m l = true ∧ stp m l = some s' := by
  induction ls with
  | nil =>
    intro s
    rw [List.nil_append, runW_cons]
    exact ⟨fun ⟨m, h1, h2, h3⟩ => by cases h3; exact ⟨s, rfl, h1, h2⟩,
      fun ⟨m, h1, h2, h3⟩ => by cases h1; exact ⟨s', h2, h3, rfl⟩⟩
  | cons x xs ih =>
    intro s
    rw [List.cons_append, runW_cons]
    constructor
    · rintro ⟨m, h1, h2, h3⟩
      obtain ⟨m', g1, g2⟩ := ih.1 h3
      exact ⟨m', runW_cons.2 ⟨m, h1, h2, g1⟩, g2⟩
    · rintro ⟨m', h1, g2⟩
      obtain ⟨m, h1, h2, h3⟩ := runW_cons.1 h1
      exact ⟨m, h1, h2, ih.2 ⟨m', h3, g2⟩⟩

theorem runW_induction {ok : σ → L → Bool} {stp : σ → L → Option σ} {s0 : σ} {P : List L → σ → Prop} (h0 : P [] s0)
    (hs : ∀ ls s l s', runW ok stp s0 ls = some s → P ls s → ok s l = true → stp s l = some s' → P (ls ++ [l]) s') :
    ∀ ls s, runW ok stp s0 ls = some s → P ls s := by
  have key : ∀ ls pre m s, runW ok stp s0 pre = some m → P pre m → runW ok stp m ls = some s → P (pre ++ ls) s := by
    intro ls
    induction ls with
    | nil => intro pre m s _ hp h; cases h; rw [List.append_nil]; exact hp
    | cons l ls ih =>
      intro pre m s hm hp h
      obtain ⟨m', hok, hst, hr⟩ := runW_cons.1 h
      have := ih (pre ++ [l]) m' s (runW_snoc.2 ⟨m, hm, hok, hst⟩) (hs pre m l m' hm hp hok hst) hr
      rwa [List.append_assoc] at this
  intro ls s h
  exact key ls [] s0 s rfl h0 h

theorem runW_map {ok : σ → L → Bool} {stp : σ → L → Option σ} {ok' : σ → L' → Bool} {stp' : σ → L' → Option σ}
    (f : L → L') (hok : ∀ s l, ok' s (f l) = ok s l) (hstp : ∀ s l, stp' s (f l) = stp s l) (ls : List L) :
    ∀ s, runW ok' stp' s (ls.map f) = runW ok stp s ls := by
  induction ls with
  | nil => exact fun _ => rfl
  | cons l ls ih =>
    intro s
    simp only [List.map_cons, runW, hok, hstp, ih]

end PyAirtouch.Lemmas.RunWith
