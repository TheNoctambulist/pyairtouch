import PyAirtouch.Lemmas.BitField
import PyAirtouch.Spec.At4Read
import PyAirtouch.Spec.At5Read
/-!
# Bit fields of the vendor documents against shifts and masks

Both vendor readers number the bits of a byte Bit8 (most significant) … Bit1 (so vendor bit `k + 1` is the model's
bit offset `k`) and extract a field with `bits b hi lo`; the model's decoders and encoders write
`b / 2 ^ k % 2 ^ w`.  The two readers define `bits` differently (AirTouch 4 masks then shifts, AirTouch 5 shifts then
masks); both are brought to the model's form here, stated for `lo + 1` so that `simp only` fires on numerals and
leaves `b / 64 % 4`.  The arithmetic of two-byte fields that the agreement proofs share is here as well.
-/
namespace PyAirtouch.Lemmas.SpecBits
open PyAirtouch.Model

theorem bits5_eq (b hi lo : Nat) : Spec.At5.bits b hi (lo + 1) = b / 2 ^ lo % 2 ^ (hi - lo) := by
  simp only [Spec.At5.bits, Nat.shiftRight_eq_div_pow, Nat.add_sub_cancel, Nat.add_sub_add_right]

theorem bits4_eq (b hi lo : Nat) (h : lo ≤ hi) : Spec.At4.bits b hi (lo + 1) = b / 2 ^ lo % 2 ^ (hi - lo) := by
  obtain ⟨w, rfl⟩ := Nat.exists_eq_add_of_le h
  simp only [Spec.At4.bits, Nat.add_sub_cancel, Nat.add_sub_cancel_left, Nat.pow_add, Nat.mod_mul_right_div_self]

theorem bits5_top (b hi lo : Nat) (h : b < 2 ^ hi) (hl : lo ≤ hi) : Spec.At5.bits b hi (lo + 1) = b / 2 ^ lo := by
  obtain ⟨w, rfl⟩ := Nat.exists_eq_add_of_le hl
  rw [bits5_eq, Nat.add_sub_cancel_left, Nat.mod_eq_of_lt]
  rw [Nat.div_lt_iff_lt_mul (Nat.two_pow_pos lo), Nat.mul_comm, ← Nat.pow_add]
  exact h

theorem bits4_top (b hi lo : Nat) (h : b < 2 ^ hi) (hl : lo ≤ hi) : Spec.At4.bits b hi (lo + 1) = b / 2 ^ lo := by
  rw [bits4_eq b hi lo hl, ← bits5_eq, bits5_top b hi lo h hl]

theorem bit5_eq (b k : Nat) : Spec.At5.bit b (k + 1) = bitToBool b k := by
  simp only [Spec.At5.bit, bits5_eq, Nat.add_sub_cancel_left, Nat.pow_one, bitToBool, Bool.beq_eq_decide_eq]

theorem bit4_eq (b k : Nat) : Spec.At4.bit b (k + 1) = bitToBool b k := by
  simp only [Spec.At4.bit, bits4_eq b (k + 1) k (Nat.le_succ k), Nat.add_sub_cancel_left, Nat.pow_one, bitToBool,
    Bool.beq_eq_decide_eq]

theorem allBytes_iff (bs : List Nat) : Spec.At4.allBytes bs = true ↔ AllBytes bs := by
  simp only [Spec.At4.allBytes, List.all_eq_true, decide_eq_true_eq, AllBytes]

theorem be16_div_256 (hi lo : Nat) (h : lo < 256) : be16 hi lo / 256 = hi := by
  unfold be16; omega

/-- the 11-bit temperature field of the status records: the high byte and Bit8-6 of the low byte -/
theorem be16_div_32 (hi lo : Nat) : be16 hi lo / 32 = hi * 8 + lo / 32 := by
  unfold be16; omega

theorem bitToBool_le16 (lo hi j : Nat) (h : lo < 256) :
    bitToBool (lo + 256 * hi) j = if j < 8 then bitToBool lo j else bitToBool hi (j - 8) := by
  simp only [BitField.bitToBool_eq_testBit]
  rw [Nat.add_comm]
  exact Nat.testBit_two_pow_mul_add hi (i := 8) h j

end PyAirtouch.Lemmas.SpecBits
