import PyAirtouch.Lemmas.Api4Heartbeat
import PyAirtouch.Lemmas.Api4Handshake
import PyAirtouch.Lemmas.Api4Demo
import PyAirtouch.Lemmas.HeartbeatSim
import PyAirtouch.Lemmas.Api4Quiet
import PyAirtouch.Lemmas.Api4HandlerRel
/-!
# `shutdown()` of the AirTouch 4 API object: the state it leaves, silence afterwards, `init()` again

`shutdown()` from any state leaves the object `Closed`; a `Closed` object stays so and is silent under every op other
than `init`; an object that is shut down and initialised again behaves as a fresh one (a simulation, up to the
heartbeat manager's ghost fields and a console version that is stale until the first answer).  What `shutdown()` does
not cancel - orphaned poll tasks, pending `init()` waiters - is shown by two scenarios (`orphanState`, `waiterState`,
evaluated in `Props/C15At4.lean`).
-/
namespace PyAirtouch.Lemmas.Api4
open PyAirtouch.Model PyAirtouch.Model.Api4 PyAirtouch.Model.At4 PyAirtouch.Gen
open PyAirtouch.Model.TimerCommon (AcTimerStatusData)
open PyAirtouch.Model.Heartbeat (HB Label)
open PyAirtouch.Lemmas.Heartbeat (HbEquiv HbSim)

/-! ## 1. the state after `shutdown()` -/

/-- the API object is shut down: state `CLOSED`, the initialised event clear, the model empty, no current poll task,
    the heartbeat manager stopped (no pending beat, no pending deadline), the socket closed -/
structure Closed (s : State) : Prop where
  st : s.st = .CLOSED
  initialised : s.initialised = false
  acDict : s.acDict = []
  zoneDict : s.zoneDict = []
  acObjs : s.acObjs = []
  zoneObjs : s.zoneObjs = []
  pollCur : s.pollCur = none
  idle : hbIdle s.hb = true
  sockOpen : s.sockOpen = false

theorem shutdown_state (s : State) :
    Closed (apiStep s .shutdown).1 ∧
    (apiStep s .shutdown).1.sockConnected = false ∧ (apiStep s .shutdown).1.hb.connected = false ∧
    (apiStep s .shutdown).2 = [Ev.hbStop, Ev.closed, Ev.result "shutdown OK"] ∧
    ((apiStep s .shutdown).1.subs = s.subs ∧ (apiStep s .shutdown).1.version = s.version ∧
     (apiStep s .shutdown).1.subscribed = s.subscribed ∧ (apiStep s .shutdown).1.now = s.now ∧
     (apiStep s .shutdown).1.airtouchId = s.airtouchId ∧ (apiStep s .shutdown).1.serial = s.serial ∧
     (apiStep s .shutdown).1.name = s.name ∧ (apiStep s .shutdown).1.host = s.host ∧
     (apiStep s .shutdown).1.initWaits = s.initWaits ∧ (apiStep s .shutdown).1.pollOrphans = s.pollOrphans) := by
  refine ⟨⟨rfl, rfl, rfl, rfl, rfl, rfl, rfl, (hbIdle_iff _).mpr ⟨(hbApply_stop _).1, (hbApply_stop _).2.1⟩, rfl⟩,
    rfl, rfl, rfl,
    rfl, rfl, rfl, rfl, rfl, rfl, rfl, rfl, rfl, rfl⟩

/-! ## 2. a `Closed` object under every op other than `init` -/

theorem Closed.findAc {s : State} (hc : Closed s) (k : Nat) : s.findAc k = none := by
  simp [State.findAc, hc.acDict]

theorem Closed.airConditioners {s : State} (hc : Closed s) : s.airConditioners = [] := by
  simp [State.airConditioners, hc.acDict]

theorem Closed.findZone {s : State} (hc : Closed s) (k : Nat) : s.findZone k = none := by
  simp [State.findZone, hc.airConditioners]

theorem Closed.frame {s t : State} (hc : Closed s) (h1 : t.st = s.st) (h2 : t.initialised = s.initialised)
    (h3 : t.acDict = s.acDict) (h4 : t.zoneDict = s.zoneDict) (h5 : t.acObjs = s.acObjs) (h6 : t.zoneObjs = s.zoneObjs)
    (h7 : t.pollCur = s.pollCur) (h8 : hbIdle t.hb = true) (h9 : t.sockOpen = s.sockOpen) : Closed t :=
  ⟨h1.trans hc.st, h2.trans hc.initialised, h3.trans hc.acDict, h4.trans hc.zoneDict, h5.trans hc.acObjs,
   h6.trans hc.zoneObjs, h7.trans hc.pollCur, h8, h9.trans hc.sockOpen⟩

theorem hbOnMessage_idle (s : State) (hi : hbIdle s.hb = true) (m : RMsg) :
    hbOnMessage s m = s ∨ hbOnMessage s m = { s with hb := { s.hb with now := s.now } } := by
  rw [hbOnMessage_eq]
  split
  · exact Or.inr (by rw [respondedHB_idle (h := { s.hb with now := s.now }) ((hbIdle_iff s.hb).mp hi).1])
  · exact Or.inl rfl

theorem recv_closed {s : State} (hc : Closed s) (m : RMsg) :
    (recv s m).2 = [] ∧ ((recv s m).1 = s ∨ (recv s m).1 = { s with hb := { s.hb with now := s.now } }) := by
  have hk : answerKind s.st m = false := by
    rw [hc.st]; unfold answerKind; split <;> first | rfl | contradiction
  have h1 : recv s m = (hbOnMessage s m, []) := by
    rcases recv_cases s m with ⟨_, e⟩ | ⟨_, e⟩ | ⟨_, h, _⟩ | ⟨_, h, _⟩ | ⟨_, h, _⟩
    · exact e
    · rw [e, absorb_early (by rw [hc.st]; nofun) hc.acDict]
    all_goals rw [hk] at h; cases h
  rw [h1]
  exact ⟨rfl, hbOnMessage_idle s hc.idle m⟩

theorem recv_closed_state {s : State} (hc : Closed s) (m : RMsg) : Closed (recv s m).1 := by
  rcases (recv_closed hc m).2 with h | h <;> rw [h]
  · exact hc
  · exact hc.frame rfl rfl rfl rfl rfl rfl rfl hc.idle rfl

/-! ### connection changes -/

theorem hbApply_conn (h : HB) (up : Bool) :
    (hbApply h (.conn up)).tl = h.tl ∧ (hbApply h (.conn up)).hl = h.hl ∧ (hbApply h (.conn up)).connected = up :=
  ⟨rfl, rfl, rfl⟩

theorem conn_closed {s : State} (hc : Closed s) (up : Bool) :
    (apiStep s (.conn up)).2 = (if up && s.subscribed then [Ev.subscriberExc "NotOpenError"] else []) ∧
    (apiStep s (.conn up)).1 =
      { s with sockConnected := up, hb := hbApply { s.hb with now := s.now } (.conn up) } := by
  have hst := hc.st
  have ho := hc.sockOpen
  cases up <;> cases hsub : s.subscribed <;> simp [apiStep, onConn, hsub, hst, ho, Exc.name]

theorem conn_closed_state {s : State} (hc : Closed s) (up : Bool) : Closed (apiStep s (.conn up)).1 := by
  rw [(conn_closed hc up).2]
  exact hc.frame rfl rfl rfl rfl rfl rfl rfl hc.idle rfl

/-! ### the clock -/

theorem firePolls_notOpen (s : State) (ho : s.sockOpen = false) (hp : s.pollCur = none) :
    (firePolls s).2 = [] ∧ (firePolls s).1.pollCur = none := by
  unfold firePolls
  simp only [ho, hp, Option.map_none, List.flatMap_map, firePoll_notOpen, List.append_nil, Option.bind_none, and_true]
  induction s.pollOrphans with
  | nil => rfl
  | cons d ds ih => simp

theorem firePolls_frame (s : State) :
    (firePolls s).1 = { s with pollOrphans := (firePolls s).1.pollOrphans, pollCur := (firePolls s).1.pollCur } := rfl

theorem tick_idle {s : State} (hi : hbIdle s.hb = true) :
    tick s = ((fireInitWaits (firePolls (atTime s (s.now + 1))).1).1,
      (firePolls (atTime s (s.now + 1))).2 ++ (fireInitWaits (firePolls (atTime s (s.now + 1))).1).2) := by
  obtain ⟨h1, h2⟩ := (hbIdle_iff s.hb).mp hi
  have e1 : fireHbTimeout (atTime s (s.now + 1)) = (atTime s (s.now + 1), []) :=
    fireHbTimeout_quiet _ fun d hd => by rw [show (atTime s (s.now + 1)).hb.tl = s.hb.tl from rfl, h1] at hd; cases hd
  have e2 : fireBeat (fireInitWaits (firePolls (atTime s (s.now + 1))).1).1 = (_, []) :=
    fireBeat_quiet _ fun u hu => by
      rw [show (fireInitWaits (firePolls (atTime s (s.now + 1))).1).1.hb.hl = s.hb.hl from rfl, h2] at hu; cases hu
  rw [tick_eq, e1, e2, List.nil_append, List.append_nil]

theorem tick_closed {s : State} (hc : Closed s) :
    Closed (tick s).1 ∧
    (tick s).2 = (s.initWaits.filter (fun d => decide (d ≤ s.now + 1))).map (fun _ => initFalse) ∧
    (tick s).1.initWaits = s.initWaits.filter (fun d => !decide (d ≤ s.now + 1)) ∧
    (tick s).1.now = s.now + 1 ∧ (tick s).1.subs = s.subs ∧ (tick s).1.subscribed = s.subscribed ∧
    (tick s).1.sockConnected = s.sockConnected ∧ (tick s).1.version = s.version := by
  obtain ⟨p1, p2⟩ := firePolls_notOpen (atTime s (s.now + 1)) hc.sockOpen hc.pollCur
  rw [tick_idle hc.idle, p1, firePolls_frame]
  refine ⟨hc.frame rfl rfl rfl rfl rfl rfl (p2.trans hc.pollCur.symm) hc.idle rfl, ?_, rfl, rfl, rfl, rfl, rfl, rfl⟩
  show List.map (fun _ => Ev.result ("init " ++ cBool s.initialised)) _ = _
  rw [hc.initialised]
  rfl

theorem advance_closed (n : Nat) {s : State} (hc : Closed s) :
    Closed (advance n s).1 ∧
    ((advance n s).1.now = s.now + n ∧ (advance n s).1.subs = s.subs ∧ (advance n s).1.subscribed = s.subscribed ∧
      (advance n s).1.sockConnected = s.sockConnected ∧ (advance n s).1.version = s.version) ∧
    (0 < n →
      (advance n s).2 = List.replicate (s.initWaits.filter (fun d => decide (d ≤ s.now + n))).length initFalse ∧
      (advance n s).1.initWaits = s.initWaits.filter (fun d => !decide (d ≤ s.now + n))) := by
  induction n generalizing s with
  | zero => exact ⟨hc, ⟨rfl, rfl, rfl, rfl, rfl⟩, fun h => absurd h (by omega)⟩
  | succ n ih =>
    obtain ⟨t1, t2, t3, t4, t5, t6, t7, t8⟩ := tick_closed hc
    obtain ⟨i1, ⟨i2, i3, i4, i5, i6⟩, i7⟩ := ih t1
    simp only [advance]
    refine ⟨i1, ⟨by rw [i2, t4]; omega, by rw [i3, t5], by rw [i4, t6], by rw [i5, t7], by rw [i6, t8]⟩, ?_⟩
    intro _
    cases n with
    | zero =>
      simp only [advance, List.append_nil, t2, t3, List.map_const']
      refine ⟨?_, ?_⟩ <;> first | rfl | trivial
    | succ m =>
      obtain ⟨j1, j2⟩ := i7 (by omega)
      have f1 := length_filter_le_split s.initWaits (a := s.now + 1) (b := s.now + (m + 1 + 1)) (by omega)
      have f2 := filter_not_le_twice s.initWaits (a := s.now + 1) (b := s.now + (m + 1 + 1)) (by omega)
      have e : s.now + 1 + (m + 1) = s.now + (m + 1 + 1) := by omega
      rw [j1, j2, t2, t3, t4, e, List.map_const', List.replicate_append_replicate, f1, f2]
      exact ⟨rfl, rfl⟩

theorem advance_closed_noWaits (n : Nat) {s : State} (hc : Closed s) (hw : s.initWaits = []) :
    (advance n s).2 = [] ∧ (advance n s).1.initWaits = [] := by
  cases n with
  | zero => exact ⟨rfl, hw⟩
  | succ n =>
    obtain ⟨a, b⟩ := (advance_closed (n + 1) hc).2.2 (by omega)
    rw [a, b, hw]; exact ⟨rfl, rfl⟩

/-! ### public calls, subscriptions, the view -/

theorem call_closed {s : State} (hc : Closed s) (c : Call) :
    doCall s c = [Ev.result (if c = .atCheckForUpdates then "NotOpenError" else "KeyError")] := by
  have ho := hc.sockOpen
  cases c <;>
    simp [doCall, callResult, Call.acId?, Call.zoneId?, hc.findAc, hc.findZone, ho, Exc.name]

theorem subUnsub_closed {s : State} (hc : Closed s) (t : Target) (f : List Sub → List Sub) :
    subUnsub s t f =
      match t with
      | .airtouch => ({ s with subs := f s.subs }, [])
      | _ => (s, [Ev.result "KeyError"]) := by
  cases t <;> simp [subUnsub, hc.findAc, hc.findZone, Exc.name]

theorem subUnsub_closed_state {s : State} (hc : Closed s) (t : Target) (f : List Sub → List Sub) :
    Closed (subUnsub s t f).1 := by
  rw [subUnsub_closed hc]
  cases t
  · exact hc.frame rfl rfl rfl rfl rfl rfl rfl hc.idle rfl
  · exact hc
  · exact hc

/-- the text `view` shows for an empty model -/
def closedViewText (s : State) : String :=
  "AirTouch(" ++ ",".intercalate [
    "initialised=" ++ cBool false, "airtouch_id=" ++ cStr s.airtouchId, "serial=" ++ cStr s.serial,
    "name=" ++ cStr s.name, "host=" ++ cStr s.host, "model=" ++ ApiEnums.AirTouchModel.AIRTOUCH_4.name,
    "update_available=" ++ cBool s.version.update_available,
    "console_versions=" ++ cList cStr s.version.versions,
    "air_conditioners=[" ++ ",".intercalate [] ++ "]"] ++ ")"

theorem viewAt_empty {s : State} (ha : s.acDict = []) (hi : s.initialised = false) :
    viewAt s = .ok (closedViewText s) := by
  unfold viewAt closedViewText State.airConditioners
  rw [ha, hi]
  rfl

theorem viewAt_closed {s : State} (hc : Closed s) : viewAt s = .ok (closedViewText s) :=
  viewAt_empty hc.acDict hc.initialised

theorem init_view_closed {c : State} (hc : Closed c) :
    (run c [.init, .view]).2 = [Ev.opened, Ev.view (closedViewText c)] := by
  have e : doInit c =
      (({ c with st := .CONNECTING, subscribed := true, sockOpen := true,
                 initWaits := c.initWaits ++ [c.now + Api4.INIT_TIMEOUT] } : State), [Ev.opened]) := by
    simp only [doInit, hc.initialised, Bool.false_eq_true, ↓reduceIte]
  have v : viewAt (doInit c).1 = .ok (closedViewText c) := by
    rw [e]; exact viewAt_empty hc.acDict hc.initialised
  simp only [run, apiStep, v, List.append_nil]
  rw [e]
  rfl

/-! ### every op other than `init` -/

/-- what a shut-down object may still output: no `SEND`, no `NOTIFY`, no `HBSTART`, no `RESET`, no `OPEN`, no
    `RESULT init True` -/
def quietClosed : Ev → Bool
  | .send _ _ | .notifyAt _ | .notifyAc _ _ _ | .notifyZone _ _ | .hbStart | .reset | .opened => false
  | .result t => t != "init True"
  | _ => true

/-- the two results an `init()` call can have -/
def isInitResult : Ev → Bool
  | .result t => t == "init True" || t == "init False"
  | _ => false

def _root_.PyAirtouch.Model.Api4.Op.afterShutdown : Op → Bool
  | .init => false
  | _ => true

theorem _root_.PyAirtouch.Model.Api4.Op.afterShutdown_iff {op : Op} : op.afterShutdown = true ↔ op ≠ .init := by
  cases op <;> simp [Op.afterShutdown]

theorem closed_step_of {s : State} {op : Op} (hc : Closed (apiStep s op).1)
    (hw : s.initWaits = [] → (apiStep s op).1.initWaits = [])
    (hl : ∀ e ∈ (apiStep s op).2, quietClosed e = true ∧ isInitResult e = false) :
    Closed (apiStep s op).1 ∧
    (∀ e ∈ (apiStep s op).2, quietClosed e = true ∨ (e = Ev.result "init True" ∧ op = .callBad "init True")) ∧
    (s.initWaits = [] → (apiStep s op).1.initWaits = [] ∧
      ∀ e ∈ (apiStep s op).2, isInitResult e = true → ∃ cls, op = .callBad cls ∧ e = Ev.result cls) :=
  ⟨hc, fun e he => Or.inl (hl e he).1, fun h => ⟨hw h, fun e he hi => by rw [(hl e he).2] at hi; cases hi⟩⟩

/-- One op other than `init` on a `Closed` object.  (`callBad cls` is the harness echoing the class name of an
    exception it raised itself: `RESULT cls`, whatever `cls` is - the only way a "result of init" can be printed
    without an `init()` call.)  Two clauses on the outputs: all are quiet (`RESULT init False` of a waiter running out
    is); and with no waiter pending not even that occurs. -/
theorem closed_step {s : State} (hc : Closed s) (op : Op) (hop : op.afterShutdown = true) :
    Closed (apiStep s op).1 ∧
    (∀ e ∈ (apiStep s op).2, quietClosed e = true ∨ (e = Ev.result "init True" ∧ op = .callBad "init True")) ∧
    (s.initWaits = [] → (apiStep s op).1.initWaits = [] ∧
      ∀ e ∈ (apiStep s op).2, isInitResult e = true → ∃ cls, op = .callBad cls ∧ e = Ev.result cls) := by
  have hrecv : ∀ m, Closed (recv s m).1 ∧ (s.initWaits = [] → (recv s m).1.initWaits = []) ∧
      ∀ e ∈ (recv s m).2, quietClosed e = true ∧ isInitResult e = false := fun m => by
    obtain ⟨h1, h2⟩ := recv_closed hc m
    refine ⟨recv_closed_state hc m, fun hw => ?_, by rw [h1]; intro e he; cases he⟩
    rcases h2 with h | h <;> rw [h] <;> exact hw
  have hsub : ∀ t f, Closed (subUnsub s t f).1 ∧ (s.initWaits = [] → (subUnsub s t f).1.initWaits = []) ∧
      ∀ e ∈ (subUnsub s t f).2, quietClosed e = true ∧ isInitResult e = false := fun t f => by
    refine ⟨subUnsub_closed_state hc t f, fun hw => by rw [subUnsub_frame]; exact hw, ?_⟩
    rw [subUnsub_closed hc]
    cases t <;> intro e he <;> simp only [List.mem_singleton, List.not_mem_nil] at he <;> subst he <;> exact ⟨rfl, rfl⟩
  cases op with
  | init => cases hop
  | shutdown =>
    exact closed_step_of (shutdown_state s).1 id (by show ∀ e ∈ [Ev.hbStop, Ev.closed, Ev.result "shutdown OK"], _; decide)
  | conn up =>
    refine closed_step_of (conn_closed_state hc up) (fun hw => by rw [(conn_closed hc up).2]; exact hw) ?_
    rw [(conn_closed hc up).1]
    split <;> decide
  | msg mid payload =>
    cases hd : decodeTop mid payload with
    | ok m =>
      have e : apiStep s (.msg mid payload) = recv s m := by simp only [apiStep, hd]
      exact closed_step_of (e ▸ (hrecv m).1) (e ▸ (hrecv m).2.1) (e ▸ (hrecv m).2.2)
    | error cls =>
      simp only [apiStep, hd]
      exact ⟨hc, fun e he => Or.inl (by rw [List.mem_singleton.mp he]; rfl),
        fun hw => ⟨hw, fun e he hi => by rw [List.mem_singleton.mp he] at hi; cases hi⟩⟩
  | recv m => exact closed_step_of (hrecv m).1 (hrecv m).2.1 (hrecv m).2.2
  | call c =>
    refine closed_step_of hc id ?_
    show ∀ e ∈ doCall s c, _
    rw [call_closed hc]
    split <;> decide
  | callBad cls =>
    refine ⟨hc, fun e he => ?_, fun hw => ⟨hw, fun e he _ => ⟨cls, rfl, List.mem_singleton.mp he⟩⟩⟩
    rw [List.mem_singleton.mp he]
    by_cases h : cls = "init True"
    · subst h; exact Or.inr ⟨rfl, rfl⟩
    · left; simp [quietClosed, h]
  | sub t sid r | unsub t sid => exact closed_step_of (hsub t _).1 (hsub t _).2.1 (hsub t _).2.2
  | adv n =>
    obtain ⟨h1, _, h3⟩ := advance_closed n hc
    refine ⟨h1, ?_, fun hw => ⟨(advance_closed_noWaits n hc hw).2, ?_⟩⟩
    · intro e he
      cases n with
      | zero => cases he
      | succ n =>
        simp only [apiStep, (h3 (by omega)).1] at he
        rw [(List.mem_replicate.mp he).2]; exact Or.inl (by decide)
    · intro e he
      simp only [apiStep, (advance_closed_noWaits n hc hw).1] at he
      cases he
  | view =>
    simp only [apiStep, viewAt_closed hc]
    exact ⟨hc, fun e he => Or.inl (by rw [List.mem_singleton.mp he]; rfl),
      fun hw => ⟨hw, fun e he hi => by rw [List.mem_singleton.mp he] at hi; cases hi⟩⟩

theorem closed_run {s : State} (hc : Closed s) (ops : List Op) (hops : ∀ op ∈ ops, op.afterShutdown = true) :
    Closed (run s ops).1 ∧
    (∀ e ∈ (run s ops).2, quietClosed e = true ∨ (e = Ev.result "init True" ∧ Op.callBad "init True" ∈ ops)) ∧
    (s.initWaits = [] → (run s ops).1.initWaits = [] ∧
      ∀ e ∈ (run s ops).2, isInitResult e = true → ∃ cls, Op.callBad cls ∈ ops ∧ e = Ev.result cls) := by
  rw [run4_eq]
  have a := FoldW.foldW_ind (I := Closed)
    (O := fun op e => quietClosed e = true ∨ (e = Ev.result "init True" ∧ op = .callBad "init True")) ops s hc
    fun s op hop hc => ⟨(closed_step hc op (hops op hop)).1, (closed_step hc op (hops op hop)).2.1⟩
  refine ⟨a.1, fun e he => (a.2 e he).elim fun op ⟨hm, ho⟩ => ho.imp id fun ⟨h1, h2⟩ => ⟨h1, h2 ▸ hm⟩, fun hw => ?_⟩
  have b := FoldW.foldW_ind (I := fun s => Closed s ∧ s.initWaits = [])
    (O := fun op e => isInitResult e = true → ∃ cls, op = .callBad cls ∧ e = Ev.result cls) ops s ⟨hc, hw⟩
    fun s op hop h => have st := closed_step h.1 op (hops op hop); ⟨⟨st.1, (st.2.2 h.2).1⟩, (st.2.2 h.2).2⟩
  exact ⟨b.1.2, fun e he hi => (b.2 e he).elim fun op ⟨hm, ho⟩ => (ho hi).imp fun cls ⟨h1, h2⟩ => ⟨h1 ▸ hm, h2⟩⟩

/-! ## 3. `init()` after `shutdown()` against a fresh object

### the functions that neither read nor write the heartbeat manager and the console version -/

/-- the state with another heartbeat manager and another console version -/
def sw (s : State) (h : HB) (v : FF30.ConsoleVersionMessage) : State := { s with hb := h, version := v }

theorem sw_self (s : State) : sw s s.hb s.version = s := rfl

def Comm (G : State → State × List Ev) : Prop := ∀ s h v, G (sw s h v) = (sw (G s).1 h v, (G s).2)

theorem Comm.hb {G : State → State × List Ev} (hG : Comm G) (s : State) : (G s).1.hb = s.hb := by
  have := congrArg (fun r => r.1.hb) (hG s s.hb s.version)
  exact this

theorem Comm.version {G : State → State × List Ev} (hG : Comm G) (s : State) : (G s).1.version = s.version := by
  have := congrArg (fun r => r.1.version) (hG s s.hb s.version)
  exact this

theorem setAc_sw (s : State) (h : HB) (v : FF30.ConsoleVersionMessage) (k : Nat) (a : AcObj) :
    (sw s h v).setAc k a = sw (s.setAc k a) h v := by
  unfold State.setAc
  show (match s.acDict.lookup k with | some i => _ | none => _) = _
  cases s.acDict.lookup k <;> rfl

theorem setZone_sw (s : State) (h : HB) (v : FF30.ConsoleVersionMessage) (k : Nat) (z : ZoneObj) :
    (sw s h v).setZone k z = sw (s.setZone k z) h v := by
  unfold State.setZone
  show (match s.zoneDict.lookup k with | some i => _ | none => _) = _
  cases s.zoneDict.lookup k <;> rfl

theorem StatusKind.update_sw {ρ ω β : Type} [DecidableEq β] {K : Kind ρ ω β} (hK : StatusKind K) (r : ρ) :
    Comm (fun s => K.update s r) := fun s h v => by
  have hf : K.tbl.find (sw s h v) (K.key r) = K.tbl.find s (K.key r) := by cases hK <;> rfl
  have ⟨p, q⟩ := K.update_agree (R := fun a b => b = sw a h v) Eq (a := s) (b := sw s h v) r
    (by cases e : K.tbl.find s (K.key r) with
        | none => exact .inl ⟨rfl, hf.trans e⟩
        | some o => exact .inr ⟨o, o, rfl, hf.trans e, rfl⟩)
    (fun _ _ q => by rw [q])
    (fun o _ q => by subst q; cases hK <;> first | exact setAc_sw .. | exact setZone_sw ..)
    (fun o _ q => by subst q; cases hK <;> rfl) rfl
  exact Prod.ext p q.symm

theorem addAc_sw (s : State) (h : HB) (v : FF30.ConsoleVersionMessage) (single : Bool) (ab : FF11.AcAbility) :
    addAc (sw s h v) single ab = (addAc s single ab).map (fun t => sw t h v) := by
  unfold addAc
  have hz : zonesForAbility (sw s h v) single ab = zonesForAbility s single ab := rfl
  rw [hz]
  cases zonesForAbility s single ab with
  | none => rfl
  | some zs =>
    cases hm : mkAc ab zs with
    | none => simp [hm]
    | some a => simp [hm]; rfl

/-! ### the relation between the two runs -/

/-- the states in which the stored console version is never read by the message handler: before the first answer of a
    handshake (which overwrites it), i.e. `stage st ≤ 2`; `Api5.earlySt` is the same notion for AirTouch 5 -/
def earlySt (st : AState) : Prop := st = .CLOSED ∨ st = .CONNECTING ∨ st = .INIT_VERSION

/-- equal in everything but the heartbeat managers - which are equivalent - and the console version as long as `a` is in
    an early state.  `k = true` switches that exception off: the versions must agree -/
structure SimK (k : Bool) (a b : State) : Prop where
  eq : b = sw a b.hb b.version
  hb : HbEquiv a.hb b.hb
  version : a.version = b.version ∨ (k = false ∧ earlySt a.st)

theorem SimK.elim {k : Bool} {a b : State} (S : SimK k a b) :
    ∃ h v, b = sw a h v ∧ HbEquiv a.hb h ∧ (a.version = v ∨ (k = false ∧ earlySt a.st)) :=
  ⟨b.hb, b.version, S.eq, S.hb, S.version⟩

theorem SimK.intro {k : Bool} (a : State) (h : HB) (v : FF30.ConsoleVersionMessage) (E : HbEquiv a.hb h)
    (hv : a.version = v ∨ (k = false ∧ earlySt a.st)) : SimK k a (sw a h v) :=
  ⟨rfl, E, hv⟩

theorem SimK.refl (k : Bool) (a : State) : SimK k a a := ⟨rfl, HbEquiv.refl _, .inl rfl⟩

theorem hbEquiv_apply {h h' : HB} (e : HbEquiv h h') (l : Label) : HbEquiv (hbApply h l) (hbApply h' l) :=
  (HbSim.apply (HbSim.refl e) l).equiv

theorem hbEquiv_setNow {h h' : HB} (e : HbEquiv h h') (n : Nat) :
    HbEquiv { h with now := n } { h' with now := n } :=
  ⟨rfl, e.interval, e.timeout, e.tl, e.hl, e.connected, e.flag, e.resetAt⟩

theorem SimK.comm {k : Bool} {G : State → State × List Ev} (hG : Comm G) {a b : State} (S : SimK k a b)
    (hst : earlySt a.st → earlySt (G a).1.st) : SimK k (G a).1 (G b).1 ∧ (G a).2 = (G b).2 := by
  obtain ⟨h, v, rfl, E, hv⟩ := S.elim
  rw [hG a h v]
  exact ⟨SimK.intro _ h v (by rw [hG.hb]; exact E) (by rw [hG.version]; exact hv.imp id (And.imp id hst)), rfl⟩

theorem hbStart_sim {k : Bool} {a b : State} (S : SimK k a b) :
    SimK k (hbStart a).1 (hbStart b).1 ∧ (hbStart a).2 = (hbStart b).2 := by
  obtain ⟨h, v, rfl, E, hv⟩ := S.elim
  unfold hbStart
  have hi : hbIdle (sw a h v).hb = hbIdle a.hb := by
    show hbIdle h = _; unfold Api4.hbIdle; rw [E.tl, E.hl]
  rw [hi]
  split
  · exact ⟨SimK.intro _ _ v (hbEquiv_apply (hbEquiv_apply (hbEquiv_setNow E a.now) _) _) hv, rfl⟩
  · exact ⟨SimK.intro _ h v E hv, rfl⟩

theorem sw_st (s : State) (h : HB) (v : FF30.ConsoleVersionMessage) : (sw s h v).st = s.st := rfl
theorem sw_now (s : State) (h : HB) (v : FF30.ConsoleVersionMessage) : (sw s h v).now = s.now := rfl
theorem sw_subscribed (s : State) (h : HB) (v : FF30.ConsoleVersionMessage) : (sw s h v).subscribed = s.subscribed := rfl
theorem sw_sockOpen (s : State) (h : HB) (v : FF30.ConsoleVersionMessage) : (sw s h v).sockOpen = s.sockOpen := rfl
theorem sw_sockConnected (s : State) (h : HB) (v : FF30.ConsoleVersionMessage) :
    (sw s h v).sockConnected = s.sockConnected := rfl
theorem sw_initialised (s : State) (h : HB) (v : FF30.ConsoleVersionMessage) :
    (sw s h v).initialised = s.initialised := rfl
theorem sw_hb (s : State) (h : HB) (v : FF30.ConsoleVersionMessage) : (sw s h v).hb = h := rfl
theorem sw_version (s : State) (h : HB) (v : FF30.ConsoleVersionMessage) : (sw s h v).version = v := rfl

theorem enterConnected_sim {k : Bool} {a b : State} (S : SimK k a b) (hv : a.version = b.version) :
    SimK k (enterConnected a).1 (enterConnected b).1 ∧ (enterConnected a).2 = (enterConnected b).2 := by
  obtain ⟨h, v, rfl, E, _⟩ := S.elim
  obtain ⟨p, q⟩ := hbStart_sim (SimK.intro (k := k) (connectedCore a) h v E (.inl hv))
  rw [enterConnected_eq, enterConnected_eq]
  exact ⟨p, by rw [q]; rfl⟩

theorem updateVersion_sw (s : State) (h : HB) (c : FF30.ConsoleVersionMessage) :
    updateVersion (sw s h s.version) c =
      (sw (updateVersion s c).1 h (updateVersion s c).1.version, (updateVersion s c).2) := by
  unfold updateVersion
  simp only [sw_version]
  by_cases e : s.version = c <;> simp only [e, ↓reduceIte] <;> rfl

theorem hbOnMessage_sim {k : Bool} {a b : State} (S : SimK k a b) (m : RMsg) :
    SimK k (hbOnMessage a m) (hbOnMessage b m) := by
  obtain ⟨h, v, rfl, E, hv⟩ := S.elim
  unfold hbOnMessage
  split
  · exact SimK.intro _ _ v (hbEquiv_apply (hbEquiv_apply (hbEquiv_setNow E a.now) _) _) hv
  · exact SimK.intro _ h v E hv

theorem SimK.agree {k : Bool} {a b : State} (S : SimK k a b) (hne : ¬ earlySt a.st) : a.version = b.version :=
  S.version.elim id fun e => absurd e.2 hne

theorem not_early_of_stage {st : AState} (h : 3 ≤ stage st) : ¬ earlySt st := by
  rintro (e | e | e) <;> rw [e] at h <;> exact absurd h (by decide)

theorem simK_handlerRel (k : Bool) : HandlerRel (SimK k) where
  st S := by obtain ⟨h, v, rfl, _⟩ := S.elim; rfl
  subscribed S := by obtain ⟨h, v, rfl, _⟩ := S.elim; rfl
  update hK r S := S.comm (hK.update_sw r) fun he => by rw [Kind.update_objs]; exact he
  rearm S := (S.comm (G := fun s => (rearmPolls s, [])) (fun _ _ _ => rfl) id).1
  addZone p S := (S.comm (G := fun s => (addZone s p, [])) (fun _ _ _ => rfl) id).1
  addAc x ab S := by
    obtain ⟨h, v, rfl, E, hv⟩ := S.elim
    rw [addAc_sw]
    cases ha : addAc _ x ab with
    | none => exact .inl ⟨rfl, rfl⟩
    | some a' =>
      obtain ⟨_, _, _, _, rfl⟩ := addAc_eq_some ha
      exact .inr ⟨_, _, rfl, rfl, SimK.intro _ h v E hv⟩
  firstAnswer c S _ := by
    obtain ⟨h, v, rfl, E, _⟩ := S.elim
    exact SimK.intro _ h c E (.inl rfl)
  newVersion c S hc := by
    have hv := S.agree (not_early_of_stage (by rw [hc]; decide))
    obtain ⟨h, v, rfl, E, _⟩ := S.elim
    obtain rfl : _ = v := hv
    rw [updateVersion_sw]
    exact ⟨SimK.intro _ h _ (by rw [updateVersion_frame]; exact E) (.inl rfl), rfl⟩
  setSt x S h3 := by
    have hv := S.agree (not_early_of_stage h3)
    obtain ⟨h, v, rfl, E, _⟩ := S.elim
    exact SimK.intro _ h v E (.inl hv)
  enter S hg := enterConnected_sim S (S.agree (not_early_of_stage (by rw [hg]; decide)))
  hbResponse m S := hbOnMessage_sim S m

theorem recv_sim {k : Bool} {a b : State} (S : SimK k a b) (m : RMsg) :
    SimK k (recv a m).1 (recv b m).1 ∧ (recv a m).2 = (recv b m).2 :=
  (simK_handlerRel k).recv S m

theorem onConn_sw (up : Bool) : Comm (fun s => onConn s up) := by
  intro s h v
  simp only [onConn_eq]
  rfl

theorem timeoutHB_equiv {h h' : HB} (E : HbEquiv h h') (n : Nat) (c : Bool) :
    HbEquiv (timeoutHB c n h) (timeoutHB c n h') ∧ timeoutEvs c n h = timeoutEvs c n h' := by
  refine ⟨?_, by unfold timeoutEvs; rw [E.tl]⟩
  unfold timeoutHB
  rw [← E.tl]
  repeat' split
  all_goals first | exact E | exact hbEquiv_apply E _ | exact hbEquiv_apply (hbEquiv_apply E _) _

theorem beatHB_equiv {h h' : HB} (E : HbEquiv h h') (n : Nat) (c : Bool) :
    HbEquiv (beatHB n h) (beatHB n h') ∧ beatEvs c n h = beatEvs c n h' := by
  refine ⟨?_, by unfold beatEvs; rw [E.hl]⟩
  unfold beatHB
  rw [← E.hl]
  repeat' split
  all_goals first | exact E | exact hbEquiv_apply E _

theorem fireHbTimeout_sim {k : Bool} {a b : State} (S : SimK k a b) :
    SimK k (fireHbTimeout a).1 (fireHbTimeout b).1 ∧ (fireHbTimeout a).2 = (fireHbTimeout b).2 := by
  obtain ⟨h, v, rfl, E, hv⟩ := S.elim
  rw [fireHbTimeout_eq, fireHbTimeout_eq]
  exact ⟨SimK.intro _ _ v (timeoutHB_equiv E _ _).1 hv, (timeoutHB_equiv E _ _).2⟩

theorem fireBeat_sim {k : Bool} {a b : State} (S : SimK k a b) :
    SimK k (fireBeat a).1 (fireBeat b).1 ∧ (fireBeat a).2 = (fireBeat b).2 := by
  obtain ⟨h, v, rfl, E, hv⟩ := S.elim
  rw [fireBeat_eq, fireBeat_eq]
  exact ⟨SimK.intro _ _ v (beatHB_equiv E a.now a.sockConnected).1 hv, (beatHB_equiv E _ _).2⟩

theorem tick_sim {k : Bool} {a b : State} (S : SimK k a b) : SimK k (tick a).1 (tick b).1 ∧ (tick a).2 = (tick b).2 := by
  have S0 : SimK k { a with now := a.now + 1, hb := { a.hb with now := a.now + 1 } }
      { b with now := b.now + 1, hb := { b.hb with now := b.now + 1 } } := by
    obtain ⟨h, v, rfl, E, hv⟩ := S.elim
    exact SimK.intro _ _ v (hbEquiv_setNow E (a.now + 1)) hv
  obtain ⟨p1, q1⟩ := fireHbTimeout_sim S0
  obtain ⟨p2, q2⟩ := p1.comm (G := firePolls) (fun _ _ _ => rfl) id
  obtain ⟨p3, q3⟩ := p2.comm (G := fireInitWaits) (fun _ _ _ => rfl) id
  obtain ⟨p4, q4⟩ := fireBeat_sim p3
  unfold tick
  exact ⟨p4, by simp only [q1, q2, q3, q4]⟩

theorem advance_sim {k : Bool} (n : Nat) {a b : State} (S : SimK k a b) :
    SimK k (advance n a).1 (advance n b).1 ∧ (advance n a).2 = (advance n b).2 := by
  induction n generalizing a b with
  | zero => exact ⟨S, rfl⟩
  | succ n ih =>
    obtain ⟨p, q⟩ := tick_sim S
    obtain ⟨p', q'⟩ := ih p
    simp only [advance]
    exact ⟨p', by rw [q, q']⟩

theorem subUnsub_sw (t : Target) (f : List Sub → List Sub) : Comm (fun s => subUnsub s t f) := by
  intro s h v
  cases t with
  | airtouch => rfl
  | ac i general =>
    simp only [subUnsub]
    have e : (sw s h v).findAc i = s.findAc i := rfl
    rw [e]
    cases s.findAc i with
    | none => rfl
    | some a => simp only [setAc_sw]
  | zone i =>
    simp only [subUnsub]
    have e : (sw s h v).findZone i = s.findZone i := rfl
    rw [e]
    cases s.findZone i with
    | none => rfl
    | some zi =>
      simp only
      have e2 : (sw s h v).zoneObjs[zi]? = s.zoneObjs[zi]? := rfl
      rw [e2]
      cases s.zoneObjs[zi]? <;> rfl

theorem doInit_sw : Comm doInit := by
  intro s h v
  unfold doInit
  show (if s.initialised = true then _ else _) = _
  split <;> rfl

theorem st_subUnsub (s : State) (t : Target) (f : List Sub → List Sub) : (subUnsub s t f).1.st = s.st := by
  rw [subUnsub_frame]

theorem st_onConn (s : State) (up : Bool) (he : earlySt s.st) : earlySt (onConn s up).1.st := by
  rcases onConn_st s up with h | ⟨_, h⟩ <;> rw [h]
  · exact he
  · exact Or.inr (Or.inr rfl)

theorem doCall_sw (s : State) (h : HB) (v : FF30.ConsoleVersionMessage) (c : Call) : doCall (sw s h v) c = doCall s c := rfl

theorem viewAt_sw (s : State) (h : HB) : viewAt (sw s h s.version) = viewAt s := rfl

/-- **one op on related states**: related successors, and the same outputs - for `view`, which shows the stored console
    version, when the versions agree -/
theorem apiStep_sim {k : Bool} {a b : State} (S : SimK k a b) (op : Op) :
    SimK k (apiStep a op).1 (apiStep b op).1 ∧ ((k = true ∨ op ≠ .view) → (apiStep a op).2 = (apiStep b op).2) := by
  cases op with
  | init =>
    have := S.comm doInit_sw fun _ => by unfold doInit; split <;> exact .inr (.inl rfl)
    exact ⟨this.1, fun _ => this.2⟩
  | shutdown =>
    obtain ⟨h, v, rfl, E, hv⟩ := S.elim
    exact ⟨SimK.intro _ _ v (hbEquiv_apply (hbEquiv_apply (hbEquiv_setNow E a.now) .stop) (.conn false))
      (hv.imp id (And.imp id fun _ => .inl rfl)), fun _ => rfl⟩
  | conn up =>
    have S1 : SimK k { a with sockConnected := up, hb := hbApply { a.hb with now := a.now } (.conn up) }
        { b with sockConnected := up, hb := hbApply { b.hb with now := b.now } (.conn up) } := by
      obtain ⟨h, v, rfl, E, hv⟩ := S.elim
      exact SimK.intro _ _ v (hbEquiv_apply (hbEquiv_setNow E a.now) (.conn up)) hv
    have := S1.comm (onConn_sw up) (st_onConn _ up)
    exact ⟨this.1, fun _ => this.2⟩
  | msg mid payload =>
    simp only [apiStep]
    cases decodeTop mid payload with
    | ok m => exact ⟨(recv_sim S m).1, fun _ => (recv_sim S m).2⟩
    | error cls => exact ⟨S, fun _ => rfl⟩
  | recv m => exact ⟨(recv_sim S m).1, fun _ => (recv_sim S m).2⟩
  | call c =>
    refine ⟨S, fun _ => ?_⟩
    obtain ⟨h, v, rfl, _⟩ := S.elim
    rfl
  | callBad cls => exact ⟨S, fun _ => rfl⟩
  | sub t sid r | unsub t sid =>
    have hst : ∀ f, earlySt a.st → earlySt (subUnsub a t f).1.st := fun f he => by rw [st_subUnsub]; exact he
    exact ⟨(S.comm (subUnsub_sw t _) (hst _)).1, fun _ => (S.comm (subUnsub_sw t _) (hst _)).2⟩
  | adv n => exact ⟨(advance_sim n S).1, fun _ => (advance_sim n S).2⟩
  | view =>
    have e : ∀ (s : State), (apiStep s .view).1 = s := by
      intro s; simp only [apiStep]; split <;> rfl
    rw [e, e]
    refine ⟨S, fun hk => ?_⟩
    obtain rfl : k = true := hk.elim id fun h => absurd rfl h
    obtain ⟨h, v, rfl, E, hv⟩ := S.elim
    obtain rfl : a.version = v := hv.elim id fun e => nomatch e.1
    simp only [apiStep, viewAt_sw]
    cases viewAt a <;> rfl

/-! ### the simulation relation, field by field -/

/-- `a` (an object that went through `shutdown()` and `init()`) against `b` (a fresh object that was initialised):
    everything equal except that the heartbeat managers are only equivalent (`HbEquiv`: their ghost fields and
    traces differ) and that `a` may still hold the console version of its previous session until the first
    answer of the new handshake overwrites it.  This is `SimK false` (`FreshSim.simK`, `FreshSim.of_simK`). -/
structure FreshSim (a b : State) : Prop where
  airtouchId : a.airtouchId = b.airtouchId
  serial : a.serial = b.serial
  name : a.name = b.name
  host : a.host = b.host
  st : a.st = b.st
  zoneObjs : a.zoneObjs = b.zoneObjs
  acObjs : a.acObjs = b.acObjs
  zoneDict : a.zoneDict = b.zoneDict
  acDict : a.acDict = b.acDict
  subs : a.subs = b.subs
  initialised : a.initialised = b.initialised
  initWaits : a.initWaits = b.initWaits
  pollCur : a.pollCur = b.pollCur
  pollOrphans : a.pollOrphans = b.pollOrphans
  sockOpen : a.sockOpen = b.sockOpen
  sockConnected : a.sockConnected = b.sockConnected
  subscribed : a.subscribed = b.subscribed
  now : a.now = b.now
  hb : HbEquiv a.hb b.hb
  version : a.version = b.version ∨ a.st = .CLOSED ∨ a.st = .CONNECTING ∨ a.st = .INIT_VERSION

theorem FreshSim.simK {a b : State} (F : FreshSim a b) : SimK false a b := by
  obtain ⟨h1, h2, h3, h4, h5, h6, h7, h8, h9, h10, h11, h12, h13, h14, h15, h16, h17, h18, h19, h20⟩ := F
  refine ⟨?_, h19, h20.imp id fun e => ⟨rfl, e⟩⟩
  cases a; cases b
  simp only at h1 h2 h3 h4 h5 h6 h7 h8 h9 h10 h11 h12 h13 h14 h15 h16 h17 h18
  subst h1 h2 h3 h4 h5 h6 h7 h8 h9 h10 h11 h12 h13 h14 h15 h16 h17 h18
  rfl

theorem FreshSim.of_simK {k : Bool} {a b : State} (S : SimK k a b) : FreshSim a b := by
  obtain ⟨h, v, rfl, E, hv⟩ := S.elim
  exact ⟨rfl, rfl, rfl, rfl, rfl, rfl, rfl, rfl, rfl, rfl, rfl, rfl, rfl, rfl, rfl, rfl, rfl, rfl, E, hv.imp id And.right⟩

theorem FreshSim.refl (a : State) : FreshSim a a := FreshSim.of_simK (SimK.refl false a)

theorem freshSim_step {a b : State} (F : FreshSim a b) (op : Op) :
    FreshSim (apiStep a op).1 (apiStep b op).1 ∧
    (op ≠ .view → (apiStep a op).2 = (apiStep b op).2) ∧
    (a.version = b.version →
      (apiStep a op).2 = (apiStep b op).2 ∧ (apiStep a op).1.version = (apiStep b op).1.version) := by
  obtain ⟨p, q⟩ := apiStep_sim F.simK op
  refine ⟨FreshSim.of_simK p, fun h => q (.inr h), fun hv => ?_⟩
  obtain ⟨p', q'⟩ := apiStep_sim (k := true) ⟨F.simK.eq, F.hb, .inl hv⟩ op
  exact ⟨q' (.inl rfl), p'.version.elim id fun e => nomatch e.1⟩

theorem freshSim_run {a b : State} (F : FreshSim a b) (ops : List Op) :
    FreshSim (run a ops).1 (run b ops).1 ∧
    ((∀ op ∈ ops, op ≠ .view) → (run a ops).2 = (run b ops).2) ∧
    (a.version = b.version → (run a ops).2 = (run b ops).2 ∧ (run a ops).1.version = (run b ops).1.version) := by
  rw [run4_eq, run4_eq]
  -- the relation is kept by every op and the outputs agree except on `view`; with equal versions they agree on all
  have ⟨r1, r2⟩ := FoldW.foldW_sim (f := apiStep) (g := apiStep) (R := FreshSim) (p := (· ≠ Op.view)) ops a b F
    fun a b op _ F => ⟨(freshSim_step F op).1, (freshSim_step F op).2.1⟩
  refine ⟨r1, r2, fun hv => ?_⟩
  have ⟨q1, q2⟩ := FoldW.foldW_sim (f := apiStep) (g := apiStep) (R := fun a b => FreshSim a b ∧ a.version = b.version)
    (p := fun _ => True) ops a b ⟨F, hv⟩
    fun a b op _ ⟨F, hv⟩ => ⟨⟨(freshSim_step F op).1, ((freshSim_step F op).2.2 hv).2⟩, fun _ => ((freshSim_step F op).2.2 hv).1⟩
  exact ⟨q2 fun _ _ => trivial, q1.2⟩

theorem freshSim_run_split {a b : State} (F : FreshSim a b) (ops₁ ops₂ : List Op) (h1 : ∀ op ∈ ops₁, op ≠ .view)
    (hv : (run a ops₁).1.version = (run b ops₁).1.version) :
    (run a (ops₁ ++ ops₂)).2 = (run b (ops₁ ++ ops₂)).2 ∧ FreshSim (run a (ops₁ ++ ops₂)).1 (run b (ops₁ ++ ops₂)).1 := by
  obtain ⟨r1, r2, _⟩ := freshSim_run F ops₁
  obtain ⟨t1, _, t3⟩ := freshSim_run r1 ops₂
  rw [run_append, run_append]
  exact ⟨by rw [r2 h1, (t3 hv).1], t1⟩

theorem freshSim_version_answer {a b : State} (F : FreshSim a b) (hsub : a.subscribed = true)
    (hst : a.st = .INIT_VERSION ∨ a.st = .CONNECTED) (c : FF30.ConsoleVersionMessage) :
    (apiStep a (.recv (.extended (.consoleVer (.message c))))).1.version =
      (apiStep b (.recv (.extended (.consoleVer (.message c))))).1.version := by
  -- both store `c`: as the answer in `INIT_VERSION`, as an update in `CONNECTED`
  have key : ∀ s : State, s.subscribed = true → (s.st = .INIT_VERSION ∨ s.st = .CONNECTED) →
      (recv s (.extended (.consoleVer (.message c)))).1.version = c := by
    intro s hs hst
    rw [recv_eq, hbOnMessage_frame]
    unfold handled
    rw [if_pos hs]
    rcases hst with h | h <;> simp only [onMessage, h, ↓reduceIte, reduceCtorEq]
    unfold updateVersion
    split
    · assumption
    · rfl
  exact (key a hsub hst).trans (key b (F.subscribed ▸ hsub) (F.st ▸ hst)).symm

/-! ### well-formedness of the embedded heartbeat manager -/

/-- the manager's clock is the API object's clock, its configuration is the default one, its view of the connection
    is the socket's.  The part of `HbOk` (Api4Heartbeat) that `reinit_fresh` needs of a shut-down object: nothing about
    how the manager got there, nothing about its timers - a weaker hypothesis than `HbWf`, kept by every op (the weak
    invariant; its AirTouch 5 counterpart is `Api5.HbWf`). -/
structure HbOk0 (h : HB) (now : Nat) (conn : Bool) : Prop where
  now : h.now = now
  interval : h.interval = Gen.heartbeatDefaultIntervalField
  timeout : h.timeout = Gen.heartbeatDefaultTimeoutField
  connected : h.connected = conn

def HbWf0 (s : State) : Prop := HbOk0 s.hb s.now s.sockConnected

theorem HbOk0.setNow {h : HB} {n : Nat} {c : Bool} (k : HbOk0 h n c) (m : Nat) : HbOk0 { h with now := m } m c :=
  ⟨rfl, k.interval, k.timeout, k.connected⟩

theorem HbOk0.conn {h : HB} {n : Nat} {c : Bool} (k : HbOk0 h n c) (up : Bool) : HbOk0 (hbApply h (.conn up)) n up :=
  ⟨k.now, k.interval, k.timeout, rfl⟩

theorem HbOk0.apply {h : HB} {n : Nat} {c : Bool} (k : HbOk0 h n c) (l : Label) (hn : ∀ t, l ≠ .advance t)
    (hc : ∀ up, l ≠ .conn up) : HbOk0 (hbApply h l) n c :=
  have f := hbApply_frame h l
  ⟨(f.now hn).trans k.now, f.interval.trans k.interval, f.timeout.trans k.timeout, (f.connected hc).trans k.connected⟩

theorem HbWf0_initial : HbWf0 State.initial := ⟨rfl, rfl, rfl, rfl⟩

theorem HbOk0.of_drives {L : Label → Prop} {h h' : HB} {n : Nat} {c : Bool} (k : HbOk0 h n c)
    (v : Lemmas.Heartbeat.Drives L h h') (hL : ∀ l, L l → (∀ t, l ≠ .advance t) ∧ ∀ up, l ≠ .conn up) : HbOk0 h' n c :=
  v.inv_apply (Q := fun g => HbOk0 g n c) (fun _ l hl k => k.apply l (hL l hl).1 (hL l hl).2) k

/-- the well-formedness is an invariant: every move sets the manager's clock to the object's and reports a
    connection change to it -/
theorem HbWf0_apiStep {s : State} (k : HbWf0 s) (op : Op) : HbWf0 (apiStep s op).1 := by
  refine ctl_inv (P := fun c => HbOk0 c.hb c.now c.sockConnected) s op (fun l c c' _ h k => ?_) k
  cases h with
  | init | answer | rearm => exact k
  | shutdown => exact ((k.setNow c.now).apply .stop nofun nofun).conn false
  | conn _ up => exact (k.setNow c.now).conn up
  | complete =>
    show HbOk0 (startHB c.now c.hb) _ _
    rcases startHB_drives c.now c.hb with e | v
    · rw [e]; exact k
    · exact (k.setNow c.now).of_drives v (by rintro _ (rfl | rfl) <;> exact ⟨nofun, nofun⟩)
  | response => exact (k.setNow c.now).of_drives (respondedHB_drives _) (by rintro _ (rfl | rfl) <;> exact ⟨nofun, nofun⟩)
  | tick => exact (k.setNow _).of_drives (tickHB_drives _ _ _) (by rintro _ (rfl | rfl | rfl) <;> exact ⟨nofun, nofun⟩)

theorem HbWf0_run {s : State} (k : HbWf0 s) (ops : List Op) : HbWf0 (run s ops).1 :=
  run4_eq s ops ▸ FoldW.foldW_inv ops s k fun _ op _ k => HbWf0_apiStep k op

/-! ### `init()` after `shutdown()` -/

/-- the comparator: a fresh object (same constructor arguments) on which time has passed up to `c.now`, the
    AirTouch-level subscribers of `c` were added and whose socket reported the connection state `c` has -/
def freshAt (c : State) : State :=
  { State.initial with
    airtouchId := c.airtouchId, serial := c.serial, name := c.name, host := c.host, now := c.now, subs := c.subs
    sockConnected := c.sockConnected
    hb := { State.initial.hb with now := c.now, connected := c.hb.connected } }

theorem freshAt_closed (c : State) : Closed (freshAt c) := ⟨rfl, rfl, rfl, rfl, rfl, rfl, rfl, rfl, rfl⟩

/-- a fresh object on which only time has passed -/
def idleAt (n : Nat) : State := { State.initial with now := n, hb := { State.initial.hb with now := n } }

theorem tick_idleAt (n : Nat) : tick (idleAt n) = (idleAt (n + 1), []) := rfl

theorem advance_initial (n : Nat) :
    apiStep State.initial (.adv n) =
      ({ State.initial with now := n, hb := { State.initial.hb with now := n } }, []) := by
  cases n with
  | zero => rfl
  | succ k => exact (advance_quiet k rfl).trans (by rw [show State.initial.now + (k + 1) = k + 1 from Nat.zero_add _]; rfl)

theorem freshAt_of_initial (n : Nat) : freshAt (apiStep State.initial (.adv n)).1 = (apiStep State.initial (.adv n)).1 := by
  rw [advance_initial]; rfl

theorem reinit_fresh {c : State} (hc : Closed c) (hw : c.initWaits = []) (ho : c.pollOrphans = []) (hb : HbWf0 c) :
    (apiStep c .init).2 = [Ev.opened] ∧ (apiStep (freshAt c) .init).2 = [Ev.opened] ∧
    FreshSim (apiStep c .init).1 (apiStep (freshAt c) .init).1 := by
  have hi := hc.initialised
  obtain ⟨i1, i2⟩ := (hbIdle_iff c.hb).mp hc.idle
  refine ⟨by simp [apiStep, doInit, hi], rfl, ?_⟩
  have e : apiStep c .init =
      ({ c with st := .CONNECTING, subscribed := true, sockOpen := true,
                initWaits := c.initWaits ++ [c.now + Api4.INIT_TIMEOUT] }, [Ev.opened]) := by
    simp [apiStep, doInit, hi]
  rw [e]
  exact
    { airtouchId := rfl, serial := rfl, name := rfl, host := rfl, st := rfl
      zoneObjs := hc.zoneObjs, acObjs := hc.acObjs, zoneDict := hc.zoneDict, acDict := hc.acDict, subs := rfl
      initialised := hi
      initWaits := by show c.initWaits ++ _ = _; rw [hw]; rfl
      pollCur := hc.pollCur, pollOrphans := ho, sockOpen := rfl, sockConnected := rfl, subscribed := rfl, now := rfl
      hb := ⟨hb.now, hb.interval, hb.timeout, i1, i2, rfl, fun h => absurd i1 h, fun h => by rw [i1] at h; cases h⟩
      version := Or.inr (Or.inr (Or.inl rfl)) }

theorem reinit_run {c : State} (hc : Closed c) (hw : c.initWaits = []) (ho : c.pollOrphans = []) (hb : HbWf0 c)
    (ops : List Op) :
    FreshSim (run c (.init :: ops)).1 (run (freshAt c) (.init :: ops)).1 ∧
    ((∀ op ∈ ops, op ≠ .view) → (run c (.init :: ops)).2 = (run (freshAt c) (.init :: ops)).2) := by
  obtain ⟨f1, f2, f3⟩ := reinit_fresh hc hw ho hb
  obtain ⟨r1, r2, _⟩ := freshSim_run f3 ops
  simp only [run]
  exact ⟨r1, fun h => by rw [f1, f2, r2 h]⟩

theorem reinit_run_split {c : State} (hc : Closed c) (hw : c.initWaits = []) (ho : c.pollOrphans = []) (hb : HbWf0 c)
    (ops₁ ops₂ : List Op) (h1 : ∀ op ∈ ops₁, op ≠ .view)
    (hv : (run c (.init :: ops₁)).1.version = (run (freshAt c) (.init :: ops₁)).1.version) :
    (run c (.init :: (ops₁ ++ ops₂))).2 = (run (freshAt c) (.init :: (ops₁ ++ ops₂))).2 := by
  obtain ⟨f1, f2, f3⟩ := reinit_fresh hc hw ho hb
  simp only [run] at hv ⊢
  rw [f1, f2, (freshSim_run_split f3 ops₁ ops₂ h1 hv).1]

theorem shutdown_reachable_wf (ops : List Op) :
    Closed (run State.initial (ops ++ [.shutdown])).1 ∧ HbWf0 (run State.initial (ops ++ [.shutdown])).1 := by
  rw [run_append]
  exact ⟨(shutdown_state _).1, HbWf0_apiStep (HbWf0_run HbWf0_initial ops) .shutdown⟩

/-! ## what `shutdown()` leaves behind: orphaned poll tasks

(The pending `init()` waiters need no lemma: `shutdown_state` says they persist, `advance_closed` what becomes of
them; `waiterState` at the end is the scenario.) -/

theorem enterConnected_orphans (s : State) :
    (enterConnected s).1.pollOrphans = s.pollOrphans ++ s.pollCur.toList ∧
    (enterConnected s).1.pollCur = some (s.now + Api4.GROUP_STATUS_TIMEOUT) ∧
    (enterConnected s).1.st = .CONNECTED := by
  rw [enterConnected_eq, hbStart_frame]
  exact ⟨rfl, rfl, rfl⟩

theorem State.initial_closed : Closed State.initial := ⟨rfl, rfl, rfl, rfl, rfl, rfl, rfl, rfl, rfl⟩

theorem tick_closed_orphans {s : State} (hc : Closed s) :
    (tick s).1.pollOrphans = s.pollOrphans.filterMap (fun d => (firePoll s.sockConnected false (s.now + 1) d).1) := by
  rw [tick_idle hc.idle]
  show ((s.pollOrphans.map (firePoll s.sockConnected s.sockOpen (s.now + 1))).filterMap (·.1)) = _
  rw [hc.sockOpen, List.filterMap_map]
  rfl

/-- the op sequence that orphans a poll task: a complete handshake, `init()` again without `shutdown()`, the
    handshake again, then `shutdown()` -/
def orphanOps : List Op := demoOps ++ [.init, .conn true] ++ demoAnswers.map Op.recv ++ [.shutdown]

def orphanState : State := (run State.initial orphanOps).1

/-- `init()`, then `shutdown()` before the 5 s are over -/
def waiterState : State := (run State.initial [.init, .shutdown]).1

end PyAirtouch.Lemmas.Api4
