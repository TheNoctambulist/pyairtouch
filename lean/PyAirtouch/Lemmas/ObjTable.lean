import PyAirtouch.Lemmas.Dict
/-!
# An object table: a dictionary *number → index* over a list of objects

The API models keep their zone and air-conditioner objects this way (`acDict` / `acObjs`, `zoneDict` / `zoneObjs` in
`Model.Api4.State`): Python's `self._zones[k]` is an index into the heap of objects ever created, so that an object
replaced in the dictionary lives on where others still refer to it.  Three operations - look an object up under its
number (`find`), replace it in place (`put`), create one under a number (`dictInsert d k l.length` with `l ++ [a]`) -
and what a look-up returns after each, under the invariant that every entry points at an object carrying the entry's
number (`Keyed`).  Nothing here mentions a state.
-/
namespace PyAirtouch.Lemmas.ObjTable
open PyAirtouch.Model PyAirtouch.Lemmas.Dict

variable {α β : Type}

def find (d : List (Nat × Nat)) (l : List α) (k : Nat) : Option α := (d.lookup k).bind (l[·]?)

def put (d : List (Nat × Nat)) (l : List α) (k : Nat) (a' : α) : List α :=
  match d.lookup k with
  | some i => l.set i a'
  | none => l

/-- every entry points at an object that carries the entry's number (`num a k`: object `a` carries number `k`) -/
def Keyed (num : α → Nat → Prop) (d : List (Nat × Nat)) (l : List α) : Prop :=
  ∀ k i, d.lookup k = some i → ∃ a, l[i]? = some a ∧ num a k

theorem Keyed.num_of_find {num : α → Nat → Prop} {d : List (Nat × Nat)} {l : List α} (h : Keyed num d l) {k : Nat}
    {a : α} (hf : find d l k = some a) : num a k := by
  unfold find at hf
  cases hl : d.lookup k with
  | none => simp [hl] at hf
  | some i =>
    obtain ⟨b, hb, hn⟩ := h _ _ hl
    simp [hl, hb] at hf
    exact hf ▸ hn

/-- Two numbers never share an object (an object carries one number: `hnum`), so replacing the object under `k` is seen
    under `k` only. -/
theorem find_put {num : α → Nat → Prop} (hnum : ∀ a k k', num a k → num a k' → k = k') {d : List (Nat × Nat)}
    {l : List α} (h : Keyed num d l) (k : Nat) (a' : α) (k' : Nat) :
    find d (put d l k a') k' = if k' = k then (find d l k).map (fun _ => a') else find d l k' := by
  unfold put
  cases hl : d.lookup k with
  | none =>
    simp only
    split
    · next e => subst e; simp [find, hl]
    · rfl
  | some i =>
    obtain ⟨a, ha, han⟩ := h _ _ hl
    obtain ⟨hlt, _⟩ := List.getElem?_eq_some_iff.mp ha
    by_cases hk : k' = k
    · subst hk
      simp [find, hl, List.getElem?_set, hlt]
    · simp only [hk, ↓reduceIte, find]
      cases hl' : d.lookup k' with
      | none => rfl
      | some j =>
        obtain ⟨b, hb, hbn⟩ := h _ _ hl'
        have hij : i ≠ j := by
          intro e; subst e
          rw [ha] at hb; cases hb
          exact hk (hnum _ _ _ hbn han)
        simp [List.getElem?_set, hij]

theorem keyed_put {num : α → Nat → Prop} (hnum : ∀ a k k', num a k → num a k' → k = k') {d : List (Nat × Nat)}
    {l : List α} (h : Keyed num d l) {k : Nat} {a' : α} (hn : num a' k) : Keyed num d (put d l k a') := by
  unfold put
  cases hl : d.lookup k with
  | none => exact h
  | some i =>
    obtain ⟨a, ha, han⟩ := h _ _ hl
    obtain ⟨hlt, _⟩ := List.getElem?_eq_some_iff.mp ha
    intro k' j hj
    obtain ⟨b, hb, hbn⟩ := h _ _ hj
    by_cases hij : i = j
    · subst hij
      rw [ha] at hb; cases hb
      have : k' = k := hnum _ _ _ hbn han
      subst this
      exact ⟨a', by simp [hlt], hn⟩
    · exact ⟨b, by simp [hij, hb], hbn⟩

theorem keyed_set {num : α → Nat → Prop} {d : List (Nat × Nat)} {l : List α} (h : Keyed num d l) {i : Nat} {a a' : α}
    (ha : l[i]? = some a) (hn : ∀ k, num a k → num a' k) : Keyed num d (l.set i a') := by
  obtain ⟨hlt, _⟩ := List.getElem?_eq_some_iff.mp ha
  intro k j hj
  obtain ⟨b, hb, hbn⟩ := h _ _ hj
  by_cases hij : i = j
  · subst hij
    rw [ha] at hb; cases hb
    exact ⟨a', by simp [hlt], hn k hbn⟩
  · exact ⟨b, by simp [hij, hb], hbn⟩

/-- `d[k] = Obj(…)`: a new object under the number `k`; an older object under `k` stays in the heap -/
theorem find_alloc {num : α → Nat → Prop} {d : List (Nat × Nat)} {l : List α} (h : Keyed num d l) (k : Nat) (a : α)
    (k' : Nat) : find (dictInsert d k l.length) (l ++ [a]) k' = if k' = k then some a else find d l k' := by
  simp only [find, lookup_dictInsert]
  split
  · simp
  · cases hl : d.lookup k' with
    | none => rfl
    | some i =>
      obtain ⟨b, hb, _⟩ := h _ _ hl
      obtain ⟨hlt, _⟩ := List.getElem?_eq_some_iff.mp hb
      simp [List.getElem?_append_left hlt]

theorem keyed_alloc {num : α → Nat → Prop} {d : List (Nat × Nat)} {l : List α} (h : Keyed num d l) {k : Nat} {a : α}
    (hn : num a k) : Keyed num (dictInsert d k l.length) (l ++ [a]) := by
  intro k' i hk
  rw [lookup_dictInsert] at hk
  split at hk
  · next e => cases hk; exact ⟨a, by simp, e ▸ hn⟩
  · obtain ⟨b, hb, hbn⟩ := h _ _ hk
    obtain ⟨hlt, _⟩ := List.getElem?_eq_some_iff.mp hb
    exact ⟨b, by simp [List.getElem?_append_left hlt, hb], hbn⟩

/-! A map over the objects (erasing a flag, projecting to what is exposed) commutes with look-up and replacement. -/

theorem find_map (g : α → β) (d : List (Nat × Nat)) (l : List α) (k : Nat) :
    find d (l.map g) k = (find d l k).map g := by
  simp only [find]
  cases d.lookup k with
  | none => rfl
  | some i => simp [List.getElem?_map]

theorem map_put (g : α → β) (d : List (Nat × Nat)) (l : List α) (k : Nat) (a' : α) :
    (put d l k a').map g = put d (l.map g) k (g a') := by
  simp only [put]
  cases d.lookup k with
  | none => rfl
  | some i => simp [List.map_set]

theorem map_set_same (g : α → β) {l : List α} {i : Nat} {a a' : α} (h : l[i]? = some a) (hg : g a' = g a) :
    (l.set i a').map g = l.map g := by
  apply List.ext_getElem?
  intro j
  obtain ⟨hlt, hget⟩ := List.getElem?_eq_some_iff.mp h
  simp only [List.getElem?_map, List.getElem?_set]
  by_cases hij : i = j
  · subst hij; simp [hlt, hg, hget]
  · simp [hij]

theorem map_put_same (g : α → β) {d : List (Nat × Nat)} {l : List α} {k : Nat} {a a' : α} (hf : find d l k = some a)
    (hg : g a' = g a) : (put d l k a').map g = l.map g := by
  unfold put
  cases hl : d.lookup k with
  | none => rfl
  | some i => exact map_set_same g (by simpa [find, hl] using hf) hg

end PyAirtouch.Lemmas.ObjTable
