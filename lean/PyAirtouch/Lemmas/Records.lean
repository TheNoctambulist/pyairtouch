import PyAirtouch.Model.Bytes
/-!
# Messages that are a list of records

Every such codec has its own record encoder and decoder and its own
recursion over the list; the lemmas here are about any functions that satisfy the two defining equations of that
recursion, so that a codec only has to prove the round trip, the length and the byte range of one record.  The
decoders come in two shapes: each record read from what the one before left (`decRecs_flatMap`), or each from the
front of a buffer that is then advanced by a fixed stride (`decRecs_stride_flatMap`).

To use one for a codec: name the codec's list function, which cannot be inferred from the equations
(`(decRecs := decRecs)`, `(encRecs := encRecs)`), and give the two equations, which hold by unfolding
(`rfl` for the encoder's empty list, `fun _ => rfl` and `fun _ _ => rfl` otherwise), then the fact about one
record.

The file opens with two facts about `Except` that the codec files, the registries and `Lemmas/Stack.lean` use to
take an encoder's `do` block apart (`bind_ok`) and to apply a statement of the form `∃ a, e = .ok a ∧ P a` to the
value `e` is known to answer (`ok_of_exists`).
-/
namespace PyAirtouch.Lemmas.Records
open PyAirtouch.Model

variable {α : Type}

theorem bind_ok {ε α β} {x : Except ε α} {f : α → Except ε β} {b : β} (h : (x >>= f) = .ok b) :
    ∃ a, x = .ok a ∧ f a = .ok b := by
  cases x with
  | error e => cases h
  | ok a => exact ⟨a, rfl, h⟩

theorem ok_of_exists {ε α : Type} {e : Except ε α} {P : α → Prop} (h : ∃ a, e = .ok a ∧ P a) {a : α}
    (ha : e = .ok a) : P a := by
  obtain ⟨a', ha', hp⟩ := h
  cases ha'.symm.trans ha
  exact hp

theorem flatMap_length (enc : α → Bytes) (n : Nat) (h : ∀ a, (enc a).length = n) (l : List α) :
    (l.flatMap enc).length = n * l.length := by
  induction l with
  | nil => rfl
  | cons a l ih => rw [List.flatMap_cons, List.length_append, h, ih, List.length_cons, Nat.mul_succ, Nat.add_comm]

section decoder
variable {decRecs : Nat → Bytes → Except DecErr (List α × Bytes)} (h0 : ∀ bs, decRecs 0 bs = .ok ([], bs))
  {enc : α → Bytes} {P : α → Prop}
include h0

theorem decRecs_flatMap {decRec : Bytes → Except DecErr (α × Bytes)}
    (hs : ∀ n bs, decRecs (n + 1) bs = do
      let (a, rest) ← decRec bs
      let (as, rest') ← decRecs n rest
      pure (a :: as, rest'))
    (hrec : ∀ a, P a → ∀ rest, decRec (enc a ++ rest) = .ok (a, rest))
    (l : List α) (hl : ∀ a ∈ l, P a) (rest : Bytes) :
    decRecs l.length (l.flatMap enc ++ rest) = .ok (l, rest) := by
  induction l with
  | nil => exact h0 rest
  | cons a l ih =>
    rw [List.length_cons, hs, List.flatMap_cons, List.append_assoc, hrec a (hl a (List.mem_cons_self ..))]
    simp only [bind, Except.bind]
    rw [ih (fun x hx => hl x (List.mem_cons_of_mem _ hx))]
    rfl

theorem decRecs_stride_flatMap {decRec : Bytes → Except DecErr α} {stride : Nat}
    (hs : ∀ n bs, decRecs (n + 1) bs = do
      let a ← decRec bs
      let (as, rest) ← decRecs n (bs.drop stride)
      pure (a :: as, rest))
    (hlen : ∀ a, (enc a).length = stride) (hrec : ∀ a, P a → ∀ rest, decRec (enc a ++ rest) = .ok a)
    (l : List α) (hl : ∀ a ∈ l, P a) (rest : Bytes) :
    decRecs l.length (l.flatMap enc ++ rest) = .ok (l, rest) := by
  induction l with
  | nil => exact h0 rest
  | cons a l ih =>
    rw [List.length_cons, hs, List.flatMap_cons, List.append_assoc, hrec a (hl a (List.mem_cons_self ..))]
    simp only [bind, Except.bind]
    rw [List.drop_left' (hlen a), ih (fun x hx => hl x (List.mem_cons_of_mem _ hx))]
    rfl

end decoder

section encoder
variable {encRec : α → Except EncErr Bytes} {encRecs : List α → Except EncErr Bytes}
  (h0 : encRecs [] = .ok [])
  (hs : ∀ a l, encRecs (a :: l) = do
    let b ← encRec a
    let bs ← encRecs l
    pure (b ++ bs))
include h0 hs

theorem encRecs_ok {enc : α → Bytes} {P : α → Prop} (hrec : ∀ a, P a → encRec a = .ok (enc a))
    (l : List α) (hl : ∀ a ∈ l, P a) : encRecs l = .ok (l.flatMap enc) := by
  induction l with
  | nil => exact h0
  | cons a l ih =>
    rw [hs, hrec a (hl a (List.mem_cons_self ..)), ih (fun x hx => hl x (List.mem_cons_of_mem _ hx))]
    rfl

theorem encRecs_induction {Q : List α → Bytes → Prop} (hnil : Q [] [])
    (hcons : ∀ a l b bs, encRec a = .ok b → Q l bs → Q (a :: l) (b ++ bs)) (l : List α) (bs : Bytes)
    (h : encRecs l = .ok bs) : Q l bs := by
  induction l generalizing bs with
  | nil => cases h0.symm.trans h; exact hnil
  | cons a l ih =>
    rw [hs] at h
    obtain ⟨b, hb, h⟩ := bind_ok h
    obtain ⟨bs', hbs', h⟩ := bind_ok h
    cases h
    exact hcons a l b bs' hb (ih bs' hbs')

theorem encRecs_length {n : Nat} (hlen : ∀ a bs, encRec a = .ok bs → bs.length = n) (l : List α) (bs : Bytes)
    (h : encRecs l = .ok bs) : bs.length = n * l.length :=
  encRecs_induction h0 hs (Q := fun l bs => bs.length = n * l.length) rfl
    (fun a l b bs hb ih => by rw [List.length_append, hlen a b hb, ih, List.length_cons, Nat.mul_succ, Nat.add_comm])
    l bs h

theorem encRecs_allBytes (hrec : ∀ a b, encRec a = .ok b → AllBytes b) (l : List α) (bs : Bytes)
    (h : encRecs l = .ok bs) : AllBytes bs :=
  encRecs_induction h0 hs (Q := fun _ bs => AllBytes bs) (fun _ hb => nomatch hb)
    (fun a _ b _ hb ih => List.forall_mem_append.mpr ⟨hrec a b hb, ih⟩) l bs h

end encoder

end PyAirtouch.Lemmas.Records
