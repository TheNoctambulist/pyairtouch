import PyAirtouch.Model.Bytes
/-!
# Bit fields packed into bytes and words

A packed byte is a sum of fields `x * 2 ^ k`; a reader takes `v / 2 ^ k % 2 ^ w`.  Two fields are read back by
`pack_div_mod` and `pack_mod` (primed: the byte written low field first, as the AirTouch 5 models write byte 1).
A flag `b` is written as the number `b.toNat` (`boolToBit_eq`) and read by comparing with it
(`bitToBool_of_toNat`), so that a byte with flags is a linear fact about its fields as variables and needs no case
split on the flags; flags in consecutive bits from bit 0 are a `packBits`.  `flags_field6` and `fields_3_2_3` are
the two whole-byte layouts that several codecs share (0x2B and 0x2D; 0x2A and 0xC020); a layout of one codec
belongs to that codec's file.
-/
namespace PyAirtouch.Lemmas.BitField
open PyAirtouch.Model

theorem pack_div_mod {hi lo m w : Nat} (hlo : lo < m) (hhi : hi < w) : (hi * m + lo) / m % w = hi := by
  rw [Nat.add_comm, Nat.add_mul_div_right _ _ (Nat.zero_lt_of_lt hlo), Nat.div_eq_of_lt hlo, Nat.zero_add,
    Nat.mod_eq_of_lt hhi]

theorem pack_mod {hi lo m : Nat} (hlo : lo < m) : (hi * m + lo) % m = lo := by
  rw [Nat.add_comm, Nat.add_mul_mod_self_right, Nat.mod_eq_of_lt hlo]

theorem pack_div_mod' {hi lo m w : Nat} (hlo : lo < m) (hhi : hi < w) : (lo + hi * m) / m % w = hi :=
  Nat.add_comm .. ▸ pack_div_mod hlo hhi

theorem pack_mod' {hi lo m : Nat} (hlo : lo < m) : (lo + hi * m) % m = lo :=
  Nat.add_comm .. ▸ pack_mod hlo

theorem boolToBit_eq (b : Bool) (k : Nat) : boolToBit b k = b.toNat * 2 ^ k := by
  cases b <;> simp [boolToBit]

theorem boolToBit_le (b : Bool) (k : Nat) : boolToBit b k ≤ 2 ^ k := by
  unfold boolToBit; split
  · exact Nat.le_refl _
  · exact Nat.zero_le _

theorem bitToBool_of_toNat {v k : Nat} {b : Bool} (h : v / 2 ^ k % 2 = b.toNat) : bitToBool v k = b := by
  cases b <;> simp_all [bitToBool]

theorem bitToBool_boolToBit (b : Bool) (k : Nat) : bitToBool (boolToBit b k) k = b :=
  bitToBool_of_toNat (by
    have := b.toNat_lt
    rw [boolToBit_eq, Nat.mul_div_cancel _ (Nat.two_pow_pos k)]
    omega)

theorem flags_field6 {a b s : Nat} (ha : a < 2) (hb : b < 2) (hs : s < 64) :
    (a * 128 + b * 64 + s) / 128 % 2 = a ∧ (a * 128 + b * 64 + s) / 64 % 2 = b ∧
    (a * 128 + b * 64 + s) % 64 = s := by
  omega

theorem fields_3_2_3 {k c p : Nat} (hk : k < 8) (hc : c < 4) (hp : p < 8) :
    k * 32 + c * 8 + p < 256 ∧ (k * 32 + c * 8 + p) / 32 % 8 = k ∧ (k * 32 + c * 8 + p) / 8 % 4 = c ∧
    (k * 32 + c * 8 + p) % 8 = p := by
  omega

/-- the number whose bit `i` is the `i`-th flag of the list: what a sum of `boolToBit bᵢ i` amounts to -/
def packBits : List Bool → Nat
  | [] => 0
  | b :: bs => b.toNat + 2 * packBits bs

theorem packBits_lt (bs : List Bool) : packBits bs < 2 ^ bs.length := by
  induction bs with
  | nil => decide
  | cons b bs ih =>
    have := b.toNat_lt
    simp only [packBits, List.length_cons, Nat.pow_succ]
    omega

theorem packBits_lt_256 (bs : List Bool) (h : bs.length ≤ 8) : packBits bs < 256 :=
  Nat.lt_of_lt_of_le (packBits_lt bs) (Nat.pow_le_pow_right (by decide) h)

theorem bitToBool_succ (v k : Nat) : bitToBool v (k + 1) = bitToBool (v / 2) k := by
  simp only [bitToBool, Nat.pow_succ, Nat.mul_comm, Nat.div_div_eq_div_mul]

theorem bitToBool_mul_two_pow_add (hi x : Nat) {n i : Nat} (h : i < n) :
    bitToBool (hi * 2 ^ n + x) i = bitToBool x i := by
  induction i generalizing n x with
  | zero =>
    obtain ⟨n, rfl⟩ := Nat.exists_eq_succ_of_ne_zero (Nat.ne_of_gt h)
    simp only [bitToBool, Nat.pow_zero, Nat.div_one, Nat.pow_succ, ← Nat.mul_assoc, Nat.mul_add_mod_self_right]
  | succ i ih =>
    obtain ⟨n, rfl⟩ := Nat.exists_eq_succ_of_ne_zero (Nat.ne_of_gt (Nat.zero_lt_of_lt h))
    rw [bitToBool_succ, bitToBool_succ, ← ih (x / 2) (Nat.lt_of_succ_lt_succ h), Nat.pow_succ, ← Nat.mul_assoc]
    congr 1
    generalize hi * 2 ^ n = y
    omega

theorem bitToBool_packBits (bs : List Bool) (i : Nat) : bitToBool (packBits bs) i = bs.getD i false := by
  induction bs generalizing i with
  | nil => simp [packBits, bitToBool]
  | cons b bs ih =>
    have hb := b.toNat_lt
    cases i with
    | zero =>
      exact bitToBool_of_toNat (by simp only [packBits, Nat.pow_zero, Nat.div_one, List.getD_cons_zero]; omega)
    | succ i =>
      rw [bitToBool_succ, List.getD_cons_succ, ← ih i]
      congr 1
      simp only [packBits]
      omega

theorem be16_be16Bytes {v : Nat} (h : v < 65536) : be16 (v / 256 % 256) (v % 256) = v := by
  simp only [be16]
  omega

theorem bitToBool_eq_testBit (x i : Nat) : bitToBool x i = x.testBit i := by
  simp [bitToBool, Nat.testBit_eq_decide_div_mod_eq]

end PyAirtouch.Lemmas.BitField
