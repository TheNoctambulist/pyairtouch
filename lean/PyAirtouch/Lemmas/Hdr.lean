import PyAirtouch.Model.At4.Hdr
import PyAirtouch.Model.At5.Hdr
import PyAirtouch.Lemmas.Stack
/-!
# The two header codecs

Each generation's header encoder against its decoder, in the same four steps: the encoder answers exactly on
well-formed headers (`encode_ok_iff`) and then writes prefix and checksum data (`encode_eq`); the checksum data are
bytes (`ck_bytes`); the decoder reads the header back from what was written (`decode_encoded`).  Together they make
the codec a `Stack.HdrOK` for every receive path that decodes headers with it (`at4_hdrOK`, `at5_hdrOK`), which is
what the frame theorems of `Lemmas/Stack.lean` ask.  `hdr_roundtrip`, `hdr_checksum_span` and
`at5_hdr_outer_lengths` at the end say the same in the terms of C03 and C06.
-/
namespace PyAirtouch.Lemmas.Hdr
open PyAirtouch.Model PyAirtouch.Model.Frame PyAirtouch.Lemmas.RegistryCommon
open PyAirtouch.Lemmas.Stack (HdrOK)

variable {M : Type}

section At4
open PyAirtouch.Model.At4.Hdr PyAirtouch.Gen.At4.Hdr

theorem at4_length_lt {h : At4Header} (hwf : WF h) : h.message_length < 65536 := hwf.2.2.2.2

theorem at4_encode_ok_iff (h : At4Header) : (∃ r, encode h = .ok r) ↔ WF h := by
  unfold encode
  by_cases hwf : WF h <;> simp [hwf]

theorem at4_encode_eq (h : At4Header) (hb ck : Bytes) (henc : encode h = .ok (hb, ck)) :
    WF h ∧
    ck = [h.to_address, h.from_address, h.packet_id, h.message_id,
          h.message_length / 256 % 256, h.message_length % 256] ∧
    hb = [85, 85] ++ ck := by
  unfold encode at henc
  by_cases hwf : WF h
  · simp only [hwf, ↓reduceIte, Except.ok.injEq, Prod.mk.injEq] at henc
    obtain ⟨rfl, rfl⟩ := henc
    exact ⟨hwf, rfl, rfl⟩
  · simp [hwf] at henc

theorem at4_ck_bytes (h : At4Header) (hwf : WF h) :
    AllBytes [h.to_address, h.from_address, h.packet_id, h.message_id,
      h.message_length / 256 % 256, h.message_length % 256] := by
  obtain ⟨h1, h2, h3, h4, h5⟩ := hwf
  simp only [allBytes_cons, allBytes_nil, and_true]
  exact ⟨h1, h2, h3, h4, by omega, by omega⟩

theorem at4_decode_encoded (h : At4Header) (hwf : WF h) (rest : Bytes) :
    decode ([85, 85] ++ [h.to_address, h.from_address, h.packet_id, h.message_id,
        h.message_length / 256 % 256, h.message_length % 256] ++ rest) =
      .ok (h, rest, [h.to_address, h.from_address, h.packet_id, h.message_id,
        h.message_length / 256 % 256, h.message_length % 256]) := by
  simp only [decode, List.cons_append, List.nil_append, PREFIX, ne_eq, not_true_eq_false, ↓reduceIte,
    BitField.be16_be16Bytes (at4_length_lt hwf)]

/-- for any receive path whose header side is this decoder -/
theorem at4_hdrOK (p : Proto At4Header M) (hpl : p.headerLength = headerLength) (hpd : p.decodeHdr = decode) :
    HdrOK p encode := by
  intro h hb ck he
  obtain ⟨hwf, rfl, rfl⟩ := at4_encode_eq h hb ck he
  exact ⟨hpl.symm, hpd ▸ at4_decode_encoded h hwf [], at4_ck_bytes h hwf⟩

end At4

section At5
open PyAirtouch.Model.At5.Hdr PyAirtouch.Gen.At5.Hdr

theorem at5_length_lt {h : At5Header} (hwf : WF h) : h.message_length < 65536 := hwf.2.2.2.2.1

theorem at5_outer_lt {h : At5Header} (hwf : WF h) : 10 + h.message_length + 2 < 65536 := hwf.2.2.2.2.2

theorem at5_encode_ok_iff (h : At5Header) : (∃ r, encode h = .ok r) ↔ WF h := by
  unfold encode
  by_cases hwf : WF h <;> simp [hwf]

theorem at5_encode_eq (h : At5Header) (hb ck : Bytes) (henc : encode h = .ok (hb, ck)) :
    WF h ∧
    ck = [h.to_address, h.from_address, h.packet_id, h.message_id,
          h.message_length / 256 % 256, h.message_length % 256] ∧
    hb = [85, 85, 85, 171, 0, 0] ++
          be16Bytes (10 + h.message_length + 2) ++ be16Bytes (10 + h.message_length + 2) ++
          [85, 85, 85, 170] ++ ck := by
  unfold encode at henc
  by_cases hwf : WF h
  · simp only [hwf, ↓reduceIte, Except.ok.injEq, Prod.mk.injEq] at henc
    obtain ⟨rfl, rfl⟩ := henc
    exact ⟨hwf, rfl, rfl⟩
  · simp [hwf] at henc

theorem at5_ck_bytes (h : At5Header) (hwf : WF h) :
    AllBytes [h.to_address, h.from_address, h.packet_id, h.message_id,
      h.message_length / 256 % 256, h.message_length % 256] := by
  obtain ⟨h1, h2, h3, h4, h5, -⟩ := hwf
  simp only [allBytes_cons, allBytes_nil, and_true]
  exact ⟨h1, h2, h3, h4, by omega, by omega⟩

theorem at5_decode_encoded (h : At5Header) (hwf : WF h) (rest : Bytes) :
    decode ([85, 85, 85, 171, 0, 0] ++
        be16Bytes (10 + h.message_length + 2) ++ be16Bytes (10 + h.message_length + 2) ++ [85, 85, 85, 170] ++
        [h.to_address, h.from_address, h.packet_id, h.message_id,
          h.message_length / 256 % 256, h.message_length % 256] ++ rest) =
      .ok (h, rest, [h.to_address, h.from_address, h.packet_id, h.message_id,
        h.message_length / 256 % 256, h.message_length % 256]) := by
  simp only [decode, be16Bytes, List.cons_append, List.nil_append, OUTER_HEADER_PREFIX,
    INNER_HEADER_PREFIX, ne_eq, not_true_eq_false, ↓reduceIte, dataLength,
    INTERNAL_HEADER_LENGTH, CRC_LENGTH, BitField.be16_be16Bytes (at5_length_lt hwf),
    BitField.be16_be16Bytes (at5_outer_lt hwf)]

/-- for any receive path whose header side is this decoder -/
theorem at5_hdrOK (p : Proto At5Header M) (hpl : p.headerLength = headerLength) (hpd : p.decodeHdr = decode) :
    HdrOK p encode := by
  intro h hb ck he
  obtain ⟨hwf, rfl, rfl⟩ := at5_encode_eq h hb ck he
  exact ⟨hpl.symm, hpd ▸ at5_decode_encoded h hwf [], at5_ck_bytes h hwf⟩

end At5

end PyAirtouch.Lemmas.Hdr

/-! ### the same in the terms of C03 and C06

Under `Frame`, the name by which the statements of `Props/C03Frame.lean` and `Props/C06Frame.lean` take them. -/
namespace PyAirtouch.Lemmas.Frame
open PyAirtouch.Model PyAirtouch.Lemmas.RegistryCommon PyAirtouch.Lemmas.Hdr

section At4
open PyAirtouch.Model.At4.Hdr PyAirtouch.Gen.At4.Hdr

/-- the 8 header bytes decode back to the header that was encoded, leave what follows untouched, and
    hand the same checksum data to the receiver as the sender used -/
theorem at4_hdr_roundtrip (h : At4Header) (hb ck rest : Bytes) (hwf : WF h)
    (henc : encode h = .ok (hb, ck)) :
    hb.length = headerLength ∧ decode (hb ++ rest) = .ok (h, rest, ck) ∧ (∀ b ∈ hb, b < 256) := by
  obtain ⟨-, rfl, rfl⟩ := at4_encode_eq h hb ck henc
  exact ⟨rfl, at4_decode_encoded h hwf rest,
    allBytes_append.mpr ⟨allBytes_cons.mpr ⟨by decide, allBytes_cons.mpr ⟨by decide, allBytes_nil⟩⟩,
      at4_ck_bytes h hwf⟩⟩

/-- the checksum covers `to, from, packet id, message id, length hi, length lo`: everything after the
    2-byte prefix -/
theorem at4_hdr_checksum_span (h : At4Header) (hb ck : Bytes) (hwf : WF h)
    (henc : encode h = .ok (hb, ck)) :
    ck = hb.drop CHECKSUM_DATA_START ∧ ck = hb.drop 2 ∧
    ck = [h.to_address, h.from_address, h.packet_id, h.message_id,
          h.message_length / 256 % 256, h.message_length % 256] ∧
    (∀ b ∈ ck, b < 256) := by
  obtain ⟨-, rfl, rfl⟩ := at4_encode_eq h hb ck henc
  exact ⟨rfl, rfl, rfl, at4_ck_bytes h hwf⟩

end At4

section At5
open PyAirtouch.Model.At5.Hdr PyAirtouch.Gen.At5.Hdr

theorem at5_hdr_roundtrip (h : At5Header) (hb ck rest : Bytes) (hwf : WF h)
    (henc : encode h = .ok (hb, ck)) :
    hb.length = headerLength ∧ decode (hb ++ rest) = .ok (h, rest, ck) ∧ (∀ b ∈ hb, b < 256) := by
  obtain ⟨-, rfl, rfl⟩ := at5_encode_eq h hb ck henc
  refine ⟨rfl, at5_decode_encoded h hwf rest, (?_ : AllBytes _)⟩
  simp only [allBytes_append, allBytes_cons, allBytes_nil, allBytes_be16Bytes, at5_ck_bytes h hwf,
    Nat.reduceLT, Nat.zero_lt_succ, and_self]

/-- the checksum covers the last 6 header bytes (`to, from, packet id, message id, length hi, length lo`):
    neither prefix and neither outer length field is covered -/
theorem at5_hdr_checksum_span (h : At5Header) (hb ck : Bytes) (hwf : WF h)
    (henc : encode h = .ok (hb, ck)) :
    ck = hb.drop CHECKSUM_DATA_START ∧ ck = hb.drop 14 ∧
    ck = [h.to_address, h.from_address, h.packet_id, h.message_id,
          h.message_length / 256 % 256, h.message_length % 256] ∧
    (∀ b ∈ ck, b < 256) := by
  obtain ⟨-, rfl, rfl⟩ := at5_encode_eq h hb ck henc
  exact ⟨rfl, rfl, rfl, at5_ck_bytes h hwf⟩

/-- both outer length fields (bytes 6-7 and 8-9, big-endian) carry `10 + message_length + 2` -/
theorem at5_hdr_outer_lengths (h : At5Header) (hb ck : Bytes) (hwf : WF h)
    (henc : encode h = .ok (hb, ck)) :
    (hb.drop 6).take 2 = be16Bytes (10 + h.message_length + 2) ∧
    (hb.drop 8).take 2 = be16Bytes (10 + h.message_length + 2) ∧
    be16 (hb.getD 6 0) (hb.getD 7 0) = 10 + h.message_length + 2 ∧
    be16 (hb.getD 8 0) (hb.getD 9 0) = 10 + h.message_length + 2 := by
  obtain ⟨-, rfl, rfl⟩ := at5_encode_eq h hb ck henc
  have h6 := at5_outer_lt hwf
  simp only [be16Bytes, List.cons_append, List.nil_append, List.drop_succ_cons, List.drop_zero,
    List.take_succ_cons, List.take_zero, List.getD_cons_succ, List.getD_cons_zero, true_and]
  exact ⟨BitField.be16_be16Bytes h6, BitField.be16_be16Bytes h6⟩

end At5

end PyAirtouch.Lemmas.Frame
