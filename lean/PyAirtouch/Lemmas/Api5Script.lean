import PyAirtouch.Lemmas.Api5Run
/-!
# The AirTouch 5 handshake on scripts of (frames, answer) steps

A script is a list of steps, each any frames followed by one frame that answers the request of the state the step is
listed for (`Answered`; the states run on from `st` by `nextState`).  `answered_run` is `noise_then_answer` along a
script: the state machine ends beyond all the states answered.  Without frames in between every answer is met in the
state it is for, so the run is exact (`AnswersOk`, `answerOps`): `answers_run` gives the state and the requests sent,
`clean_run` adds the last answer.
-/
namespace PyAirtouch.Lemmas.Api5
open PyAirtouch.Model PyAirtouch.Model.Api5 PyAirtouch.Model.At5 PyAirtouch.Model.At5.Registry
open PyAirtouch.Gen PyAirtouch.Gen.Api5

/-- the ops of a script: the frames of each step, then its answer -/
def script (steps : List (List Op × Nat × Msg)) : List Op := steps.flatMap fun p => p.1 ++ [.msg p.2.1 p.2.2]

/-- step by step from state `s`, for the states `st`, `nextState st`, …: only frames arrive, the last of them answers the
    request of the step's state, and - the one side condition - if it arrives while awaited it is digestible -/
def Answered : State → AirTouchState → List (List Op × Nat × Msg) → Prop
  | _, _, [] => True
  | s, st, (n, t, m) :: rest =>
    (∀ o ∈ n, Op.isFrame o = true) ∧ answers st t m = true ∧ ((runS s n).st = st → abilityOk (runS s n) m) ∧
    Answered (runS s (n ++ [.msg t m])) (nextState st) rest

theorem script_cons (p : List Op × Nat × Msg) (rest : List (List Op × Nat × Msg)) :
    script (p :: rest) = (p.1 ++ [.msg p.2.1 p.2.2]) ++ script rest := rfl

/-- **frames around the answers**: after a script answering `st` and the states after it, the state machine is beyond
    them all -/
theorem answered_run (s : State) (hs : Handshaking s) (hc : ConnInit s) (st : AirTouchState) (hk : rank st ≤ rank s.st)
    (steps : List (List Op × Nat × Msg)) (h : Answered s st steps) :
    Handshaking (runS s (script steps)) ∧ ConnInit (runS s (script steps)) ∧
    rank st + steps.length ≤ rank (runS s (script steps)).st := by
  induction steps generalizing s st with
  | nil => exact ⟨hs, hc, hk⟩
  | cons p rest ih =>
    obtain ⟨n, t, m⟩ := p
    obtain ⟨hn, ha, hok, hr⟩ := h
    have h7 := (answers_rank ha).2
    obtain ⟨p1, c1, r1⟩ := noise_then_answer s hs hc st hk h7 n hn t m ha hok
    rw [← runS_append] at p1 c1 r1
    obtain ⟨p2, c2, r2⟩ := ih _ p1 c1 (nextState st) (by rw [rank_nextState st h7]; exact r1) hr
    rw [script_cons, runS_append]
    exact ⟨p2, c2, by rw [rank_nextState st h7] at r2; simpa [Nat.add_assoc, Nat.add_comm 1] using r2⟩

/-- **the handshake completes**: from `INIT_VERSION`, six answered steps and any frames after them -/
theorem handshake_completes (s : State) (hs : Handshaking s) (hst : s.st = .INIT_VERSION)
    (steps : List (List Op × Nat × Msg)) (h : Answered s .INIT_VERSION steps) (h6 : steps.length = 6)
    (after : List Op) (ha : ∀ o ∈ after, Op.isFrame o = true) :
    (runS s (script steps ++ after)).st = .CONNECTED ∧ (runS s (script steps ++ after)).initialised = true := by
  obtain ⟨p, c, r⟩ := answered_run s hs (fun h => by rw [hst] at h; cases h) .INIT_VERSION (hst ▸ Nat.le_refl _) steps h
  obtain ⟨_, c', r'⟩ := frames_mono _ after ha p c
  rw [runS_append]
  have hfin := rank_inj (a := .CONNECTED) (Nat.le_antisymm (Nat.le_trans (by rw [h6] at r; exact r) r') (rank_le _))
  exact ⟨hfin.symm, c' hfin.symm⟩

/-! ### answers in a row -/

/-- the requests sent on entering the `k` states after `st` -/
def requestsAfter : AirTouchState → Nat → List (Policy × Msg)
  | _, 0 => []
  | st, k + 1 => ((requestFor (nextState st)).map fun r => (Policy.connected, r)).toList ++ requestsAfter (nextState st) k

theorem answer_step (s : State) (t : Nat) (m : Msg) (hs : Handshaking s) (hi : HbIdle s.hb) (h6 : rank s.st ≤ 6)
    (ha : answers s.st t m = true) (hok : abilityOk s m) :
    Handshaking (apiStep s (.msg t m)).1 ∧ HbIdle (apiStep s (.msg t m)).1.hb ∧
    (apiStep s (.msg t m)).1.st = nextState s.st ∧
    handshakeSends (apiStep s (.msg t m)).2 = ((requestFor (nextState s.st)).map fun r => (Policy.connected, r)).toList := by
  have hm : Mono s (apiStep s (.msg t m)).1 := doMsg_mono s t m
  have hst : (apiStep s (.msg t m)).1.st = nextState s.st := answer_advances s t m hs ha hok
  have hne : (apiStep s (.msg t m)).1.st ≠ .CONNECTED := by
    intro h
    have := rank_nextState s.st (by omega)
    rw [← hst, h] at this
    have h8 : rank AirTouchState.CONNECTED = 8 := rfl
    omega
  exact ⟨(mono_handshaking hm hs).1, (hm.quiet (Or.inl hne)).2.2 hi, hst, answer_sends s t m hs h6 hi ha hok⟩

/-- answers in a row, nothing in between -/
def answerOps (as : List (Nat × Msg)) : List Op := as.map fun a => .msg a.1 a.2

/-- each answer answers the request of its state (the states run on from `st` by `nextState`) and is digestible in the
    state it meets -/
def AnswersOk : State → AirTouchState → List (Nat × Msg) → Prop
  | _, _, [] => True
  | s, st, (t, m) :: rest => answers st t m = true ∧ abilityOk s m ∧ AnswersOk (apiStep s (.msg t m)).1 (nextState st) rest

/-- **answers in a row**, none of them the last: the state machine takes one step per answer and sends exactly the
    requests of the states it enters (error-information requests aside) -/
theorem answers_run (s : State) (hs : Handshaking s) (hi : HbIdle s.hb) (as : List (Nat × Msg))
    (h7 : rank s.st + as.length ≤ 7) (h : AnswersOk s s.st as) :
    Handshaking (runS s (answerOps as)) ∧ HbIdle (runS s (answerOps as)).hb ∧
    rank (runS s (answerOps as)).st = rank s.st + as.length ∧
    handshakeSends (runOut s (answerOps as)) = requestsAfter s.st as.length := by
  induction as generalizing s with
  | nil => exact ⟨hs, hi, rfl, rfl⟩
  | cons a as ih =>
    obtain ⟨ha, hok, hr⟩ := h
    rw [List.length_cons] at h7
    obtain ⟨p1, i1, s1, o1⟩ := answer_step s a.1 a.2 hs hi (by omega) ha hok
    have r1 := rank_nextState s.st (by omega)
    obtain ⟨p2, i2, s2, o2⟩ := ih _ p1 i1 (by rw [s1, r1]; omega) (s1 ▸ hr)
    simp only [answerOps, List.map_cons, runS_cons, runOut_cons, handshakeSends_append, List.length_cons, requestsAfter]
    exact ⟨p2, i2, by rw [← answerOps, s2, s1, r1]; omega, by rw [← answerOps, o1, o2, s1]⟩

theorem handshakeSends_results (l : List Nat) :
    handshakeSends (l.map fun _ => Out.result "init True") = [] := by
  induction l with
  | nil => rfl
  | cons x l ih => simp [handshakeSends]

theorem handshakeSends_post (post : List Out) (h : ∀ o ∈ post, o = .send .connected hbMessage false ∨ o = .reset) :
    ∀ q ∈ handshakeSends post, q = (Policy.connected, hbMessage) := by
  intro q hq
  simp only [handshakeSends, List.mem_filterMap] at hq
  obtain ⟨o, ho, hoq⟩ := hq
  rcases h o ho with rfl | rfl
  · simp only [show isErrInfoRequest hbMessage = false from rfl, Bool.false_eq_true, ↓reduceIte,
      Option.some.injEq] at hoq
    exact hoq.symm
  · cases hoq

/-- **the answers of all states up to the last, in a row**: the state machine walks to `CONNECTED`; the sends that are
    not error-information requests are the requests of the states entered, in order, then only heartbeat requests -/
theorem clean_run (s : State) (hs : Handshaking s) (hi : HbIdle s.hb) (as : List (Nat × Msg)) (a : Nat × Msg)
    (h7 : rank s.st + as.length = 7) (h : AnswersOk s s.st as) (ha : answers .INIT_ZONE_STATUS a.1 a.2 = true) :
    (runS s (answerOps (as ++ [a]))).st = .CONNECTED ∧ (runS s (answerOps (as ++ [a]))).initialised = true ∧
    ∃ post, handshakeSends (runOut s (answerOps (as ++ [a]))) = requestsAfter s.st as.length ++ post ∧
      ∀ q ∈ post, q = (Policy.connected, hbMessage) := by
  obtain ⟨p, _, st5, sd5⟩ := answers_run s hs hi as (Nat.le_of_eq h7) h
  have hst : (runS s (answerOps as)).st = .INIT_ZONE_STATUS := rank_inj (st5.trans h7)
  obtain ⟨f1, f2, _, pre, post, f4, f5, f6⟩ := last_answer_spec _ a.1 a.2 p.sockSubscribed hst ha
  rw [show answerOps (as ++ [a]) = answerOps as ++ [.msg a.1 a.2] from List.map_append, runS_append, runOut_append,
    handshakeSends_append, sd5]
  refine ⟨f1, f2, handshakeSends post, ?_, handshakeSends_post post f6⟩
  simp only [runOut_cons, runOut_nil, apiStep, f4, handshakeSends_append, handshakeSends_results,
    handshakeSends_nil (fun o ho => Or.inl (f5 o ho)), List.append_nil, List.nil_append]
  rfl

theorem afterConn_facts (aid serial name host : Bytes) :
    Handshaking (runS (State.new aid serial name host) [.init, .conn true]) ∧
    (runS (State.new aid serial name host) [.init, .conn true]).st = .INIT_VERSION ∧
    HbIdle (runS (State.new aid serial name host) [.init, .conn true]).hb ∧
    runOut (State.new aid serial name host) [.init, .conn true] =
      [.opened, .send .connected msgConsoleVersionRequest false] ∧
    (runS (State.new aid serial name host) [.init, .conn true]).zones = [] ∧
    (runS (State.new aid serial name host) [.init, .conn true]).acs = [] :=
  ⟨⟨rfl, rfl, (by decide : 2 ≤ rank AirTouchState.INIT_VERSION)⟩, rfl, ⟨rfl, rfl⟩, rfl, rfl, rfl⟩

theorem afterVersion_facts (aid serial name host : Bytes) (v : FF30.ConsoleVersionMessage) :
    Handshaking (runS (State.new aid serial name host) [.init, .conn true, .msg 0xB0 (.extended (.consoleVer (.message v)))]) ∧
    (runS (State.new aid serial name host) [.init, .conn true, .msg 0xB0 (.extended (.consoleVer (.message v)))]).st =
      .INIT_ZONE_NAMES ∧
    (runS (State.new aid serial name host) [.init, .conn true, .msg 0xB0 (.extended (.consoleVer (.message v)))]).zones = [] ∧
    (runS (State.new aid serial name host) [.init, .conn true, .msg 0xB0 (.extended (.consoleVer (.message v)))]).acs = [] :=
  ⟨⟨rfl, rfl, (by decide : 2 ≤ rank AirTouchState.INIT_ZONE_NAMES)⟩, rfl, rfl, rfl⟩

end PyAirtouch.Lemmas.Api5
