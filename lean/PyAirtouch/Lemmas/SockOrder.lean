import PyAirtouch.Lemmas.SockQueue
/-!
# Order of transmission in the socket model

In a history without fault (`noLoss`: no connection loss, transport closed by the client, dead write, write fault
or explicit reset), every accepted message is written at most once, in acceptance order.  The invariant is `Good`: what
has been written followed by what is queued is a subsequence of what was accepted; `Pres c c'` is a transitive relation
between the socket fields before and after a change, strong enough to carry it.  `Does.ord` takes the changes of
`SockDoes.Does` one by one; the only one that could put an entry back in front of later ones, the retry path, occurs
after a loss only.
-/
namespace PyAirtouch.Lemmas.SockOrder
open PyAirtouch.Model.Sock PyAirtouch.Spec.Trace PyAirtouch.Lemmas.Sock

theorem doWrite_events (c : Core) (w : Nat) (e : Entry) :
    ∃ evs, (doWrite c w e).1.trace = c.trace ++ evs ∧
      (evs = [.wire w e.sid c.now] ∨ evs = [.writeFault w e.sid c.now, .lost w c.now] ∨
       evs = [.deadWrite w e.sid c.now] ∨ evs = []) := by
  unfold doWrite
  split
  · exact ⟨_, rfl, .inl rfl⟩
  · exact ⟨[.writeFault w e.sid c.now, .lost w c.now], by simp [Core.emit], .inr (.inl rfl)⟩
  · exact ⟨_, rfl, .inr (.inr (.inl rfl))⟩
  · exact ⟨_, rfl, .inr (.inr (.inl rfl))⟩
  · exact ⟨_, rfl, .inr (.inr (.inl rfl))⟩
  · exact ⟨[], by simp, .inr (.inr (.inr rfl))⟩

theorem doWrite_fields (c : Core) (w : Nat) (e : Entry) :
    (doWrite c w e).1.now = c.now ∧ (doWrite c w e).1.queue = c.queue ∧ (doWrite c w e).1.rw = c.rw ∧
    (doWrite c w e).1.isConnected = c.isConnected ∧ (doWrite c w e).1.isOpen = c.isOpen ∧
    (doWrite c w e).1.connecting = c.connecting ∧ (doWrite c w e).1.conns.length = c.conns.length := by
  unfold doWrite
  split <;> simp [Core.emit]

def isClientClose : Ev → Bool
  | .clientClose _ _ => true
  | _ => false

/-- no connection loss, transport closed by the client, dead write, write fault or explicit reset.  `hasFault`
    already counts `clientClose`, so the second conjunct adds nothing (`onceInOrderWithoutFault_of` derives it). -/
def noLoss (tr : List Ev) : Bool := !hasFault tr && !tr.any isClientClose

/-- the events excluded by `noLoss` -/
def lossEv : Ev → Bool
  | .fault _ | .lost _ _ | .deadWrite _ _ _ | .writeFault _ _ _ | .apiReset _ | .clientClose _ _ => true
  | _ => false

theorem noLoss_nil : noLoss [] = true := rfl

theorem noLoss_append (a b : List Ev) : noLoss (a ++ b) = (noLoss a && noLoss b) := by
  simp only [noLoss, hasFault_append, List.any_append]
  cases hasFault a <;> cases a.any isClientClose <;> simp

theorem noLoss_single (ev : Ev) : noLoss [ev] = !lossEv ev := by
  cases ev <;> rfl

theorem noLoss_snoc (tr : List Ev) (ev : Ev) : noLoss (tr ++ [ev]) = (noLoss tr && !lossEv ev) := by
  rw [noLoss_append, noLoss_single]

theorem noLoss_all (tr : List Ev) : noLoss tr = tr.all (fun ev => !lossEv ev) := by
  induction tr with
  | nil => rfl
  | cons ev tr ih =>
    have := noLoss_append [ev] tr
    simp only [List.singleton_append] at this
    rw [this, noLoss_single, ih]; simp

/-- events that are neither a loss, nor an acceptance, nor a frame on the wire -/
def Harmless (ev : Ev) : Bool :=
  !lossEv ev && (match ev with | .accept .. => false | .wire .. => false | _ => true)

theorem wiredSids_snoc_of_not_wire (tr : List Ev) (ev : Ev) (h : ∀ c s t, ev ≠ .wire c s t) :
    wiredSids (tr ++ [ev]) = wiredSids tr := by
  rw [wiredSids_append]
  cases ev with
  | wire c s t => exact absurd rfl (h c s t)
  | _ => exact List.append_nil _

theorem acceptedSids_snoc_of_not_accept (tr : List Ev) (ev : Ev) (h : ∀ s t e r ok, ev ≠ .accept s t e r ok) :
    acceptedSids (tr ++ [ev]) = acceptedSids tr := by
  rw [acceptedSids_append]
  cases ev with
  | accept s t e r ok => exact absurd rfl (h s t e r ok)
  | _ => exact List.append_nil _

def sids (q : List Entry) : List Nat := q.map (·.sid)

def rwValid (c : Core) : Prop := ∀ w, c.rw = some w → w < c.conns.length

def allLive (c : Core) : Prop := ∀ x ∈ c.conns, x.isLive = true

/-- in a history without loss every transport is open, and what has been written followed by what
    is queued is a subsequence of what has been accepted -/
def Good (c : Core) : Prop :=
  noLoss c.trace = true → allLive c ∧ (wiredSids c.trace ++ sids c.queue).Sublist (acceptedSids c.trace)

structure Pres (c c' : Core) : Prop where
  len : c.conns.length ≤ c'.conns.length
  mono : noLoss c'.trace = true → noLoss c.trace = true
  acc : acceptedSids c'.trace = acceptedSids c.trace
  rwv : rwValid c → rwValid c'
  live : noLoss c'.trace = true → allLive c → allLive c'
  wq : noLoss c'.trace = true →
    (wiredSids c'.trace ++ sids c'.queue).Sublist (wiredSids c.trace ++ sids c.queue)

theorem Pres.trans {a b c : Core} (h1 : Pres a b) (h2 : Pres b c) : Pres a c where
  len := Nat.le_trans h1.len h2.len
  mono h := h1.mono (h2.mono h)
  acc := h2.acc.trans h1.acc
  rwv h := h2.rwv (h1.rwv h)
  live h hl := h2.live h (h1.live (h2.mono h) hl)
  wq h := (h2.wq h).trans (h1.wq (h2.mono h))

theorem Pres.good {c c' : Core} (h : Pres c c') (hg : Good c) : Good c' := by
  intro hn
  obtain ⟨hl, hs⟩ := hg (h.mono hn)
  exact ⟨h.live hn hl, by rw [h.acc]; exact (h.wq hn).trans hs⟩

/-- once the history contains a loss the conditional parts are void -/
theorem Pres.lossy {c c' : Core} (hl : noLoss c'.trace = false) (len : c.conns.length ≤ c'.conns.length)
    (acc : acceptedSids c'.trace = acceptedSids c.trace) (rwv : rwValid c → rwValid c') : Pres c c' :=
  ⟨len, fun h => by simp [hl] at h, acc, rwv, fun h => by simp [hl] at h, fun h => by simp [hl] at h⟩

theorem Pres.loss {c c' : Core} (ev : Ev) (hl : lossEv ev = true) (htr : c'.trace = c.trace ++ [ev])
    (hlen : c'.conns.length = c.conns.length) (hrw : c'.rw = c.rw) : Pres c c' :=
  Pres.lossy (by rw [htr, noLoss_snoc, hl]; exact Bool.and_false _) (Nat.le_of_eq hlen.symm)
    (by rw [htr]; exact acceptedSids_snoc_of_not_accept _ _ (fun _ _ _ _ _ h => by subst h; cases hl))
    (fun hv w hw => by rw [hlen]; exact hv w (hrw ▸ hw))

theorem Pres.still {c c' : Core} (htr : c'.trace = c.trace) (hconns : c'.conns = c.conns)
    (hq : (sids c'.queue).Sublist (sids c.queue)) (hrw : c'.rw = c.rw ∨ c'.rw = none) : Pres c c' where
  len := by rw [hconns]; exact Nat.le_refl _
  mono h := htr ▸ h
  acc := by rw [htr]
  rwv h w hw := by
    rw [hconns]
    rcases hrw with hrw | hrw
    · exact h w (hrw ▸ hw)
    · rw [hrw] at hw; cases hw
  live _ h := by unfold allLive; rw [hconns]; exact h
  wq _ := by rw [htr]; exact List.Sublist.append (List.Sublist.refl _) hq

theorem Pres.emit {c : Core} (ev : Ev) (h : Harmless ev = true) : Pres c (c.emit ev) where
  len := Nat.le_refl _
  mono hn := by rw [Core.emit, noLoss_snoc, Bool.and_eq_true] at hn; exact hn.1
  acc := acceptedSids_snoc_of_not_accept _ _ (fun _ _ _ _ _ e => by subst e; cases h)
  rwv := id
  live _ := id
  wq _ := by
    show (wiredSids (c.trace ++ [ev]) ++ sids c.queue).Sublist _
    rw [wiredSids_snoc_of_not_wire _ _ (fun _ _ _ e => by subst e; cases h)]
    exact List.Sublist.refl _

/-- the fields change as `still` allows, then one harmless event is logged -/
theorem Pres.log {c c' : Core} (ev : Ev) (hp : Harmless ev = true) (htr : c'.trace = c.trace ++ [ev])
    (hconns : c'.conns = c.conns) (hq : (sids c'.queue).Sublist (sids c.queue)) (hrw : c'.rw = c.rw ∨ c'.rw = none) :
    Pres c c' := by
  have e : ({ c' with trace := c.trace } : Core).emit ev = c' := by cases c'; cases htr; rfl
  exact (Pres.still (c := c) (c' := { c' with trace := c.trace }) rfl hconns hq hrw).trans (e ▸ Pres.emit ev hp)

/-- of the bare log events only `apiReset` is a loss -/
theorem Pres.bare {c : Core} {ev : Ev} (h : SockDoes.bareEv ev = true) : Pres c (c.emit ev) := by
  cases ev <;> first | exact Pres.emit _ rfl | exact Pres.loss _ rfl rfl rfl rfl | cases h

theorem Pres.wire (c : Core) (w t : Nat) (e : Entry) (rest : List Entry) :
    Pres { c with queue := e :: rest } ({ c with queue := rest }.emit (.wire w e.sid t)) where
  len := Nat.le_refl _
  mono h := by rw [Core.emit, noLoss_snoc, Bool.and_eq_true] at h; exact h.1
  acc := acceptedSids_snoc_of_not_accept _ _ nofun
  rwv := id
  live _ := id
  wq _ := by
    show (wiredSids (c.trace ++ [.wire w e.sid t]) ++ sids rest).Sublist (wiredSids c.trace ++ sids (e :: rest))
    rw [wiredSids_append, List.append_assoc]
    exact List.Sublist.refl _

structure CInv (u : List Nat) (c : Core) : Prop where
  rwv : rwValid c
  accU : (acceptedSids c.trace).Sublist u
  good : Good c

theorem CInv.pres {u : List Nat} {c c' : Core} (h : CInv u c) (hp : Pres c c') : CInv u c' :=
  ⟨hp.rwv h.rwv, by rw [hp.acc]; exact h.accU, hp.good h.good⟩

theorem CInv.accept {u : List Nat} {c : Core} (h : CInv u c) (sid r x : Nat) (ok : Bool) :
    CInv (u ++ [sid]) ({ c with queue := c.queue ++ [(⟨sid, r, x, ok, false⟩ : Entry)] }.emit (.accept sid c.now x r ok)) := by
  refine ⟨h.rwv, ?_, ?_⟩
  · simp only [Core.emit, acceptedSids_append]
    exact List.Sublist.append h.accU (by simp [acceptedSids])
  · intro hn
    simp only [Core.emit, noLoss_append, Bool.and_eq_true] at hn
    obtain ⟨hl, hs⟩ := h.good hn.1
    refine ⟨hl, ?_⟩
    simp only [Core.emit, wiredSids_append, acceptedSids_append, sids, List.map_append]
    have e1 : wiredSids [Ev.accept sid c.now x r ok] = [] := rfl
    have e2 : acceptedSids [Ev.accept sid c.now x r ok] = [sid] := rfl
    rw [e1, e2, List.append_nil, ← List.append_assoc]
    exact List.Sublist.append hs (List.Sublist.refl _)

open PyAirtouch.Lemmas.SockConn (liveAt)

theorem opened_pres (c : Core) :
    Pres c ({ c with conns := c.conns ++ [ConnSt.live false false], rw := some c.conns.length, connecting := false,
                     isConnected := true }.emit (.opened c.conns.length c.now)) where
  len := by simp [Core.emit]
  mono h := by
    simp only [Core.emit, noLoss_append, Bool.and_eq_true] at h
    exact h.1
  acc := by simp [Core.emit, acceptedSids]
  rwv _ w hw := by
    simp only [Core.emit, Option.some.injEq] at hw
    subst hw; simp [Core.emit]
  live _ hl x hx := by
    simp only [Core.emit, List.mem_append, List.mem_singleton] at hx
    rcases hx with hx | rfl
    · exact hl x hx
    · rfl
  wq _ := by simp [Core.emit, wiredSids]

theorem lossy_of_not_live {c : Core} (hg : Good c) (w : Nat) (hw : w < c.conns.length) (hn : ¬ liveAt c w) :
    noLoss c.trace = false := by
  cases h : noLoss c.trace with
  | false => rfl
  | true =>
    refine absurd ?_ hn
    unfold liveAt
    rw [List.getElem?_eq_getElem hw, Option.map_some, (hg h).1 c.conns[w] (List.getElem_mem hw)]

theorem set_pres (c : Core) (cid : Nat) (x : ConnSt)
    (h : x.isLive = true ∨ ∃ y, c.conns[cid]? = some y ∧ y.isLive = false) :
    Pres c { c with conns := c.conns.set cid x } where
  len := by simp
  mono := id
  acc := rfl
  rwv hv w hw := by simpa using hv w hw
  live _ hl z hz := by
    rcases h with h | ⟨y, hy, hyl⟩
    · rcases List.mem_or_eq_of_mem_set hz with hz | rfl
      · exact hl z hz
      · exact h
    · have := hl y (List.mem_of_getElem? hy)
      rw [hyl] at this; cases this
  wq _ := List.Sublist.refl _


open PyAirtouch.Lemmas.SockDoes

/-- the order invariant on the socket fields, and every entry in flight was written to a transport that exists (so a
    failed `drain()`, which the environment only reports on a transport that is not open, witnesses a loss) -/
def OrdInv (a : St) : Prop := CInv a.used a.core ∧ ∀ we ∈ a.fl, we.1 < a.core.conns.length

theorem OrdInv.pres {a : St} {c' : Core} (h : OrdInv a) (hp : Pres a.core c') : OrdInv { a with core := c' } :=
  ⟨h.1.pres hp, fun we hwe => Nat.lt_of_lt_of_le (h.2 we hwe) hp.len⟩

theorem _root_.PyAirtouch.Lemmas.SockDoes.Does.ord {R : Prop} {a b : St} (h : Does R a b) :
    OrdInv a → OrdInv b := by
  have still : ∀ {c c' : Core}, c'.trace = c.trace → c'.conns = c.conns → c'.queue = c.queue → c'.rw = c.rw → Pres c c' :=
    fun ht hc hq hr => Pres.still ht hc (by rw [hq]; exact List.Sublist.refl _) (.inl hr)
  have lt : ∀ {c : Core} {w : Nat} {y : ConnSt}, c.conns[w]? = some y → w < c.conns.length :=
    fun h => (List.getElem?_eq_some_iff.1 h).1
  induction h with
  | refl => exact id
  | trans _ _ ih1 ih2 => exact fun h => ih2 (ih1 h)
  | tick a t _ => exact fun h => h.pres (still rfl rfl rfl rfl)
  | lost a cid p f _ => exact fun h => h.pres (Pres.loss (.lost cid a.core.now) rfl rfl (List.length_set ..) rfl)
  | ran a cid e hc => exact fun h => h.pres (set_pres _ _ _ (.inr ⟨_, hc, rfl⟩))
  | flags a cid p f p' f' _ => exact fun h => h.pres (set_pres _ _ _ (.inl rfl))
  | log a ev hp => exact fun h => h.pres (Pres.bare hp)
  | openFresh a _ _ =>
    exact fun h => h.pres (Pres.log (.apiOpen a.core.now) rfl rfl rfl (List.nil_sublist _) (.inl rfl))
  | closeStart a _ =>
    exact fun h => h.pres (Pres.log (.apiClose a.core.now) rfl rfl rfl (List.Sublist.refl _) (.inl rfl))
  | connecting a b => exact fun h => h.pres (still rfl rfl rfl rfl)
  | opened a => exact fun h => h.pres (opened_pres a.core)
  | burn a sid => exact fun h => ⟨⟨h.1.rwv, h.1.accU.trans (List.sublist_append_left _ _), h.1.good⟩, h.2⟩
  | accept a sid r life ok _ _ => exact fun h => ⟨h.1.accept sid r (a.core.now + life) ok, h.2⟩
  | discard a e pre post why hq _ =>
    exact fun h => h.pres (Pres.log (.qdrop e.sid a.core.now why) rfl rfl rfl
      (by rw [hq]; exact (List.Sublist.append_left (List.sublist_cons_self ..) _).map _) (.inl rfl))
  | wire a e rest w p hq _ hc =>
    intro h
    have hp : Pres a.core ({ a.core with queue := rest }.emit (.wire w e.sid a.core.now)) := by
      have := Pres.wire a.core w a.core.now e rest
      rwa [← hq] at this
    exact ⟨h.1.pres hp, fun we hwe => (List.mem_cons.1 hwe).elim (fun e => by rw [e]; exact lt hc) (h.2 we)⟩
  | fault a e rest w p hq _ hc =>
    exact fun h => ⟨h.1.pres (Pres.loss (.writeFault w e.sid a.core.now) rfl rfl rfl rfl),
      fun we hwe => (List.mem_cons.1 hwe).elim (fun e => by rw [e]; exact lt hc) (h.2 we)⟩
  | release a fl' hs => exact fun h => ⟨h.1, fun we hwe => h.2 we (hs.subset hwe)⟩
  | perm a fl' hs => exact fun h => ⟨h.1, fun we hwe => h.2 we (hs.subset hwe)⟩
  | requeue a w e fl' hf hd _ =>
    -- the retry path is only ever taken in a history that contains a loss
    intro h
    have hl := lossy_of_not_live h.1.good w (h.2 (w, e) (by rw [hf]; exact List.mem_cons_self)) hd
    exact ⟨h.1.pres (Pres.lossy hl (Nat.le_refl _) rfl id),
      fun we hwe => h.2 we (by rw [hf]; exact List.mem_cons_of_mem _ hwe)⟩
  | giveUp a w e fl' hf _ _ =>
    exact fun h => ⟨h.1.pres (Pres.emit _ rfl), fun we hwe => h.2 we (by rw [hf]; exact List.mem_cons_of_mem _ hwe)⟩
  | closeConn a w p f _ =>
    exact fun h => h.pres (Pres.loss (.clientClose w a.core.now) rfl rfl (List.length_set ..) rfl)
  | disc a =>
    exact fun h => h.pres (Pres.log (.notify false a.core.now) rfl rfl rfl (List.Sublist.refl _) (.inr rfl))

theorem OrdInv.init : OrdInv (stOf [] Model.Sock.init) := by
  refine ⟨⟨?_, ?_, ?_⟩, nofun⟩
  · intro w hw; simp [stOf, Model.Sock.init] at hw
  · simp [stOf, Model.Sock.init, acceptedSids]
  · intro _; simp [stOf, Model.Sock.init, allLive, wiredSids, acceptedSids, sids]

theorem runX_ord (ls : List LabelX) (s : Sys) (h : runX Model.Sock.init ls = some s) :
    OrdInv (stOf (sendSidsX ls) s) :=
  (does_init h).ord OrdInv.init

theorem rwValid_reachableX {s : Sys} (h : ReachableX s) : rwValid s.core :=
  have ⟨ls, hr⟩ := h
  (runX_ord ls s hr).1.rwv

theorem isSubseq_of_sublist : ∀ (xs ys : List Nat), xs.Sublist ys → isSubseq xs ys = true := by
  intro xs ys
  induction ys generalizing xs with
  | nil => intro h; cases h; rfl
  | cons y ys ih =>
    intro h
    cases xs with
    | nil => rfl
    | cons x xs =>
      simp only [isSubseq]
      split
      · rename_i heq; subst heq
        exact ih xs (List.Sublist.of_cons_cons h)
      · rename_i hne
        cases h with
        | cons _ h => exact ih _ h
        | cons_cons _ h => exact absurd rfl hne

theorem wireCount_eq_count (tr : List Ev) (s : Nat) : wireCount tr s = (wiredSids tr).count s := by
  induction tr with
  | nil => rfl
  | cons ev tr ih =>
    have h := wireCount_append [ev] tr s
    have h' := wiredSids_append [ev] tr
    simp only [List.singleton_append] at h h'
    rw [h, h', List.count_append, ih]
    cases ev <;> first | rfl | exact congrArg (· + _) (List.count_singleton ..).symm

/-- in a history without loss, every message is written at most once and in acceptance order (in `SockX` as a statement
    about `runX`; declared here, where `OrdInv` is) -/
theorem _root_.PyAirtouch.Lemmas.SockX.once_in_orderX {s : Sys} (h : ReachableWFX s) (hn : noLoss s.core.trace = true) :
    (∀ sid, wireCount s.core.trace sid ≤ 1) ∧ (wiredSids s.core.trace).Sublist (acceptedSids s.core.trace) := by
  obtain ⟨ls, hnd, hr⟩ := h
  have hI : CInv (sendSidsX ls) s.core := (runX_ord ls s hr).1
  have hsub : (wiredSids s.core.trace).Sublist (acceptedSids s.core.trace) :=
    (List.sublist_append_left _ _).trans (hI.good hn).2
  refine ⟨fun sid => ?_, hsub⟩
  rw [wireCount_eq_count]
  exact List.nodup_iff_count.1 ((hnd.sublist hI.accU).sublist hsub) sid

theorem once_in_order {s : Sys} (h : ReachableWF s) (hn : noLoss s.core.trace = true) :
    (∀ sid, wireCount s.core.trace sid ≤ 1) ∧ (wiredSids s.core.trace).Sublist (acceptedSids s.core.trace) :=
  SockX.once_in_orderX (SockX.reachableWFX_of_reachableWF h) hn

theorem onceInOrderWithoutFault_of {tr : List Ev}
    (h : noLoss tr = true → (∀ sid, wireCount tr sid ≤ 1) ∧ (wiredSids tr).Sublist (acceptedSids tr)) :
    onceInOrderWithoutFault tr = true := by
  unfold onceInOrderWithoutFault
  cases hf : hasFault tr with
  | true => rfl
  | false =>
    have hc : tr.any isClientClose = false :=
      List.any_eq_false.2 fun e he hce => List.any_eq_false.1 hf e he (by cases e <;> first | rfl | cases hce)
    obtain ⟨h1, h2⟩ := h (by simp [noLoss, hf, hc])
    simp only [Bool.false_or, Bool.and_eq_true, List.all_eq_true, decide_eq_true_eq]
    exact ⟨fun x _ => h1 x, isSubseq_of_sublist _ _ h2⟩

end PyAirtouch.Lemmas.SockOrder
