import PyAirtouch.Model.Bytes
import PyAirtouch.Model.Part3Text
import PyAirtouch.Model.Frame
import PyAirtouch.Lemmas.BitField
/-!
# Byte strings: `AllBytes` of what the shared writers produce, and what a wrapper asks of a leaf codec

`AllBytes` (every element of a byte string is below 256) matters because the payload handed to the CRC has to
consist of bytes.  The byte range of a leaf codec is proved in its registry, beside the `LeafOK` that needs it;
only the two 0xFF11 codec files, whose decoder theorems speak of bytes themselves, prove their own.  So the lemmas
here are used by the two registries, by those two files, `Lemmas/TimerCommon.lean`, `Lemmas/At4X37.lean`, and by `Lemmas/Frame.lean`,
`Lemmas/Hdr.lean`, `Lemmas/SpecCmd.lean`.
`LeafOK` is what the registries' wrappers ask of a leaf codec.  The file also derives
`DecidableEq` for `Except` and for the receive path's `Outcome`, which the concrete examples evaluated by
`decide +kernel` in the registries and in `Props/` rest on.
-/
namespace PyAirtouch.Lemmas.RegistryCommon
open PyAirtouch.Model

deriving instance DecidableEq for Except
deriving instance DecidableEq for PyAirtouch.Model.Frame.Outcome

theorem allBytes_nil : AllBytes [] := by intro b hb; cases hb

theorem allBytes_cons {a : Nat} {l : Bytes} : AllBytes (a :: l) ↔ a < 256 ∧ AllBytes l :=
  List.forall_mem_cons

theorem allBytes_append {a b : Bytes} : AllBytes (a ++ b) ↔ AllBytes a ∧ AllBytes b :=
  List.forall_mem_append

theorem allBytes_flatMap {α} (f : α → Bytes) (l : List α) (h : ∀ a ∈ l, AllBytes (f a)) :
    AllBytes (l.flatMap f) := by
  intro b hb
  obtain ⟨a, ha, hba⟩ := List.mem_flatMap.mp hb
  exact h a ha b hba

theorem allBytes_be16Bytes (v : Nat) : AllBytes (be16Bytes v) := by
  simp only [be16Bytes, allBytes_cons, allBytes_nil, and_true]
  exact ⟨by omega, by omega⟩

theorem allBytes_le16Bytes (v : Nat) : AllBytes (le16Bytes v) := by
  simp only [le16Bytes, allBytes_cons, allBytes_nil, and_true]
  exact ⟨by omega, by omega⟩

theorem allBytes_joinSep (sep : Nat) (hsep : sep < 256) (vs : List Bytes) (h : ∀ v ∈ vs, AllBytes v) :
    AllBytes (joinSep sep vs) := by
  induction vs with
  | nil => exact allBytes_nil
  | cons v ws ih =>
    cases ws with
    | nil => exact h v (List.mem_cons_self ..)
    | cons w ws =>
      simp only [joinSep]
      refine allBytes_append.mpr ⟨h v (List.mem_cons_self ..), allBytes_cons.mpr ⟨hsep, ?_⟩⟩
      exact ih (fun x hx => h x (List.mem_cons_of_mem _ hx))

/-- what a wrapper needs to know about one leaf codec on one message whose encoder answers `e`: `e` is `size`
    bytes, and the leaf's decoder, told their number, reads the message back from them and leaves nothing.  The
    wrappers speak of the bytes written, so the length is `bs.length` wherever it occurs. -/
def LeafOK {M : Type} (decode : Bytes → Nat → Except DecErr (M × Bytes)) (m : M) (size : Nat)
    (e : Except EncErr Bytes) : Prop :=
  ∃ bs, e = .ok bs ∧ size = bs.length ∧ decode bs bs.length = .ok (m, []) ∧ AllBytes bs

/-- from the four facts of a codec's lemma file; the decoding fact in the shape the round trips there give at
    `rest := []` -/
theorem LeafOK.of_encode {M : Type} {decode : Bytes → Nat → Except DecErr (M × Bytes)} {m : M} {size : Nat}
    {enc : Bytes} {e : Except EncErr Bytes} (he : e = .ok enc) (hlen : enc.length = size)
    (hdec : decode (enc ++ []) size = .ok (m, [])) (hbytes : AllBytes enc) : LeafOK decode m size e := by
  subst hlen
  exact ⟨enc, he, rfl, by rwa [List.append_nil] at hdec, hbytes⟩

end PyAirtouch.Lemmas.RegistryCommon
