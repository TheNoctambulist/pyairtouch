import PyAirtouch.Lemmas.Api4Connected
/-!
# Subscriber sets: adding twice is adding once, a removed subscriber is gone, and neither changes which zone an id
finds
-/
namespace PyAirtouch.Lemmas.Api4
open PyAirtouch.Model PyAirtouch.Model.Api4 PyAirtouch.Model.At4
open PyAirtouch.Model.TimerCommon (AcTimerState AcTimerStatusData)

theorem subAdd_twice (l : List Sub) (sid : String) (r r' : Bool) :
    subAdd (subAdd l { sid := sid, raises := r }) { sid := sid, raises := r' } = subAdd l { sid := sid, raises := r } := by
  unfold subAdd
  by_cases h : (l.any fun x => x.sid == sid) = true
  · simp [h]
  · simp [h]

theorem subRemove_not_mem (l : List Sub) (sid : String) : ∀ sb ∈ subRemove l sid, sb.sid ≠ sid := by
  intro sb h
  simp only [subRemove, List.mem_filter, Bool.not_eq_eq_eq_not, Bool.not_true, beq_eq_false_iff_ne, ne_eq] at h
  exact h.2

theorem findZone_set_subs (s : State) (zi : Nat) (z : ZoneObj) (hz : s.zoneObjs[zi]? = some z) (l : List Sub) (i : Nat) :
    ({ s with zoneObjs := s.zoneObjs.set zi { z with subs := l } } : State).findZone i = s.findZone i := by
  simp only [State.findZone, State.airConditioners]
  congr 1
  funext j
  obtain ⟨hlt, hget⟩ := List.getElem?_eq_some_iff.mp hz
  simp only [List.getElem?_set]
  by_cases hij : zi = j
  · subst hij; simp [hlt, ZoneObj.zoneId, hget]
  · simp [hij]

end PyAirtouch.Lemmas.Api4
