import PyAirtouch.Model.At4.X36
import PyAirtouch.Lemmas.At4X37
/-! Round trip and length lemmas for the AirTouch 4 AC timer control codec (0x36); everything is
inherited from the AC timer status codec. -/
namespace PyAirtouch.Lemmas.At4X36
open PyAirtouch.Model PyAirtouch.Model.At4 PyAirtouch.Model.At4.X36

theorem encodeBytes_length (m : Msg) : (encodeBytes m).length = size m :=
  At4X37.encodeBytes_length m.toStatus

theorem encode_length (m : Msg) (bs : Bytes) (h : encode m = .ok bs) : bs.length = size m :=
  At4X37.encode_length m.toStatus bs h

theorem encode_ok (m : Msg) (h : WF m) : encode m = .ok (encodeBytes m) :=
  At4X37.encode_ok m.toStatus h

theorem decode_encode (m : Msg) (h : WF m) (rest : Bytes) :
    decode (encodeBytes m ++ rest) (size m) = .ok (m, rest) := by
  have h37 := At4X37.decode_encode m.toStatus h rest
  simp only [decode, encodeBytes, size, h37]
  rfl

theorem wfBool_iff (m : Msg) : wfBool m = true ↔ WF m := At4X37.wfBool_iff m.toStatus

/-- the control decoder never yields the request form: an empty message is a `DecodeError` -/
theorem decode_empty (buffer : Bytes) : decode buffer 0 = .error .decodeError := by
  simp [decode, X37.decode]

end PyAirtouch.Lemmas.At4X36
