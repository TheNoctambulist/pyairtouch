import PyAirtouch.Lemmas.Api4Ctl
/-!
# The group-status poll under the clock

The timer that is armed again one period after each expiry, in closed form (`due_closed`).  Under `adv n` every poll
task runs on by itself whatever the socket (`advance_polls` over `pollRun`); live, closed form, dead and silent are
facts about one task, about numbers only.
-/
namespace PyAirtouch.Lemmas.Api4
open PyAirtouch.Model PyAirtouch.Model.Api4 PyAirtouch.Gen

/-! ## only the poll tasks send poll requests -/

theorem count_fireHbTimeout (s : State) : (fireHbTimeout s).2.count pollEv = 0 := by
  rw [fireHbTimeout_eq]
  rcases timeoutEvs_cases s.sockConnected s.now s.hb with h | h <;> rw [h] <;> rfl

theorem count_fireBeat (s : State) : (fireBeat s).2.count pollEv = 0 := by
  rw [fireBeat_eq]
  rcases beatEvs_cases s.sockConnected s.now s.hb with h | h <;> rw [h] <;> rfl

theorem count_fireInitWaits (s : State) : (fireInitWaits s).2.count pollEv = 0 := by
  simp only [fireInitWaits]
  apply List.count_eq_zero.mpr
  intro h
  simp only [List.mem_map] at h
  obtain ⟨_, _, he⟩ := h
  cases he

theorem count_tick (s : State) : (tick s).2.count pollEv = (firePolls { s with now := s.now + 1 }).2.count pollEv := by
  unfold tick
  simp only [List.count_append, count_fireHbTimeout, count_fireBeat, count_fireInitWaits, Nat.zero_add, Nat.add_zero]
  rw [fireHbTimeout_eq]
  rfl

/-! ## a timer that is armed again one period after each expiry

The heartbeat's timeout, its wake-up and every poll task are such timers, looked at once per tick. -/

/-- number of deadlines `d, d+T, d+2T, …` that are `≤ t` -/
def deadlinesUpTo (d T t : Nat) : Nat := if t < d then 0 else (t - d) / T + 1

theorem deadlinesUpTo_shift (d T t : Nat) (hT : 0 < T) (h : d ≤ t) :
    deadlinesUpTo d T t = 1 + deadlinesUpTo (d + T) T t := by
  unfold deadlinesUpTo
  have h1 : ¬ t < d := by omega
  simp only [h1, ↓reduceIte]
  by_cases h2 : t < d + T
  · simp only [h2, ↓reduceIte]
    have : (t - d) / T = 0 := Nat.div_eq_of_lt (by omega)
    omega
  · simp only [h2, ↓reduceIte]
    have : t - d = (t - (d + T)) + T := by omega
    rw [this, Nat.add_div_right _ hT]
    omega

theorem deadlinesUpTo_before (d T t : Nat) (h : t < d) : deadlinesUpTo d T t = 0 := by
  simp [deadlinesUpTo, h]

theorem deadlinesUpTo_at (d T now : Nat) (h : now < d) : deadlinesUpTo d T (now + (d - now)) = 1 := by
  rw [show now + (d - now) = d by omega]; simp [deadlinesUpTo]

/-- the deadline `d` after the tick that moves the clock to `t` -/
def dueStep (P t d : Nat) : Nat := if d ≤ t then t + P else d

theorem dueStep_ahead {P t d : Nat} (hP : 0 < P) : t < dueStep P t d := by
  unfold dueStep; split <;> omega

/-- … after `n` ticks from time `now` -/
def dueRun (P : Nat) : Nat → Nat → Nat → Nat
  | 0, _, d => d
  | n+1, now, d => dueRun P n (now + 1) (dueStep P (now + 1) d)

/-- how often it expired meanwhile -/
def dueFires (P : Nat) : Nat → Nat → Nat → Nat
  | 0, _, _ => 0
  | n+1, now, d => (if d ≤ now + 1 then 1 else 0) + dueFires P n (now + 1) (dueStep P (now + 1) d)

theorem due_closed (P : Nat) (hP : 0 < P) (n now d : Nat) (hd : now < d) :
    dueRun P n now d = d + P * deadlinesUpTo d P (now + n) ∧ dueFires P n now d = deadlinesUpTo d P (now + n) := by
  induction n generalizing now d with
  | zero => simp [dueRun, dueFires, deadlinesUpTo_before _ _ _ hd]
  | succ n ih =>
    simp only [dueRun, dueFires]
    have hnn : now + 1 + n = now + (n + 1) := by omega
    by_cases hf : d ≤ now + 1
    · have hshift := deadlinesUpTo_shift d P (now + (n + 1)) hP (by omega)
      have hdeq : d = now + 1 := by omega
      have hp : dueStep P (now + 1) d = d + P := by simp [dueStep, hdeq]
      obtain ⟨i1, i2⟩ := ih (now + 1) (d + P) (by omega)
      rw [hp, i1, i2, hnn, hshift]
      simp only [hf, ↓reduceIte]
      constructor
      · rw [Nat.mul_add, Nat.mul_one]; omega
      · trivial
    · have hp : dueStep P (now + 1) d = d := by simp [dueStep, hf]
      obtain ⟨i1, i2⟩ := ih (now + 1) d (by omega)
      rw [hp, i1, i2, hnn]
      simp [hf]

/-- a poll task at its `asyncio.timeout`: while the socket is not connected it re-arms silently (whether the socket
    is open or not); connected but not open it dies silently (`NotOpenError` out of `send` ends the task);
    only connected and open it sends -/
theorem firePoll_cases (o : Bool) (t d : Nat) :
    firePoll false o t d = (some (if d ≤ t then t + Api4.GROUP_STATUS_TIMEOUT else d), []) ∧
    firePoll true false t d = (if d ≤ t then none else some d, []) ∧
    firePoll true true t d =
      if d ≤ t then (some (t + Api4.GROUP_STATUS_TIMEOUT), [Ev.send .connected groupStatusRequest]) else (some d, []) := by
  unfold firePoll
  refine ⟨?_, ?_, ?_⟩ <;> split <;> simp

theorem firePoll_notOpen (c : Bool) (t d : Nat) : (firePoll c false t d).2 = [] := by
  cases c
  · rw [(firePoll_cases false t d).1]
  · rw [(firePoll_cases false t d).2.1]

theorem firePoll_open (c : Bool) (t d : Nat) : ((firePoll c true t d).1).isSome = true := by
  unfold firePoll
  split
  · split <;> rfl
  · rfl

theorem firePoll_ahead (c o : Bool) (n d d' : Nat) (h : n < d ∧ d ≤ n + Api4.GROUP_STATUS_TIMEOUT)
    (hf : (firePoll c o (n + 1) d).1 = some d') : n + 1 < d' ∧ d' ≤ n + 1 + Api4.GROUP_STATUS_TIMEOUT := by
  have hT : 0 < Api4.GROUP_STATUS_TIMEOUT := by decide
  unfold firePoll at hf
  split at hf
  · split at hf
    · split at hf
      · simp only [Option.some.injEq] at hf; omega
      · cases hf
    · simp only [Option.some.injEq] at hf; omega
  · simp only [Option.some.injEq] at hf; omega

/-! ## the poll tasks under `adv n`, orphans included, whatever the socket -/

/-- one poll task over `n` ticks from time `now` under a socket that stays as it is (`c` connected, `o` open): its
    deadline afterwards (`none`: it died) and how many requests it sent -/
def pollRun (c o : Bool) : Nat → Nat → Nat → Option Nat × Nat
  | 0, _, d => (some d, 0)
  | n+1, now, d =>
    let r := firePoll c o (now + 1) d
    (r.1.bind fun d' => (pollRun c o n (now + 1) d').1,
     r.2.count pollEv + (r.1.map fun d' => (pollRun c o n (now + 1) d').2).getD 0)

theorem sum_filterMap {α} (f : α → Option α) (g : α → Nat) (l : List α) :
    ((l.filterMap f).map g).sum = (l.map fun x => ((f x).map g).getD 0).sum := by
  induction l with
  | nil => rfl
  | cons x xs ih => cases h : f x <;> simp [h, ih]

theorem filterMap_congr {α β} {f g : α → Option β} {l : List α} (h : ∀ x ∈ l, f x = g x) :
    l.filterMap f = l.filterMap g := by
  induction l with
  | nil => rfl
  | cons x xs ih =>
    rw [List.filterMap_cons, List.filterMap_cons, h x List.mem_cons_self, ih fun y hy => h y (List.mem_cons_of_mem _ hy)]

theorem sum_map_add {α} (f g : α → Nat) (l : List α) : (l.map f).sum + (l.map g).sum = (l.map fun x => f x + g x).sum := by
  induction l with
  | nil => rfl
  | cons x xs ih => simp only [List.map_cons, List.sum_cons, ← ih]; omega

theorem tick_pollSum (s : State) :
    (tick s).2.count pollEv =
      ((s.pollOrphans ++ s.pollCur.toList).map fun d =>
        (firePoll s.sockConnected s.sockOpen (s.now + 1) d).2.count pollEv).sum := by
  rw [count_tick]
  simp only [firePolls, List.count_append, List.flatMap_map, List.count_flatMap, List.map_append, List.sum_append]
  cases s.pollCur <;> simp [Function.comp_def]

theorem advance_polls (n : Nat) (s : State) :
    (advance n s).1.pollCur = s.pollCur.bind (fun d => (pollRun s.sockConnected s.sockOpen n s.now d).1) ∧
    (advance n s).1.pollOrphans =
      s.pollOrphans.filterMap (fun d => (pollRun s.sockConnected s.sockOpen n s.now d).1) ∧
    (advance n s).2.count pollEv =
      ((s.pollOrphans ++ s.pollCur.toList).map fun d => (pollRun s.sockConnected s.sockOpen n s.now d).2).sum := by
  induction n generalizing s with
  | zero => simp [advance, pollRun, List.map_const', List.sum_replicate_nat]
  | succ n ih =>
    obtain ⟨i1, i2, i3⟩ := ih (tick s).1
    have e1 : (tick s).1.pollCur = (s.pollCur.map (firePoll s.sockConnected s.sockOpen (s.now + 1))).bind (·.1) :=
      congrArg Ctl.pollCur (ctl_tick s)
    have e2 : (tick s).1.pollOrphans =
        (s.pollOrphans.map (firePoll s.sockConnected s.sockOpen (s.now + 1))).filterMap (·.1) :=
      congrArg Ctl.pollOrphans (ctl_tick s)
    rw [tick_now, tick_sockConnected, tick_sockOpen] at i1 i2 i3
    simp only [advance, List.count_append, pollRun]
    refine ⟨?_, ?_, ?_⟩
    · rw [i1, e1]; cases s.pollCur <;> rfl
    · rw [i2, e2, List.filterMap_map, List.filterMap_filterMap]; rfl
    · have e3 : (tick s).1.pollOrphans ++ (tick s).1.pollCur.toList =
          (s.pollOrphans ++ s.pollCur.toList).filterMap fun d =>
            (firePoll s.sockConnected s.sockOpen (s.now + 1) d).1 := by
        rw [e1, e2, List.filterMap_map, List.filterMap_append]
        cases s.pollCur with
        | none => rfl
        | some d => simp only [Option.map_some, Option.bind_some, Option.toList_some, List.filterMap_cons,
            List.filterMap_nil]; cases (firePoll _ _ _ d).1 <;> rfl
      rw [i3, e3, tick_pollSum, sum_filterMap, sum_map_add]

/-! ## one task: live, dead, silent -/

theorem firePoll_safe (c o : Bool) (t d : Nat) (h : c = true → o = true) :
    firePoll c o t d = (some (dueStep Api4.GROUP_STATUS_TIMEOUT t d), if decide (d ≤ t) && c then [pollEv] else []) := by
  unfold firePoll dueStep
  by_cases hd : d ≤ t
  · cases c with
    | true => simp [hd, h rfl, pollEv]
    | false => simp [hd]
  · simp [hd]

theorem pollRun_live (c o : Bool) (h : c = true → o = true) (n now d : Nat) :
    pollRun c o n now d =
      (some (dueRun Api4.GROUP_STATUS_TIMEOUT n now d), if c then dueFires Api4.GROUP_STATUS_TIMEOUT n now d else 0) := by
  induction n generalizing now d with
  | zero => cases c <;> rfl
  | succ n ih =>
    simp only [pollRun, firePoll_safe _ _ _ _ h, Option.bind_some, Option.map_some, Option.getD_some, ih, dueRun,
      dueFires]
    cases c <;> by_cases hd : d ≤ now + 1 <;> simp [hd, pollEv]

theorem pollRun_closed (c o : Bool) (h : c = true → o = true) (n : Nat) {now d : Nat} (hd : now < d) :
    pollRun c o n now d =
      (some (d + Api4.GROUP_STATUS_TIMEOUT * deadlinesUpTo d Api4.GROUP_STATUS_TIMEOUT (now + n)),
        if c then deadlinesUpTo d Api4.GROUP_STATUS_TIMEOUT (now + n) else 0) := by
  obtain ⟨h1, h2⟩ := due_closed Api4.GROUP_STATUS_TIMEOUT (by decide) n now d hd
  rw [pollRun_live c o h, h1, h2]

theorem pollRun_dead (n : Nat) {now d : Nat} (hd : now < d) :
    pollRun true false n now d = (if now + n < d then some d else none, 0) := by
  induction n generalizing now with
  | zero => simp [pollRun, hd]
  | succ n ih =>
    simp only [pollRun, (firePoll_cases false (now + 1) d).2.1]
    by_cases h : d ≤ now + 1
    · simp [h, show ¬ now + (n + 1) < d by omega]
    · simp [h, ih (show now + 1 < d by omega), show now + 1 + n = now + (n + 1) by omega]

theorem pollRun_silent (c o : Bool) (h : c = false ∨ o = false) (n now d : Nat) : (pollRun c o n now d).2 = 0 := by
  induction n generalizing now d with
  | zero => rfl
  | succ n ih =>
    have : (firePoll c o (now + 1) d).2 = [] := by
      rcases h with rfl | rfl
      · rw [(firePoll_cases o _ d).1]
      · exact firePoll_notOpen c _ d
    simp only [pollRun, this, List.count_nil, Nat.zero_add]
    cases (firePoll c o (now + 1) d).1 with
    | none => rfl
    | some d' => exact ih _ d'

/-! ## `advance_polls` read for a socket that is silent, live, dead -/

theorem advance_polls_silent (n : Nat) (s : State) (h : s.sockConnected = false ∨ s.sockOpen = false) :
    (advance n s).2.count pollEv = 0 := by
  rw [(advance_polls n s).2.2]
  exact List.sum_eq_zero_iff_forall_eq_nat.mpr fun x hx => by
    obtain ⟨d, _, rfl⟩ := List.mem_map.mp hx
    exact pollRun_silent _ _ h n s.now d

/-- `hah` holds in every reachable state (`reach_ahead` in `Api4Reach.lean`); the task with deadline `d` sends at `d`,
    `d + 2400`, `d + 4800`, … -/
theorem advance_polls_closed (n : Nat) (s : State) (hopen : s.sockConnected = true → s.sockOpen = true)
    (hah : ∀ d ∈ s.pollOrphans ++ s.pollCur.toList, s.now < d) :
    (advance n s).1.pollCur =
      s.pollCur.map (fun d => d + Api4.GROUP_STATUS_TIMEOUT * deadlinesUpTo d Api4.GROUP_STATUS_TIMEOUT (s.now + n)) ∧
    (advance n s).1.pollOrphans =
      s.pollOrphans.map (fun d => d + Api4.GROUP_STATUS_TIMEOUT * deadlinesUpTo d Api4.GROUP_STATUS_TIMEOUT (s.now + n)) ∧
    (advance n s).2.count pollEv =
      (if s.sockConnected then
        ((s.pollOrphans ++ s.pollCur.toList).map (fun d => deadlinesUpTo d Api4.GROUP_STATUS_TIMEOUT (s.now + n))).sum
       else 0) := by
  obtain ⟨h1, h2, h3⟩ := advance_polls n s
  have hr := fun d hd => pollRun_closed _ _ hopen n (hah d hd)
  refine ⟨?_, ?_, ?_⟩
  · rw [h1]
    cases hc : s.pollCur with
    | none => rfl
    | some d => exact congrArg Prod.fst (hr d (by simp [hc]))
  · rw [h2, ← List.filterMap_eq_map]
    exact filterMap_congr fun d hd => congrArg Prod.fst (hr d (List.mem_append_left _ hd))
  · rw [h3, List.map_congr_left fun d hd => congrArg Prod.snd (hr d hd)]
    cases s.sockConnected
    · exact List.sum_eq_zero_iff_forall_eq_nat.mpr fun x hx => by obtain ⟨_, _, rfl⟩ := List.mem_map.mp hx; rfl
    · rfl

/-- **an orphaned poll task on a shut-down object whose socket reports a connection** (`conn 1` after
    `shutdown()`): at its deadline it dies silently (`NotOpenError` out of `send`); nothing is sent -/
theorem advance_polls_dead (n : Nat) (s : State) (hc : s.sockConnected = true) (ho : s.sockOpen = false)
    (hah : ∀ d ∈ s.pollOrphans, s.now < d) :
    (advance n s).1.pollOrphans = s.pollOrphans.filter (fun d => decide (s.now + n < d)) ∧
    (advance n s).2.count pollEv = 0 := by
  refine ⟨?_, advance_polls_silent n s (.inr ho)⟩
  rw [(advance_polls n s).2.1, hc, ho, ← List.filterMap_eq_filter]
  exact filterMap_congr fun d hd => by rw [pollRun_dead n (hah d hd)]; by_cases h : s.now + n < d <;> simp [h, Option.guard]


end PyAirtouch.Lemmas.Api4
