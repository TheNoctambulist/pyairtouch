import PyAirtouch.Lemmas.SockStepRel
/-!
# The drain loop, entry by entry

`drainLoop` tests that the transport is open before every `_write`, so `doWrite` is only ever called on a transport in
state `live p f`: the frame goes out whole (`wire`), and the loop goes on (`p = false`) or suspends in `drain()`
(`p = true`); or the write fails (`f = true`), the transport goes down and the loop suspends.  It never raises and never
writes to a transport that is closing or lost.  `drainLoop_induction` is the induction principle that says so; facts
about the loop are proved from it, one line per outcome.
-/
namespace PyAirtouch.Lemmas.SockDrain
open PyAirtouch.Model.Sock PyAirtouch.Spec.Trace

/-- the reasons for which the loop itself discards an entry, and what makes them true -/
def Discards (c : Core) (e : Entry) : DropWhy → Prop
  | .expired => e.expiry ≤ c.now
  | .encErr => e.encOk = false
  | .maxRetries => False

theorem live_cases {c : Core} {w : Nat} (hl : (c.conns[w]?.map ConnSt.isLive).getD false = true) :
    ∃ p f, c.conns[w]? = some (.live p f) :=
  SockConn.liveAt_iff_live.1 (SockConn.liveAt_iff_getD.2 hl)

theorem drainLoop_induction (w : Nat) {motive : Core → List Entry → Core × DrainStop → Prop}
    (nil : ∀ c, motive c [] ({ c with queue := [] }, .empty))
    (down : ∀ c e rest, (c.conns[w]?.map ConnSt.isLive).getD false = false →
      motive c (e :: rest) ({ c with queue := e :: rest }, .empty))
    (drop : ∀ c e rest why r, Discards c e why → motive (c.emit (.qdrop e.sid c.now why)) rest r →
      motive c (e :: rest) r)
    (sent : ∀ c e rest r, c.now < e.expiry → c.conns[w]? = some (.live false false) →
      motive (c.emit (.wire w e.sid c.now)) rest r → motive c (e :: rest) r)
    (paused : ∀ c e rest, c.now < e.expiry → c.conns[w]? = some (.live true false) →
      motive c (e :: rest) ({ c.emit (.wire w e.sid c.now) with queue := rest }, .suspended e))
    (failed : ∀ c e rest p, c.now < e.expiry → c.conns[w]? = some (.live p true) →
      motive c (e :: rest)
        ({ ({ c with conns := c.conns.set w (.dying true) }.emit (.writeFault w e.sid c.now)).emit (.lost w c.now) with
            queue := rest }, .suspended e)) :
    ∀ (q : List Entry) (c : Core), motive c q (drainLoop c w q) := by
  intro q
  induction q with
  | nil => exact nil
  | cons e rest ih =>
    intro c
    unfold drainLoop
    split
    · rename_i hd; exact down c e rest (by simpa using hd)
    split
    · rename_i hx; exact drop c e rest .expired _ hx (ih _)
    split
    · rename_i he; exact drop c e rest .encErr _ (show e.encOk = false by simpa using he) (ih _)
    rename_i hl hx _
    have hlt : c.now < e.expiry := Nat.lt_of_not_le hx
    obtain ⟨p, f, hpf⟩ := live_cases (c := c) (w := w) (by simpa using hl)
    cases f with
    | true => simp only [doWrite, hpf]; exact failed c e rest p hlt hpf
    | false =>
      cases p with
      | true => simp only [doWrite, hpf]; exact paused c e rest hlt hpf
      | false => simp only [doWrite, hpf]; exact sent c e rest _ hlt hpf (ih _)

/-- the `except OSError` arm of `_drain_message_queue` is only reached through a failing `drain()`: `doWrite` raises only
    on a transport that is `dead true`, and the loop does not write to one.  So `DrainStop.raised` and the arm of `exec`
    that handles it are unreachable; the model keeps them because the code has them, and every induction over `exec`
    dismisses that case with this lemma. -/
theorem drainLoop_not_raised {c c' : Core} {w : Nat} {q : List Entry} {e : Entry} : drainLoop c w q ≠ (c', .raised e) := by
  refine drainLoop_induction w (motive := fun _ _ r => r ≠ (c', .raised e)) ?_ ?_ ?_ ?_ ?_ ?_ q c
  · intro _ h; cases h
  · intro _ _ _ _ h; cases h
  · intro _ _ _ _ _ _ ih; exact ih
  · intro _ _ _ _ _ _ ih; exact ih
  · intro _ _ _ _ _ h; cases h
  · intro _ _ _ _ _ _ h; cases h

end PyAirtouch.Lemmas.SockDrain
