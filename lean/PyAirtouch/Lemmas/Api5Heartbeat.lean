import PyAirtouch.Lemmas.Api5Run
/-!
# The heartbeat manager embedded in the AirTouch 5 API model (property C08 at the API level)

About the API object; the theory of the manager's scheduler `settle`/`feed 0` on its own is `Lemmas/HeartbeatSched.lean`.
The proofs over ops are by cases on `Step` (`Api5Step`); a property of the manager alone that every input keeps goes
through `apiStep_feeds` instead (`apiStep_hbInv`: `Basic`, the parameters, `hb.now ≤ now`).  Two invariants of the state:
`HbOk` (strong: the manager well-formed, its clock the API's; needs every `adv` within `advBound`) and `HbWf` (weak:
parameters and `hb.now ≤ now`; every op).
Every op of the API is a sequence of inputs to the embedded manager, and a ghost manager that is fed the same inputs but
keeps its whole trace is a run of the heartbeat model whose `reset` events are the `RESET`s the API outputs: so what
`Props/C08` proves about resets holds of the API object.  On top of that: started by the frame that completes the
handshake, stopped by `shutdown()` only, silence detected at the deadline and not before, the next request one interval
after the last.
-/
namespace PyAirtouch.Lemmas.Api5
open PyAirtouch.Model PyAirtouch.Model.Api5 PyAirtouch.Model.At5 PyAirtouch.Model.At5.Registry
open PyAirtouch.Model.Heartbeat PyAirtouch.Spec.Heartbeat PyAirtouch.Lemmas.Heartbeat
open PyAirtouch.Gen PyAirtouch.Gen.Api5

theorem basic_clr {i t : Nat} {h : HB} (b : Basic i t h) : Basic i t (clr h) :=
  ⟨b.timeout_eq, b.interval_eq, b.arm_le, b.deadline, b.wake, b.both⟩

theorem HQ.clr {h : HB} (q : HQ h) : HQ (clr h) := ⟨basic_clr q.basic, q.flag, q.notResetting⟩

theorem Quiet.clr {h : HB} {t : Nat} (q : Quiet h t) : Quiet (clr h) t :=
  ⟨q.flag, q.notResetting, q.now_le, q.deadline, q.wake⟩

theorem hbStep_resp_quiet {h : HB} {t d : Nat} (q : Quiet h t) (htl : h.tl = .waiting d) :
    hbStep h (.resp t) = { clr h with now := t, tl := .waiting (t + h.timeout), flag := false, lastArm := t,
                                      expiries := [t + h.timeout], trace := [.resp t] } ∧
    hbRep h (.resp t) = [] := by
  have ef : hbStep h (.resp t) = _ := feed_resp_quiet q.clr htl
  exact ⟨ef, by rw [hbRep, ef]; rfl⟩

theorem hbStep_conn_quiet {h : HB} {t : Nat} (q : Quiet h t) (up : Bool) :
    hbStep h (.conn up t) = { clr h with now := t, connected := up, trace := [.conn up t] } :=
  feed_conn_quiet q.clr up

theorem hbStep_quiet {h : HB} {t : Nat} (q : Quiet h t) {i : HIn} (hi : i = .stop t ∨ ∃ up, i = .conn up t) :
    Quiet (hbStep h i) t ∧ resetEvs (hbStep h i).trace = 0 := by
  unfold hbStep
  rcases hi with rfl | ⟨up, rfl⟩
  · obtain ⟨e1, e2, e3, e4, e7⟩ := feed_stop_quiet q.clr
    refine ⟨⟨e4.trans q.flag, by rw [e1]; nofun, Nat.le_of_eq e3, fun d e => (by rw [e1] at e; cases e),
      fun u e => (by rw [e2] at e; cases e)⟩, ?_⟩
    rw [e7]
    split <;> rfl
  · rw [← hbStep, hbStep_conn_quiet q]
    exact ⟨⟨q.flag, q.notResetting, Nat.le_refl _, q.deadline, q.wake⟩, rfl⟩

/-! ## every op as a sequence of inputs to the manager -/

/-- the inputs an op feeds to the embedded manager, in order -/
def feedsOf (s : State) : Op → List HIn
  | .shutdown => [.stop s.now, .conn false s.now]
  | .conn up => [.conn up s.now]
  | .msg toAddr m =>
    if s.sockSubscribed then
      (if s.st = .INIT_ZONE_STATUS ∧ answers .INIT_ZONE_STATUS toAddr m = true then [.start s.now] else []) ++
      (if isHeartbeatResponse m then [.resp s.now] else [])
    else []
  | .adv n => (s.pendingInits.filter (· ≤ s.now + n)).map .finish ++ [.finish (s.now + n)]
  | _ => []

/-- ops whose code discards what the manager did while it was fed (`shutdown()`, a connection change) -/
def Op.hidesHb : Op → Bool
  | .shutdown | .conn _ => true
  | _ => false

theorem count_reset_zero {l : List Out} (h : ∀ o ∈ l, o ≠ .reset) : l.count .reset = 0 := by
  rw [List.count_eq_zero]
  intro hm
  exact h _ hm rfl

theorem apiStep_feeds (s : State) (op : Op) :
    (apiStep s op).1.hb = (hbSteps s.hb (feedsOf s op)).1 ∧
    (apiStep s op).2.count .reset = if Op.hidesHb op then 0 else resetEvs (hbSteps s.hb (feedsOf s op)).2 := by
  have st := apiStep_step s op
  generalize apiStep s op = r at st ⊢
  have zero : ∀ {l : List Out}, (∀ o ∈ l, NoMarkNoResult o) → l.count .reset = 0 := fun h =>
    count_reset_zero fun o ho => (h o ho).reset
  cases st with
  | init => exact ⟨rfl, by split <;> rfl⟩
  | call op s1 out hp e hi =>
    have hf : feedsOf s op = [] := by cases op <;> first | rfl | cases hp
    have hh : Op.hidesHb op = false := by cases op <;> first | rfl | cases hp
    rw [hf, hh]
    exact ⟨e.hb, count_reset_zero fun o ho => (hi o ho).reset⟩
  | junk => exact ⟨rfl, rfl⟩
  | shutdown => exact ⟨rfl, by simp [Op.hidesHb]⟩
  | conn up st' out _ ho _ => exact ⟨rfl, zero fun o h => (ho o h).noMark⟩
  | deaf a m hsub => simp [feedsOf, hsub, hbSteps, Op.hidesHb, resetEvs]
  | frame a m s1 out k hr =>
    -- after unfolding `feedsOf` at the guards both sides are the same `hbSteps`
    simp only [feedsOf, k.listens, k.notLast, hr, if_true, if_false, Bool.false_eq_true, List.append_nil, hbSteps,
      Op.hidesHb, zero fun o h => (k.out o h).noMark]
    exact ⟨k.same.hb, rfl⟩
  | resp a m s1 out k hr =>
    simp only [feedsOf, k.listens, k.notLast, hr, if_true, if_false, Bool.false_eq_true, List.append_nil, List.nil_append,
      hbSteps, Op.hidesHb, List.count_append, zero fun o h => (k.out o h).noMark, count_reset_hbRep, Nat.zero_add]
    exact ⟨trivial, trivial⟩
  | last a m s1 pre hsub hst ha hr _ hp =>
    simp only [feedsOf, hsub, hst, ha, hr, if_true, and_self, Bool.false_eq_true, if_false, List.append_nil, hbSteps,
      Op.hidesHb, List.count_append, count_reset_hbRep]
    refine ⟨trivial, ?_⟩
    rw [count_reset_zero (l := pre) (fun o ho e => by subst e; cases hp _ ho),
      count_reset_zero (l := s.pendingInits.map _) (fun o ho e => by subst e; simp at ho)]
    simp
  | adv n => exact ⟨rfl, count_advOut _ _ _⟩

theorem feedsOf_time (s : State) (op : Op) : ∀ i ∈ feedsOf s op, i.time ≤ s.now + Op.ticks op := by
  intro i hi
  cases op <;> simp only [feedsOf, List.not_mem_nil] at hi
  case shutdown => simp only [List.mem_cons, List.not_mem_nil, or_false] at hi; rcases hi with rfl | rfl <;> exact Nat.le_refl _
  case conn up => simp only [List.mem_singleton] at hi; subst hi; exact Nat.le_refl _
  case msg toAddr m =>
    split at hi
    · simp only [List.mem_append] at hi
      rcases hi with hi | hi <;> split at hi <;> simp only [List.mem_singleton, List.not_mem_nil] at hi <;> subst hi <;>
        exact Nat.le_refl _
    · cases hi
  case adv n =>
    simp only [List.mem_append, List.mem_map, List.mem_filter, decide_eq_true_eq, List.mem_singleton] at hi
    rcases hi with ⟨d, ⟨_, hd⟩, rfl⟩ | rfl
    · exact hd
    · exact Nat.le_refl _

theorem apiStep_hbInv (P : Nat → HB → Prop) (mono : ∀ T T' h, T ≤ T' → P T h → P T' h)
    (hP : ∀ T h i, i.time ≤ T → P T h → P T (hbStep h i))
    (s : State) (op : Op) (h : P s.now s.hb) : P (apiStep s op).1.now (apiStep s op).1.hb := by
  rw [apiStep_now, (apiStep_feeds s op).1]
  exact hbSteps_inv (hP _) _ _ (feedsOf_time s op) (mono _ _ _ (Nat.le_add_right _ _) h)

/-! ## the invariants -/

theorem hbStep_hq_now {h : HB} (q : HQ h) (i : HIn) (hi : i.time = h.now) :
    HQ (hbStep h i) ∧ (hbStep h i).now = h.now ∧ runsAfter i h (hbStep h i) :=
  feed_hq_now q.clr i hi

theorem hbStep_finish {h : HB} {t : Nat} (q : HQ h) (hb : t - h.now ≤ advBound) :
    HQ (hbStep h (.finish t)) ∧ (hbStep h (.finish t)).now = max h.now t ∧
    ((hbStep h (.finish t)).tl = .idle ↔ h.tl = .idle) := by
  by_cases hle : h.now ≤ t
  · obtain ⟨r1, r2, _, r6⟩ := feed_finish_hq q.clr (t := t) hle hb
    exact ⟨r1, by rw [Nat.max_eq_right hle]; exact r2, r6⟩
  · have e : hbStep h (.finish t) = clr h := feed_finish_past q.clr (Nat.lt_of_not_le hle)
    rw [e]
    exact ⟨q.clr, by rw [Nat.max_eq_left (by omega)]; rfl, Iff.rfl⟩

/-- **the invariant**: the embedded manager is well-formed (`HQ`: the timing invariant `Basic 2400 2640` - parameters
constant, `now ≤ deadline = lastArm + 2640`, `now ≤ wake ≤ now + 2400`, both tasks exist together - plus the event
consumed and no reset in progress), its clock is the API's clock, it runs exactly while the API is initialised, and then
no `init()` is waiting and the API listens to the socket.  The AirTouch 4 counterpart is `Api4.HbWf` -/
structure HbOk (s : State) : Prop where
  hq : HQ s.hb
  now_eq : s.hb.now = s.now
  running : s.initialised = true ↔ s.hb.tl ≠ .idle
  pending : s.initialised = true → s.pendingInits = []
  subscribed : s.initialised = true → s.sockSubscribed = true

theorem HbOk.quiet {s : State} (h : HbOk s) : Quiet s.hb s.now := by
  have := h.hq.quiet
  rw [h.now_eq] at this
  exact this

theorem hbOk_new (a b c d : Bytes) : HbOk (State.new a b c d) :=
  ⟨⟨basic_init _ _, rfl, nofun⟩, rfl, by simp [State.new, Heartbeat.init], by simp [State.new], by simp [State.new]⟩

theorem HbOk.of_sameHb {s s' : State} (h : HbOk s) (e : SameHb s s') : HbOk s' :=
  ⟨e.hb ▸ h.hq, by rw [e.hb, e.now]; exact h.now_eq, by rw [e.hb, e.initialised]; exact h.running,
    by rw [e.initialised, e.pendingInits]; exact h.pending, by rw [e.initialised, e.sockSubscribed]; exact h.subscribed⟩

theorem HbOk.feed {s : State} (h : HbOk s) {i : HIn} (hi : i = .resp s.now ∨ ∃ up, i = .conn up s.now) :
    HbOk { s with hb := hbStep s.hb i } := by
  have ht : i.time = s.now := by rcases hi with rfl | ⟨up, rfl⟩ <;> rfl
  obtain ⟨a1, a2, a3⟩ := hbStep_hq_now h.hq i (ht.trans h.now_eq.symm)
  have a3 : (hbStep s.hb i).tl = .idle ↔ s.hb.tl = .idle := by rcases hi with rfl | ⟨up, rfl⟩ <;> exact a3
  exact ⟨a1, a2.trans h.now_eq, h.running.trans (not_congr a3.symm), h.pending, h.subscribed⟩

/-- for `adv n` the fuel of the scheduler is known to suffice when `n ≤ advBound` (6·10⁷ ticks) -/
theorem hbOk_step (s : State) (op : Op) (h : HbOk s) (hn : ∀ n, op = .adv n → n ≤ advBound) : HbOk (apiStep s op).1 := by
  have st := apiStep_step s op
  generalize apiStep s op = r at st ⊢
  cases st with
  | init =>
    exact ⟨h.hq, h.now_eq, h.running, fun e => (by rw [if_pos e]; exact h.pending e), fun _ => rfl⟩
  | call op s1 out _ e => exact h.of_sameHb e.toSameHb
  | junk => exact h
  | shutdown =>
    obtain ⟨a1, a2, a3⟩ := hbStep_hq_now h.hq (.stop s.now) h.now_eq.symm
    obtain ⟨b1, b2, b3⟩ := hbStep_hq_now a1 (.conn false s.now) (by rw [a2]; exact h.now_eq.symm)
    exact ⟨b1, by rw [b2, a2]; exact h.now_eq, ⟨nofun, fun e => absurd (b3.2 a3) e⟩, nofun, nofun⟩
  | conn up st' out => exact (h.feed (.inr ⟨up, rfl⟩)).of_sameHb (sameHb_st _ _)
  | deaf => exact h
  | frame a m s1 out k => exact h.of_sameHb k.same
  | resp a m s1 out k =>
    exact (h.feed (.inl rfl)).of_sameHb (k.same.setHb _)
  | last a m s1 pre hsub _ _ _ e =>
    obtain ⟨a1, a2, a3⟩ := hbStep_hq_now h.hq (.start s.now) h.now_eq.symm
    exact ⟨a1, a2.trans (h.now_eq.trans e.now.symm), ⟨fun _ => a3, fun _ => rfl⟩, fun _ => rfl,
      fun _ => e.sockSubscribed.trans hsub⟩
  | adv n =>
    -- each due deadline and then the target is a `finish` at most `advBound` ahead of the manager's clock: `hbStep_finish`
    -- keeps `HQ`, moves the clock to the maximum and keeps at rest / running; threaded through `hbSteps_inv`
    have hb := hn n rfl
    obtain ⟨q, hnow, hrun, hpend, hsubs⟩ := h
    simp only [hbSteps_append, hbSteps]
    obtain ⟨g1, g2, g3, g4⟩ := hbSteps_inv
      (P := fun g => HQ g ∧ s.hb.now ≤ g.now ∧ g.now ≤ s.now + n ∧ (g.tl = .idle ↔ s.hb.tl = .idle))
      (Q := fun i => ∃ d, i = .finish d ∧ d ≤ s.now + n)
      (fun g i ⟨d, hi, hd⟩ ⟨q', l1, l2, l3⟩ => by
        subst hi
        obtain ⟨r1, r2, r3⟩ := hbStep_finish (t := d) q' (by omega)
        exact ⟨r1, by rw [r2]; omega, by rw [r2]; omega, r3.trans l3⟩)
      ((s.pendingInits.filter (· ≤ s.now + n)).map .finish) s.hb
      (fun i hi => by obtain ⟨d, hd, rfl⟩ := List.mem_map.1 hi; exact ⟨d, rfl, by simpa using (List.mem_filter.1 hd).2⟩)
      ⟨q, Nat.le_refl _, by omega, Iff.rfl⟩
    obtain ⟨r1, r2, r3⟩ := hbStep_finish (t := s.now + n) g1 (by omega)
    exact ⟨r1, r2.trans (Nat.max_eq_right g3), hrun.trans (not_congr (r3.trans g4).symm),
      fun e => (by show s.pendingInits.filter _ = []; rw [hpend e]; rfl), hsubs⟩

def AdvBounded (ops : List Op) : Prop := ∀ o ∈ ops, ∀ n, o = Op.adv n → n ≤ advBound

theorem hbOk_run (s : State) (ops : List Op) (h : HbOk s) (hb : AdvBounded ops) : HbOk (runS s ops) :=
  runS_eq s ops ▸ FoldW.foldW_inv ops s h fun s o ho hs => hbOk_step s o hs (hb o ho)

/-- the timing invariant of the heartbeat model holds of the embedded manager itself, whatever the length of an `adv`
(`hbFeed` clears only what `Basic` does not mention) -/
theorem basic_apiStep (s : State) (op : Op) (b : Basic 2400 2640 s.hb) : Basic 2400 2640 (apiStep s op).1.hb :=
  apiStep_hbInv (fun _ h => Basic 2400 2640 h) (fun _ _ _ _ h => h)
    (fun _ h i _ b => (feed_drives 0 (clr h) i).basic (basic_clr b)) s op b

theorem basic_runS (ops : List Op) (s : State) (b : Basic 2400 2640 s.hb) : Basic 2400 2640 (runS s ops).hb :=
  runS_eq s ops ▸ FoldW.foldW_inv (I := fun s => Basic 2400 2640 s.hb) ops s b fun s o _ => basic_apiStep s o

theorem hb_params_const (s : State) (op : Op) :
    (apiStep s op).1.hb.interval = s.hb.interval ∧ (apiStep s op).1.hb.timeout = s.hb.timeout :=
  apiStep_hbInv (fun _ h => h.interval = s.hb.interval ∧ h.timeout = s.hb.timeout) (fun _ _ _ _ h => h)
    (fun _ h i _ hp => ⟨(feed_params 0 (clr h) i).1.trans hp.1, (feed_params 0 (clr h) i).2.trans hp.2⟩) s op ⟨rfl, rfl⟩

theorem apiStep_hb_now_le (s : State) (op : Op) (h : s.hb.now ≤ s.now) : (apiStep s op).1.hb.now ≤ (apiStep s op).1.now :=
  apiStep_hbInv (fun T h => h.now ≤ T) (fun _ _ _ hT h => Nat.le_trans h hT)
    (fun _ h i hi hx => feed_now_le 0 (clr h) i hx hi) s op h

/-- what holds in a new object and is preserved by every op, whatever the length of an `adv`; the AirTouch 4 counterpart is
`Api4.HbWf0` -/
structure HbWf (s : State) : Prop where
  interval : s.hb.interval = Api5.heartbeatInterval
  timeout : s.hb.timeout = Api5.heartbeatTimeout
  now_le : s.hb.now ≤ s.now

theorem hbWf_new (a b c d : Bytes) : HbWf (State.new a b c d) := ⟨rfl, rfl, Nat.le_refl _⟩

theorem hbWf_step {s : State} (h : HbWf s) (op : Op) : HbWf (apiStep s op).1 :=
  ⟨(hb_params_const s op).1.trans h.interval, (hb_params_const s op).2.trans h.timeout, apiStep_hb_now_le s op h.now_le⟩

theorem hbWf_run {s : State} (h : HbWf s) (ops : List Op) : HbWf (runS s ops) :=
  runS_eq s ops ▸ FoldW.foldW_inv ops s h fun _ o _ hs => hbWf_step hs o

theorem doShutdown_hb_now {s : State} (h : s.hb.now ≤ s.now) : (apiStep s .shutdown).1.hb.now = s.now := by
  show (hbFeed (hbFeed s (.stop s.now)).1 (.conn false s.now)).1.hb.now = s.now
  have h1 : HbIdle (hbFeed s (.stop s.now)).1.hb := feed_stop_idle 0 _ _
  have h2 : (hbFeed s (.stop s.now)).1.hb.now ≤ s.now := feed_now_le 0 _ _ h (Nat.le_refl _)
  exact feed_conn_idle_now 0 _ false s.now h1 h2

/-! ## the ghost manager: the same inputs, the trace never cleared

`ghost_track` and `run_feeds` are the instruments; the `*_track*` theorems are their readings for one `hbFeed`, one op, an op
list and a new object, as `Props/C08At5` states them. -/

theorem ghost_track (ins : List HIn) {g h : HB} (e : HbEquiv g h) :
    HbEquiv (ins.foldl (feed 0) g) (hbSteps h ins).1 ∧ (ins.foldl (feed 0) g).trace = g.trace ++ (hbSteps h ins).2 :=
  hbSteps_eq ins h ▸ feeds_track 0 ins e

theorem apiStep_resets_le (s : State) (op : Op) :
    (apiStep s op).2.count .reset ≤ resetEvs (hbSteps s.hb (feedsOf s op)).2 := by
  rw [(apiStep_feeds s op).2]
  split
  · exact Nat.zero_le _
  · exact Nat.le_refl _

/-- nothing pending is due before the API's clock: what `shutdown()` and a connection change feed the manager then makes
it record no `reset`, so discarding its report hides nothing -/
theorem apiStep_resets {s : State} (q : Quiet s.hb s.now) (op : Op) :
    (apiStep s op).2.count .reset = resetEvs (hbSteps s.hb (feedsOf s op)).2 := by
  rw [(apiStep_feeds s op).2]
  split
  · rename_i hh
    symm
    cases op <;> simp only [Op.hidesHb, Bool.false_eq_true] at hh
    case shutdown =>
      obtain ⟨q2, r1⟩ := hbStep_quiet q (.inl rfl)
      obtain ⟨_, r2⟩ := hbStep_quiet q2 (.inr ⟨false, rfl⟩)
      simp only [feedsOf, hbSteps, List.append_nil, resetEvs_append, r1, r2]
    case conn up =>
      simp only [feedsOf, hbSteps, List.append_nil, (hbStep_quiet q (.inr ⟨up, rfl⟩)).2]
  · rfl

theorem hbFeed_track {g : HB} {s : State} (e : HbEquiv g s.hb) (i : HIn) :
    ∃ ls g', run g ls = some g' ∧ HbEquiv g' (hbFeed s i).1.hb ∧ (hbFeed s i).2 = (newEvents g g').filterMap hbOut := by
  obtain ⟨ls, r⟩ := feed_run 0 g i
  obtain ⟨e', t⟩ := ghost_track [i] e
  have t' : (feed 0 g i).trace = g.trace ++ (hbStep s.hb i).trace := by simpa [hbSteps] using t
  refine ⟨ls, _, r, e', ?_⟩
  rw [hbFeed_snd]
  simp [newEvents, t']

theorem apiStep_track_count {g : HB} {s : State} (e : HbEquiv g s.hb) (q : Quiet s.hb s.now) (op : Op) :
    ∃ ls g', run g ls = some g' ∧ HbEquiv g' (apiStep s op).1.hb ∧
      ∃ evs, g'.trace = g.trace ++ evs ∧ (apiStep s op).2.count .reset = resetEvs evs :=
  let ⟨ls, r⟩ := feeds_run 0 (feedsOf s op) g
  ⟨ls, _, r, (apiStep_feeds s op).1 ▸ (ghost_track _ e).1, _, (ghost_track _ e).2, apiStep_resets q op⟩

theorem apiStep_track {g : HB} {s : State} (e : HbEquiv g s.hb) (q : Quiet s.hb s.now) (op : Op) :
    ∃ ls g', run g ls = some g' ∧ HbEquiv g' (apiStep s op).1.hb ∧
      (Out.reset ∈ (apiStep s op).2 ↔ ∃ r, HEv.reset r ∈ newEvents g g') := by
  obtain ⟨ls, g', r, e', evs, t, c⟩ := apiStep_track_count e q op
  refine ⟨ls, g', r, e', ?_⟩
  rw [show newEvents g g' = evs by simp [newEvents, t], ← resetEvs_pos_iff, ← c, List.count_pos_iff]

theorem apiStep_track_any {g : HB} {s : State} (e : HbEquiv g s.hb) (op : Op) :
    ∃ ls g', run g ls = some g' ∧ HbEquiv g' (apiStep s op).1.hb ∧
      ∃ evs, g'.trace = g.trace ++ evs ∧ (apiStep s op).2.count .reset ≤ resetEvs evs :=
  let ⟨ls, r⟩ := feeds_run 0 (feedsOf s op) g
  ⟨ls, _, r, (apiStep_feeds s op).1 ▸ (ghost_track _ e).1, _, (ghost_track _ e).2, apiStep_resets_le s op⟩

/-- the inputs an op list feeds the embedded manager, in order -/
def runFeeds (s : State) : List Op → List HIn
  | [] => []
  | op :: ops => feedsOf s op ++ runFeeds (apiStep s op).1 ops

theorem run_feeds (ops : List Op) (s : State) :
    (runS s ops).hb = (hbSteps s.hb (runFeeds s ops)).1 ∧
    (runOut s ops).count .reset ≤ resetEvs (hbSteps s.hb (runFeeds s ops)).2 ∧
    (HbOk s → AdvBounded ops → (runOut s ops).count .reset = resetEvs (hbSteps s.hb (runFeeds s ops)).2) := by
  induction ops generalizing s with
  | nil => exact ⟨rfl, Nat.le_refl _, fun _ _ => rfl⟩
  | cons o ops ih =>
    obtain ⟨i1, i2, i3⟩ := ih (apiStep s o).1
    simp only [runS_cons, runOut_cons, runFeeds, hbSteps_append, List.count_append, resetEvs_append,
      ← (apiStep_feeds s o).1]
    exact ⟨i1, Nat.add_le_add (apiStep_resets_le s o) i2, fun ok hb => by
      rw [apiStep_resets ok.quiet o,
        i3 (hbOk_step s o ok (fun n e => hb o (by simp) n e)) (fun o' ho' => hb o' (by simp [ho']))]⟩

theorem run_track_count {g : HB} {s : State} (e : HbEquiv g s.hb) (h : HbOk s) (ops : List Op) (hb : AdvBounded ops) :
    ∃ ls g', run g ls = some g' ∧ HbEquiv g' (runS s ops).hb ∧
      ∃ evs, g'.trace = g.trace ++ evs ∧ (runOut s ops).count .reset = resetEvs evs :=
  let ⟨ls, r⟩ := feeds_run 0 (runFeeds s ops) g
  ⟨ls, _, r, (run_feeds ops s).1 ▸ (ghost_track _ e).1, _, (ghost_track _ e).2, (run_feeds ops s).2.2 h hb⟩

theorem new_track (a b c d : Bytes) (ops : List Op) (hb : AdvBounded ops) :
    ∃ g, Reachable 2400 2640 g ∧ HbEquiv g (runS (State.new a b c d) ops).hb ∧
      (runOut (State.new a b c d) ops).count .reset = resetEvs g.trace := by
  obtain ⟨ls, g', r, e, evs, t, c⟩ := run_track_count (g := Heartbeat.init 2400 2640) (s := State.new a b c d)
    (HbEquiv.refl _) (hbOk_new a b c d) ops hb
  refine ⟨g', ⟨ls, r⟩, e, ?_⟩
  rw [c, t]; simp [Heartbeat.init]

/-- … without the bound on `adv` (the fuel may run out: `RESET`s may then be hidden by a later `shutdown` / `conn`) -/
theorem new_track_any (a b c d : Bytes) (ops : List Op) :
    ∃ g, Reachable 2400 2640 g ∧ HbEquiv g (runS (State.new a b c d) ops).hb ∧
      (runOut (State.new a b c d) ops).count .reset ≤ resetEvs g.trace := by
  obtain ⟨e, t⟩ := ghost_track (runFeeds (State.new a b c d) ops) (HbEquiv.refl (State.new a b c d).hb)
  refine ⟨(runFeeds (State.new a b c d) ops).foldl (feed 0) (State.new a b c d).hb, feeds_run 0 _ _,
    (run_feeds ops _).1 ▸ e, ?_⟩
  rw [t]
  exact Nat.le_trans (run_feeds ops _).2.1 (by simp [State.new, Heartbeat.init])

/-! ## started when the handshake completes, stopped by `shutdown()` only -/

/-- the three marks of the manager's life among the outputs: `HBSTOP` comes from `shutdown` only; `HBSTART` and, for a
frame, `RESULT init True` come only from the frame that completes the handshake -/
theorem apiStep_marks (s : State) (op : Op) {o : Out} (ho : o ∈ (apiStep s op).2)
    (hm : o = .hbStart ∨ o = .hbStop ∨ (o = .result "init True" ∧ ∃ a m, op = .msg a m)) :
    (o = .hbStop ∧ op = .shutdown) ∨ (o ≠ .hbStop ∧ Finishing s op) := by
  -- `o` is neither what a handler makes the op output (`NoMarkNoResult`) nor part of the manager's report
  have no : NoMarkNoResult o → False := fun h => by
    rcases hm with rfl | rfl | ⟨rfl, _⟩
    · exact h.hbStart rfl
    · exact h.hbStop rfl
    · exact h.result _ rfl
  have nohb : ∀ i, o ∈ hbRep s.hb i → False := fun i h => by
    rcases hbRep_out _ i o h with rfl | rfl <;> simp at hm
  have st := apiStep_step s op
  generalize apiStep s op = r at st ho
  cases st with
  | init => rcases hm with rfl | rfl | ⟨_, _, _, h⟩ <;> first | cases h | (split at ho <;> simp at ho)
  | call op s1 out hp _ hi =>
    rcases hm with rfl | rfl | ⟨_, a, m, rfl⟩
    · exact absurd rfl (hi _ ho).hbStart
    · exact absurd rfl (hi _ ho).hbStop
    · cases hp
  | junk => cases List.mem_singleton.1 ho; simp at hm
  | shutdown =>
    simp only [List.mem_cons, List.mem_nil_iff, or_false] at ho
    rcases ho with rfl | rfl | rfl
    · exact .inl ⟨rfl, rfl⟩
    · simp at hm
    · simp at hm
  | conn up st' out _ h => exact (no (h o ho).noMark).elim
  | deaf => cases ho
  | frame a m s1 out k => exact (no (k.out o ho).noMark).elim
  | resp a m s1 out k => exact ((List.mem_append.1 ho).elim (fun ho => no (k.out o ho).noMark) (nohb _)).elim
  | last a m s1 pre hsub hst ha _ _ hp =>
    refine .inr ⟨?_, a, m, rfl, hsub, hst, ha⟩
    rintro rfl
    simp only [List.mem_append, List.mem_singleton, List.mem_map, reduceCtorEq, and_false, exists_false, or_false] at ho
    exact ho.elim (fun ho => by cases hp _ ho) (nohb _)
  | adv n => rcases advOut_out _ _ _ o ho with rfl | rfl | rfl <;> simp at hm

theorem hbStart_iff (s : State) (op : Op) : Out.hbStart ∈ (apiStep s op).2 ↔ Finishing s op := by
  constructor
  · exact fun h => (apiStep_marks s op h (.inl rfl)).elim (fun h => by cases h.1) (·.2)
  · rintro ⟨toAddr, m, rfl, hsub, hst, ha⟩
    obtain ⟨s1, pre, _, _, _, e⟩ := step_last hsub hst ha
    show Out.hbStart ∈ (doMsg s toAddr m).2
    rw [e]; simp

theorem initialised_only_by_finishing (s : State) (op : Op) (h0 : s.initialised = false)
    (h1 : (apiStep s op).1.initialised = true) : Finishing s op := by
  have st := apiStep_step s op
  generalize apiStep s op = r at st h1
  cases st with
  | call op s1 out _ e => cases (e.initialised.trans h0).symm.trans h1
  | frame a m s1 out k | resp a m s1 out k => cases (k.same.initialised.trans h0).symm.trans h1
  | last a m s1 pre hsub hst ha => exact ⟨a, m, rfl, hsub, hst, ha⟩
  | shutdown => cases h1
  | _ => cases h0.symm.trans h1

theorem hbStop_iff (s : State) (op : Op) : Out.hbStop ∈ (apiStep s op).2 ↔ op = .shutdown :=
  ⟨fun h => (apiStep_marks s op h (.inr (.inl rfl))).elim (·.2) (fun h => absurd rfl h.1),
   fun e => by subst e; simp [apiStep, doShutdown_eq]⟩

theorem hb_stopped_only_by_shutdown (s : State) (op : Op) (h0 : ¬ HbIdle s.hb) (h1 : HbIdle (apiStep s op).1.hb) :
    op = .shutdown := by
  rw [(apiStep_feeds s op).1] at h1
  refine Classical.byContradiction fun hne => hbSteps_inv (P := fun g => ¬ HbIdle g) (Q := fun i => ∀ t, i ≠ .stop t)
    (fun h i hq hn hi => hn (feed_idle_back 0 (clr h) i hq hi)) _ _ ?_ h0 h1
  -- only `shutdown` feeds a `stop`
  rintro i hi t rfl
  cases op <;> simp [feedsOf] at hi
  exact hne rfl

theorem hb_started_on_connected (s : State) (toAddr : Nat) (m : Msg) (hsub : s.sockSubscribed = true)
    (hst : s.st = .INIT_ZONE_STATUS) (ha : answers .INIT_ZONE_STATUS toAddr m = true)
    (hi : HbIdle s.hb) (hn : s.hb.now ≤ s.now) (hiv : s.hb.interval = Gen.Api5.heartbeatInterval) (hto : s.hb.timeout = Gen.Api5.heartbeatTimeout) :
    (apiStep s (.msg toAddr m)).1.st = .CONNECTED ∧ (apiStep s (.msg toAddr m)).1.initialised = true ∧
    (apiStep s (.msg toAddr m)).1.pendingInits = [] ∧
    (apiStep s (.msg toAddr m)).1.hb.tl = .waiting (s.now + 2640) ∧
    (apiStep s (.msg toAddr m)).1.hb.hl = .sleeping (s.now + 2400) ∧
    (apiStep s (.msg toAddr m)).1.hb.now = s.now ∧ (apiStep s (.msg toAddr m)).1.hb.flag = false ∧
    (apiStep s (.msg toAddr m)).1.hb.lastArm = s.now ∧
    (apiStep s (.msg toAddr m)).1.hb.interval = Gen.Api5.heartbeatInterval ∧ (apiStep s (.msg toAddr m)).1.hb.timeout = Gen.Api5.heartbeatTimeout ∧
    (apiStep s (.msg toAddr m)).1.hb.connected = s.hb.connected ∧
    ∃ pre, (∀ o ∈ pre, o.isNotify = true) ∧
      (apiStep s (.msg toAddr m)).2 = pre ++ [.hbStart] ++ s.pendingInits.map (fun _ => Out.result "init True") ++
        (if s.hb.connected then [.send .connected hbMessage false] else []) := by
  have hiv' : s.hb.interval = 2400 := hiv
  have hto' : s.hb.timeout = 2640 := hto
  obtain ⟨s1, pre, c1, c2, _, e⟩ := step_last hsub hst ha
  have ef : hbStep s.hb (.start s.now) = _ :=
    feed_start_idle (h := clr s.hb) (t := s.now) hi hn (by show 0 < s.hb.interval; omega) (by show 0 < s.hb.timeout; omega)
  simp only [apiStep]
  rw [e, hbRep, ef]
  refine ⟨rfl, rfl, rfl, ?_, ?_, rfl, rfl, rfl, hiv, hto, rfl, pre, c2, ?_⟩
  · show TL.waiting (s.now + s.hb.timeout) = _; rw [hto']
  · show HL.sleeping (s.now + s.hb.interval) = _; rw [hiv']
  · show _ ++ List.filterMap hbOut (if s.hb.connected = true then _ else _) = _
    cases hc : s.hb.connected <;> simp [clr, hbOut, List.filterMap_cons]

/-! ## the response matcher -/

theorem isHeartbeatResponse_iff (m : Msg) :
    isHeartbeatResponse m = true ↔ ∃ sub, m = .extended sub ∧ sub.messageId = Gen.At5.X1FFF30ConsoleVer.MESSAGE_ID := by
  cases m <;> simp [isHeartbeatResponse]

/-- concretely: the extended messages that carry a console-version sub-message (the version message or the request - the
matcher looks at the message id only), and unknown extended sub-messages whose id happens to be that of the console
version (the registry never produces those: it decodes that id) -/
theorem isHeartbeatResponse_cases (m : Msg) :
    isHeartbeatResponse m = true ↔
      (∃ c, m = .extended (.consoleVer c)) ∨ (∃ raw, m = .extended (.unsupported Gen.At5.X1FFF30ConsoleVer.MESSAGE_ID raw)) := by
  cases m with
  | extended sub =>
    cases sub <;> simp [isHeartbeatResponse, ExtSub.messageId, Gen.At5.X1FFF30ConsoleVer.MESSAGE_ID,
      Gen.At5.X1FFF10ErrInfo.MESSAGE_ID, Gen.At5.X1FFF11AcAbility.MESSAGE_ID, Gen.At5.X1FFF13ZoneNames.MESSAGE_ID,
      Gen.At5.X1FFF49QuickTimer.MESSAGE_ID]
  | controlStatus sub => simp [isHeartbeatResponse]
  | unsupported id raw => simp [isHeartbeatResponse]

theorem non_response_keeps_hb (s : State) (toAddr : Nat) (m : Msg) (hr : isHeartbeatResponse m = false)
    (hnf : ¬ Finishing s (.msg toAddr m)) : (apiStep s (.msg toAddr m)).1.hb = s.hb := by
  have st := apiStep_step s (.msg toAddr m)
  generalize apiStep s (.msg toAddr m) = r at st ⊢
  cases st with
  | call _ _ _ hp => cases hp
  | deaf => rfl
  | frame _ _ _ _ k => exact k.same.hb
  | resp _ _ _ _ _ h => rw [hr] at h; cases h
  | last _ _ _ _ hsub hst ha => exact absurd ⟨toAddr, m, rfl, hsub, hst, ha⟩ hnf

theorem not_finishing_of_st {s : State} {op : Op} (h : s.st ≠ .INIT_ZONE_STATUS) : ¬ Finishing s op := by
  rintro ⟨_, _, _, _, hst, _⟩
  exact h hst

theorem response_rearms (s : State) (toAddr : Nat) (m : Msg) (d u : Nat) (hsub : s.sockSubscribed = true)
    (hr : isHeartbeatResponse m = true) (htl : s.hb.tl = .waiting d) (hf : s.hb.flag = false) (hhl : s.hb.hl = .sleeping u)
    (hn : s.hb.now ≤ s.now) (hd : s.now ≤ d) (hu : s.now ≤ u) :
    (apiStep s (.msg toAddr m)).1.hb.tl = .waiting (s.now + s.hb.timeout) ∧
    (apiStep s (.msg toAddr m)).1.hb.lastArm = s.now ∧ (apiStep s (.msg toAddr m)).1.hb.now = s.now ∧
    (apiStep s (.msg toAddr m)).1.hb.flag = false ∧ (apiStep s (.msg toAddr m)).1.hb.hl = .sleeping u ∧
    (apiStep s (.msg toAddr m)).1.hb.connected = s.hb.connected ∧
    Out.reset ∉ (apiStep s (.msg toAddr m)).2 ∧ Out.hbStart ∉ (apiStep s (.msg toAddr m)).2 := by
  have q : Quiet s.hb s.now := ⟨hf, by rw [htl]; simp, hn, fun d' e => by rw [htl] at e; cases e; exact hd,
    fun u' e => by rw [hhl] at e; cases e; exact hu⟩
  obtain ⟨ef, er⟩ := hbStep_resp_quiet q htl
  have st := apiStep_step s (.msg toAddr m)
  generalize apiStep s (.msg toAddr m) = r at st ⊢
  cases st with
  | call _ _ _ hp => cases hp
  | deaf _ _ h => rw [hsub] at h; cases h
  | last _ _ _ _ _ _ _ h | frame _ _ _ _ _ h => rw [hr] at h; cases h
  | resp _ _ s1 out k =>
    -- the handler only sends and notifies
    rw [er, List.append_nil, ef]
    exact ⟨rfl, rfl, rfl, rfl, hhl, rfl, fun hm => (k.out _ hm).noMark.reset rfl, fun hm => (k.out _ hm).noMark.hbStart rfl⟩

/-! ## time passing -/

theorem hbSteps_finish_keep {d : Nat} {h : HB} (ts : List Nat) (h1 : h.tl = .waiting d) (h2 : h.flag = false)
    (hts : ∀ t ∈ ts, t < d) :
    (hbSteps h (ts.map .finish)).1.tl = .waiting d ∧ (hbSteps h (ts.map .finish)).1.flag = false ∧
    resetEvs (hbSteps h (ts.map .finish)).2 = 0 := by
  induction ts generalizing h with
  | nil => exact ⟨h1, h2, rfl⟩
  | cons t ts ih =>
    have k : Keep d (hbStep h (.finish t)) := by
      have hlt := hts t (by simp)
      show Keep d (feed 0 (clr h) (.finish t))
      rw [feed_eq]
      simp only
      have l1 : lim t false d = false := by simp [lim]; omega
      have l2 : lim t true d = false := by simp [lim]; omega
      exact settle_keep l2 _ _ (apply_keep (.inl ⟨_, rfl⟩) (settle_keep l1 _ _ ⟨h1, h2, rfl⟩))
    obtain ⟨g1, g2, g3⟩ := ih k.1 k.2.1 (fun x hx => hts x (by simp [hx]))
    simp only [List.map_cons, hbSteps]
    exact ⟨g1, g2, by rw [resetEvs_append, k.2.2, g3]⟩

theorem adv_before_deadline (s : State) (n d : Nat) (htl : s.hb.tl = .waiting d) (hf : s.hb.flag = false)
    (hlt : s.now + n < d) :
    Out.reset ∉ (apiStep s (.adv n)).2 ∧ (apiStep s (.adv n)).1.hb.tl = .waiting d ∧
    (apiStep s (.adv n)).1.hb.flag = false := by
  have hts : ∀ t ∈ s.pendingInits.filter (· ≤ s.now + n) ++ [s.now + n], t < d := by
    intro t ht
    simp only [List.mem_append, List.mem_filter, List.mem_singleton, decide_eq_true_eq] at ht
    omega
  obtain ⟨g1, g2, g3⟩ := hbSteps_finish_keep (h := s.hb) _ htl hf hts
  simp only [List.map_append, List.map_cons, List.map_nil] at g1 g2 g3
  simp only [apiStep, doAdv_eq]
  refine ⟨?_, g1, g2⟩
  rw [← List.count_pos_iff, count_advOut, g3]
  exact Nat.lt_irrefl 0

theorem HbOk.running_pending {s : State} (h : HbOk s) (hr : s.hb.tl ≠ .idle) : s.pendingInits = [] :=
  h.pending (h.running.2 hr)

theorem HbOk.deadline_le {s : State} (h : HbOk s) {d : Nat} (htl : s.hb.tl = .waiting d) : s.now ≤ d ∧ d ≤ s.now + 2640 := by
  have b := h.hq.basic
  obtain ⟨b1, b2⟩ := b.deadline d htl
  have := b.arm_le
  have := h.hq.timeout
  have := h.now_eq
  omega

theorem HbOk.wake_le {s : State} (h : HbOk s) {u : Nat} (hhl : s.hb.hl = .sleeping u) : s.now ≤ u ∧ u ≤ s.now + 2400 := by
  have b := h.hq.basic
  obtain ⟨b1, b2⟩ := b.wake u hhl
  have := h.hq.interval
  have := h.now_eq
  omega

/-- **silence, in general**: an `adv` of `n` ticks on an object whose manager waits for the deadline `d` lets the `j`
deadlines `d`, `d + 2640`, … that lie within it expire; it outputs `j` `RESET`s if the link is up and none if it is
down, and the next deadline is `d + j·2640` -/
theorem adv_periods (s : State) (n d : Nat) (h : HbOk s) (htl : s.hb.tl = .waiting d) (hn : n ≤ advBound) :
    ∃ j, (apiStep s (.adv n)).1.hb.tl = .waiting (d + j * 2640) ∧ s.now + n < d + j * 2640 ∧
      (j = 0 ∨ d + j * 2640 ≤ s.now + n + 2640) ∧
      (apiStep s (.adv n)).2.count .reset = if s.hb.connected then j else 0 := by
  have hp := h.running_pending (by rw [htl]; simp)
  obtain ⟨j, a, b, c, e⟩ := finish_periods (h := clr s.hb) (t := s.now + n) h.hq.clr htl
    (by show s.hb.now ≤ _; rw [h.now_eq]; omega) (by show _ - s.hb.now ≤ _; rw [h.now_eq]; omega)
  simp only [apiStep, doAdv_running s n hp]
  exact ⟨j, a, b, c, by rw [count_reset_hbOut]; exact e.trans (Nat.zero_add _)⟩

theorem silence_reset (s : State) (n d : Nat) (h : HbOk s) (htl : s.hb.tl = .waiting d) (hc : s.hb.connected = true)
    (hd : d ≤ s.now + n) (hn : n ≤ advBound) : Out.reset ∈ (apiStep s (.adv n)).2 := by
  obtain ⟨j, _, lt, _, e⟩ := adv_periods s n d h htl hn
  rw [← List.count_pos_iff, e, hc]
  show 0 < j
  omega

theorem silence_reset_exact (s : State) (d : Nat) (h : HbOk s) (htl : s.hb.tl = .waiting d) (hc : s.hb.connected = true) :
    (apiStep s (.adv (d - s.now))).2.count .reset = 1 ∧ (apiStep s (.adv (d - s.now))).1.hb.tl = .waiting (d + 2640) ∧
    (apiStep s (.adv (d - s.now))).1.now = d := by
  obtain ⟨d1, d2⟩ := h.deadline_le htl
  obtain ⟨j, a, lt, le, e⟩ := adv_periods s (d - s.now) d h htl (by unfold advBound; omega)
  obtain rfl : j = 1 := by omega
  exact ⟨by rw [e, hc]; rfl, a, by rw [apiStep_now]; simp only [Op.ticks]; omega⟩

theorem silence_down (s : State) (n : Nat) (h : HbOk s) (hr : s.hb.tl ≠ .idle) (hc : s.hb.connected = false) (hn : n ≤ advBound) :
    Out.reset ∉ (apiStep s (.adv n)).2 := by
  cases htl : s.hb.tl with
  | idle => exact absurd htl hr
  | resetting => exact absurd htl h.hq.notResetting
  | waiting d =>
    obtain ⟨j, _, _, _, e⟩ := adv_periods s n d h htl hn
    rw [← List.count_pos_iff, e, hc]
    exact Nat.lt_irrefl 0

set_option linter.unusedVariables false in -- `hc` is not needed: the deadline moves on whether the link is up or down
theorem silence_down_exact (s : State) (d : Nat) (h : HbOk s) (htl : s.hb.tl = .waiting d) (hc : s.hb.connected = false) :
    (apiStep s (.adv (d - s.now))).1.hb.tl = .waiting (d + 2640) := by
  obtain ⟨d1, d2⟩ := h.deadline_le htl
  obtain ⟨j, a, lt, le, _⟩ := adv_periods s (d - s.now) d h htl (by unfold advBound; omega)
  obtain rfl : j = 1 := by omega
  exact a

/-- an `adv` that ends before the next wake-up and before the deadline: nothing at all is output -/
theorem beats_none (s : State) (n d u : Nat) (h : HbOk s) (htl : s.hb.tl = .waiting d) (hhl : s.hb.hl = .sleeping u)
    (h1 : s.now + n < u) (h2 : s.now + n < d) :
    (apiStep s (.adv n)).2 = [] ∧ (apiStep s (.adv n)).1.hb.tl = .waiting d ∧ (apiStep s (.adv n)).1.hb.hl = .sleeping u := by
  have hp := h.running_pending (by rw [htl]; simp)
  have q : Quiet (clr s.hb) (s.now + n) := ⟨h.hq.flag, h.hq.notResetting, by show s.hb.now ≤ _; rw [h.now_eq]; omega,
    fun d' e => by have e' : s.hb.tl = .waiting d' := e; rw [htl] at e'; cases e'; omega,
    fun u' e => by have e' : s.hb.hl = .sleeping u' := e; rw [hhl] at e'; cases e'; omega⟩
  have ef : hbStep s.hb (.finish (s.now + n)) = _ := finish_nothing q
    (fun d' e => by have e' : s.hb.tl = .waiting d' := e; rw [htl] at e'; cases e'; omega)
    (fun u' e => by have e' : s.hb.hl = .sleeping u' := e; rw [hhl] at e'; cases e'; omega)
  simp only [apiStep, doAdv_running s n hp, ef]
  exact ⟨rfl, htl, hhl⟩

/-- **one request per interval**: an `adv` exactly up to the wake-up `u` of the heartbeat loop (before the deadline) outputs
the heartbeat request - once, and only if the link is up - and schedules the next wake-up 2400 ticks later -/
theorem beats_one (s : State) (d u : Nat) (h : HbOk s) (htl : s.hb.tl = .waiting d) (hhl : s.hb.hl = .sleeping u)
    (hud : u < d) :
    (apiStep s (.adv (u - s.now))).2 = (if s.hb.connected then [.send .connected hbMessage false] else []) ∧
    (apiStep s (.adv (u - s.now))).1.hb.hl = .sleeping (u + 2400) ∧ (apiStep s (.adv (u - s.now))).1.hb.tl = .waiting d ∧
    (apiStep s (.adv (u - s.now))).1.now = u := by
  have hp := h.running_pending (by rw [htl]; simp)
  obtain ⟨u1, u2⟩ := h.wake_le hhl
  have e : s.now + (u - s.now) = u := by omega
  have ef : hbStep s.hb (.finish u) = _ := finish_one_beat (h := clr s.hb) (u := u) (d := d) h.hq.flag
    (by show s.hb.now ≤ u; rw [h.now_eq]; exact u1) htl hhl hud (by show 0 < s.hb.interval; rw [h.hq.interval]; omega)
  simp only [apiStep, doAdv_running s _ hp, e, ef]
  refine ⟨?_, ?_, htl, trivial⟩
  · show List.filterMap hbOut (if s.hb.connected = true then _ else _) = _
    cases hc : s.hb.connected <;> simp [clr, hbOut]
  · show HL.sleeping (u + s.hb.interval) = _
    rw [h.hq.interval]

/-! ## no false reset -/

/-- `responsive rem ops`: reading the op list alone, with `rem` ticks left before the deadline - every `adv` ends before
the deadline, every console-version frame (`isHeartbeatResponse`) gives 2640 fresh ticks; `init()` and `shutdown()` do not
occur; anything else (connection changes, other frames, undecodable frames, calls, subscriptions, views) is free -/
def responsive : Nat → List Op → Bool
  | _, [] => true
  | rem, .adv n :: ops => decide (n < rem) && responsive (rem - n) ops
  | rem, .msg _ m :: ops => responsive (if isHeartbeatResponse m then 2640 else rem) ops
  | _, .init :: _ => false
  | _, .shutdown :: _ => false
  | rem, _ :: ops => responsive rem ops

/-- connected, the manager running with deadline `d` -/
structure Alive (s : State) (d : Nat) : Prop where
  ok : HbOk s
  st : s.st = .CONNECTED
  tl : s.hb.tl = .waiting d

theorem alive_step {s : State} {d : Nat} (a : Alive s d) (op : Op) (ops : List Op)
    (hr : responsive (d - s.now) (op :: ops) = true) :
    Out.reset ∉ (apiStep s op).2 ∧ ∃ d', Alive (apiStep s op).1 d' ∧ responsive (d' - (apiStep s op).1.now) ops = true := by
  obtain ⟨ok, hst, htl⟩ := a
  obtain ⟨d1, d2⟩ := ok.deadline_le htl
  have hsub : s.sockSubscribed = true := ok.subscribed (ok.running.2 (by rw [htl]; nofun))
  -- the invariant and the clock are general; per op: still CONNECTED, no `RESET`, and a deadline the other ops respect
  suffices h : (∀ n, op = .adv n → n ≤ advBound) ∧ (apiStep s op).1.st = .CONNECTED ∧ Out.reset ∉ (apiStep s op).2 ∧
      ∃ d', (apiStep s op).1.hb.tl = .waiting d' ∧ responsive (d' - (s.now + Op.ticks op)) ops = true by
    obtain ⟨hb, h1, h2, d', h3, h4⟩ := h
    exact ⟨h2, d', ⟨hbOk_step s op ok hb, h1, h3⟩, by rw [apiStep_now]; exact h4⟩
  have st := apiStep_step s op
  generalize apiStep s op = r at st ⊢
  have noreset : ∀ {l : List Out}, (∀ o ∈ l, HandlerOut o) → Out.reset ∉ l := fun h hm => (h _ hm).noMark.reset rfl
  cases st with
  | init | shutdown => simp [responsive] at hr
  | deaf a m h => rw [hsub] at h; cases h
  | last a m s1 pre _ h => rw [hst] at h; cases h
  | call op s1 out hp e hi =>
    have : responsive (d - s.now) (op :: ops) = responsive (d - s.now) ops ∧ Op.ticks op = 0 := by
      cases op <;> first | exact ⟨rfl, rfl⟩ | cases hp
    exact ⟨fun n e => (by subst e; cases hp), e.st.trans hst, fun hm => (hi _ hm).reset rfl, d, e.hb ▸ htl,
      by rw [this.2]; exact this.1 ▸ hr⟩
  | junk c => exact ⟨nofun, hst, by simp, d, htl, hr⟩
  | conn up st' out e2 ho =>
    refine ⟨nofun, ?_, noreset ho, d, ?_, hr⟩
    · rcases e2 with e2 | ⟨_, e2⟩
      · exact e2.trans hst
      · rw [hst] at e2; cases e2
    · rw [hbStep_conn_quiet ok.quiet]; exact htl
  | frame a m s1 out k hresp =>
    simp only [responsive, hresp, Bool.false_eq_true, if_false] at hr
    exact ⟨nofun, k.connected_iff.2 hst, noreset k.out, d, k.same.hb ▸ htl, hr⟩
  | resp a m s1 out k hresp =>
    -- the manager re-arms and reports nothing
    obtain ⟨ef, er⟩ := hbStep_resp_quiet ok.quiet htl
    simp only [responsive, hresp, if_true] at hr
    rw [er, List.append_nil, ef]
    exact ⟨nofun, k.connected_iff.2 hst, noreset k.out, s.now + 2640, by rw [ok.hq.timeout],
      by simpa [Op.ticks] using hr⟩
  | adv n =>
    have hr1 : n < d - s.now ∧ responsive (d - s.now - n) ops = true := by simpa [responsive] using hr
    obtain ⟨r1, r2, _⟩ := adv_before_deadline s n d htl ok.hq.flag (by omega)
    simp only [apiStep, doAdv_eq] at r1 r2
    exact ⟨fun n' e => (by cases e; unfold advBound; omega), hst, r1, d, r2,
      by rw [show d - (s.now + Op.ticks (.adv n)) = d - s.now - n by show d - (s.now + n) = _; omega]; exact hr1.2⟩

/-- **no false reset**: connected, the manager running; if a console-version frame arrives at least once in every window
of less than 2640 ticks (`responsive`), no `RESET` is ever output and the manager keeps waiting -/
theorem no_false_reset {s : State} {d : Nat} (a : Alive s d) (ops : List Op) (hr : responsive (d - s.now) ops = true) :
    Out.reset ∉ runOut s ops ∧ ∃ d', Alive (runS s ops) d' := by
  induction ops generalizing s d with
  | nil => exact ⟨by simp, d, a⟩
  | cons op ops ih =>
    obtain ⟨h1, d', a', hr'⟩ := alive_step a op ops hr
    obtain ⟨h2, d'', a''⟩ := ih a' hr'
    refine ⟨?_, d'', by rw [runS_cons]; exact a''⟩
    rw [runOut_cons, List.mem_append]
    rintro (h | h)
    · exact h1 h
    · exact h2 h

end PyAirtouch.Lemmas.Api5
