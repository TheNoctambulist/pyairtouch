import PyAirtouch.Model.SockX
import PyAirtouch.Lemmas.SockQueue
/-!
# The entry a cancelled caller was holding (`Model/SockX.lean`)

A cancellation takes the entry held by the cancelled task out of the in-flight set and changes nothing else
(`SockDoes.cancel_does`), so the invariants of the base model carry over where they are stated (`SockBasic`, `SockQueue`,
`SockOrder`, `SockLoss`).  Here: an identity that was used before and is in neither the queue nor the in-flight set
stays out for ever and is never written again (`astep_gone`) - the fate of that entry.
-/
namespace PyAirtouch.Lemmas.SockX
open PyAirtouch.Model.Sock PyAirtouch.Spec.Trace PyAirtouch.Lemmas.Sock PyAirtouch.Lemmas.RunWith

/-- identity `sid` has been used by a `send`, and no entry of the queue or of the in-flight set carries it -/
def GoneA (sid : Nat) (a : Abs) : Prop :=
  sid ∈ a.used ∧ (∀ x ∈ a.queue, x.sid ≠ sid) ∧ (∀ x ∈ a.fl, x.sid ≠ sid)

theorem astep_gone {a b : Abs} (h : AStep a b) (sid : Nat) : b.used.Nodup → GoneA sid a →
    GoneA sid b ∧ writeAttempts b.trace sid = writeAttempts a.trace sid ∧ wireCount b.trace sid = wireCount a.trace sid := by
  induction h with
  | refl | tick => exact fun _ hg => ⟨hg, rfl, rfl⟩
  | trans h1 h2 ih1 ih2 =>
    intro hn hg
    obtain ⟨g1, w1, c1⟩ := ih1 (hn.sublist h2.used_sublist) hg
    obtain ⟨g2, w2, c2⟩ := ih2 hn g1
    exact ⟨g2, w2.trans w1, c2.trans c1⟩
  | note a ev hq => exact fun _ hg => ⟨hg, writeAttempts_quiet _ _ _ hq, wireCount_quiet _ _ _ hq⟩
  | dropQ a q' hs => exact fun _ hg => ⟨⟨hg.1, fun x hx => hg.2.1 x (hs.subset hx), hg.2.2⟩, rfl, rfl⟩
  | dropF a fl' hs | permF a fl' hs => exact fun _ hg => ⟨⟨hg.1, hg.2.1, fun x hx => hg.2.2 x (hs.subset hx)⟩, rfl, rfl⟩
  | write a e rest wev hq hlt hw =>
    intro _ hg
    have hne : e.sid ≠ sid := hg.2.1 e (by simp [hq])
    exact ⟨⟨hg.1, fun x hx => hg.2.1 x (by simp [hq, hx]), List.forall_mem_cons.2 ⟨hne, hg.2.2⟩⟩,
      by rw [writeAttempts_write _ _ _ _ _ hw, if_neg hne]; rfl, wireCount_write_ne _ _ _ _ _ hw hne⟩
  | requeue a e fl' hf hk =>
    intro _ hg
    have hne : e.sid ≠ sid := hg.2.2 e (by simp [hf])
    exact ⟨⟨hg.1, List.forall_mem_cons.2 ⟨hne, hg.2.1⟩, fun x hx => hg.2.2 x (by simp [hf, hx])⟩, rfl, rfl⟩
  | burn a sid' => exact fun _ hg => ⟨⟨List.mem_append_left _ hg.1, hg.2.1, hg.2.2⟩, rfl, rfl⟩
  | accept a sid' r life ok hcap =>
    intro hn hg
    have hne : sid' ≠ sid := by
      intro heq
      subst heq
      simp only [List.nodup_append, List.mem_singleton] at hn
      exact hn.2.2 sid' hg.1 sid' rfl rfl
    exact ⟨⟨List.mem_append_left _ hg.1, fun x hx => (List.mem_append.1 hx).elim (hg.2.1 x)
      fun hx => List.mem_singleton.1 hx ▸ hne, hg.2.2⟩, writeAttempts_accept _ _ _ _ _ _ _, wireCount_accept _ _ _ _ _ _ _⟩

theorem mem_flOf_iff {ts : List Task} {x : Entry} :
    x ∈ flOf ts ↔ ∃ k ∈ ts, ∃ w r, k.pc = .drainAwait w x r := by
  simp only [flOf, List.mem_flatMap]
  constructor
  · rintro ⟨k, hk, hx⟩
    refine ⟨k, hk, ?_⟩
    cases hp : k.pc <;> rw [hp] at hx <;> simp [hold] at hx
    subst hx
    exact ⟨_, _, rfl⟩
  · rintro ⟨k, hk, w, r, hp⟩
    exact ⟨k, hk, by rw [hp]; simp [hold]⟩

theorem gone_after_cancel {ls : List LabelX} {m m' : Sys} {t w : Nat} {e : Entry} {r : Ret}
    (hn : (sendSidsX ls).Nodup) (hr : runX init ls = some m) (hpc : pcAt m t = some (.drainAwait w e r))
    (hc : stepX m (.cancel t) = some m') : GoneA e.sid (abs (sendSidsX ls) m') := by
  have hinv := ainv_of_runX hn hr
  obtain ⟨k, hk, _, _, rfl⟩ := stepX_cancel hc
  have hkp : k.pc = .drainAwait w e r := by
    unfold pcAt at hpc
    simpa [hk] using hpc
  obtain ⟨h1, h2⟩ := flOf_cancel_split hk
  rw [hkp] at h1
  have he : e ∈ flOf m.tasks := h1.symm.subset (by simp [hold])
  obtain ⟨t0, r0, ha, _⟩ := hinv.flying e he
  have hu : ((m.core.queue ++ e :: flOf (m.tasks.eraseIdx t)).map (·.sid)).Nodup := by
    have := hinv.uniq
    exact (List.Perm.nodup_iff ((List.Perm.append_left m.core.queue h1).map _)).1 this
  have hp : (m.core.queue ++ e :: flOf (m.tasks.eraseIdx t)).Perm (e :: (m.core.queue ++ flOf (m.tasks.eraseIdx t))) :=
    List.perm_middle
  have hu' := (List.Perm.nodup_iff (hp.map _)).1 hu
  simp only [List.map_cons, List.nodup_cons, List.mem_map, List.mem_append] at hu'
  refine ⟨hinv.accUsed _ _ ha, ?_, ?_⟩
  · intro x hx heq
    exact hu'.1 ⟨x, .inl hx, heq⟩
  · intro x hx heq
    exact hu'.1 ⟨x, .inr (h2.subset hx), heq⟩

theorem runX_gone {u : List Nat} {s s' : Sys} {ls : List LabelX} {sid : Nat} (hn : (u ++ sendSidsX ls).Nodup)
    (hg : GoneA sid (abs u s)) (hr : runX s ls = some s') :
    GoneA sid (abs (u ++ sendSidsX ls) s') ∧ writeAttempts s'.core.trace sid = writeAttempts s.core.trace sid ∧
      wireCount s'.core.trace sid = wireCount s.core.trace sid :=
  astep_gone (runX_abs_from ls u s s' hr) sid hn hg

end PyAirtouch.Lemmas.SockX
