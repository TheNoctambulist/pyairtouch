import PyAirtouch.Model.At4.Registry
import PyAirtouch.Lemmas.SpecBits
import PyAirtouch.Lemmas.Dict
import PyAirtouch.Lemmas.At4FF11
/-!
# C05, AirTouch 4: the decoders' reading equals the vendor document's reading

For each kind a relation `Agree<Kind>` (field by field, the correspondence of `harness/specmap.py` with its named
relaxations as explicit disjuncts) and three clauses: a fully consumed payload the decoder accepts as the *response*
form is read by the Spec reader as records that agree one by one; what it reads as the *request* form sharing the id
is `none` or zero records for the Spec's response reader; a Spec reading with an undefined enum code is rejected
(0x2B and 0x2D, the kinds with enum fields).

The C05 statements of the two generations use two vocabularies: `AgreeList` here is `RecordWise` of
`Lemmas/SpecAgree5.lean` (the same relation), `spec<Field>` here is `<field>Word` there, a witness that a
hypothesis is needed is mostly `…_refuted` here and `…_needs_length` there.  The helpers use one vocabulary in both files
(`_tbl` for an enum code table, `read…_eq` for a vendor reader on `FF xx ++ payload`, `decode_cases_<kind>` for the FF10, FF12/FF13 and FF30 decoders, `read_def`);
the AC ability decoder is taken apart in `Lemmas/At4FF11.lean` (`decode_cases`, `decRec_cases`).
-/
namespace PyAirtouch.Lemmas.SpecAgree4
open PyAirtouch.Model
open PyAirtouch.Model.At4
open PyAirtouch.Gen.At4

/-- record by record: same number of records, same order, every pair related -/
def AgreeList {α β : Type} (R : α → β → Prop) : List α → List β → Prop
  | [], [] => True
  | a :: as, b :: bs => R a b ∧ AgreeList R as bs
  | _, _ => False

theorem AgreeList.length_eq {α β : Type} {R : α → β → Prop} :
    ∀ {as : List α} {bs : List β}, AgreeList R as bs → as.length = bs.length
  | [], [], _ => rfl
  | _ :: as, _ :: bs, h => by simp [AgreeList.length_eq (as := as) (bs := bs) h.2]
  | [], _ :: _, h => h.elim
  | _ :: _, [], h => h.elim

theorem AgreeList.exists_of_mem_right {α β : Type} {R : α → β → Prop} :
    ∀ {as : List α} {bs : List β}, AgreeList R as bs → ∀ b ∈ bs, ∃ a ∈ as, R a b
  | _ :: _, _ :: _, h, b, hb => by
    rcases List.mem_cons.mp hb with rfl | hb
    · exact ⟨_, List.mem_cons_self .., h.1⟩
    · obtain ⟨a, ha, hr⟩ := h.2.exists_of_mem_right b hb
      exact ⟨a, List.mem_cons_of_mem _ ha, hr⟩
  | [], _ :: _, h, _, _ => h.elim

instance (bs : Bytes) : Decidable (AllBytes bs) := by unfold AllBytes; infer_instance

theorem allBytes_ext (x y : Nat) (hx : x < 256) (hy : y < 256) (b : Bytes) (hb : AllBytes b) :
    Spec.At4.allBytes (x :: y :: b) = true :=
  (SpecBits.allBytes_iff _).mpr (List.forall_mem_cons.mpr ⟨hx, List.forall_mem_cons.mpr ⟨hy, hb⟩⟩)

theorem AllBytes.tail {b : Nat} {bs : Bytes} (h : AllBytes (b :: bs)) : AllBytes bs :=
  fun x hx => h x (List.mem_cons_of_mem _ hx)

theorem AllBytes.head {b : Nat} {bs : Bytes} (h : AllBytes (b :: bs)) : b < 256 :=
  h b (List.mem_cons_self ..)

theorem readRecords_nil {α : Type} (size : Nat) (rd : List Nat → Option α) (fuel : Nat) :
    Spec.At4.readRecords size rd fuel [] = some [] := by cases fuel <;> rfl

theorem readRecords_append {α : Type} (size : Nat) (rd : List Nat → Option α) (fuel : Nat) (r bs : List Nat)
    (hr : r.length = size) (hpos : 0 < size) :
    Spec.At4.readRecords size rd (fuel + 1) (r ++ bs) =
      match rd r, Spec.At4.readRecords size rd fuel bs with
      | some x, some xs => some (x :: xs)
      | _, _ => none := by
  obtain ⟨c, cs, hc⟩ : ∃ c cs, r ++ bs = c :: cs := by
    cases r with
    | nil => simp only [List.length_nil] at hr; omega
    | cons c cs => exact ⟨c, cs ++ bs, rfl⟩
  have ht : (c :: cs).take size = r := by rw [← hc, ← hr, List.take_left]
  have hd : (c :: cs).drop size = bs := by rw [← hc, ← hr, List.drop_left]
  have hl : ¬ (c :: cs).length < size := by rw [← hc, List.length_append]; omega
  rw [hc]
  simp only [Spec.At4.readRecords, if_neg hl, ht, hd]
  rfl

theorem readRecords_length {α : Type} (size : Nat) (rd : List Nat → Option α) :
    ∀ (fuel : Nat) (bs : List Nat) (recs : List α),
      Spec.At4.readRecords size rd fuel bs = some recs → bs.length = size * recs.length
  | fuel, [], recs, h => by
    rw [readRecords_nil] at h
    cases h; rfl
  | 0, _ :: _, _, h => by cases h
  | fuel + 1, b :: bs, recs, h => by
    simp only [Spec.At4.readRecords] at h
    split at h
    · cases h
    · rename_i hlen
      split at h
      · rename_i r rs hr hrs
        cases h
        have ih := readRecords_length size rd fuel _ rs hrs
        simp only [List.length_drop, List.length_cons, Nat.mul_succ] at ih hlen ⊢
        omega
      · cases h

/-! ## A status kind with fixed-size records

What group status and AC status have in common: the decoder (empty payload = request, announced length a multiple of
the record size, the loop over `dec`) and the vendor's reader (`readRecords` with `rd` on every `size` bytes). -/
structure RecordKind {α β M : Type} (R : α → β → Prop) (req : M) (st : List α → M)
    (decode : Bytes → Nat → Except DecErr (M × Bytes)) (dec : Bytes → Except DecErr (α × Bytes))
    (loop : Nat → Bytes → Except DecErr (List α × Bytes))
    (read : List Nat → Option (List β)) (rd : List Nat → Option β) (size : Nat) : Prop where
  decode_eq : ∀ b n, decode b n =
    if n = 0 then .ok (req, b) else if n % size ≠ 0 then .error .decodeError
    else loop (n / size) b >>= fun p => pure (st p.1, p.2)
  st_ne : ∀ zs, st zs ≠ req
  st_inj : ∀ zs zs', st zs = st zs' → zs = zs'
  loop_zero : ∀ bs, loop 0 bs = .ok ([], bs)
  loop_succ : ∀ n bs, loop (n + 1) bs = dec bs >>= fun p => loop n p.2 >>= fun q => pure (p.1 :: q.1, q.2)
  read_def : ∀ b, read b = if !Spec.At4.allBytes b then none else Spec.At4.readRecords size rd b.length b
  size_pos : 0 < size
  rec_agrees : ∀ bs g rest, AllBytes bs → dec bs = .ok (g, rest) →
    ∃ r, bs = r ++ rest ∧ r.length = size ∧ ∃ s, rd r = some s ∧ R g s

namespace RecordKind
variable {α β M : Type} {R : α → β → Prop} {req : M} {st : List α → M}
  {decode : Bytes → Nat → Except DecErr (M × Bytes)} {dec : Bytes → Except DecErr (α × Bytes)}
  {loop : Nat → Bytes → Except DecErr (List α × Bytes)}
  {read : List Nat → Option (List β)} {rd : List Nat → Option β} {size : Nat}
  (k : RecordKind R req st decode dec loop read rd size)
include k

theorem loop_agrees : ∀ (n : Nat) (b : Bytes) (gs : List α) (rest : Bytes), AllBytes b → loop n b = .ok (gs, rest) →
    ∃ pre recs, b = pre ++ rest ∧ pre.length = size * n ∧ AgreeList R gs recs ∧
      ∀ fuel, pre.length ≤ fuel → Spec.At4.readRecords size rd fuel pre = some recs
  | 0, b, gs, rest, _, h => by
    rw [k.loop_zero] at h
    cases h
    exact ⟨[], [], rfl, rfl, trivial, fun fuel _ => readRecords_nil ..⟩
  | n + 1, b, gs, rest, hb, h => by
    rw [k.loop_succ] at h
    cases hd : dec b with
    | error e => rw [hd] at h; cases h
    | ok p =>
      obtain ⟨g, rest1⟩ := p
      cases hl : loop n rest1 with
      | error e => rw [hd] at h; simp only [bind, Except.bind, hl] at h; cases h
      | ok q =>
        rw [hd] at h
        simp only [bind, Except.bind, hl, pure, Except.pure] at h
        cases h
        obtain ⟨r, rfl, hr, s, hs1, hs2⟩ := k.rec_agrees b g rest1 hb hd
        obtain ⟨pre, recs, hq, hpre, hag, hread⟩ :=
          loop_agrees n rest1 q.1 q.2 (fun x hx => hb x (List.mem_append_right _ hx)) hl
        refine ⟨r ++ pre, s :: recs, by rw [hq, List.append_assoc], ?_, ⟨hs2, hag⟩, ?_⟩
        · rw [List.length_append, hr, hpre, Nat.mul_succ, Nat.add_comm]
        · intro fuel hf
          rw [List.length_append, hr] at hf
          have hpos := k.size_pos
          obtain ⟨f, rfl⟩ : ∃ f, fuel = f + 1 := ⟨fuel - 1, by omega⟩
          rw [readRecords_append size rd f r pre hr hpos, hs1, hread f (by omega)]

theorem decode_cases (b : Bytes) (n : Nat) (m : M) (rest : Bytes) (h : decode b n = .ok (m, rest)) :
    (n = 0 ∧ m = req ∧ rest = b) ∨ ∃ gs, n ≠ 0 ∧ loop (n / size) b = .ok (gs, rest) ∧ m = st gs := by
  rw [k.decode_eq] at h
  split at h
  · cases h; exact .inl ⟨‹_›, rfl, rfl⟩
  · split at h
    · cases h
    · cases hd : loop (n / size) b with
      | error e => simp only [hd, bind, Except.bind] at h; cases h
      | ok p =>
        simp only [hd, bind, Except.bind, pure, Except.pure] at h
        cases h
        exact .inr ⟨p.1, ‹_›, rfl, rfl⟩

theorem decode_agrees (b : Bytes) (n : Nat) (hb : AllBytes b) (gs : List α) (h : decode b n = .ok (st gs, [])) :
    ∃ recs, read b = some recs ∧ AgreeList R gs recs := by
  obtain ⟨_, h, _⟩ | ⟨gs', _, hd, h⟩ := k.decode_cases b n _ _ h
  · exact absurd h (k.st_ne gs)
  · cases k.st_inj _ _ h
    obtain ⟨pre, recs, rfl, _, hag, hread⟩ := k.loop_agrees _ b gs [] hb hd
    rw [List.append_nil] at hb ⊢
    exact ⟨recs, by rw [k.read_def, (SpecBits.allBytes_iff pre).mpr hb]; exact hread _ (Nat.le_refl _), hag⟩

theorem request_form (b : Bytes) (n : Nat) (h : decode b n = .ok (req, [])) : read b = some [] := by
  obtain ⟨_, _, rfl⟩ | ⟨_, _, _, h⟩ := k.decode_cases b n _ _ h
  · rw [k.read_def]; exact readRecords_nil ..
  · exact absurd h.symm (k.st_ne _)

/-- `decode b b.length`: the decoder called as the receive path calls it (announced length = payload length). -/
theorem decode_agrees_of_spec (b : Bytes) (gs : List α) (rest : Bytes) (recs : List β)
    (hd : decode b b.length = .ok (st gs, rest)) (hr : read b = some recs) : AgreeList R gs recs ∧ rest = [] := by
  rw [k.read_def] at hr
  split at hr
  · cases hr
  · rename_i hall
    have hb : AllBytes b := (SpecBits.allBytes_iff b).mp (by simpa using hall)
    have hlen := readRecords_length _ _ _ _ _ hr
    obtain ⟨_, h, _⟩ | ⟨gs', _, hl, h⟩ := k.decode_cases b b.length _ _ hd
    · exact absurd h (k.st_ne gs)
    · cases k.st_inj _ _ h
      rw [hlen, Nat.mul_div_cancel_left _ k.size_pos] at hl
      obtain ⟨pre, recs', hpre, hpl, hag, hread⟩ := k.loop_agrees _ b gs rest hb hl
      have hrest : rest = [] := by
        have := congrArg List.length hpre
        rw [List.length_append, hpl, hlen] at this
        exact List.length_eq_zero_iff.mp (by omega)
      rw [hrest, List.append_nil] at hpre
      subst hpre
      cases (hread _ (Nat.le_refl _)).symm.trans hr
      exact ⟨hag, hrest⟩

theorem undefined_rejected {U : β → Prop} (hU : ∀ g s, R g s → ¬ U s) (b : Bytes) (recs : List β)
    (hr : read b = some recs) (hu : ∃ r ∈ recs, U r) : ∃ e, decode b b.length = .error e := by
  cases hd : decode b b.length with
  | error e => exact ⟨e, rfl⟩
  | ok p =>
    exfalso
    obtain ⟨r, hmem, hur⟩ := hu
    obtain ⟨h0, hm, hrest⟩ | ⟨gs, _, _, hm⟩ := k.decode_cases b b.length p.1 p.2 hd
    · -- the request form is the empty payload, which the vendor reads as no record at all
      cases List.eq_nil_of_length_eq_zero h0
      cases (k.request_form [] 0 (hd.trans (by rw [← hm, ← hrest]))).symm.trans hr
      cases hmem
    · obtain ⟨g, _, hg⟩ := (k.decode_agrees_of_spec b gs p.2 recs (by rw [hd, ← hm]) hr).1.exists_of_mem_right r hmem
      exact hU g r hg hur

end RecordKind

open PyAirtouch.Lemmas.SpecBits

section X2B

/-- `specmap.AT4_GROUP_POWER` -/
def specGroupPower : X2BGroupStatus.GroupPowerState → Spec.At4.GroupPower
  | .OFF => .off
  | .ON => .on
  | .TURBO => .turbo

/-- `specmap.AT4_GROUP_METHOD` -/
def specGroupMethod : X2BGroupStatus.GroupControlMethod → Spec.At4.GroupControlMethod
  | .DAMPER => .percentage
  | .TEMPERATURE => .temperature

/-- `specmap.BATTERY_LOW` -/
def specBatteryLow : X2BGroupStatus.SensorBatteryStatus → Bool
  | .NORMAL => false
  | .LOW => true

/-- `specmap.at4_2B`: all ten fields; temperatures and set-points in tenths of a degree. -/
def AgreeGroupStatus (m : X2B.GroupStatusData) (s : Spec.At4.GroupStatus) : Prop :=
  s.group = m.group_number ∧
  s.power = specGroupPower m.power_state ∧
  s.controlMethod = specGroupMethod m.control_method ∧
  s.openPercentage = m.damper_percentage ∧
  s.batteryLow = specBatteryLow m.battery_status ∧
  s.turboSupport = m.supports_turbo ∧
  ((∃ sp, m.set_point = some sp ∧ s.targetSetpoint = (sp : Int) * 10) ∨
    -- relaxation AT4_2B_SETPOINT_ABSENT_WITHOUT_SENSOR
    (m.set_point = none ∧ s.hasSensor = false)) ∧
  s.hasSensor = m.has_sensor ∧
  (s.temperature = m.temperature ∨
    -- relaxation AT4_2B_TEMPERATURE_ABSENT_WITHOUT_SENSOR
    (m.temperature = none ∧ s.hasSensor = false)) ∧
  s.spill = m.spill_active

theorem groupPower_tbl (n : Nat) (h : n < 4) (ps) (hm : X2BGroupStatus.GroupPowerState.ofNat? n = some ps) :
    Spec.At4.readGroupPower n = specGroupPower ps :=
  (by decide : ∀ n, n < 4 → ∀ ps ∈ X2BGroupStatus.GroupPowerState.ofNat? n,
    Spec.At4.readGroupPower n = specGroupPower ps) n h ps hm

theorem groupPower_none (n : Nat) (h : n < 4) (hm : X2BGroupStatus.GroupPowerState.ofNat? n = none) :
    Spec.At4.readGroupPower n = .other n :=
  (by decide : ∀ n, n < 4 → X2BGroupStatus.GroupPowerState.ofNat? n = none → Spec.At4.readGroupPower n = .other n)
    n h hm

theorem groupMethod_tbl (b : Nat) (cm) (h : X2BGroupStatus.GroupControlMethod.ofNat? (b / 128 % 2) = some cm) :
    (if bitToBool b 7 then Spec.At4.GroupControlMethod.temperature else .percentage) = specGroupMethod cm :=
  (by decide : ∀ v, v < 2 → ∀ cm ∈ X2BGroupStatus.GroupControlMethod.ofNat? v,
    (if decide (v = 1) then Spec.At4.GroupControlMethod.temperature else .percentage) = specGroupMethod cm)
    _ (Nat.mod_lt _ (by decide)) cm h

theorem battery_tbl (b : Nat) (bat) (h : X2BGroupStatus.SensorBatteryStatus.ofNat? (b / 128 % 2) = some bat) :
    bitToBool b 7 = specBatteryLow bat :=
  (by decide : ∀ v, v < 2 → ∀ bat ∈ X2BGroupStatus.SensorBatteryStatus.ofNat? v, decide (v = 1) = specBatteryLow bat)
    _ (Nat.mod_lt _ (by decide)) bat h

theorem temp_agrees_2B (b4 b5 b6 : Nat) (h6 : b6 < 256) :
    Spec.At4.readTemperature b5 b6 = X2B.decTemp (bitToBool b4 7) (be16 b5 b6) ∨
      (X2B.decTemp (bitToBool b4 7) (be16 b5 b6) = none ∧ bitToBool b4 7 = false) := by
  cases hs : bitToBool b4 7
  · exact .inr ⟨rfl, rfl⟩
  · left
    -- `byte56 & 0xFF00 == 0xFF00` is "Byte5 = 0xff"; `(byte56 & 0xFFE0) >> 5` is Byte5 and Bit8-6 of Byte6
    have e : b5 * 256 = 65280 ↔ b5 = 255 := by omega
    simp only [X2B.decTemp, Spec.At4.readTemperature, Bool.not_true, Bool.false_or, be16_div_256 b5 b6 h6,
      X2BGroupStatus.TEMP_UNAVAILABLE, Nat.mul_div_cancel _ (by decide : 0 < 32), be16_div_32, e,
      bits4_top b6 8 5 h6 (by decide), Int.ofNat_eq_natCast, Nat.reducePow, decide_eq_true_eq]

theorem decRec_agrees_2B (bs : Bytes) (g : X2B.GroupStatusData) (rest : Bytes) (hb : AllBytes bs)
    (h : X2B.decRec bs = .ok (g, rest)) :
    ∃ r, bs = r ++ rest ∧ r.length = 6 ∧ ∃ s, Spec.At4.readGroupStatusRecord r = some s ∧ AgreeGroupStatus g s := by
  unfold X2B.decRec at h
  split at h
  · rename_i b1 b2 b3 b4 b5 b6 tl
    split at h
    · rename_i ps cm bat hps hcm hbat
      cases h
      have h1 : b1 < 256 := hb b1 (by simp)
      have h6 : b6 < 256 := hb b6 (by simp)
      refine ⟨[b1, b2, b3, b4, b5, b6], rfl, rfl, _, rfl, ?_⟩
      simp only [AgreeGroupStatus, bit4_eq, bits4_eq, Nat.zero_le, Nat.reduceLeDiff, Nat.reducePow, Nat.reduceSub,
        Nat.div_one, Spec.At4.degToTenths]
      refine ⟨trivial, groupPower_tbl _ (Nat.mod_lt _ (by decide)) ps hps, groupMethod_tbl b2 cm hcm, trivial,
        battery_tbl b3 bat hbat, trivial, ?_, trivial, temp_agrees_2B b4 b5 b6 h6,
        -- spill: the decoder tests bit 4 of the word Byte5 ++ Byte6, the vendor Bit5 of Byte6
        (BitField.bitToBool_mul_two_pow_add b5 b6 (n := 8) (by decide)).symm⟩
      cases hs : bitToBool b4 7
      · exact .inr ⟨rfl, rfl⟩
      · exact .inl ⟨_, rfl, rfl⟩
    · cases h
  · cases h

theorem recordKind_2B : RecordKind (R := AgreeGroupStatus) (req := X2B.Msg.request) (st := X2B.Msg.status)
    (decode := X2B.decode) (dec := X2B.decRec) (loop := X2B.decRecs)
    (read := Spec.At4.readGroupStatus) (rd := Spec.At4.readGroupStatusRecord) (size := 6) where
  decode_eq _ _ := rfl
  st_ne _ := X2B.Msg.noConfusion
  st_inj _ _ := X2B.Msg.status.inj
  loop_zero _ := rfl
  loop_succ _ _ := rfl
  read_def _ := rfl
  size_pos := by decide
  rec_agrees := decRec_agrees_2B

theorem decode_agrees_2B (b : Bytes) (msgLen : Nat) (hb : AllBytes b) (gs : List X2B.GroupStatusData)
    (h : X2B.decode b msgLen = .ok (.status gs, [])) :
    ∃ recs, Spec.At4.readGroupStatus b = some recs ∧ AgreeList AgreeGroupStatus gs recs :=
  recordKind_2B.decode_agrees b msgLen hb gs h

theorem request_form_2B (b : Bytes) (msgLen : Nat)
    (h : X2B.decode b msgLen = .ok (.request, [])) : Spec.At4.readGroupStatus b = some [] :=
  recordKind_2B.request_form b msgLen h

theorem undefined_rejected_2B (b : Bytes) (recs : List Spec.At4.GroupStatus)
    (hr : Spec.At4.readGroupStatus b = some recs) (hu : ∃ r ∈ recs, ∃ n, r.power = .other n) :
    ∃ e, X2B.decode b b.length = .error e :=
  recordKind_2B.undefined_rejected (fun g s hg ⟨n, hn⟩ => by
    have := hg.2.1
    rw [hn] at this
    cases hp : g.power_state <;> rw [hp] at this <;> cases this) b recs hr hu

end X2B

section X2D

/-- `specmap.AT4_AC_POWER` -/
def specAcPower : X2DAcStatus.AcPowerState → Spec.At4.AcPower
  | .OFF => .off
  | .ON => .on

/-- `specmap.AC_MODE` -/
def specAcMode : X2DAcStatus.AcMode → Spec.At4.AcMode
  | .AUTO => .auto
  | .HEAT => .heat
  | .DRY => .dry
  | .FAN => .fan
  | .COOL => .cool
  | .AUTO_HEAT => .autoHeat
  | .AUTO_COOL => .autoCool

/-- `specmap.AT4_AC_FAN` -/
def specAcFan : X2DAcStatus.AcFanSpeed → Spec.At4.AcFanSpeed
  | .AUTO => .auto
  | .QUIET => .quiet
  | .LOW => .low
  | .MEDIUM => .medium
  | .HIGH => .high
  | .POWERFUL => .powerful
  | .TURBO => .turbo

/-- `specmap.at4_2D`: all nine fields; temperature and set-point in tenths of a degree. -/
def AgreeAcStatus (m : X2D.AcStatusData) (s : Spec.At4.AcStatus) : Prop :=
  s.ac = m.ac_number ∧
  s.power = specAcPower m.power_state ∧
  s.mode = specAcMode m.mode ∧
  s.fanSpeed = specAcFan m.fan_speed ∧
  s.spill = m.spill_active ∧
  s.timer = m.timer_set ∧
  s.targetSetpoint = (m.set_point : Int) * 10 ∧
  (s.temperature = some m.temperature ∨
    -- KNOWN FINDING AT4_2D_TEMPERATURE_HAS_NO_ABSENT_VALUE (DESIGN 12.5), kept as a disjunct: the vendor reads
    -- "not available" (Byte5 = 0xff), the plain-`float` field holds (VALUE-500)/10 = 154.0 .. 154.7 (exact value:
    -- `temperature_exact_2D`)
    (s.temperature = none ∧ 1540 ≤ m.temperature ∧ m.temperature ≤ 1547)) ∧
  s.errorCode = m.error_code

theorem acPower_tbl (n : Nat) (h : n < 4) (ps) (hm : X2DAcStatus.AcPowerState.ofNat? n = some ps) :
    Spec.At4.readAcPower n = specAcPower ps :=
  (by decide : ∀ n, n < 4 → ∀ ps ∈ X2DAcStatus.AcPowerState.ofNat? n, Spec.At4.readAcPower n = specAcPower ps) n h ps hm
theorem acMode_tbl (n : Nat) (h : n < 16) (md) (hm : X2DAcStatus.AcMode.ofNat? n = some md) :
    Spec.At4.readAcMode n = specAcMode md :=
  (by decide : ∀ n, n < 16 → ∀ md ∈ X2DAcStatus.AcMode.ofNat? n, Spec.At4.readAcMode n = specAcMode md) n h md hm
theorem acFan_tbl (n : Nat) (h : n < 16) (fs) (hm : X2DAcStatus.AcFanSpeed.ofNat? n = some fs) :
    Spec.At4.readAcFanSpeed n = specAcFan fs :=
  (by decide : ∀ n, n < 16 → ∀ fs ∈ X2DAcStatus.AcFanSpeed.ofNat? n, Spec.At4.readAcFanSpeed n = specAcFan fs) n h fs hm

theorem decodeTemperature_be16 (b5 b6 : Nat) (h5 : b5 < 256) (h6 : b6 < 256) :
    X2D.decodeTemperature (be16 b5 b6) = ((b5 * 8 + b6 / 32 : Nat) : Int) - 500 := by
  rw [X2D.decodeTemperature, be16_div_32, Nat.mod_eq_of_lt (by omega)]

theorem decRec_agrees_2D (bs : Bytes) (a : X2D.AcStatusData) (rest : Bytes) (hb : AllBytes bs)
    (h : X2D.decRec bs = .ok (a, rest)) :
    ∃ r, bs = r ++ rest ∧ r.length = 8 ∧ ∃ s, Spec.At4.readAcStatusRecord r = some s ∧ AgreeAcStatus a s := by
  unfold X2D.decRec at h
  split at h
  · rename_i b1 b2 b3 b4 b5 b6 b7 b8 tl
    split at h
    · cases h
    · rename_i ps hps
      split at h
      · cases h
      · rename_i md hmd
        split at h
        · cases h
        · rename_i fs hfs
          cases h
          have h5 : b5 < 256 := hb b5 (by simp)
          have h6 : b6 < 256 := hb b6 (by simp)
          refine ⟨[b1, b2, b3, b4, b5, b6, b7, b8], rfl, rfl, _, rfl, ?_⟩
          simp only [AgreeAcStatus, Spec.At4.readTemperature, bits4_top b6 8 5 h6 (by decide),
            decodeTemperature_be16 b5 b6 h5 h6]
          simp only [bit4_eq, bits4_eq, Nat.zero_le, Nat.reduceLeDiff, Nat.reducePow, Nat.reduceSub, Nat.div_one,
            Spec.At4.degToTenths]
          refine ⟨trivial, acPower_tbl _ (Nat.mod_lt _ (by decide)) ps hps,
            acMode_tbl _ (Nat.mod_lt _ (by decide)) md hmd, acFan_tbl _ (Nat.mod_lt _ (by decide)) fs hfs,
            trivial, trivial, rfl, ?_, rfl⟩
          by_cases h255 : b5 = 255
          · right
            subst h255
            exact ⟨if_pos rfl, by omega, by omega⟩
          · exact .inl (if_neg h255)
  · cases h

/-- the decoder's temperature is always the 11-bit VALUE minus 500 (tenths), also when Byte5 = 0xff -/
theorem temperature_exact_2D (b1 b2 b3 b4 b5 b6 b7 b8 : Nat) (rest : Bytes) (h5 : b5 < 256) (h6 : b6 < 256)
    (a : X2D.AcStatusData) (rest' : Bytes)
    (h : X2D.decRec (b1 :: b2 :: b3 :: b4 :: b5 :: b6 :: b7 :: b8 :: rest) = .ok (a, rest')) :
    a.temperature = ((b5 * 8 + Spec.At4.bits b6 8 6 : Nat) : Int) - 500 := by
  simp only [X2D.decRec] at h
  split at h
  · cases h
  · split at h
    · cases h
    · split at h
      · cases h
      · cases h
        rw [bits4_top b6 8 5 h6 (by decide)]
        exact decodeTemperature_be16 b5 b6 h5 h6

theorem recordKind_2D : RecordKind (R := AgreeAcStatus) (req := X2D.Msg.request) (st := X2D.Msg.status)
    (decode := X2D.decode) (dec := X2D.decRec) (loop := X2D.decRecs)
    (read := Spec.At4.readAcStatus) (rd := Spec.At4.readAcStatusRecord) (size := 8) where
  decode_eq _ _ := rfl
  st_ne _ := X2D.Msg.noConfusion
  st_inj _ _ := X2D.Msg.status.inj
  loop_zero _ := rfl
  loop_succ _ _ := rfl
  read_def _ := rfl
  size_pos := by decide
  rec_agrees := decRec_agrees_2D

theorem decode_agrees_2D (b : Bytes) (msgLen : Nat) (hb : AllBytes b) (as : List X2D.AcStatusData)
    (h : X2D.decode b msgLen = .ok (.status as, [])) :
    ∃ recs, Spec.At4.readAcStatus b = some recs ∧ AgreeList AgreeAcStatus as recs :=
  recordKind_2D.decode_agrees b msgLen hb as h

theorem request_form_2D (b : Bytes) (msgLen : Nat)
    (h : X2D.decode b msgLen = .ok (.request, [])) : Spec.At4.readAcStatus b = some [] :=
  recordKind_2D.request_form b msgLen h

/-- the vendor reading of a record holds an undefined code in one of the three enum fields -/
def UndefinedAcStatus (r : Spec.At4.AcStatus) : Prop :=
  (∃ n, r.power = .notAvailable n) ∨ (∃ n, r.mode = .notAvailable n) ∨ (∃ n, r.fanSpeed = .notAvailable n)

theorem AgreeAcStatus.defined {a : X2D.AcStatusData} {s : Spec.At4.AcStatus} (h : AgreeAcStatus a s) :
    ¬ UndefinedAcStatus s := by
  obtain ⟨_, hp, hm, hf, _⟩ := h
  rintro (⟨n, hn⟩ | ⟨n, hn⟩ | ⟨n, hn⟩)
  · rw [hn] at hp; cases hq : a.power_state <;> rw [hq] at hp <;> cases hp
  · rw [hn] at hm; cases hq : a.mode <;> rw [hq] at hm <;> cases hm
  · rw [hn] at hf; cases hq : a.fan_speed <;> rw [hq] at hf <;> cases hf

theorem undefined_rejected_2D (b : Bytes) (recs : List Spec.At4.AcStatus)
    (hr : Spec.At4.readAcStatus b = some recs) (hu : ∃ r ∈ recs, UndefinedAcStatus r) :
    ∃ e, X2D.decode b b.length = .error e :=
  recordKind_2D.undefined_rejected (fun _ _ hg => hg.defined) b recs hr hu

end X2D

section FF12

theorem untilNul_eq (bs : List Nat) : Spec.At4.untilNul bs = cStringPrefix bs := by
  induction bs with
  | nil => rfl
  | cons b bs ih =>
    simp only [Spec.At4.untilNul, cStringPrefix, List.takeWhile_cons]
    by_cases h : b = 0
    · simp [h]
    · simp only [h, ↓reduceIte, ne_eq, not_false_eq_true, decide_true]
      rw [ih]; rfl

/-- `specmap.at4_FF12`: one entry of the mapping against one Spec record (name = its UTF-8 bytes) -/
def AgreeGroupName (p : Nat × Bytes) (s : Spec.At4.GroupName) : Prop :=
  s.group = p.1 ∧ s.name = p.2

/-- `specmap._collapse_duplicates`, one step: a number seen before keeps its position and takes the new record -/
def collapseInsert (acc : List Spec.At4.GroupName) (r : Spec.At4.GroupName) : List Spec.At4.GroupName :=
  if acc.any (·.group = r.group) then acc.map (fun q => if q.group = r.group then r else q) else acc ++ [r]

/-- `specmap._collapse_duplicates`: the Spec's list reduced the way a mapping is filled
(position of the first occurrence, name of the last) -/
def collapse (recs : List Spec.At4.GroupName) : List Spec.At4.GroupName := recs.foldl collapseInsert []

/-- `specmap.compare` for the name kinds: record by record; or, relaxation
NAMES_DUPLICATE_NUMBER_LAST_WINS, only when the Spec's records really repeat a number, against the collapsed list -/
def AgreeGroupNames (d : List (Nat × Bytes)) (recs : List Spec.At4.GroupName) : Prop :=
  AgreeList AgreeGroupName d recs ∨
    -- relaxation NAMES_DUPLICATE_NUMBER_LAST_WINS
    (¬ (recs.map (·.group)).Nodup ∧ AgreeList AgreeGroupName d (collapse recs))

/-- a vendor record as an entry of the decoder's mapping -/
def entry (s : Spec.At4.GroupName) : Nat × Bytes := (s.group, s.name)

theorem agreeList_entry : ∀ xs : List Spec.At4.GroupName, AgreeList AgreeGroupName (xs.map entry) xs
  | [] => trivial
  | _ :: xs => ⟨⟨rfl, rfl⟩, agreeList_entry xs⟩

theorem map_collapseInsert (accS : List Spec.At4.GroupName) (r : Spec.At4.GroupName) :
    (collapseInsert accS r).map entry = dictInsert (accS.map entry) r.group r.name := by
  unfold collapseInsert dictInsert
  rw [List.any_map]
  split
  · rw [if_pos ‹_›, List.map_map, List.map_map]
    exact List.map_congr_left fun q _ => by by_cases h : q.group = r.group <;> simp [h, entry]
  · rw [if_neg ‹_›, List.map_append]; rfl

theorem map_foldl_collapseInsert : ∀ (recs acc : List Spec.At4.GroupName),
    (recs.foldl collapseInsert acc).map entry = recs.foldl (fun d r => dictInsert d r.group r.name) (acc.map entry)
  | [], _ => rfl
  | r :: rs, acc => by rw [List.foldl_cons, List.foldl_cons, map_foldl_collapseInsert rs, map_collapseInsert]

theorem collapse_nodup (recs : List Spec.At4.GroupName) (h : (recs.map (·.group)).Nodup) :
    collapse recs = recs := by
  have e := map_foldl_collapseInsert recs []
  rw [List.map_nil, Dict.foldl_dictInsert_nodup Spec.At4.GroupName.group Spec.At4.GroupName.name recs []
    (by simpa only [dictKeys, List.nil_append, List.map_map, Function.comp_def] using h)] at e
  exact (List.map_inj_right fun a b hab => by cases a; cases b; cases hab; rfl).mp e

theorem decGroups_agrees_FF12 : ∀ (n : Nat) (buf : Bytes) (fuel : Nat) (accS : List Spec.At4.GroupName)
    (d : List (Nat × Bytes)) (rest : Bytes),
    buf.length = 9 * n → buf.length ≤ fuel → FF12.decGroups n buf (accS.map entry) = .ok (d, rest) →
    ∃ recs, Spec.At4.readRecords 9 Spec.At4.readGroupNameRecord fuel buf = some recs ∧ rest = [] ∧
      d = (recs.foldl collapseInsert accS).map entry
  | 0, buf, fuel, accS, d, rest, hl, _, h => by
    cases List.eq_nil_of_length_eq_zero hl
    cases h
    exact ⟨[], readRecords_nil .., rfl, rfl⟩
  | n + 1, g :: tl, fuel, accS, d, rest, hl, hf, h => by
    simp only [FF12.decGroups, X1FFF12GroupNames.GROUP_NAME_LENGTH] at h
    split at h
    · cases h
    · rename_i name hname
      simp only [List.length_cons] at hl hf
      obtain ⟨f, rfl⟩ : ∃ f, fuel = f + 1 := ⟨fuel - 1, by omega⟩
      have htake : (tl.take 8).length = 8 := by simp only [List.length_take]; omega
      have hrec : Spec.At4.readGroupNameRecord (g :: tl.take 8) =
          some { group := g, name := Spec.At4.untilNul (tl.take 8) } := by
        simp [Spec.At4.readGroupNameRecord, htake]
      have hnm : name = Spec.At4.untilNul (tl.take 8) := by
        simp only [decodeCString] at hname
        split at hname
        · cases hname; exact (untilNul_eq _).symm
        · cases hname
      rw [hnm, ← map_collapseInsert accS ⟨g, _⟩] at h
      obtain ⟨recs, hrecs, hrest, hd⟩ := decGroups_agrees_FF12 n (tl.drop 8) f _ d rest
        (by simp only [List.length_drop]; omega) (by simp only [List.length_drop]; omega) h
      refine ⟨_ :: recs, ?_, hrest, hd⟩
      have hsplit : g :: tl = (g :: tl.take 8) ++ tl.drop 8 := by rw [List.cons_append, List.take_append_drop]
      rw [hsplit, readRecords_append 9 _ f _ _ (by rw [List.length_cons, htake]) (by decide), hrec, hrecs]

theorem decode_cases_FF12 (b : Bytes) (msgLen : Nat) (m : FF12.Msg) (rest : Bytes)
    (h : FF12.decode b msgLen = .ok (m, rest)) :
    (msgLen = 0 ∧ m = .request ⟨none⟩ ∧ rest = b) ∨ (∃ g, b = g :: rest ∧ m = .request ⟨some g⟩) ∨
      (msgLen % 9 = 0 ∧ ∃ d, FF12.decGroups (msgLen / 9) b [] = .ok (d, rest) ∧ m = .message ⟨d⟩) := by
  unfold FF12.decode at h
  split at h
  · cases h; exact .inl ⟨‹_›, rfl, rfl⟩
  · split at h
    · split at h
      · cases h
      · cases h; exact .inr (.inl ⟨_, rfl, rfl⟩)
    · split at h
      · cases h
      · rename_i hmod
        split at h
        · cases h
        · rename_i d rest' hdec
          cases h
          exact .inr (.inr ⟨Decidable.not_not.mp hmod, d, hdec, rfl⟩)

theorem decode_agrees_FF12 (b : Bytes) (msgLen : Nat) (hb : AllBytes b) (hlen : msgLen = b.length)
    (m : FF12.GroupNamesMessage) (h : FF12.decode b msgLen = .ok (.message m, [])) :
    ∃ recs, Spec.At4.readGroupNames ([0xFF, 0x12] ++ b) = some recs ∧ AgreeGroupNames m.group_names recs := by
  subst hlen
  obtain ⟨_, h, _⟩ | ⟨_, _, h⟩ | ⟨hmod, d, hdec, h⟩ := decode_cases_FF12 b _ _ _ h
  · cases h
  · cases h
  · cases h
    obtain ⟨recs, hrecs, _, rfl⟩ := decGroups_agrees_FF12 (b.length / 9) b b.length [] d _
      (by omega) (Nat.le_refl _) hdec
    have hag : AgreeList AgreeGroupName ((recs.foldl collapseInsert []).map entry) (collapse recs) :=
      agreeList_entry _
    have hall := allBytes_ext 0xFF 0x12 (by decide) (by decide) b hb
    refine ⟨recs, ?_, ?_⟩
    · simp only [Spec.At4.readGroupNames, List.cons_append, List.nil_append, hall, Bool.not_true,
        Bool.false_eq_true, ↓reduceIte, Spec.At4.extPrefix, Spec.At4.extGroupName, and_self, hrecs]
    · by_cases hnd : (recs.map (·.group)).Nodup
      · rw [collapse_nodup recs hnd] at hag; exact .inl hag
      · right; exact ⟨hnd, hag⟩

/-- why `msgLen = b.length` is needed: a header announcing 9 bytes over a 1-byte payload is decoded (the
name slice is simply short); the vendor reader refuses the incomplete record.  The receive path never does this. -/
theorem decode_agrees_FF12_short_refuted :
    FF12.decode [5] 9 = .ok (.message ⟨[(5, [])]⟩, []) ∧ Spec.At4.readGroupNames [0xFF, 0x12, 5] = none := by
  constructor <;> rfl

theorem request_form_FF12 (b : Bytes) (msgLen : Nat) (hb : AllBytes b) (r : FF12.GroupNamesRequest)
    (h : FF12.decode b msgLen = .ok (.request r, [])) :
    Spec.At4.readGroupNames ([0xFF, 0x12] ++ b) = some [] ∨ Spec.At4.readGroupNames ([0xFF, 0x12] ++ b) = none := by
  obtain ⟨_, _, rfl⟩ | ⟨g, rfl, _⟩ | ⟨_, _, _, h⟩ := decode_cases_FF12 b msgLen _ _ h
  · exact .inl (by decide)
  · have hg : g < 256 := hb g (by simp)
    exact .inr (by simp [Spec.At4.readGroupNames, Spec.At4.readRecords, Spec.At4.allBytes, hg, Spec.At4.extPrefix,
      Spec.At4.extGroupName])
  · cases h

end FF12

section FF10

/-- `specmap.ff10`: `None` = no error = the empty string; a text = its UTF-8 bytes -/
def AgreeAcError (m : FF10.AcErrorInformationMessage) (s : Spec.At4.AcError) : Prop :=
  s.ac = m.ac_number ∧ s.errorInfo = m.error_info.getD []

theorem decode_cases_FF10 (b : Bytes) (msgLen : Nat) (m : FF10.Msg) (rest : Bytes)
    (h : FF10.decode b msgLen = .ok (m, rest)) :
    ∃ ac tl, b = ac :: tl ∧ ((m = .request ⟨ac⟩ ∧ rest = tl) ∨ ∃ n body, tl = n :: body ∧ rest = body.drop n ∧
      m = .message ⟨ac, if n > 0 then some (body.take n) else none⟩) := by
  unfold FF10.decode at h
  split at h
  · cases h
  · rename_i ac tl
    refine ⟨ac, tl, rfl, ?_⟩
    split at h
    · cases h; exact .inl ⟨rfl, rfl⟩
    · split at h
      · cases h
      · rename_i n body
        refine .inr ⟨n, body, rfl, ?_⟩
        split at h
        · rename_i hn
          simp only at h
          split at h
          · cases h; exact ⟨rfl, by rw [if_pos hn]⟩
          · cases h
        · rename_i hn
          cases h
          exact ⟨by rw [Nat.eq_zero_of_not_pos hn]; rfl, by rw [if_neg hn]⟩

theorem readAcError_eq (ac n : Nat) (body : Bytes) (hb : AllBytes (ac :: n :: body)) :
    Spec.At4.readAcError ([0xFF, 0x10] ++ ac :: n :: body) =
      if body.length = n then some { ac := ac, errorInfo := body } else none := by
  have hall := allBytes_ext 0xFF 0x10 (by decide) (by decide) _ hb
  simp only [Spec.At4.readAcError, List.cons_append, List.nil_append, hall, Bool.not_true, Bool.false_eq_true,
    ↓reduceIte, Spec.At4.extPrefix, Spec.At4.extAcError, true_and]

/-- `hlenbyte`: the length byte (vendor Byte4) does not exceed the bytes that follow it.  Without it the statement is
false (`decode_agrees_FF10_refuted`): the decoder slices `buffer[2 : 2 + n]` and accepts a short slice, the vendor
reader requires exactly `n` bytes. -/
theorem decode_agrees_FF10 (b : Bytes) (msgLen : Nat) (hb : AllBytes b)
    (hlenbyte : ∀ ac n body, b = ac :: n :: body → n ≤ body.length)
    (m : FF10.AcErrorInformationMessage) (h : FF10.decode b msgLen = .ok (.message m, [])) :
    ∃ s, Spec.At4.readAcError ([0xFF, 0x10] ++ b) = some s ∧ AgreeAcError m s := by
  obtain ⟨ac, tl, rfl, ⟨h, _⟩ | ⟨n, body, rfl, hrest, h⟩⟩ := decode_cases_FF10 b msgLen _ _ h
  · cases h
  · cases h
    have hle := hlenbyte ac n body rfl
    have hlen : body.length = n := by
      have := congrArg List.length hrest
      rw [List.length_drop, List.length_nil] at this
      omega
    refine ⟨⟨ac, body⟩, by rw [readAcError_eq ac n body hb, if_pos hlen], rfl, ?_⟩
    subst hlen
    by_cases hn : body.length > 0
    · simp only [hn, ↓reduceIte, List.take_length, Option.getD_some]
    · rw [if_neg hn, List.length_eq_zero_iff.mp (Nat.eq_zero_of_not_pos hn)]; rfl

/-- without `hlenbyte`, `decode_agrees_FF10` is FALSE: payload `01 01` (AC 1, length byte 1, no text
byte), announced length 2 = payload length.  Decoder: `AcErrorInformationMessage(ac_number=1, error_info="")`,
nothing left over; vendor reader of `FF 10 01 01`: not a message. -/
theorem decode_agrees_FF10_refuted :
    FF10.decode [1, 1] 2 = .ok (.message ⟨1, some []⟩, []) ∧ Spec.At4.readAcError [0xFF, 0x10, 1, 1] = none := by
  constructor <;> rfl

theorem request_form_FF10 (b : Bytes) (msgLen : Nat) (r : FF10.AcErrorInformationRequest)
    (h : FF10.decode b msgLen = .ok (.request r, [])) : Spec.At4.readAcError ([0xFF, 0x10] ++ b) = none := by
  obtain ⟨ac, tl, rfl, ⟨_, rfl⟩ | ⟨_, _, _, _, h⟩⟩ := decode_cases_FF10 b msgLen _ _ h
  · simp [Spec.At4.readAcError]
  · cases h

end FF10

section FF30

theorem model_splitOn_ne_nil (sep : Nat) : ∀ bs : Bytes, Model.splitOn sep bs ≠ []
  | [] => by simp [Model.splitOn]
  | b :: bs => by
    simp only [Model.splitOn]
    split
    · simp
    · split <;> simp

theorem splitOn_eq (sep : Nat) : ∀ bs : Bytes, Spec.At4.splitOn sep bs = Model.splitOn sep bs
  | [] => rfl
  | b :: bs => by
    simp only [Spec.At4.splitOn, Model.splitOn, splitOn_eq sep bs]
    cases hs : Model.splitOn sep bs with
    | nil => exact absurd hs (model_splitOn_ne_nil sep bs)
    | cons p ps => by_cases hc : b = sep <;> simp [hc]

/-- `specmap.ff30`: `update_available` and the versions (texts = their UTF-8 bytes); `update_sign` is omitted -/
def AgreeConsoleVersion (m : FF30.ConsoleVersionMessage) (s : Spec.At4.ConsoleVersion) : Prop :=
  s.updateAvailable = m.update_available ∧ s.versions = m.versions

theorem decode_cases_FF30 (b : Bytes) (msgLen : Nat) (m : FF30.Msg) (rest : Bytes)
    (h : FF30.decode b msgLen = .ok (m, rest)) :
    (m = .request ∧ rest = b) ∨ ∃ u n body, b = u :: n :: body ∧ rest = body.drop n ∧
      m = .message ⟨decide (u ≠ 0), splitOn FF30.sepByte (body.take n)⟩ := by
  unfold FF30.decode at h
  split at h
  · cases h; exact .inl ⟨rfl, rfl⟩
  · split at h
    · cases h
    · cases h
    · rename_i u n body
      simp only at h
      split at h
      · cases h; exact .inr ⟨u, n, body, rfl, rfl, rfl⟩
      · cases h

theorem decode_agrees_FF30 (b : Bytes) (msgLen : Nat) (hb : AllBytes b)
    (hlenbyte : ∀ u n body, b = u :: n :: body → n ≤ body.length)
    (m : FF30.ConsoleVersionMessage) (h : FF30.decode b msgLen = .ok (.message m, [])) :
    ∃ s, Spec.At4.readConsoleVersion ([0xFF, 0x30] ++ b) = some s ∧ AgreeConsoleVersion m s := by
  obtain ⟨h, _⟩ | ⟨u, n, body, rfl, hrest, h⟩ := decode_cases_FF30 b msgLen _ _ h
  · cases h
  · cases h
    have hle := hlenbyte u n body rfl
    have hall := allBytes_ext 0xFF 0x30 (by decide) (by decide) _ hb
    have hlen : body.length = n := by
      have := congrArg List.length hrest
      rw [List.length_drop, List.length_nil] at this
      omega
    refine ⟨⟨u, Spec.At4.splitOn 0x7c body⟩, ?_, ?_, ?_⟩
    · simp only [Spec.At4.readConsoleVersion, List.cons_append, List.nil_append, hall, Bool.not_true,
        Bool.false_eq_true, ↓reduceIte, Spec.At4.extPrefix, Spec.At4.extConsoleVersion, hlen, and_self]
    · simp only [Spec.At4.ConsoleVersion.updateAvailable]
      by_cases hu : u = 0 <;> simp [hu]
    · simp only [splitOn_eq, FF30.sepByte]
      rw [← hlen, List.take_length]

/-- without `hlenbyte` (as for 0xFF10), `decode_agrees_FF30` is FALSE: payload `00 05` (no update, length byte 5, no
text), announced length 2 = payload length.  Decoder: `ConsoleVersionMessage(False, [""])`, nothing left over;
vendor reader of `FF 30 00 05`: not a message. -/
theorem decode_agrees_FF30_refuted :
    FF30.decode [0, 5] 2 = .ok (.message ⟨false, [[]]⟩, []) ∧
      Spec.At4.readConsoleVersion [0xFF, 0x30, 0, 5] = none := by
  constructor <;> rfl

theorem request_form_FF30 (b : Bytes) (msgLen : Nat)
    (h : FF30.decode b msgLen = .ok (.request, [])) : Spec.At4.readConsoleVersion ([0xFF, 0x30] ++ b) = none := by
  obtain ⟨_, rfl⟩ | ⟨_, _, _, _, _, h⟩ := decode_cases_FF30 b msgLen _ _ h
  · rfl
  · cases h

end FF30

section FF11

open PyAirtouch.Gen.At4.X2CAcCtrl (AcModeControl AcFanSpeedControl)

/-- package group `n` is shown iff bit `n` of the little-endian display word is set: Bit `n+1` of Byte27 for the
first eight groups, of Byte28 for the others -/
theorem groupDisplay_eq (d1 d2 : Nat) (h1 : d1 < 256) :
    (List.range 16).map (fun n => decide (n ∈ FF11.decGroupDisplay (d1 + 256 * d2))) =
      Spec.At4.bitsLowFirst d1 ++ Spec.At4.bitsLowFirst d2 := by
  have hm : ∀ n ∈ List.range 16, decide (n ∈ FF11.decGroupDisplay (d1 + 256 * d2)) =
      if n < 8 then bitToBool d1 n else bitToBool d2 (n - 8) := by
    intro n hn
    simp only [At4FF11.mem_decGroupDisplay, List.mem_range.mp hn, true_and, bitToBool_le16 _ _ _ h1, Bool.decide_eq_true]
  rw [List.map_congr_left hm]
  simp only [Spec.At4.bitsLowFirst, List.map_cons, List.map_nil, bit4_eq]
  rfl

/-- `specmap.at4_FF11`: every field but `following_length` and `extra` (omitted: not part of `AcAbility`).
Support mappings are read by key, as `specmap._support` does; `groups` (package group n = the document's
"Group n+1") against the 16 display flags. -/
def AgreeAcAbility (m : FF11.AcAbility) (s : Spec.At4.AcAbility) : Prop :=
  s.ac = m.ac_number ∧ s.name = m.ac_name ∧ s.startGroup = m.start_group ∧ s.groupCount = m.group_count ∧
  (m.ac_mode_support.lookup .COOL = some s.modeCool ∧ m.ac_mode_support.lookup .FAN = some s.modeFan ∧
    m.ac_mode_support.lookup .DRY = some s.modeDry ∧ m.ac_mode_support.lookup .HEAT = some s.modeHeat ∧
    m.ac_mode_support.lookup .AUTO = some s.modeAuto) ∧
  (m.fan_speed_support.lookup .TURBO = some s.fanTurbo ∧ m.fan_speed_support.lookup .POWERFUL = some s.fanPowerful ∧
    m.fan_speed_support.lookup .HIGH = some s.fanHigh ∧ m.fan_speed_support.lookup .MEDIUM = some s.fanMedium ∧
    m.fan_speed_support.lookup .LOW = some s.fanLow ∧ m.fan_speed_support.lookup .QUIET = some s.fanQuiet ∧
    m.fan_speed_support.lookup .AUTO = some s.fanAuto) ∧
  s.minSetpoint = (m.min_set_point : Int) * 10 ∧ s.maxSetpoint = (m.max_set_point : Int) * 10 ∧
  (match m.groups with
    | none => s.groupDisplay = none
    | some gs => (∀ g ∈ gs, g ≤ 15) ∧
        s.groupDisplay = some ((List.range 16).map fun n => decide (n ∈ gs)))

theorem agreeAcAbility_of (ac len : Nat) (name16 : Bytes) (sg gc b23 b24 mn mx : Nat) (groups : Option (List Nat))
    (disp : Option (List Bool)) (extra : List Nat)
    (hd : match groups with
      | none => disp = none
      | some gs => (∀ g ∈ gs, g ≤ 15) ∧ disp = some ((List.range 16).map fun n => decide (n ∈ gs))) :
    AgreeAcAbility
      { ac_number := ac, ac_name := cStringPrefix name16, ac_mode_support := FF11.decModeSupport b23,
        fan_speed_support := FF11.decFanSpeedSupport b24, min_set_point := mn, max_set_point := mx,
        groups := groups, start_group := sg, group_count := gc }
      { ac := ac, followingLength := len, name := Spec.At4.untilNul name16, startGroup := sg, groupCount := gc,
        modeCool := Spec.At4.bit b23 5, modeFan := Spec.At4.bit b23 4, modeDry := Spec.At4.bit b23 3,
        modeHeat := Spec.At4.bit b23 2, modeAuto := Spec.At4.bit b23 1,
        fanTurbo := Spec.At4.bit b24 7, fanPowerful := Spec.At4.bit b24 6, fanHigh := Spec.At4.bit b24 5,
        fanMedium := Spec.At4.bit b24 4, fanLow := Spec.At4.bit b24 3, fanQuiet := Spec.At4.bit b24 2,
        fanAuto := Spec.At4.bit b24 1,
        minSetpoint := Spec.At4.degToTenths mn, maxSetpoint := Spec.At4.degToTenths mx,
        groupDisplay := disp, extra := extra } := by
  simp only [AgreeAcAbility, bit4_eq, Spec.At4.degToTenths]
  exact ⟨trivial, untilNul_eq _, trivial, trivial, ⟨rfl, rfl, rfl, rfl, rfl⟩, ⟨rfl, rfl, rfl, rfl, rfl, rfl, rfl⟩,
    rfl, rfl, hd⟩

/-- The cases at the end of the proof, by following length `len`: 22: no display bytes; 23: one undescribed byte, no
display bytes; 24 and more: display bytes at Byte27/28, the rest undescribed. -/
theorem decRec_agrees_FF11 (ac len : Nat) (r : Bytes) (avail : Nat) (hb : AllBytes r)
    (a : FF11.AcAbility) (fl : Nat) (h : FF11.decRec (ac :: len :: r) avail = .ok (a, fl)) :
    fl = len ∧ 22 ≤ len ∧ 2 + len ≤ avail ∧ (len ≤ r.length →
      ∃ s, Spec.At4.readAcAbilityBody ac len (r.take len) = some s ∧ AgreeAcAbility a s) := by
  obtain ⟨ac', r', sg, gc, b23, b24, mn, mx, after, groups, name, hbs, hdrop, hbase, hfit, hgroups, hname, rfl⟩ :=
    At4FF11.decRec_cases _ _ _ _ h
  obtain ⟨h1, h2, h3⟩ : ac = ac' ∧ len = fl ∧ r = r' := by simpa using hbs
  subst h1 h2 h3
  simp only [FF11.nameLen] at hdrop hname
  simp only [X1FFF11AcAbility.FOLLOWING_LENGTH_BASE] at hbase
  have hnm : name = cStringPrefix (r.take 16) := by
    simp only [decodeCString] at hname
    split at hname
    · cases hname; rfl
    · cases hname
  subst hnm
  refine ⟨rfl, by omega, by omega, fun hle => ?_⟩
  obtain ⟨k, rfl⟩ : ∃ k, len = 22 + k := ⟨len - 22, by omega⟩
  have hbt : (r.take (22 + k)).take 16 = r.take 16 := by
    rw [List.take_take]; congr 1; omega
  have hbd : (r.take (22 + k)).drop 16 = sg :: gc :: b23 :: b24 :: mn :: mx :: after.take k := by
    rw [List.drop_take, hdrop, show 22 + k - 16 = k + 6 by omega]
    simp only [List.take_succ_cons]
  have hc : ¬ ((r.take (22 + k)).length ≠ 22 + k ∨ 22 + k < 22) := by
    simp only [List.length_take]; omega
  have hal : k ≤ after.length := by
    have := congrArg List.length hdrop
    simp only [List.length_drop, List.length_cons] at this
    omega
  unfold Spec.At4.readAcAbilityBody
  rw [if_neg hc]
  simp only [hbd, hbt]
  -- the display flags: the decoder looks at the following length, the vendor reader at the bytes
  obtain ⟨hlt, rfl⟩ | ⟨hge, lo, hi, tl, rfl, rfl⟩ := At4FF11.decGroups_cases _ _ _ hgroups
  · match k, hlt, hal with
    | 0, _, _ => exact ⟨_, rfl, agreeAcAbility_of _ _ _ _ _ _ _ _ _ none _ _ rfl⟩
    | 1, _, hal =>
      obtain ⟨x, tl, rfl⟩ := List.exists_cons_of_length_pos hal
      exact ⟨_, rfl, agreeAcAbility_of _ _ _ _ _ _ _ _ _ none _ _ rfl⟩
    | k + 2, hlt, _ => omega
  · obtain ⟨k, rfl⟩ : ∃ j, k = j + 2 := ⟨k - 2, by omega⟩
    have hlo : lo < 256 := hb lo (List.mem_of_mem_drop (by rw [hdrop]; simp))
    exact ⟨_, rfl, agreeAcAbility_of _ _ _ _ _ _ _ _ _ (some _) _ _
      ⟨fun g hg => Nat.le_of_lt_succ ((At4FF11.mem_decGroupDisplay _ g).mp hg).1, (groupDisplay_eq lo hi hlo).symm ▸ rfl⟩⟩

theorem readAcAbilityRecords_cons (fuel ac len : Nat) (r : List Nat) (recs : List Spec.At4.AcAbility)
    (h : Spec.At4.readAcAbilityRecords fuel (ac :: len :: r) = some recs) :
    ∃ f s rs, fuel = f + 1 ∧ recs = s :: rs ∧ len ≤ r.length ∧
      Spec.At4.readAcAbilityBody ac len (r.take len) = some s ∧ Spec.At4.readAcAbilityRecords f (r.drop len) = some rs := by
  match fuel, h with
  | 0, h => cases h
  | f + 1, h =>
    simp only [Spec.At4.readAcAbilityRecords] at h
    split at h
    · rename_i s rs hs hrs
      cases h
      refine ⟨f, s, rs, rfl, rfl, ?_, hs, hrs⟩
      -- the vendor reader accepts a body only at its announced length
      unfold Spec.At4.readAcAbilityBody at hs
      split at hs
      · cases hs
      · rename_i hc
        rw [List.length_take] at hc
        omega
    · cases h

theorem decode_FF11_inv (b : Bytes) (msgLen : Nat) (acs : List FF11.AcAbility)
    (h : FF11.decode b msgLen = .ok (.ability acs, [])) :
    msgLen ≠ 0 ∧ FF11.decLoop b msgLen 0 = .ok (acs, msgLen) ∧ b.drop msgLen = [] := by
  obtain ⟨_, h, _⟩ | ⟨_, _, _, h⟩ | ⟨h0, acs', hloop, h, hrest⟩ := At4FF11.decode_cases b msgLen _ _ h
  · cases h
  · cases h
  · cases h; exact ⟨h0, hloop, hrest.symm⟩

theorem readAcAbility_eq (b : Bytes) (hb : AllBytes b) :
    Spec.At4.readAcAbility ([0xFF, 0x11] ++ b) = Spec.At4.readAcAbilityRecords b.length b := by
  have hall := allBytes_ext 0xFF 0x11 (by decide) (by decide) _ hb
  simp only [Spec.At4.readAcAbility, List.cons_append, List.nil_append, hall, Bool.not_true,
    Bool.false_eq_true, ↓reduceIte, Spec.At4.extPrefix, Spec.At4.extAcAbility, and_self]

/-- The second conjunct: if the vendor reader reads what is left at all, the bytes the loop walked (and skipped) are
all there. -/
theorem decLoop_reads_FF11 (b : Bytes) (hb : AllBytes b) (msgLen offset : Nat) :
    ∀ (acs : List FF11.AcAbility), FF11.decLoop b msgLen offset = .ok (acs, msgLen) → b.drop msgLen = [] →
    ∀ (fuel : Nat), (b.drop offset).length ≤ fuel →
      (msgLen ≤ b.length → ∃ recs, Spec.At4.readAcAbilityRecords fuel (b.drop offset) = some recs ∧
        AgreeList AgreeAcAbility acs recs) ∧
      ∀ recs, Spec.At4.readAcAbilityRecords fuel (b.drop offset) = some recs → offset < msgLen →
        msgLen ≤ b.length := by
  fun_induction FF11.decLoop b msgLen offset with
  | case1 offset hlt e hrec => intro acs h; cases h
  | case2 offset hlt ac fl hrec e hloop ih => intro acs h; cases h
  | case3 offset hlt a fl hrec acs' off' hloop ih =>
    intro acs h hend fuel hfuel
    cases h
    -- the record starts with the AC number and its following length, the next one `fl` bytes behind these two
    obtain ⟨ac, r, _, _, _, _, _, _, _, _, _, hd, -⟩ := At4FF11.decRec_cases _ _ _ _ hrec
    rw [hd] at hrec
    have hr : AllBytes r := fun x hx => hb x (List.mem_of_mem_drop (by rw [hd]; simp [hx]))
    obtain ⟨-, _, hfit, hex⟩ := decRec_agrees_FF11 ac fl r _ hr a fl hrec
    have hnext : b.drop (offset + (2 + fl)) = r.drop fl := by rw [← List.drop_drop, hd, ← List.drop_drop]; rfl
    have hdl : b.length - offset = r.length + 2 := by
      simpa only [List.length_drop, List.length_cons] using congrArg List.length hd
    rw [hd, List.length_cons, List.length_cons] at hfuel
    obtain ⟨f, rfl⟩ : ∃ f, fuel = f + 1 := ⟨fuel - 1, by omega⟩
    obtain ⟨ih1, ih2⟩ := ih acs' hloop hend f (by rw [hnext, List.length_drop]; omega)
    rw [hnext] at ih1 ih2
    constructor
    · intro hlen
      obtain ⟨s, hs, hag⟩ := hex (by omega)
      obtain ⟨rs, hrs, hags⟩ := ih1 hlen
      exact ⟨s :: rs, by rw [hd]; simp only [Spec.At4.readAcAbilityRecords, hs, hrs], hag, hags⟩
    · intro recs hspec _
      rw [hd] at hspec
      obtain ⟨f', s, rs, hf', rfl, hle, hs, hrs⟩ := readAcAbilityRecords_cons _ _ _ _ _ hspec
      cases Nat.succ.inj hf'
      by_cases hc : offset + (2 + fl) < msgLen
      · exact ih2 rs hrs hc
      · omega
  | case4 offset hnlt =>
    intro acs h hend fuel _
    cases h
    rw [hend]
    exact ⟨fun _ => ⟨[], by cases fuel <;> rfl, trivial⟩, fun _ _ hlt => absurd hlt hnlt⟩

/-- The form AirTouch 5 calls `decode_agrees_FF11`.  `hlen` is what the receive path guarantees: the frame layer hands
the decoder exactly `message_length` bytes. -/
theorem decode_agrees_FF11_strong (b : Bytes) (msgLen : Nat) (hb : AllBytes b) (acs : List FF11.AcAbility)
    (h : FF11.decode b msgLen = .ok (.ability acs, []))
    (hlen : msgLen ≤ b.length) :
    ∃ recs, Spec.At4.readAcAbility ([0xFF, 0x11] ++ b) = some recs ∧ AgreeList AgreeAcAbility acs recs := by
  obtain ⟨hpos, hloop, hend⟩ := decode_FF11_inv b msgLen acs h
  obtain ⟨recs, hrecs, hag⟩ := (decLoop_reads_FF11 b hb msgLen 0 acs hloop hend b.length (Nat.le_refl _)).1 hlen
  exact ⟨recs, by rw [readAcAbility_eq b hb]; exact hrecs, hag⟩

theorem decode_FF11_vendor_reads_iff (b : Bytes) (msgLen : Nat) (hb : AllBytes b) (acs : List FF11.AcAbility)
    (h : FF11.decode b msgLen = .ok (.ability acs, [])) :
    (∃ recs, Spec.At4.readAcAbility ([0xFF, 0x11] ++ b) = some recs) ↔ msgLen ≤ b.length := by
  constructor
  · rintro ⟨recs, hspec⟩
    obtain ⟨hpos, hloop, hend⟩ := decode_FF11_inv b msgLen acs h
    rw [readAcAbility_eq b hb] at hspec
    exact (decLoop_reads_FF11 b hb msgLen 0 acs hloop hend b.length (Nat.le_refl _)).2 recs hspec
      (Nat.pos_of_ne_zero hpos)
  · intro hlen
    obtain ⟨recs, hrecs, _⟩ := decode_agrees_FF11_strong b msgLen hb acs h hlen
    exact ⟨recs, hrecs⟩

/-- The conditional form, which AirTouch 5 calls `decode_agrees_FF11_of_spec`. -/
theorem decode_agrees_FF11 (b : Bytes) (msgLen : Nat) (hb : AllBytes b) (acs : List FF11.AcAbility)
    (h : FF11.decode b msgLen = .ok (.ability acs, []))
    (recs : List Spec.At4.AcAbility) (hspec : Spec.At4.readAcAbility ([0xFF, 0x11] ++ b) = some recs) :
    AgreeList AgreeAcAbility acs recs := by
  obtain ⟨recs', hrecs', hag⟩ := decode_agrees_FF11_strong b msgLen hb acs h
    ((decode_FF11_vendor_reads_iff b msgLen hb acs h).mp ⟨recs, hspec⟩)
  cases hrecs'.symm.trans hspec
  exact hag

/-- one AC (number 0) with following length 46: the 22 described bytes ("UNIT", groups 0-3, 17-31 °C), display
bytes `05 80` (groups 1, 3, 16), and 22 bytes a future console might append -/
def ff11LongRecord : Bytes :=
  [0, 46, 0x55, 0x4e, 0x49, 0x54, 0, 0, 0, 0, 0, 0, 0, 0, 0, 0, 0, 0, 0x00, 0x04, 0x17, 0x1d, 0x11, 0x1f, 0x05, 0x80] ++
    List.replicate 22 0xEE

def isOneAbilityWithGroups (gs : List Nat) : Except DecErr (FF11.Msg × Bytes) → Bool
  | .ok (.ability [a], []) => a.groups == some gs
  | _ => false

/-- for the 48-byte payload `00 2e …` the vendor reader sees ONE AC whose following length is 46, and so does the
decoder (advancing by the documented 24 or 26 bytes instead would give TWO, the second made of the undocumented tail). -/
theorem decode_FF11_long_record :
    isOneAbilityWithGroups [0, 2, 15] (FF11.decode ff11LongRecord 48) = true ∧
    (Spec.At4.readAcAbility ([0xFF, 0x11] ++ ff11LongRecord)).map (·.map (·.followingLength)) = some [46] := by
  constructor <;> decide +kernel

/-- The length hypothesis of `decode_agrees_FF11_strong` cannot be dropped: the decoder never looks at the bytes it
skips, so with an announced length of 48 it accepts the first 26 bytes of `ff11LongRecord` (nothing left over);
the vendor reader refuses a record whose 46 following bytes are not there.  Not reachable through the receive
path, which reads exactly `message_length` bytes. -/
theorem decode_agrees_FF11_needs_length :
    isOneAbilityWithGroups [0, 2, 15] (FF11.decode (ff11LongRecord.take 26) 48) = true ∧
    Spec.At4.readAcAbility ([0xFF, 0x11] ++ ff11LongRecord.take 26) = none := by
  constructor <;> decide +kernel

theorem request_form_FF11 (b : Bytes) (msgLen : Nat) (hb : AllBytes b) (r : Option Nat)
    (h : FF11.decode b msgLen = .ok (.request r, [])) :
    Spec.At4.readAcAbility ([0xFF, 0x11] ++ b) = some [] ∨ Spec.At4.readAcAbility ([0xFF, 0x11] ++ b) = none := by
  obtain ⟨_, _, rfl⟩ | ⟨_, g, rfl, _⟩ | ⟨_, _, _, h, _⟩ := At4FF11.decode_cases b msgLen _ _ h
  · exact .inl (by decide)
  · exact .inr (by rw [readAcAbility_eq _ hb]; rfl)
  · cases h

end FF11

end PyAirtouch.Lemmas.SpecAgree4
