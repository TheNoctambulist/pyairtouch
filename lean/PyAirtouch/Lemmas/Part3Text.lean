import PyAirtouch.Model.Part3Text
/-! Lemmas about UTF-8 validity, C strings and `split`/`join` used by the part 3 codecs. -/
namespace PyAirtouch.Lemmas.Part3Text
open PyAirtouch.Model

theorem toByteArray_append (a b : Bytes) : toByteArray (a ++ b) = toByteArray a ++ toByteArray b := by
  apply ByteArray.ext
  simp [toByteArray]

theorem utf8Valid_iff (a : Bytes) : utf8Valid a = true ↔ (toByteArray a).IsValidUTF8 := by
  unfold utf8Valid String.fromUTF8?
  split <;> simp_all

theorem utf8Valid_append {a b : Bytes} (ha : utf8Valid a = true) (hb : utf8Valid b = true) :
    utf8Valid (a ++ b) = true := by
  rw [utf8Valid_iff] at *
  rw [toByteArray_append]
  exact ha.append hb

theorem utf8Valid_nil : utf8Valid [] = true := by decide

theorem utf8Valid_joinSep (sep : Nat) (hsep : utf8Valid [sep] = true) (vs : List Bytes)
    (h : ∀ v ∈ vs, utf8Valid v = true) : utf8Valid (joinSep sep vs) = true := by
  induction vs with
  | nil => exact utf8Valid_nil
  | cons v vs ih =>
    cases vs with
    | nil => simpa [joinSep] using h v (by simp)
    | cons w ws =>
      simp only [joinSep]
      have hv := h v (by simp)
      have hr := ih (fun x hx => h x (by simp [hx]))
      have : v ++ sep :: joinSep sep (w :: ws) = v ++ ([sep] ++ joinSep sep (w :: ws)) := by simp
      rw [this]
      exact utf8Valid_append hv (utf8Valid_append hsep hr)

theorem splitOn_nosep (sep : Nat) (v : Bytes) (h : sep ∉ v) : splitOn sep v = [v] := by
  induction v with
  | nil => rfl
  | cons b bs ih =>
    have hb : b ≠ sep := fun e => h (by simp [e])
    have hbs : sep ∉ bs := fun e => h (by simp [e])
    simp only [splitOn, hb, ↓reduceIte, ih hbs]

theorem splitOn_append_sep (sep : Nat) (v r : Bytes) (h : sep ∉ v) :
    splitOn sep (v ++ sep :: r) = v :: splitOn sep r := by
  induction v with
  | nil => simp [splitOn]
  | cons b bs ih =>
    have hb : b ≠ sep := fun e => h (by simp [e])
    have hbs : sep ∉ bs := fun e => h (by simp [e])
    simp only [List.cons_append, splitOn, hb, ↓reduceIte, ih hbs]

/-- `sep.join(vs).split(sep) == vs` when `vs` is non-empty and no part contains the separator -/
theorem splitOn_joinSep (sep : Nat) (vs : List Bytes) (hne : vs ≠ []) (h : ∀ v ∈ vs, sep ∉ v) :
    splitOn sep (joinSep sep vs) = vs := by
  induction vs with
  | nil => exact absurd rfl hne
  | cons v vs ih =>
    cases vs with
    | nil => simpa [joinSep] using splitOn_nosep sep v (h v (by simp))
    | cons w ws =>
      simp only [joinSep]
      rw [splitOn_append_sep sep v _ (h v (by simp)), ih (by simp) (fun x hx => h x (by simp [hx]))]

theorem cStringPrefix_pad (s : Bytes) (k : Nat) (h : 0 ∉ s) :
    cStringPrefix (s ++ List.replicate k 0) = s := by
  have hs : ∀ a ∈ s, decide (a ≠ 0) = true := fun a ha => decide_eq_true fun e => h (e ▸ ha)
  rw [cStringPrefix, List.takeWhile_append_of_pos hs, List.takeWhile_replicate]
  simp

theorem encodeCString_fit (s : Bytes) (n : Nat) (h : s.length ≤ n) :
    encodeCString s n = s ++ List.replicate (n - s.length) 0 := by
  unfold encodeCString
  apply List.take_of_length_le
  simp; omega

theorem encodeCString_length (s : Bytes) (n : Nat) : (encodeCString s n).length = n := by
  unfold encodeCString
  simp; omega

theorem decodeCString_encodeCString (s : Bytes) (n : Nat) (hlen : s.length ≤ n) (h0 : 0 ∉ s)
    (hv : utf8Valid s = true) : decodeCString (encodeCString s n) = .ok s := by
  unfold decodeCString
  simp only [encodeCString_fit s n hlen, cStringPrefix_pad s _ h0, hv, ↓reduceIte]

theorem allBytes_encodeCString (s : Bytes) (n : Nat) (hs : AllBytes s) : AllBytes (encodeCString s n) := by
  intro b hb
  have hb' := List.mem_of_mem_take hb
  rcases List.mem_append.mp hb' with h | h
  · exact hs b h
  · have := (List.mem_replicate.mp h).2
    omega

/-- what `decode_c_string` returns for an `n`-byte field of a byte string: a NUL-free valid UTF-8 text of at
    most `n` bytes -/
theorem decodeCString_ok {r name : Bytes} {n : Nat} (h : decodeCString (r.take n) = .ok name) (hb : AllBytes r) :
    name.length ≤ n ∧ (∀ b ∈ name, b ≠ 0) ∧ utf8Valid name = true ∧ AllBytes name := by
  simp only [decodeCString] at h
  split at h
  · rename_i hu
    cases h
    have hpre := List.takeWhile_prefix (l := r.take n) (· ≠ 0)
    refine ⟨Nat.le_trans hpre.length_le (List.length_take_le n r), fun b hbm => ?_, hu, fun b hbm => ?_⟩
    · simpa using List.all_eq_true.mp List.all_takeWhile b hbm
    · exact hb b (List.mem_of_mem_take (hpre.subset hbm))
  · cases h

theorem nodupBool_iff (l : List Nat) : nodupBool l = true ↔ l.Nodup := by
  induction l with
  | nil => simp [nodupBool]
  | cons k ks ih => simp [nodupBool, ih]

end PyAirtouch.Lemmas.Part3Text
