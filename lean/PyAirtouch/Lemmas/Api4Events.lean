import PyAirtouch.Lemmas.Api4Inv
/-!
# What kinds of events each part of the AirTouch 4 API model can emit
-/
namespace PyAirtouch.Lemmas.Api4
open PyAirtouch.Model PyAirtouch.Model.Api4 PyAirtouch.Model.At4
open PyAirtouch.Model.TimerCommon (AcTimerState AcTimerStatusData)

theorem foldEv_events {α} (P : Ev → Prop) (f : State → α → State × List Ev)
    (hf : ∀ s x, ∀ e ∈ (f s x).2, P e) (s : State) (l : List α) : ∀ e ∈ (foldEv f s l).2, P e := fun e he =>
  have ⟨_, _, h⟩ := (FoldW.foldW_ind (f := f) (I := fun _ => True) (O := fun _ => P) l s trivial
    fun s x _ _ => ⟨trivial, hf s x⟩).2 e (foldEv_eq f s l ▸ he)
  h

/-- the requests the API sends on its own initiative -/
def isRequest : OutMsg → Bool
  | .reg (.extended (.consoleVer .request)) => true
  | .reg (.extended (.groupNames (.request _))) => true
  | .reg (.extended (.acAbility (.request _))) => true
  | .reg (.extended (.errInfo (.request _))) => true
  | .reg (.acStatus .request) => true
  | .reg (.acTimerStatus .request) => true
  | .reg (.groupStatus .request) => true
  | _ => false

/-- if the event is a send, it is a request sent with the connected-only policy -/
def ConnReq (e : Ev) : Prop := ∀ p m, e = Ev.send p m → p = .connected ∧ isRequest m = true

theorem connReq_of_not_send {e : Ev} (h : e.isSend = false) : ConnReq e := by
  intro p m he; subst he; simp [Ev.isSend] at h

theorem connReq_send_request {m : OutMsg} (h : isRequest m = true) : ConnReq (Ev.send .connected m) := by
  intro p m' he; cases he; exact ⟨rfl, h⟩

/-- what the `update_*` methods emit: notifications, and the error-information request of an AC status with an
    error code -/
def UpdateEv (e : Ev) : Prop := e.isNotify = true ∨ ∃ ac, e = Ev.send .connected (errInfoRequest ac)

theorem UpdateEv.connReq {e : Ev} (h : UpdateEv e) : ConnReq e := by
  rcases h with h | ⟨ac, rfl⟩
  · exact connReq_of_not_send (by cases e <;> first | rfl | cases h)
  · exact connReq_send_request rfl

theorem updateEv_notify {α} (f : α → Ev) (hf : ∀ x, (f x).isNotify = true) (l : List α) : ∀ e ∈ l.map f, UpdateEv e := by
  intro e he
  obtain ⟨x, _, rfl⟩ := List.mem_map.mp he
  exact Or.inl (hf x)

theorem updateEv_append {l₁ l₂ : List Ev} (h1 : ∀ e ∈ l₁, UpdateEv e) (h2 : ∀ e ∈ l₂, UpdateEv e) :
    ∀ e ∈ l₁ ++ l₂, UpdateEv e := by
  intro e he
  rcases List.mem_append.mp he with h | h
  · exact h1 e h
  · exact h2 e h

theorem updateEv_nil : ∀ e ∈ ([] : List Ev), UpdateEv e := by intro e he; cases he

theorem updateEv_notifyAcAll (a : AcObj) : ∀ e ∈ notifyAcAll a, UpdateEv e :=
  updateEv_append (updateEv_notify _ (fun _ => rfl) _) (updateEv_notify _ (fun _ => rfl) _)

theorem StatusKind.updateEv_evs {ρ ω β : Type} [DecidableEq β] {K : Kind ρ ω β} (h : StatusKind K) (s : State) (r : ρ)
    (o : ω) : ∀ e ∈ K.evs s r o, UpdateEv e := by
  cases h
  · refine updateEv_append ?_ (updateEv_notifyAcAll _)
    intro e he
    split at he
    · rw [List.mem_singleton.mp he]; exact Or.inr ⟨_, rfl⟩
    · cases he
  · exact updateEv_notifyAcAll _
  · exact updateEv_notifyAcAll _
  · refine updateEv_append (updateEv_notify _ (fun _ => rfl) _) ?_
    intro e he
    obtain ⟨a, _, ha⟩ := List.mem_flatMap.mp he
    exact updateEv_notify _ (fun _ => rfl) _ e ha

theorem StatusKind.updateEv_fold {ρ ω β : Type} [DecidableEq β] {K : Kind ρ ω β} (h : StatusKind K) (s : State)
    (l : List ρ) : ∀ e ∈ (foldEv K.update s l).2, UpdateEv e := by
  refine foldEv_events _ _ (fun s r => ?_) s l
  rcases K.update_cases s r with e | ⟨o, _, _, e⟩ <;> rw [e]
  · exact updateEv_nil
  · exact h.updateEv_evs s r o

theorem updateEv_updateVersion (s : State) (v : FF30.ConsoleVersionMessage) :
    ∀ e ∈ (updateVersion s v).2, UpdateEv e := by
  unfold updateVersion
  split
  · exact updateEv_nil
  · exact updateEv_notify _ (fun _ => rfl) _

theorem updateEv_absorb (s : State) (m : RMsg) : ∀ e ∈ (absorb s m).2, UpdateEv e := by
  rcases absorb_kinds s m with e | ⟨_, e⟩ | ⟨_, _, _, _, K, l, t, hK, _, e⟩ <;> rw [e]
  · exact updateEv_nil
  · exact updateEv_updateVersion s _
  · exact hK.updateEv_fold t l

theorem updateEv_store (s : State) (m : RMsg) : ∀ e ∈ (store s m).2, UpdateEv e := by
  rcases store_kinds s m with ⟨_, e, _⟩ | ⟨_, _, _, _, K, l, hK, e⟩ <;> rw [e]
  · exact updateEv_nil
  · exact hK.updateEv_fold s l

theorem connReq_nil : ∀ e ∈ ([] : List Ev), ConnReq e := by intro e he; cases he

theorem connReq_cons {e : Ev} {l : List Ev} (h : e.isSend = false) (hl : ∀ e ∈ l, ConnReq e) :
    ∀ e' ∈ e :: l, ConnReq e' := by
  intro e' he
  rcases List.mem_cons.mp he with rfl | he
  · exact connReq_of_not_send h
  · exact hl e' he

theorem connReq_append {l₁ l₂ : List Ev} (h1 : ∀ e ∈ l₁, ConnReq e) (h2 : ∀ e ∈ l₂, ConnReq e) :
    ∀ e ∈ l₁ ++ l₂, ConnReq e := fun e he => (List.mem_append.mp he).elim (h1 e) (h2 e)

theorem connReq_recv (s : State) (m : RMsg) : ∀ e ∈ (recv s m).2, ConnReq e := by
  have hst := fun e he => (updateEv_store s m e he).connReq
  rcases recv_cases s m with ⟨_, h⟩ | ⟨_, h⟩ | ⟨_, _, _, h⟩ | ⟨_, _, _, _, h⟩ | ⟨_, _, _, _, h⟩ <;> rw [h]
  · exact connReq_nil
  · exact fun e he => (updateEv_absorb s m e he).connReq
  · rw [enterConnected_events]
    refine connReq_append hst (connReq_append (connReq_cons rfl fun e he => ?_) fun e he => ?_)
    · obtain ⟨_, _, rfl⟩ := List.mem_map.mp he; exact connReq_of_not_send rfl
    · split at he
      · rw [List.mem_singleton.mp he]; exact connReq_send_request rfl
      · cases he
  · exact connReq_cons rfl connReq_nil
  · refine connReq_append hst fun e he => ?_
    obtain ⟨r, hr, rfl⟩ := List.mem_map.mp he
    have hr := Option.mem_toList.mp hr
    exact connReq_send_request (by cases hs : s.st <;> rw [hs] at hr <;> cases hr <;> rfl)

theorem onConn_events (s : State) (up : Bool) : ∀ e ∈ (onConn s up).2,
    e = Ev.send .connected versionRequest ∨ e = Ev.send .connected acStatusRequest ∨
    e = Ev.send .connected groupStatusRequest ∨ e = Ev.subscriberExc Exc.notOpen.name := by
  rw [onConn_eq]
  unfold connStep
  intro e he
  split at he
  · cases he
  · split at he
    · split at he <;> rw [List.mem_singleton.mp he]
      · exact Or.inl rfl
      · exact Or.inr (Or.inr (Or.inr rfl))
    · split at he
      · split at he
        · rcases List.mem_cons.mp he with rfl | he
          · exact Or.inr (Or.inl rfl)
          · exact Or.inr (Or.inr (Or.inl (List.mem_singleton.mp he)))
        · exact Or.inr (Or.inr (Or.inr (List.mem_singleton.mp he)))
      · cases he

/-- what the heartbeat's timers and the poll tasks emit -/
def TimerEv (e : Ev) : Prop :=
  e = Ev.reset ∨ e = Ev.send .connected groupStatusRequest ∨ e = Ev.send .connected hbMessage

theorem TimerEv.connReq {e : Ev} (h : TimerEv e) : ConnReq e := by
  rcases h with rfl | rfl | rfl
  · exact connReq_of_not_send rfl
  · exact connReq_send_request rfl
  · exact connReq_send_request rfl

theorem timerEv_fireHbTimeout (s : State) : ∀ e ∈ (fireHbTimeout s).2, TimerEv e := by
  rw [fireHbTimeout_eq]
  rcases timeoutEvs_cases s.sockConnected s.now s.hb with h | h <;> rw [h] <;> intro e he
  · cases he
  · exact Or.inl (List.mem_singleton.mp he)

theorem timerEv_fireBeat (s : State) : ∀ e ∈ (fireBeat s).2, TimerEv e := by
  rw [fireBeat_eq]
  rcases beatEvs_cases s.sockConnected s.now s.hb with h | h <;> rw [h] <;> intro e he
  · cases he
  · exact Or.inr (Or.inr (List.mem_singleton.mp he))

theorem timerEv_firePolls (s : State) : ∀ e ∈ (firePolls s).2, TimerEv e :=
  fun e he => .inr (.inl (firePolls_events s e he))

theorem tick_events (s : State) : ∀ e ∈ (tick s).2, TimerEv e ∨ e = Ev.result ("init " ++ cBool s.initialised) := by
  intro e he
  unfold tick at he
  simp only [List.mem_append] at he
  rcases he with ((he | he) | he) | he
  · exact Or.inl (timerEv_fireHbTimeout _ e he)
  · exact Or.inl (timerEv_firePolls _ e he)
  · obtain ⟨_, _, rfl⟩ := List.mem_map.mp he
    rw [fireHbTimeout_eq]
    exact Or.inr rfl
  · exact Or.inl (timerEv_fireBeat _ e he)

theorem advance_events (n : Nat) (s : State) :
    ∀ e ∈ (advance n s).2, TimerEv e ∨ e = Ev.result ("init " ++ cBool s.initialised) := by
  induction n generalizing s with
  | zero => exact fun e he => by cases he
  | succ n ih =>
    intro e he
    rcases List.mem_append.mp he with he | he
    · exact tick_events s e he
    · have h := ih (tick s).1 e he
      rwa [show (tick s).1.initialised = s.initialised from congrArg Core.initialised (core_tick s)] at h

theorem subUnsub_events (s : State) (t : Target) (f : List Sub → List Sub) :
    (subUnsub s t f).2 = [] ∨ (subUnsub s t f).2 = [Ev.result Exc.keyError.name] := by
  unfold subUnsub
  split
  · exact Or.inl rfl
  · split
    · exact Or.inr rfl
    · exact Or.inl rfl
  · split
    · exact Or.inr rfl
    · split
      · exact Or.inl rfl
      · exact Or.inr rfl

theorem connReq_subUnsub (s : State) (t : Target) (f : List Sub → List Sub) : ∀ e ∈ (subUnsub s t f).2, ConnReq e := by
  rcases subUnsub_events s t f with h | h <;> rw [h]
  · exact connReq_nil
  · exact connReq_cons rfl connReq_nil

theorem connReq_apiStep (s : State) (op : Op) (hop : ∀ c, op ≠ .call c) : ∀ e ∈ (apiStep s op).2, ConnReq e := by
  cases op with
  | init =>
    simp only [apiStep, doInit]
    split
    · exact connReq_cons rfl (connReq_cons rfl connReq_nil)
    · exact connReq_cons rfl connReq_nil
  | shutdown => exact connReq_cons rfl (connReq_cons rfl (connReq_cons rfl connReq_nil))
  | conn up =>
    intro e he
    rcases onConn_events _ up e he with rfl | rfl | rfl | rfl
    · exact connReq_send_request rfl
    · exact connReq_send_request rfl
    · exact connReq_send_request rfl
    · exact connReq_of_not_send rfl
  | msg mid payload =>
    simp only [apiStep]
    split
    · exact connReq_recv s _
    · exact connReq_cons rfl connReq_nil
  | recv m => exact connReq_recv s m
  | call c => exact absurd rfl (hop c)
  | callBad cls => exact connReq_cons rfl connReq_nil
  | sub t sid r => exact connReq_subUnsub s t _
  | unsub t sid => exact connReq_subUnsub s t _
  | adv n => exact fun e he => (advance_events n s e he).elim (·.connReq) fun h => h ▸ connReq_of_not_send rfl
  | view =>
    simp only [apiStep]
    split <;> exact connReq_cons rfl connReq_nil

end PyAirtouch.Lemmas.Api4
