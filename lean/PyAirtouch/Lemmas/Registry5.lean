import PyAirtouch.Model.At5.Registry
import PyAirtouch.Lemmas.RegistryCommon
import PyAirtouch.Lemmas.Hdr
import PyAirtouch.Lemmas.At5C020
import PyAirtouch.Lemmas.At5C021
import PyAirtouch.Lemmas.At5C022
import PyAirtouch.Lemmas.At5C023
import PyAirtouch.Lemmas.At5C032
import PyAirtouch.Lemmas.At5C033
import PyAirtouch.Lemmas.At5FF10
import PyAirtouch.Lemmas.At5FF11
import PyAirtouch.Lemmas.At5FF13
import PyAirtouch.Lemmas.At5FF30
import PyAirtouch.Lemmas.At5FF49
/-!
# AirTouch 5: registry, 0x1F and 0xC0 wrappers and whole frames

Each registered leaf codec gives a `LeafOK` or, under the 0xC0 wrapper, a `CsOK` (`ff10_ok` ..., `c020_ok` ...;
the leaf's byte range is proved here, beside it, the rest comes from the codec's file); the wrappers and the
registry pass it on (`ext_ok`, `cs_ok`, `msg_ok`), and `msg_ok` with the header codec makes the generation a
`Stack` (`stack_ok`), whose frame theorems (`Lemmas/Stack.lean`) are the ones stated here.  Unknown type bytes,
sub-ids and sub-types are preserved as `UnsupportedMessage` (C17).
-/
namespace PyAirtouch.Lemmas.Registry5
open PyAirtouch.Model PyAirtouch.Model.At5 PyAirtouch.Model.At5.Registry PyAirtouch.Model.At5.Utils
open PyAirtouch.Lemmas.RegistryCommon
open PyAirtouch.Lemmas.Records (bind_ok ok_of_exists encRecs_allBytes)
open PyAirtouch.Lemmas.BitField (boolToBit_le be16_be16Bytes)
open PyAirtouch.Lemmas.TimerCommon (allBytes_encTimerState)
open PyAirtouch.Lemmas.Part3Text (allBytes_encodeCString)
open PyAirtouch.Gen.At5

/-- what the 0xC0 wrapper needs to know about one leaf codec on one message whose encoder answers `e` -/
def CsOK {M : Type} (decode : Bytes → Nat → Nat → Nat → Except DecErr (M × Bytes)) (m : M)
    (nr rl rc : Nat) (e : Except EncErr Bytes) : Prop :=
  ∃ bs, e = .ok bs ∧ bs.length = nr + rl * rc ∧ decode bs nr rl rc = .ok (m, []) ∧ AllBytes bs ∧
    nr < 65536 ∧ rl < 65536

theorem CsOK.of_encode {M : Type} {decode : Bytes → Nat → Nat → Nat → Except DecErr (M × Bytes)} {m : M}
    {nr rl rc : Nat} {enc : Bytes} {e : Except EncErr Bytes} (he : e = .ok enc) (hlen : enc.length = nr + rl * rc)
    (hdec : decode (enc ++ []) nr rl rc = .ok (m, [])) (hbytes : AllBytes enc) (hnr : nr < 65536)
    (hrl : rl < 65536) : CsOK decode m nr rl rc e :=
  ⟨enc, he, hlen, by rwa [List.append_nil] at hdec, hbytes, hnr, hrl⟩

theorem packH_bytes {v : Int} {bs : Bytes} (h : packH v = .ok bs) : AllBytes bs := by
  unfold packH at h
  split at h
  · cases h; exact allBytes_be16Bytes _
  · cases h

theorem c020_encRec_bytes (z : C020.ZoneControlData) (bs : Bytes) (h : C020.encRec z = .ok bs) :
    AllBytes bs := by
  obtain ⟨b1, h1, h⟩ := bind_ok h
  obtain ⟨b2, h2, h⟩ := bind_ok h
  obtain ⟨b3, h3, h⟩ := bind_ok h
  cases h
  have := packB_length h1
  have := packB_length h2
  have := packB_length h3
  simp only [allBytes_cons, allBytes_nil, and_true]
  omega

theorem c020_ok (m : C020.Msg) (hwf : C020.WF m) :
    CsOK C020.decode m (C020.nonRepeatSize m) (C020.repeatSize m) (C020.repeatCount m) (C020.encode m) := by
  obtain ⟨bs, h, hd⟩ := At5C020.decode_encode m hwf []
  exact .of_encode h (At5C020.encode_length m _ h) hd
    (encRecs_allBytes (encRecs := C020.encRecs) rfl (fun _ _ => rfl) c020_encRec_bytes _ _ h)
    (of_decide_eq_true rfl) (of_decide_eq_true rfl)

theorem c021_encRec_bytes (z : C021.ZoneStatusData) (bs : Bytes) (h : C021.encRec z = .ok bs) :
    AllBytes bs := by
  obtain ⟨b3, h3, h⟩ := bind_ok h
  cases h
  have := packB_length h3
  have : z.power_state.toNat < 4 := by cases z.power_state <;> decide
  have : z.control_method.toNat < 2 := by cases z.control_method <;> decide
  have : z.battery_status.toNat < 2 := by cases z.battery_status <;> decide
  have := boolToBit_le z.has_sensor 7
  have := boolToBit_le z.spill_active 1
  simp only [allBytes_append, allBytes_cons, allBytes_nil, allBytes_be16Bytes, and_true]
  omega

theorem c021_ok (m : C021.Msg) (hwf : C021.WF m) :
    CsOK C021.decode m (C021.nonRepeatSize m) (C021.repeatSize m) (C021.repeatCount m) (C021.encode m) := by
  obtain ⟨bs, h, hd⟩ := At5C021.decode_encode m hwf []
  refine .of_encode h (At5C021.encode_length m _ h) hd ?_ (of_decide_eq_true rfl) ?_
  · cases m with
    | request => cases h; exact allBytes_nil
    | status zs => exact encRecs_allBytes (encRecs := C021.encRecs) rfl (fun _ _ => rfl) c021_encRec_bytes zs _ h
  · cases m <;> exact of_decide_eq_true rfl

theorem c022_encSetPoint_fst (sp : Option Int) : (C022.encSetPoint sp).1 ≤ 64 := by
  unfold C022.encSetPoint
  split
  · decide
  · split
    · exact (by decide : (0 : Nat) ≤ 64)
    · exact (by decide : (64 : Nat) ≤ 64)

theorem c022_encRec_bytes (c : C022.AcControlData) (bs : Bytes) (h : C022.encRec c = .ok bs) :
    AllBytes bs := by
  obtain ⟨b4, h4, h⟩ := bind_ok h
  cases h
  have := packB_length h4
  have := c022_encSetPoint_fst c.set_point
  simp only [allBytes_cons, allBytes_nil, and_true]
  omega

theorem c022_ok (m : C022.Msg) (hwf : C022.WF m) :
    CsOK C022.decode m (C022.nonRepeatSize m) (C022.repeatSize m) (C022.repeatCount m) (C022.encode m) := by
  obtain ⟨bs, h, hd⟩ := At5C022.decode_encode m hwf []
  exact .of_encode h (At5C022.encode_length m _ h) hd
    (encRecs_allBytes (encRecs := C022.encRecs) rfl (fun _ _ => rfl) c022_encRec_bytes _ _ h)
    (of_decide_eq_true rfl) (of_decide_eq_true rfl)

theorem c023_encRec_bytes (a : C023.AcStatusData) (bs : Bytes) (h : C023.encRec a = .ok bs) :
    AllBytes bs := by
  obtain ⟨b3, h3, h⟩ := bind_ok h
  obtain ⟨err, herr, h⟩ := bind_ok h
  cases h
  have := packB_length h3
  have := boolToBit_le a.turbo_active 3
  have := boolToBit_le a.bypass_active 2
  have := boolToBit_le a.spill_active 1
  have := boolToBit_le a.timer_set 0
  simp only [allBytes_append, allBytes_cons, allBytes_nil, allBytes_be16Bytes, packH_bytes herr, and_true,
    XC023AcStatus.BYTE4_UNUSED_BITS, XC023AcStatus.PADDING_BYTES]
  omega

theorem c023_ok (m : C023.Msg) (hwf : C023.WF m) :
    CsOK C023.decode m (C023.nonRepeatSize m) (C023.repeatSize m) (C023.repeatCount m) (C023.encode m) := by
  obtain ⟨bs, h, hd⟩ := At5C023.decode_encode m hwf []
  refine .of_encode h (At5C023.encode_length m _ h) hd ?_ (of_decide_eq_true rfl) ?_
  · cases m with
    | request => cases h; exact allBytes_nil
    | status acs => exact encRecs_allBytes (encRecs := C023.encRecs) rfl (fun _ _ => rfl) c023_encRec_bytes acs _ h
  · cases m <;> exact of_decide_eq_true rfl

theorem c033_encodeBytes_bytes (m : C033.Msg) (hwf : C033.WF m) : AllBytes (C033.encodeBytes m) := by
  cases m with
  | request => exact allBytes_nil
  | status l =>
    refine allBytes_flatMap _ _ (fun d hd => ?_)
    have hac : d.ac_number < 256 := (hwf d hd).1
    have z : AllBytes XC033AcTimerStatus.PADDING_BYTES := by
      simp only [XC033AcTimerStatus.PADDING_BYTES, allBytes_cons, allBytes_nil, and_true]
      omega
    exact allBytes_cons.mpr ⟨hac, allBytes_append.mpr ⟨allBytes_append.mpr
      ⟨allBytes_encTimerState _, allBytes_encTimerState _⟩, z⟩⟩

theorem c033_ok (m : C033.Msg) (hwf : C033.WF m) :
    CsOK C033.decode m (C033.nonRepeatSize m) (C033.repeatSize m) (C033.repeatCount m) (C033.encode m) := by
  refine .of_encode (At5C033.encode_ok m hwf) (At5C033.encodeBytes_length m) (At5C033.decode_encode m hwf [])
    (c033_encodeBytes_bytes m hwf) (of_decide_eq_true rfl) ?_
  cases m <;> exact of_decide_eq_true rfl

theorem c032_ok (m : C032.Msg) (hwf : C032.WF m) :
    CsOK C032.decode m (C032.nonRepeatSize m) (C032.repeatSize m) (C032.repeatCount m) (C032.encode m) :=
  .of_encode (At5C032.encode_ok m hwf) (At5C032.encodeBytes_length m) (At5C032.decode_encode m hwf [])
    (c033_encodeBytes_bytes m.toStatus hwf) (of_decide_eq_true rfl) (of_decide_eq_true rfl)

theorem ff10_ok (m : FF10.Msg) (hwf : FF10.WF m) (ht : ∀ t ∈ (ExtSub.errInfo m).texts, AllBytes t)
    : LeafOK FF10.decode m (FF10.size m) (FF10.encodeE m) := by
  refine .of_encode (At5FF10.encodeE_ok m hwf) (At5FF10.encode_length m) (At5FF10.decode_encode m hwf []) ?_
  have h8 (n : Nat) : n % 256 < 256 := Nat.mod_lt _ (by decide)
  cases m with
  | request r => exact allBytes_cons.mpr ⟨h8 _, allBytes_nil⟩
  | message mm =>
    rcases mm with ⟨ac, _ | t⟩
    · exact allBytes_cons.mpr ⟨h8 _, allBytes_cons.mpr ⟨(by decide : 0 < 256), allBytes_nil⟩⟩
    · exact allBytes_cons.mpr ⟨h8 _, allBytes_cons.mpr
        ⟨Nat.lt_succ_of_le (hwf.2 t rfl).2.1, ht t (List.mem_singleton.mpr rfl)⟩⟩

theorem ff11_ok (m : FF11.Msg) (hwf : FF11.WF m) : LeafOK FF11.decode m (FF11.size m) (FF11.encodeE m) :=
  .of_encode (At5FF11.encodeE_ok m hwf) (At5FF11.encode_length m) (At5FF11.decode_encode m hwf [])
    (At5FF11.encode_allBytes m hwf)

theorem ff13_ok (m : FF13.Msg) (hwf : FF13.WF m) (ht : ∀ t ∈ (ExtSub.zoneNames m).texts, AllBytes t)
    : LeafOK FF13.decode m (FF13.size m) (FF13.encodeE m) := by
  refine .of_encode (At5FF13.encodeE_ok m hwf) (At5FF13.encode_length m) (At5FF13.decode_encode m hwf []) ?_
  cases m with
  | request r =>
    rcases r with ⟨_ | n⟩
    · exact allBytes_nil
    · exact allBytes_cons.mpr ⟨hwf n rfl, allBytes_nil⟩
  | message mm =>
    exact allBytes_flatMap _ _ fun p hpm => allBytes_cons.mpr ⟨(hwf.2.2 p hpm).1, allBytes_cons.mpr
      ⟨Nat.lt_succ_of_le (hwf.2.2 p hpm).2.1, ht p.2 (List.mem_map.mpr ⟨p, hpm, rfl⟩)⟩⟩

theorem ff49_ok (m : FF49.Msg) (hwf : FF49.WF m) : LeafOK FF49.decode m (FF49.size m) (FF49.encode m) := by
  refine .of_encode (At5FF49.encode_ok m hwf) (At5FF49.encodeBytes_length m) (At5FF49.decode_encode m hwf []) ?_
  have hac : m.ac_number < 256 := hwf.1
  simp only [FF49.encodeBytes, TimerCommon.QuickTimer.encodeBytes, TimerCommon.QuickTimer.encodeDuration,
    allBytes_cons, allBytes_nil, and_true]
  omega

theorem ff30_ok (m : FF30.Msg) (hwf : FF30.WF m) (ht : ∀ t ∈ (ExtSub.consoleVer m).texts, AllBytes t)
    : LeafOK FF30.decode m (FF30.size m) (FF30.encodeE m) := by
  refine .of_encode (At5FF30.encodeE_ok m hwf) (At5FF30.encode_length m) (At5FF30.decode_encode m hwf []) ?_
  cases m with
  | request => exact allBytes_nil
  | message mm =>
    refine allBytes_cons.mpr ⟨by split <;> decide, allBytes_cons.mpr ⟨Nat.lt_succ_of_le hwf.2.2, ?_⟩⟩
    exact allBytes_joinSep _ (by decide) _ ht

theorem ext_ok (s : ExtSub) (hwf : WFSub s) :
    ∃ body, ExtSub.encode s = .ok body ∧ ExtSub.size s = .ok body.length ∧
      decodeSub s.messageId body.length body = .ok (s, []) ∧ AllBytes body ∧ s.messageId < 65536 := by
  -- the sub-ids are numerals, so `decodeSub` at `s.messageId` reduces to the leaf's decoder
  cases s with
  | errInfo m =>
    obtain ⟨body, he, hl, hd, hb⟩ := ff10_ok m hwf.1 hwf.2
    exact ⟨body, he, congrArg _ hl, congrArg (mapMsg _) hd, hb, of_decide_eq_true rfl⟩
  | acAbility m =>
    obtain ⟨body, he, hl, hd, hb⟩ := ff11_ok m hwf.1
    exact ⟨body, he, congrArg _ hl, congrArg (mapMsg _) hd, hb, of_decide_eq_true rfl⟩
  | zoneNames m =>
    obtain ⟨body, he, hl, hd, hb⟩ := ff13_ok m hwf.1 hwf.2
    exact ⟨body, he, congrArg _ hl, congrArg (mapMsg _) hd, hb, of_decide_eq_true rfl⟩
  | consoleVer m =>
    obtain ⟨body, he, hl, hd, hb⟩ := ff30_ok m hwf.1 hwf.2
    exact ⟨body, he, congrArg _ hl, congrArg (mapMsg _) hd, hb, of_decide_eq_true rfl⟩
  | quickTimer m =>
    obtain ⟨body, he, hl, hd, hb⟩ := ff49_ok m hwf.1
    exact ⟨body, he, congrArg _ hl, congrArg (mapMsg _) hd, hb, of_decide_eq_true rfl⟩
  | unsupported id raw => exact hwf.1.elim

theorem encodeExt_of (s : ExtSub) (n : Nat) (body : Bytes) (hs : ExtSub.size s = .ok n)
    (he : ExtSub.encode s = .ok body) : encodeExt s = .ok (be16Bytes s.messageId ++ body) := by
  simp only [encodeExt, hs, he, bind, Except.bind, pure, Except.pure]

theorem cs_ok (s : CsSub) (hwf : WFCs s) :
    ∃ body nr rl rc, CsSub.encode s = .ok body ∧ CsSub.dims s = .ok (nr, rl, rc) ∧ body.length = nr + rl * rc ∧
      decodeCsSub s.messageId nr rl rc body = .ok (s, []) ∧ AllBytes body ∧
      s.messageId < 256 ∧ nr < 65536 ∧ rl < 65536 ∧ rc < 65536 := by
  obtain ⟨hw, hc⟩ := hwf
  -- the sub-types are numerals, so `decodeCsSub` at `s.messageId` reduces to the leaf's decoder
  cases s with
  | zoneCtrl m =>
    obtain ⟨body, he, hl, hd, hb, hnr, hrl⟩ := c020_ok m hw
    exact ⟨body, _, _, _, he, rfl, hl, congrArg (mapMsg _) hd, hb, of_decide_eq_true rfl, hnr, hrl, hc⟩
  | zoneStatus m =>
    obtain ⟨body, he, hl, hd, hb, hnr, hrl⟩ := c021_ok m hw
    exact ⟨body, _, _, _, he, rfl, hl, congrArg (mapMsg _) hd, hb, of_decide_eq_true rfl, hnr, hrl, hc⟩
  | acCtrl m =>
    obtain ⟨body, he, hl, hd, hb, hnr, hrl⟩ := c022_ok m hw
    exact ⟨body, _, _, _, he, rfl, hl, congrArg (mapMsg _) hd, hb, of_decide_eq_true rfl, hnr, hrl, hc⟩
  | acStatus m =>
    obtain ⟨body, he, hl, hd, hb, hnr, hrl⟩ := c023_ok m hw
    exact ⟨body, _, _, _, he, rfl, hl, congrArg (mapMsg _) hd, hb, of_decide_eq_true rfl, hnr, hrl, hc⟩
  | acTimerCtrl m =>
    obtain ⟨body, he, hl, hd, hb, hnr, hrl⟩ := c032_ok m hw
    exact ⟨body, _, _, _, he, rfl, hl, congrArg (mapMsg _) hd, hb, of_decide_eq_true rfl, hnr, hrl, hc⟩
  | acTimerStatus m =>
    obtain ⟨body, he, hl, hd, hb, hnr, hrl⟩ := c033_ok m hw
    exact ⟨body, _, _, _, he, rfl, hl, congrArg (mapMsg _) hd, hb, of_decide_eq_true rfl, hnr, hrl, hc⟩
  | unsupported id raw => exact hw.elim

theorem encodeCs_of (s : CsSub) (nr rl rc : Nat) (body : Bytes) (hd : CsSub.dims s = .ok (nr, rl, rc))
    (he : CsSub.encode s = .ok body) (hid : s.messageId < 256) (hnr : nr < 65536) (hrl : rl < 65536)
    (hrc : rc < 65536) : encodeCs s = .ok (csSubHeaderBytes s.messageId nr rl rc ++ body) := by
  simp only [encodeCs, hd, he, hid, hnr, hrl, hrc, and_self, ↓reduceIte, bind, Except.bind, pure, Except.pure]

theorem csSubHeaderBytes_length (i nr rl rc : Nat) : (csSubHeaderBytes i nr rl rc).length = 8 := rfl

theorem allBytes_csSubHeaderBytes (i nr rl rc : Nat) (hi : i < 256) : AllBytes (csSubHeaderBytes i nr rl rc) := by
  simp only [csSubHeaderBytes, allBytes_append, allBytes_cons, allBytes_nil, allBytes_be16Bytes, and_true]
  omega

theorem decodeCs_header (i nr rl rc : Nat) (body : Bytes) (hnr : nr < 65536) (hrl : rl < 65536)
    (hrc : rc < 65536) :
    decodeCs (csSubHeaderBytes i nr rl rc ++ body) = mapMsg .controlStatus (decodeCsSub i nr rl rc body) := by
  simp only [csSubHeaderBytes, be16Bytes, List.cons_append, List.nil_append, decodeCs,
    be16_be16Bytes hnr, be16_be16Bytes hrl, be16_be16Bytes hrc]

theorem msg_ok (m : Msg) (hwf : WFMsg m) :
    ∃ bs, encodeMsg m = .ok bs ∧ sizeMsg m = .ok bs.length ∧
      (∀ t f pid, decodeMsg ⟨t, f, pid, m.messageId, bs.length⟩ bs = .ok (m, [])) ∧ AllBytes bs := by
  cases m with
  | extended s =>
    obtain ⟨body, henc, hsz, hdec, hb, hid⟩ := ext_ok s hwf
    have hlen : (be16Bytes s.messageId ++ body).length = 2 + body.length := by
      simp only [be16Bytes, List.length_append, List.length_cons, List.length_nil]
    refine ⟨_, encodeExt_of s _ body hsz henc, ?_, ?_, allBytes_append.mpr ⟨allBytes_be16Bytes _, hb⟩⟩
    · rw [hlen]
      simp only [sizeMsg, hsz, Except.map, subHeaderSize, X1FExt.SUB_HEADER_STRUCT_size]
    · intro t f pid
      rw [hlen]
      simp only [decodeMsg, Msg.messageId, ↓reduceIte, decodeExt, be16Bytes, List.cons_append, List.nil_append,
        subHeaderSize, X1FExt.SUB_HEADER_STRUCT_size, Nat.add_sub_cancel_left, be16_be16Bytes hid]
      exact congrArg (mapMsg _) hdec
  | controlStatus s =>
    obtain ⟨body, nr, rl, rc, henc, hd, hlen, hdec, hb, hid, hnr, hrl, hrc⟩ := cs_ok s hwf
    refine ⟨_, encodeCs_of s nr rl rc body hd henc hid hnr hrl hrc, ?_, ?_,
      allBytes_append.mpr ⟨allBytes_csSubHeaderBytes _ _ _ _ hid, hb⟩⟩
    · simp only [sizeMsg, hd, Except.map, csHeaderSize, XC0CtrlStatus.SUB_HEADER_STRUCT_size,
        List.length_append, csSubHeaderBytes_length, hlen, Nat.mul_comm rc rl, Nat.add_assoc]
    · intro t f pid
      simp only [decodeMsg, Msg.messageId, X1FExt.MESSAGE_ID, XC0CtrlStatus.MESSAGE_ID, Nat.reduceEqDiff, ↓reduceIte]
      rw [decodeCs_header _ _ _ _ _ hnr hrl hrc]
      exact congrArg (mapMsg _) hdec
  | unsupported id raw => exact hwf.elim

/-- the length computed in advance for the header (`encoder.size(message)`, nested sub-message included:
    `2 + size sub`, `8 + non_repeat + count * stride`) is the number of payload bytes the encoder writes -/
theorem size_eq_length (m : Msg) (bs : Bytes) (hwf : WFMsg m) (h : encodeMsg m = .ok bs) :
    sizeMsg m = .ok bs.length := (ok_of_exists (msg_ok m hwf) h).1

theorem decodeMsg_encodeMsg (m : Msg) (bs : Bytes) (pid : Nat) (hwf : WFMsg m) (h : encodeMsg m = .ok bs) :
    decodeMsg (mkHeader pid m bs.length) bs = .ok (m, []) := (ok_of_exists (msg_ok m hwf) h).2.1 _ _ _

theorem encodeMsg_bytes (m : Msg) (bs : Bytes) (hwf : WFMsg m) (h : encodeMsg m = .ok bs) : AllBytes bs :=
  (ok_of_exists (msg_ok m hwf) h).2.2

theorem encodeMsg_ok (m : Msg) (hwf : WFMsg m) : ∃ bs, encodeMsg m = .ok bs :=
  (msg_ok m hwf).imp fun _ h => h.1

theorem extended_layout (s : ExtSub) (bs : Bytes) (hwf : WFSub s) (h : encodeMsg (.extended s) = .ok bs) :
    ∃ body, ExtSub.encode s = .ok body ∧ ExtSub.size s = .ok body.length ∧
      sizeMsg (.extended s) = .ok (2 + body.length) ∧ bs = be16Bytes s.messageId ++ body := by
  obtain ⟨body, henc, hsz, -⟩ := ext_ok s hwf
  cases (encodeExt_of s _ body hsz henc).symm.trans h
  refine ⟨body, henc, hsz, ?_, rfl⟩
  simp only [sizeMsg, hsz, Except.map, subHeaderSize, X1FExt.SUB_HEADER_STRUCT_size]

/-- the 0xC0 wrapper: the eight sub-header bytes are `sub id, 0, non_repeat_size, repeat_size, repeat_count`
    (big-endian 16-bit fields) of the leaf, the leaf writes `non_repeat_size + repeat_size * repeat_count`
    bytes behind them, and the size announced in the frame header is `8 +` that (written `rc * rl`: the size
    function multiplies the other way round, as the Python does) -/
theorem controlStatus_layout (s : CsSub) (bs : Bytes) (hwf : WFCs s) (h : encodeMsg (.controlStatus s) = .ok bs) :
    ∃ nr rl rc body, CsSub.dims s = .ok (nr, rl, rc) ∧ CsSub.encode s = .ok body ∧
      body.length = nr + rl * rc ∧
      bs = [s.messageId, 0] ++ be16Bytes nr ++ be16Bytes rl ++ be16Bytes rc ++ body ∧
      sizeMsg (.controlStatus s) = .ok (8 + nr + rc * rl) ∧ bs.length = 8 + nr + rc * rl := by
  obtain ⟨body, nr, rl, rc, henc, hd, hlen, -, -, hid, hnr, hrl, hrc⟩ := cs_ok s hwf
  cases (encodeCs_of s nr rl rc body hd henc hid hnr hrl hrc).symm.trans h
  refine ⟨nr, rl, rc, body, hd, henc, hlen, rfl, ?_, ?_⟩
  · simp only [sizeMsg, hd, Except.map, csHeaderSize, XC0CtrlStatus.SUB_HEADER_STRUCT_size]
  · simp only [List.length_append, csSubHeaderBytes_length, hlen, Nat.mul_comm rc rl, Nat.add_assoc]

/-- the generation's send path beside its receive path; `frameOf` is `Stack.frameOf` of it, by unfolding -/
def stack : Stack Hdr Msg :=
  { proto := proto, encodeHdr := At5.Hdr.encode, sizeMsg := sizeMsg, encodeMsg := encodeMsg, mkHeader := mkHeader,
    WFMsg := WFMsg }

theorem frameOf_eq (pid : Nat) (m : Msg) : frameOf pid m = stack.frameOf pid m := rfl

theorem stack_ok : stack.OK where
  hdr := Hdr.at5_hdrOK proto rfl rfl
  len _ _ _ := rfl
  msg m hwf := (msg_ok m hwf).imp fun _ ⟨he, hs, hd, hb⟩ => ⟨he, hs, fun pid => hd _ _ pid, hb⟩

/-- **whole-frame round trip**: the bytes `socket.send(m)` hands to the stream writer (size → header factory
    with packet id `pid` → header encoder → message encoder → CRC) are parsed by `_read_one_message` into the
    factory's header and the message `m`, and whatever follows the frame is left untouched.
    (`pid < 256` and "the payload fits the length fields" follow from `frameOf pid m = .ok fr`.) -/
theorem frame_roundtrip (m : Msg) (pid : Nat) (fr rest : Bytes) (hwf : WFMsg m)
    (hfr : frameOf pid m = .ok fr) :
    ∃ n, sizeMsg m = .ok n ∧ fr.length = At5.Hdr.headerLength + n + 2 ∧
      Frame.parseOne proto (fr ++ rest) = .deliver (mkHeader pid m n) m rest :=
  stack_ok.frame_roundtrip m pid fr rest hwf (frameOf_eq pid m ▸ hfr)

theorem messageId_lt (m : Msg) (hwf : WFMsg m) : m.messageId < 256 := by
  cases m <;> first | exact hwf.elim | (simp only [Msg.messageId]; decide)

/-- the send path does not raise on a well-formed message whose payload fits the length fields of the
    header (the AirTouch 5 outer header carries `10 + length + 2` in 16 bits) -/
theorem frameOf_ok (m : Msg) (pid : Nat) (hwf : WFMsg m) (hpid : pid < 256)
    (hfit : ∀ n, sizeMsg m = .ok n → n + 12 < 65536) : ∃ fr, frameOf pid m = .ok fr := by
  rw [frameOf_eq]
  refine stack_ok.frameOf_ok m pid hwf fun n hn => (Hdr.at5_encode_ok_iff _).mpr ?_
  show At5.Hdr.WF (mkHeader pid m n)
  have hf := hfit n hn
  refine ⟨?_, by simp only [mkHeader]; decide, hpid, messageId_lt m hwf, by simp only [mkHeader]; omega, ?_⟩
  · simp only [mkHeader]
    split <;> decide
  · simp only [mkHeader, At5.Hdr.dataLength, Gen.At5.Hdr.INTERNAL_HEADER_LENGTH, Gen.At5.Hdr.CRC_LENGTH]
    omega

/-! ### addressing (against the constants the translator read off the real header factory) -/

theorem mkHeader_to_address (pid : Nat) (m : Msg) (n : Nat) :
    (mkHeader pid m n).to_address =
      if m.messageId = X1FExt.MESSAGE_ID then Registry.toAddressExtended else Registry.toAddressNormal := rfl

theorem mkHeader_from_address (pid : Nat) (m : Msg) (n : Nat) :
    (mkHeader pid m n).from_address = Registry.fromAddress := rfl

theorem mkHeader_fields (pid : Nat) (m : Msg) (n : Nat) :
    (mkHeader pid m n).packet_id = pid ∧ (mkHeader pid m n).message_id = m.messageId ∧
    (mkHeader pid m n).message_length = n := ⟨rfl, rfl, rfl⟩

theorem mkHeader_to_address_wf (pid : Nat) (m : Msg) (n : Nat) (hwf : WFMsg m) :
    (mkHeader pid m n).to_address =
      if m.isExtended then Registry.toAddressExtended else Registry.toAddressNormal := by
  cases m <;> first | exact hwf.elim | rfl

theorem toAddress_values : Registry.toAddressExtended = 0x90 ∧ Registry.toAddressNormal = 0x80 ∧
    Registry.fromAddress = 0xB0 := ⟨rfl, rfl, rfl⟩

theorem nextPacketId_lt (pid : Nat) : nextPacketId pid < Registry.packetIdModulus := by
  unfold nextPacketId Registry.packetIdModulus; omega

/-! ### unknown message types are preserved (C17) -/

theorem decodeMsg_of_unknown (h : Hdr) (b : Bytes) (hid : h.message_id ∉ Registry.decoderIds) :
    decodeMsg h b = .ok (.unsupported h.message_id (b.take h.message_length), b.drop h.message_length) := by
  simp only [Registry.decoderIds, List.mem_cons, List.not_mem_nil, or_false, not_or] at hid
  obtain ⟨h1, h2⟩ := hid
  simp only [decodeMsg, X1FExt.MESSAGE_ID, XC0CtrlStatus.MESSAGE_ID, h1, h2, ↓reduceIte]

/-- every type byte without a registered decoder: the whole payload is preserved, unchanged, in an
    `UnsupportedMessage` carrying the type byte; nothing is left over, nothing is raised -/
theorem decodeMsg_unknown (id : Nat) (hid : id ∉ Registry.decoderIds) (t f pid : Nat) (b : Bytes) :
    decodeMsg ⟨t, f, pid, id, b.length⟩ b = .ok (.unsupported id b, []) := by
  rw [decodeMsg_of_unknown _ b hid, List.take_length, List.drop_length]

/-- every 0x1F sub-id without a registered sub-decoder: the bytes behind the two id bytes are preserved in
    `ExtendedMessage(UnsupportedMessage(sub_id, rest))`; nothing is left over -/
theorem decodeMsg_unknown_sub (hi lo : Nat) (hid : be16 hi lo ∉ Registry.extDecoderIds) (t f pid : Nat)
    (rest : Bytes) :
    decodeMsg ⟨t, f, pid, X1FExt.MESSAGE_ID, 2 + rest.length⟩ (hi :: lo :: rest) =
      .ok (.extended (.unsupported (be16 hi lo) rest), []) := by
  simp only [Registry.extDecoderIds, List.mem_cons, List.not_mem_nil, or_false, not_or] at hid
  obtain ⟨h1, h2, h3, h4, h5⟩ := hid
  simp only [decodeMsg, ↓reduceIte, decodeExt, subHeaderSize, X1FExt.SUB_HEADER_STRUCT_size, Nat.add_sub_cancel_left,
    decodeSub, X1FFF10ErrInfo.MESSAGE_ID, X1FFF11AcAbility.MESSAGE_ID, X1FFF13ZoneNames.MESSAGE_ID,
    X1FFF30ConsoleVer.MESSAGE_ID, X1FFF49QuickTimer.MESSAGE_ID, h1, h2, h3, h4, h5, List.take_length,
    List.drop_length, mapMsg]

/-- the same through the receive path's eyes: for every sub-id value (two bytes) -/
theorem decodeMsg_unknown_sub' (subId : Nat) (hlt : subId < 65536) (hid : subId ∉ Registry.extDecoderIds)
    (t f pid : Nat) (rest : Bytes) :
    decodeMsg ⟨t, f, pid, X1FExt.MESSAGE_ID, (be16Bytes subId ++ rest).length⟩ (be16Bytes subId ++ rest) =
      .ok (.extended (.unsupported subId rest), []) := by
  have := decodeMsg_unknown_sub (subId / 256 % 256) (subId % 256) (by rwa [be16_be16Bytes hlt]) t f pid rest
  rwa [be16_be16Bytes hlt, Nat.add_comm] at this

/-- every 0xC0 sub-type without a registered sub-decoder: the `non_repeat + repeat_count * repeat_length`
    payload bytes announced by the sub-header are preserved unchanged in
    `ControlStatusMessage(UnsupportedMessage(sub_type, payload))`; nothing is left over.  (The header's
    `message_length` is not consulted; on the receive path it is `8 + body.length`.) -/
theorem decodeMsg_unknown_cs (sid pad n1 n2 l1 l2 c1 c2 : Nat) (body : Bytes)
    (hid : sid ∉ Registry.csDecoderIds) (hlen : body.length = be16 n1 n2 + be16 c1 c2 * be16 l1 l2)
    (t f pid len : Nat) :
    decodeMsg ⟨t, f, pid, XC0CtrlStatus.MESSAGE_ID, len⟩ (sid :: pad :: n1 :: n2 :: l1 :: l2 :: c1 :: c2 :: body) =
      .ok (.controlStatus (.unsupported sid body), []) := by
  simp only [Registry.csDecoderIds, List.mem_cons, List.not_mem_nil, or_false, not_or] at hid
  obtain ⟨h1, h2, h3, h4, h5, h6⟩ := hid
  simp only [decodeMsg, X1FExt.MESSAGE_ID, XC0CtrlStatus.MESSAGE_ID, Nat.reduceEqDiff, ↓reduceIte, decodeCs, decodeCsSub,
    XC020ZoneCtrl.MESSAGE_ID, XC021ZoneStatus.MESSAGE_ID, XC022AcCtrl.MESSAGE_ID, XC023AcStatus.MESSAGE_ID,
    XC032AcTimerCtrl.MESSAGE_ID, XC033AcTimerStatus.MESSAGE_ID, h1, h2, h3, h4, h5, h6, ← hlen,
    List.take_length, List.drop_length, mapMsg]

theorem mapMsg_ne {M N : Type} (f : M → N) (n : N) (hf : ∀ m, f m ≠ n) (r : Except DecErr (M × Bytes))
    (rest : Bytes) : mapMsg f r ≠ .ok (n, rest) := by
  rcases r with _ | ⟨m, r'⟩
  · exact nofun
  · exact fun h => hf m (by cases h; rfl)

/-- a registered decoder wraps what its sub-decoder returns in its own constructor, never in `unsupported` -/
theorem decodeMsg_of_known (t f pid id len : Nat) (b : Bytes) (hid : id ∈ Registry.decoderIds) (uid : Nat)
    (raw rest : Bytes) : decodeMsg ⟨t, f, pid, id, len⟩ b ≠ .ok (.unsupported uid raw, rest) := by
  simp only [Registry.decoderIds, List.mem_cons, List.not_mem_nil, or_false] at hid
  intro hd
  rcases hid with rfl | rfl
  · change decodeExt _ b = _ at hd
    unfold decodeExt at hd
    split at hd
    · exact mapMsg_ne _ _ (fun _ => Msg.noConfusion) _ _ hd
    · cases hd
  · change decodeCs b = _ at hd
    unfold decodeCs at hd
    split at hd
    · exact mapMsg_ne _ _ (fun _ => Msg.noConfusion) _ _ hd
    · cases hd

/-- a decoder only ever answers a top-level `UnsupportedMessage` for an unregistered type byte, and then
    it carries exactly the announced part of the buffer -/
theorem decodeMsg_unsupported_inv (h : Hdr) (b : Bytes) (id : Nat) (raw rest : Bytes)
    (hd : decodeMsg h b = .ok (.unsupported id raw, rest)) :
    id = h.message_id ∧ id ∉ Registry.decoderIds ∧ raw = b.take h.message_length ∧
    rest = b.drop h.message_length := by
  by_cases hid : h.message_id ∈ Registry.decoderIds
  · exact absurd hd (decodeMsg_of_known _ _ _ _ _ b hid id raw rest)
  · rw [decodeMsg_of_unknown h b hid] at hd
    simp only [Except.ok.injEq, Prod.mk.injEq, Msg.unsupported.injEq] at hd
    obtain ⟨⟨rfl, rfl⟩, rfl⟩ := hd
    exact ⟨rfl, hid, rfl, rfl⟩

/-! ### the decidable forms of `WFMsg`

`allBytesBool` and the three deciders of the 0xFF11 codec are defined in `Model/At5/Registry.lean`, not in a codec's
model file; hence their lemmas are here and not in a codec's lemma file. -/

theorem allBytesBool_iff (bs : Bytes) : allBytesBool bs = true ↔ AllBytes bs := by
  simp only [allBytesBool, List.all_eq_true, decide_eq_true_eq]
  rfl

theorem ff11NameBool_iff (s : Bytes) : ff11NameBool s = true ↔ FF11.WFName s := by
  simp only [ff11NameBool, FF11.WFName, Bool.and_eq_true, decide_eq_true_eq, List.all_eq_true,
    allBytesBool_iff, and_assoc]

theorem ff11RecBool_iff (ac : FF11.AcAbility) : ff11RecBool ac = true ↔ FF11.WFRec ac := by
  simp only [ff11RecBool, FF11.WFRec, Bool.and_eq_true, decide_eq_true_eq, ff11NameBool_iff, and_assoc]

theorem ff11WfBool_iff (m : FF11.Msg) : ff11WfBool m = true ↔ FF11.WF m := by
  cases m with
  | request n =>
    cases n with
    | none => simp [ff11WfBool, FF11.WF]
    | some n => simp [ff11WfBool, FF11.WF]
  | ability acs =>
    simp only [ff11WfBool, FF11.WF, Bool.and_eq_true, Bool.not_eq_true', List.isEmpty_eq_false_iff,
      List.all_eq_true, ff11RecBool_iff, ne_eq]

theorem extSub_wfBool_iff (s : ExtSub) : s.wfBool = true ↔ s.WF := by
  cases s with
  | errInfo m => exact At5FF10.wfBool_iff m
  | acAbility m => exact ff11WfBool_iff m
  | zoneNames m => exact At5FF13.wfBool_iff m
  | consoleVer m => exact At5FF30.wfBool_iff m
  | quickTimer m => exact At5FF49.wfBool_iff m
  | unsupported id raw => simp [ExtSub.wfBool, ExtSub.WF]

theorem wfSubBool_iff (s : ExtSub) : wfSubBool s = true ↔ WFSub s := by
  simp only [wfSubBool, WFSub, Bool.and_eq_true, extSub_wfBool_iff, List.all_eq_true, allBytesBool_iff]

theorem csSub_wfBool_iff (s : CsSub) : s.wfBool = true ↔ s.WF := by
  cases s with
  | zoneCtrl m => exact At5C020.wfBool_iff m
  | zoneStatus m => exact At5C021.wfBool_iff m
  | acCtrl m => exact At5C022.wfBool_iff m
  | acStatus m => exact At5C023.wfBool_iff m
  | acTimerCtrl m => exact At5C032.wfBool_iff m
  | acTimerStatus m => exact At5C033.wfBool_iff m
  | unsupported id raw => simp [CsSub.wfBool, CsSub.WF]

theorem wfCsBool_iff (s : CsSub) : wfCsBool s = true ↔ WFCs s := by
  simp only [wfCsBool, WFCs, Bool.and_eq_true, csSub_wfBool_iff, decide_eq_true_eq]

theorem wfMsgBool_iff (m : Msg) : wfMsgBool m = true ↔ WFMsg m := by
  cases m with
  | extended s => exact wfSubBool_iff s
  | controlStatus s => exact wfCsBool_iff s
  | unsupported id raw => simp [wfMsgBool, WFMsg]

/-- every message the AC-ability decoder produces from bytes is well formed (so is every extended
    AC-ability message the receive path delivers) -/
theorem ff11_decoded_wf (buffer : Bytes) (hb : AllBytes buffer) (msgLen : Nat) (m : FF11.Msg) (rest : Bytes)
    (h : FF11.decode buffer msgLen = .ok (m, rest)) : WFMsg (.extended (.acAbility m)) :=
  ⟨(At5FF11.decode_spec buffer hb msgLen m rest h).1, fun _ ht => by cases ht⟩

/-! ### non-vacuity: concrete frames -/

-- the vendor's zone-status request `55 55 55 aa 80 b0 01 c0 00 08 21 00 00 00 00 00 00 00 a4 31` behind
-- the outer header
example : frameOf 1 (.controlStatus (.zoneStatus .request)) =
    .ok [0x55, 0x55, 0x55, 0xab, 0, 0, 0, 20, 0, 20, 0x55, 0x55, 0x55, 0xaa, 0x80, 0xb0, 0x01, 0xc0, 0x00, 0x08,
         0x21, 0, 0, 0, 0, 0, 0, 0, 0xa4, 0x31] := by decide +kernel
example : WFMsg (.controlStatus (.zoneStatus .request)) := ⟨trivial, by decide⟩
-- zone control: sub-header `20 00 | 00 00 | 00 04 | 00 01` = sub type, non-repeat 0, stride 4, one record
example : frameOf 1 (.controlStatus (.zoneCtrl ⟨[⟨1, .UNCHANGED, some (.damper 80)⟩]⟩)) =
    .ok [0x55, 0x55, 0x55, 0xab, 0, 0, 0, 24, 0, 24, 0x55, 0x55, 0x55, 0xaa, 0x80, 0xb0, 0x01, 0xc0, 0x00, 0x0c,
         0x20, 0, 0, 0, 0, 4, 0, 1, 1, 0x80, 80, 0, 76, 248] := by decide +kernel
-- an extended message goes to address 0x90: "all zone names"
example : frameOf 1 (.extended (.zoneNames (.request ⟨none⟩))) =
    .ok [0x55, 0x55, 0x55, 0xab, 0, 0, 0, 14, 0, 14, 0x55, 0x55, 0x55, 0xaa, 0x90, 0xb0, 0x01, 0x1f, 0x00, 0x02,
         0xff, 0x13, 66, 205] := by decide +kernel
-- unknown type byte, unknown 0x1F sub-id, unknown 0xC0 sub-type (2 + 2 * 3 payload bytes)
example : decodeMsg ⟨0xb0, 0x80, 7, 0x45, 3⟩ [1, 2, 3] = .ok (.unsupported 0x45 [1, 2, 3], []) := by decide +kernel
example : decodeMsg ⟨0xb0, 0x90, 7, 0x1f, 5⟩ [0xff, 0x77, 1, 2, 3] =
    .ok (.extended (.unsupported 0xff77 [1, 2, 3]), []) := by decide +kernel
example : decodeMsg ⟨0xb0, 0x80, 7, 0xc0, 16⟩ [0x77, 0, 0, 2, 0, 3, 0, 2, 1, 2, 3, 4, 5, 6, 7, 8] =
    .ok (.controlStatus (.unsupported 0x77 [1, 2, 3, 4, 5, 6, 7, 8]), []) := by decide +kernel
-- an `UnsupportedMessage` cannot be sent: `get_encoder` raises `NotImplementedError`
example : frameOf 1 (.unsupported 0x45 [1, 2, 3]) = .error .notImplemented := by decide +kernel

end PyAirtouch.Lemmas.Registry5
