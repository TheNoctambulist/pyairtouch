import PyAirtouch.Lemmas.SockHealInv
/-!
# The histories of the healing theorem, with cancellations

Used by `Props/C01Cancel.lean` to state that healing fails once callers may be cancelled.  A file of its own because
`fair` is defined in `SockHealInv`, which the other modules about `runX` do not import.
-/
namespace PyAirtouch.Lemmas.SockX
open PyAirtouch.Model.Sock PyAirtouch.Lemmas.RunWith

/-- `runX` restricted to base labels that are `fair` (see `Lemmas/SockHealInv.lean`: no `open_socket()` / `close()` while a
    `close()` is in progress; a reader is not told "EOF" on a transport lost with an exception); cancellations are free -/
def runXH (s : Sys) : List LabelX → Option Sys
  | [] => some s
  | .base l :: ls => if SockHeal.fair s l then (step s l).bind (fun s' => runXH s' ls) else none
  | .cancel t :: ls => (stepX s (.cancel t)).bind (fun s' => runXH s' ls)

theorem runXH_eq : runXH = runW (fun s l => match l with | .base l => SockHeal.fair s l | .cancel _ => true) stepX := by
  funext s ls
  induction ls generalizing s with
  | nil => rfl
  | cons l ls ih => cases l <;> simp only [runXH, runW, stepX, ↓reduceIte, ih]

theorem runXH_runX {ls : List LabelX} : ∀ {s s' : Sys}, runXH s ls = some s' → runX s ls = some s' := by
  intro s s' h
  rw [runXH_eq] at h; rw [runX_eq]
  exact runW_mono (fun _ _ _ => rfl) h

end PyAirtouch.Lemmas.SockX
