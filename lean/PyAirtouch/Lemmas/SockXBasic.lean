import PyAirtouch.Model.SockX
import PyAirtouch.Lemmas.SockStepRel
/-!
# The model with cancelled callers: the cancel step and runs

`stepX` is `step` plus the label `cancel t` (`Model/SockX.lean`).  What a cancellation does (`stepX_cancel`), `runX` as
a fold (`runX_eq`, `runX_induction`), the base model inside the extended one (`runX_base`), and the identities used by
the `send`s of a label sequence (`usedAfter`, `usedAfterX`).
-/
namespace PyAirtouch.Lemmas.Sock
open PyAirtouch.Model.Sock

/-- the identities used by `send` so far, after label `l` -/
def usedAfter (u : List Nat) : Label → List Nat
  | .apiSend sid _ _ _ => u ++ [sid]
  | _ => u

end PyAirtouch.Lemmas.Sock

namespace PyAirtouch.Lemmas.SockX
open PyAirtouch.Model.Sock PyAirtouch.Lemmas.Sock PyAirtouch.Lemmas.RunWith

theorem stepX_cancel {s s' : Sys} {t : Nat} (h : stepX s (.cancel t) = some s') :
    ∃ k, s.tasks[t]? = some k ∧ k.bg = false ∧ cancellable k.pc = true ∧
      s' = { s with tasks := s.tasks.modify t (fun k => { k with pc := .finished }) } := by
  simp only [stepX] at h
  split at h
  · rename_i k hk
    split at h
    · rename_i hc
      simp only [Bool.and_eq_true, Bool.not_eq_true'] at hc
      injection h with h
      exact ⟨k, hk, hc.1, hc.2, h.symm⟩
    · cases h
  · cases h

theorem stepX_cancel_core {s s' : Sys} {t : Nat} (h : stepX s (.cancel t) = some s') : s'.core = s.core := by
  obtain ⟨k, _, _, _, rfl⟩ := stepX_cancel h
  rfl

theorem sendSidsX_append (l₁ l₂ : List LabelX) : sendSidsX (l₁ ++ l₂) = sendSidsX l₁ ++ sendSidsX l₂ := by
  simp [sendSidsX, List.filterMap_append]

theorem runX_eq : runX = runW always stepX := by
  funext s ls
  induction ls generalizing s with
  | nil => rfl
  | cons l ls ih => simp only [runX, runW, always, ↓reduceIte, ih]

theorem runX_induction {P : List LabelX → Sys → Prop} (h0 : P [] init)
    (hs : ∀ ls s l s', runX init ls = some s → P ls s → stepX s l = some s' → P (ls ++ [l]) s') :
    ∀ ls s, runX init ls = some s → P ls s := by
  rw [runX_eq] at hs ⊢
  exact runW_induction h0 (fun ls s l s' hr hp _ hst => hs ls s l s' hr hp hst)

theorem ReachableX.induction {P : Sys → Prop} (h0 : P init)
    (hs : ∀ s l s', ReachableX s → P s → stepX s l = some s' → P s') : ∀ s, ReachableX s → P s := by
  intro s ⟨ls, h⟩
  exact runX_induction (P := fun _ s => P s) h0 (fun ls s l s' hr hp hst => hs s l s' ⟨ls, hr⟩ hp hst) ls s h

theorem runX_base {ls : List Label} {s s' : Sys} (h : run s ls = some s') : runX s (ls.map LabelX.base) = some s' := by
  rw [runX_eq, runW_map (ok := always) (stp := step) LabelX.base (fun _ _ => rfl) (fun _ _ => rfl), ← SockConn.run_eq]
  exact h

theorem reachableX_of_reachable {s : Sys} (h : Reachable s) : ReachableX s :=
  let ⟨ls, h⟩ := h; ⟨ls.map LabelX.base, runX_base h⟩

theorem ReachableWFX.reachableX {s : Sys} (h : ReachableWFX s) : ReachableX s :=
  let ⟨ls, _, h⟩ := h; ⟨ls, h⟩

def usedAfterX (u : List Nat) : LabelX → List Nat
  | .base l => usedAfter u l
  | .cancel _ => u

theorem usedAfterX_eq (u : List Nat) (l : LabelX) : usedAfterX u l = u ++ sendSidsX [l] := by
  cases l with
  | base l => cases l <;> first | rfl | exact (List.append_nil u).symm
  | cancel t => exact (List.append_nil u).symm

end PyAirtouch.Lemmas.SockX
