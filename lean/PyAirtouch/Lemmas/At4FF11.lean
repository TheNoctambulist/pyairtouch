import PyAirtouch.Model.At4.FF11
import PyAirtouch.Lemmas.BitField
import PyAirtouch.Lemmas.Dict
import PyAirtouch.Lemmas.Part3Text
import PyAirtouch.Lemmas.RegistryCommon
/-!
Round trip, length and termination-related lemmas for the AirTouch 4 AC Ability codec
(`at4/comms/x1FFF11_ac_ability.py`).

`decode_cases`, `decRec_cases` and `decGroups_cases` take the decoder apart once: for what holds of every decoded message
(`decode_spec`) here and for the agreement with the vendor reader in `Lemmas/SpecAgree4.lean`.
-/
namespace PyAirtouch.Lemmas.At4FF11
open PyAirtouch.Model PyAirtouch.Lemmas.RegistryCommon
open PyAirtouch.Lemmas.Part3Text (encodeCString_length decodeCString_encodeCString allBytes_encodeCString
  decodeCString_ok)

/-! ### group bitmaps: a strictly increasing list below `n` ↔ an `n`-bit mask -/

/-- the bitmask `Σ 2^g` (what `_encode_group_display` adds up) -/
def mask (gs : List Nat) : Nat := (gs.map (fun g => 2 ^ g)).sum

theorem mask_desc (gs : List Nat) : ∀ n, gs.Pairwise (· > ·) → (∀ g ∈ gs, g < n) →
    mask gs < 2 ^ n ∧ ∀ k, (mask gs).testBit k = decide (k ∈ gs) := by
  induction gs with
  | nil => intro n _ _; exact ⟨by simp [mask, Nat.two_pow_pos], fun k => by simp [mask]⟩
  | cons g tl ih =>
    intro n hp hlt
    have hp' := List.pairwise_cons.mp hp
    obtain ⟨hlt', hbits⟩ := ih g hp'.2 (fun x hx => hp'.1 x hx)
    have hg : g < n := hlt g (by simp)
    have hm : mask (g :: tl) = 2 ^ g + mask tl := by simp [mask]
    have hpow : 2 ^ (g + 1) ≤ 2 ^ n := Nat.pow_le_pow_right (by decide) hg
    have hlt2 : 2 ^ g + mask tl < 2 ^ (g + 1) := by rw [Nat.pow_succ]; omega
    refine ⟨by rw [hm]; omega, fun k => ?_⟩
    have hor := Nat.two_pow_add_eq_or_of_lt hlt' 1
    rw [Nat.mul_one] at hor
    rw [hm, hor, Nat.testBit_or, Nat.testBit_two_pow, hbits]
    simp [eq_comm]

theorem mask_reverse (gs : List Nat) : mask gs.reverse = mask gs := by
  simp only [mask, List.map_reverse, List.sum_reverse]

theorem mask_asc (gs : List Nat) (n : Nat) (hp : gs.Pairwise (· < ·)) (hlt : ∀ g ∈ gs, g < n) :
    mask gs < 2 ^ n ∧ ∀ k, bitToBool (mask gs) k = decide (k ∈ gs) := by
  have hr : gs.reverse.Pairwise (· > ·) := List.pairwise_reverse.mpr hp
  have := mask_desc gs.reverse n hr (fun g hg => hlt g (List.mem_reverse.mp hg))
  rw [mask_reverse] at this
  refine ⟨this.1, fun k => ?_⟩
  rw [BitField.bitToBool_eq_testBit, this.2 k]
  simp

/-- decoding the bitmask of a strictly increasing list below `n` returns the list: both are strictly increasing
    and have the same members -/
theorem filter_range_mask (gs : List Nat) (n : Nat) (hp : gs.Pairwise (· < ·)) (hlt : ∀ g ∈ gs, g < n) :
    (List.range n).filter (fun g => bitToBool (mask gs) g) = gs := by
  have hf : ((List.range n).filter fun g => bitToBool (mask gs) g).Pairwise (· < ·) :=
    List.Pairwise.filter _ List.pairwise_lt_range
  have nd {l : List Nat} (h : l.Pairwise (· < ·)) : l.Nodup := h.imp Nat.ne_of_lt
  refine List.Perm.eq_of_pairwise (fun a b _ _ h1 h2 => absurd h1 (Nat.lt_asymm h2)) hf hp
    ((List.perm_ext_iff_of_nodup (nd hf) (nd hp)).mpr fun k => ?_)
  rw [List.mem_filter, List.mem_range, (mask_asc gs n hp hlt).2 k, decide_eq_true_eq]
  exact ⟨fun h => h.2, fun h => ⟨hlt k h, h⟩⟩

open PyAirtouch.Model.At4.FF11 PyAirtouch.Gen.At4.X1FFF11AcAbility PyAirtouch.Lemmas.BitField
  PyAirtouch.Lemmas.Dict
open PyAirtouch.Gen.At4.X2CAcCtrl (AcModeControl AcFanSpeedControl)

theorem encGroupDisplay_eq_mask (gs : List Nat) : encGroupDisplay gs = mask gs := by
  simp [encGroupDisplay, mask, boolToBit]

theorem encGroups_length (g : Option (List Nat)) :
    (encGroups g).length = if g.isSome then GROUP_DISPLAY_STRUCT_size else 0 := by
  cases g <;> simp [encGroups, le16Bytes, GROUP_DISPLAY_STRUCT_size]

theorem encRec_length (ac : AcAbility) : (encRec ac).length = recSize ac := by
  simp only [encRec, recSize, List.length_append, List.length_cons, List.length_nil,
    encodeCString_length, encGroups_length, nameLen, STRUCT_size]
  omega

theorem encode_length (m : Msg) : (encode m).length = size m := by
  cases m with
  | request n => cases n <;> rfl
  | ability acs => simp only [encode, size, List.length_flatMap, encRec_length]

theorem encModeSupport_eq (d : List (AcModeControl × Bool)) :
    encModeSupport d = packBits [get d .AUTO, get d .HEAT, get d .DRY, get d .FAN, get d .COOL] := by
  simp only [encModeSupport, boolToBit_eq, packBits]
  omega

theorem encFanSpeedSupport_eq (d : List (AcFanSpeedControl × Bool)) : encFanSpeedSupport d =
    packBits [get d .AUTO, get d .QUIET, get d .LOW, get d .MEDIUM, get d .HIGH, get d .POWERFUL, get d .TURBO] := by
  simp only [encFanSpeedSupport, boolToBit_eq, packBits]
  omega

theorem decModeSupport_enc (d : List (AcModeControl × Bool)) (hk : d.map (·.1) = modeKeys)
    (hu : d.lookup .UNCHANGED = some true) : decModeSupport (encModeSupport d) = d := by
  refine Eq.trans ?_ (eq_map_lookup false hk (by decide)).symm
  simp only [encModeSupport_eq, decModeSupport, bitToBool_packBits, List.getD_cons_succ, List.getD_cons_zero,
    modeKeys, List.map_cons, List.map_nil, hu, Option.getD_some]
  rfl

theorem decFanSpeedSupport_enc (d : List (AcFanSpeedControl × Bool)) (hk : d.map (·.1) = fanKeys)
    (hu : d.lookup .UNCHANGED = some true) : decFanSpeedSupport (encFanSpeedSupport d) = d := by
  refine Eq.trans ?_ (eq_map_lookup false hk (by decide)).symm
  simp only [encFanSpeedSupport_eq, decFanSpeedSupport, bitToBool_packBits, List.getD_cons_succ,
    List.getD_cons_zero, fanKeys, List.map_cons, List.map_nil, hu, Option.getD_some]
  rfl

theorem encModeSupport_lt (d : List (AcModeControl × Bool)) : encModeSupport d < 256 :=
  encModeSupport_eq d ▸ packBits_lt_256 _ (by decide : 5 ≤ 8)

theorem encFanSpeedSupport_lt (d : List (AcFanSpeedControl × Bool)) : encFanSpeedSupport d < 256 :=
  encFanSpeedSupport_eq d ▸ packBits_lt_256 _ (by decide : 7 ≤ 8)

theorem groupDisplay_facts (gs : List Nat) (h : gs.Pairwise (· < ·) ∧ ∀ g ∈ gs, g ≤ MAX_GROUP_NUMBER) :
    encGroupDisplay gs < 65536 ∧ decGroupDisplay (encGroupDisplay gs) = gs := by
  have hlt : ∀ g ∈ gs, g < 16 := fun g hg => Nat.lt_succ_of_le (h.2 g hg)
  rw [encGroupDisplay_eq_mask]
  exact ⟨(mask_asc gs 16 h.1 hlt).1, filter_range_mask gs 16 h.1 hlt⟩

theorem decGroups_encGroups (ac : AcAbility)
    (hg : ∀ gs, ac.groups = some gs → gs.Pairwise (· < ·) ∧ ∀ g ∈ gs, g ≤ MAX_GROUP_NUMBER) (rest : Bytes) :
    decGroups (followingLength ac) (encGroups ac.groups ++ rest) = .ok ac.groups := by
  cases hgr : ac.groups with
  | none =>
    simp [decGroups, followingLength, followingWithGroups, hgr, FOLLOWING_LENGTH_BASE, GROUP_DISPLAY_STRUCT_size]
  | some gs =>
    obtain ⟨hm, hd⟩ := groupDisplay_facts gs (hg gs hgr)
    have hv : encGroupDisplay gs % 256 + 256 * (encGroupDisplay gs / 256 % 256) = encGroupDisplay gs := by omega
    simp only [decGroups, followingLength, followingWithGroups, hgr, Option.isSome_some, ↓reduceIte,
      encGroups, le16Bytes, List.cons_append, hv, hd, Nat.le_refl]

theorem recSize_eq (ac : AcAbility) : recSize ac = 2 + followingLength ac := by
  simp only [recSize, followingLength, STRUCT_size, FOLLOWING_LENGTH_BASE]; omega

theorem decRec_encRec (ac : AcAbility) (h : WFRec ac) (rest : Bytes) (avail : Nat) (hav : recSize ac ≤ avail) :
    decRec (encRec ac ++ rest) avail = .ok (ac, followingLength ac) := by
  obtain ⟨_, _, _, _, _, ⟨hnl, hn0, hnu, _⟩, ⟨hmk, hmu⟩, ⟨hfk, hfu⟩, hg⟩ := h
  have hlen := encodeCString_length ac.ac_name nameLen
  have hchk : ¬ (followingLength ac < FOLLOWING_LENGTH_BASE ∨ avail < 2 + followingLength ac) := by
    rw [recSize_eq] at hav
    simp only [followingLength] at hav ⊢
    omega
  simp only [encRec, List.cons_append, List.nil_append, List.append_assoc, decRec,
    List.drop_left' hlen, List.take_left' hlen, hchk, ↓reduceIte,
    decGroups_encGroups ac hg rest, decodeCString_encodeCString ac.ac_name nameLen hnl (fun h => hn0 0 h rfl) hnu,
    decModeSupport_enc _ hmk hmu, decFanSpeedSupport_enc _ hfk hfu]

theorem decLoop_encode (acs : List AcAbility) (hwf : ∀ ac ∈ acs, WFRec ac) (rest : Bytes) :
    ∀ pre : Bytes, decLoop (pre ++ (acs.flatMap encRec ++ rest)) (pre.length + (acs.map recSize).sum) pre.length
      = .ok (acs, pre.length + (acs.map recSize).sum) := by
  induction acs with
  | nil =>
    intro pre
    rw [decLoop]
    simp
  | cons ac acs ih =>
    intro pre
    have hpos := recSize_pos ac
    simp only [STRUCT_size] at hpos
    rw [decLoop]
    have hlt : pre.length < pre.length + ((ac :: acs).map recSize).sum := by
      simp only [List.map_cons, List.sum_cons]; omega
    simp only [hlt, ↓reduceDIte, List.drop_left, List.flatMap_cons, List.append_assoc]
    rw [decRec_encRec ac (hwf ac (by simp)) _ _ (by simp only [List.map_cons, List.sum_cons]; omega)]
    have hih := ih (fun x hx => hwf x (by simp [hx])) (pre ++ encRec ac)
    simp only [List.length_append, encRec_length, List.append_assoc] at hih
    simp only [List.map_cons, List.sum_cons, ← Nat.add_assoc, ← recSize_eq]
    rw [hih]

theorem decode_encode (m : Msg) (h : WF m) (rest : Bytes) :
    decode (encode m ++ rest) (size m) = .ok (m, rest) := by
  cases m with
  | request n => cases n <;> rfl
  | ability acs =>
    obtain ⟨hne, hwf⟩ := h
    cases acs with
    | nil => exact absurd rfl hne
    | cons ac acs =>
      have hpos := recSize_pos ac
      simp only [STRUCT_size] at hpos
      have h0 : size (.ability (ac :: acs)) ≠ 0 := by
        simp only [size, List.map_cons, List.sum_cons]; omega
      have h1 : size (.ability (ac :: acs)) ≠ 1 := by
        simp only [size, List.map_cons, List.sum_cons]; omega
      have hl := decLoop_encode (ac :: acs) hwf rest []
      simp only [List.nil_append, List.length_nil, Nat.zero_add] at hl
      simp only [decode, h0, h1, ↓reduceIte, encode]
      simp only [size] at hl ⊢
      rw [hl]
      simp only [ne_eq, not_true_eq_false, ↓reduceIte]
      have hlen : ((ac :: acs).flatMap encRec).length = ((ac :: acs).map recSize).sum :=
        encode_length (.ability (ac :: acs))
      rw [List.drop_left' hlen]

theorem encRecErr_none (ac : AcAbility) (h : WFRec ac) : encRecErr ac = none := by
  obtain ⟨h1, h2, h3, h4, h5, _, ⟨hmk, _⟩, ⟨hfk, _⟩, hg⟩ := h
  have hmode := any_lookup_isNone (d := ac.ac_mode_support) (l := [.AUTO, .HEAT, .DRY, .FAN, .COOL])
    (by rw [hmk]; decide)
  have hfan := any_lookup_isNone (d := ac.fan_speed_support)
    (l := [.AUTO, .QUIET, .LOW, .MEDIUM, .HIGH, .POWERFUL, .TURBO]) (by rw [hfk]; decide)
  have hrange : ¬ (256 ≤ ac.ac_number ∨ 256 ≤ ac.start_group ∨ 256 ≤ ac.group_count ∨
      256 ≤ ac.min_set_point ∨ 256 ≤ ac.max_set_point) := by omega
  simp only [encRecErr, hmode, hfan, hrange, Bool.false_eq_true, ↓reduceIte]
  cases hgr : ac.groups with
  | none => rfl
  | some gs =>
    simp only [Nat.not_le.mpr (groupDisplay_facts gs (hg gs hgr)).1, ↓reduceIte]

theorem encodeE_ok (m : Msg) (h : WF m) : encodeE m = .ok (encode m) := by
  cases m with
  | request n =>
    cases n with
    | none => rfl
    | some n => exact if_neg (Nat.not_le.mpr h)
  | ability acs =>
    have hnone : acs.findSome? encRecErr = none := by
      rw [List.findSome?_eq_none_iff]
      exact fun ac hac => encRecErr_none ac (h.2 ac hac)
    simp only [encodeE, hnone, encode]

theorem encRec_allBytes (ac : AcAbility) (h : WFRec ac) : AllBytes (encRec ac) := by
  obtain ⟨h1, h2, h3, h4, h5, ⟨_, _, _, hnb⟩, _, _, _⟩ := h
  have hmode := encModeSupport_lt ac.ac_mode_support
  have hfan := encFanSpeedSupport_lt ac.fan_speed_support
  have hfl : followingLength ac < 256 := by
    simp only [followingLength, FOLLOWING_LENGTH_BASE, GROUP_DISPLAY_STRUCT_size]; split <;> omega
  have hg : AllBytes (encGroups ac.groups) := by
    cases ac.groups with
    | none => exact allBytes_nil
    | some gs => exact allBytes_le16Bytes _
  simp only [encRec, allBytes_append, allBytes_cons, allBytes_nil, h1, h2, h3, h4, h5, hmode, hfan, hfl, hg,
    allBytes_encodeCString _ _ hnb, and_self]

theorem encode_allBytes (m : Msg) (h : WF m) : AllBytes (encode m) := by
  cases m with
  | request n =>
    cases n with
    | none => exact allBytes_nil
    | some n => exact allBytes_cons.mpr ⟨h, allBytes_nil⟩
  | ability acs => exact allBytes_flatMap _ _ fun ac hac => encRec_allBytes ac (h.2 ac hac)

theorem mem_decGroupDisplay (enc n : Nat) : n ∈ decGroupDisplay enc ↔ n < 16 ∧ bitToBool enc n = true := by
  simp only [decGroupDisplay, MAX_GROUP_NUMBER, List.mem_filter, List.mem_range]

theorem decGroupDisplay_wf (v : Nat) :
    (decGroupDisplay v).Pairwise (· < ·) ∧ ∀ g ∈ decGroupDisplay v, g ≤ MAX_GROUP_NUMBER :=
  ⟨List.Pairwise.filter _ List.pairwise_lt_range, fun g hg => Nat.le_of_lt_succ ((mem_decGroupDisplay v g).mp hg).1⟩

theorem decGroups_cases (fl : Nat) (after : Bytes) (g : Option (List Nat)) (hg : decGroups fl after = .ok g) :
    (fl < 24 ∧ g = none) ∨
      (24 ≤ fl ∧ ∃ lo hi tl, after = lo :: hi :: tl ∧ g = some (decGroupDisplay (lo + 256 * hi))) := by
  unfold decGroups at hg
  split at hg
  · split at hg
    · cases hg; exact .inr ⟨‹_›, _, _, _, rfl, rfl⟩
    · cases hg
  · cases hg; exact .inl ⟨Nat.lt_of_not_le ‹_›, rfl⟩

theorem decRec_cases (bs : Bytes) (avail : Nat) (a : AcAbility) (fl : Nat) (h : decRec bs avail = .ok (a, fl)) :
    ∃ ac r sg gc b23 b24 mn mx after groups name, bs = ac :: fl :: r ∧
      r.drop nameLen = sg :: gc :: b23 :: b24 :: mn :: mx :: after ∧ FOLLOWING_LENGTH_BASE ≤ fl ∧ 2 + fl ≤ avail ∧
      decGroups fl after = .ok groups ∧ decodeCString (r.take nameLen) = .ok name ∧
      a = { ac_number := ac, ac_name := name, ac_mode_support := decModeSupport b23,
            fan_speed_support := decFanSpeedSupport b24, min_set_point := mn, max_set_point := mx, groups := groups,
            start_group := sg, group_count := gc } := by
  unfold decRec at h
  split at h
  · split at h
    · rename_i hdrop
      split at h
      · cases h
      · rename_i hchk
        split at h
        · cases h
        · rename_i hgroups
          split at h
          · cases h
          · rename_i hname
            cases h
            exact ⟨_, _, _, _, _, _, _, _, _, _, _, rfl, hdrop, by omega, by omega, hgroups, hname, rfl⟩
    · cases h
  · cases h

theorem decRec_ok (bs : Bytes) (avail : Nat) (ac : AcAbility) (fl : Nat) (h : decRec bs avail = .ok (ac, fl)) :
    (recSize ac ≤ 2 + fl ∧ 2 + fl ≤ avail) ∧ (AllBytes bs → WFRec ac) := by
  obtain ⟨acN, r, sg, gc, b23, b24, mn, mx, after, groups, name, rfl, hdrop, hbase, hfit, hgroups, hname, rfl⟩ :=
    decRec_cases bs avail ac fl h
  simp only [FOLLOWING_LENGTH_BASE] at hbase
  have hg := decGroups_cases _ _ _ hgroups
  refine ⟨⟨?_, hfit⟩, fun hb => ?_⟩
  · simp only [recSize, STRUCT_size, GROUP_DISPLAY_STRUCT_size]
    obtain ⟨_, rfl⟩ | ⟨_, _, _, _, _, rfl⟩ := hg <;> simp <;> omega
  · have hr : ∀ x ∈ r, x < 256 := fun x hx => hb x (by simp [hx])
    have hd : ∀ x ∈ r.drop nameLen, x < 256 := fun x hx => hr x (List.mem_of_mem_drop hx)
    rw [hdrop] at hd
    refine ⟨hb _ (by simp), hd _ (by simp), hd _ (by simp), hd _ (by simp), hd _ (by simp),
      decodeCString_ok hname hr, ⟨rfl, rfl⟩, ⟨rfl, rfl⟩, fun gs hgs => ?_⟩
    obtain ⟨_, rfl⟩ | ⟨_, _, _, _, _, rfl⟩ := hg
    · cases hgs
    · cases hgs; exact decGroupDisplay_wf _

theorem decLoop_spec (buffer : Bytes) (msgLen offset : Nat) :
    ∀ acs off, decLoop buffer msgLen offset = .ok (acs, off) →
      offset + (acs.map recSize).sum ≤ off ∧ (offset ≤ msgLen → off = msgLen) ∧ (offset < msgLen → acs ≠ []) ∧
      (AllBytes buffer → ∀ ac ∈ acs, WFRec ac) := by
  fun_induction decLoop buffer msgLen offset with
  | case1 offset hlt e hrec => intro acs off h; cases h
  | case2 offset hlt ac fl hrec e hloop ih => intro acs off h; cases h
  | case3 offset hlt ac fl hrec acs' off' hloop ih =>
    intro acs off h
    cases h
    obtain ⟨hsum, hend, _, hwf⟩ := ih acs' off' hloop
    obtain ⟨⟨hsz, hfit⟩, hac⟩ := decRec_ok _ _ _ _ hrec
    refine ⟨by simp only [List.map_cons, List.sum_cons]; omega, fun _ => hend (by omega), fun _ => by simp,
      fun hb x hx => ?_⟩
    rcases List.mem_cons.mp hx with rfl | hx
    · exact hac (fun b hbm => hb b (List.mem_of_mem_drop hbm))
    · exact hwf hb x hx
  | case4 offset hnlt =>
    intro acs off h
    cases h
    exact ⟨by simp, fun _ => by omega, fun hc => absurd hc hnlt, fun _ x hx => nomatch hx⟩

/-- number of loop iterations: at most one per 24 announced bytes -/
theorem decLoop_iterations (buffer : Bytes) (msgLen offset : Nat) (acs : List AcAbility) (off : Nat)
    (h : decLoop buffer msgLen offset = .ok (acs, off)) :
    acs.length * STRUCT_size ≤ off - offset := by
  have ho := (decLoop_spec buffer msgLen offset acs off h).1
  have : acs.length * STRUCT_size ≤ (acs.map recSize).sum := by
    clear ho h
    induction acs with
    | nil => simp
    | cons a acs ih =>
      have := recSize_pos a
      simp only [List.length_cons, List.map_cons, List.sum_cons, Nat.add_mul]
      omega
  omega

theorem decode_cases (b : Bytes) (msgLen : Nat) (m : Msg) (rest : Bytes) (h : decode b msgLen = .ok (m, rest)) :
    (msgLen = 0 ∧ m = .request none ∧ rest = b) ∨ (msgLen = 1 ∧ ∃ g, b = g :: rest ∧ m = .request (some g)) ∨
      (msgLen ≠ 0 ∧ ∃ acs, decLoop b msgLen 0 = .ok (acs, msgLen) ∧ m = .ability acs ∧ rest = b.drop msgLen) := by
  unfold decode at h
  split at h
  · cases h; exact .inl ⟨‹_›, rfl, rfl⟩
  · split at h
    · split at h
      · cases h
      · cases h; exact .inr (.inl ⟨‹_›, _, rfl, rfl⟩)
    · split at h
      · cases h
      · rename_i acs off hloop
        split at h
        · cases h
        · rename_i hoff
          cases h
          cases Decidable.not_not.mp hoff
          exact .inr (.inr ⟨‹_›, acs, hloop, rfl, rfl⟩)

/-- `WF` is not stronger than "can be produced by decoding", so the round trip holds for all decodable payloads.  The
    encoder's `size` of the decoded message is smaller than the announced length exactly when a record carried bytes
    after the known ones, which the decoder skips: `00 2e <46 bytes>` with announced length 48 decodes to one AC whose
    encoding has 26 bytes. -/
theorem decode_spec (buffer : Bytes) (hb : AllBytes buffer) (msgLen : Nat) (m : Msg) (rest : Bytes)
    (h : decode buffer msgLen = .ok (m, rest)) : WF m ∧ size m ≤ msgLen ∧ rest = buffer.drop msgLen := by
  obtain ⟨rfl, rfl, rfl⟩ | ⟨rfl, g, rfl, rfl⟩ | ⟨h0, acs, hloop, rfl, rfl⟩ := decode_cases buffer msgLen m rest h
  · exact ⟨trivial, Nat.le_refl _, rfl⟩
  · exact ⟨hb g (by simp), Nat.le_refl _, rfl⟩
  · obtain ⟨hsum, _, hne, hwf⟩ := decLoop_spec buffer msgLen 0 acs msgLen hloop
    exact ⟨⟨hne (by omega), hwf hb⟩, by simp only [size]; omega, rfl⟩

/-- re-encoding any decoded message and decoding it again gives the same message (the re-encoding is not
    longer than the payload it was decoded from) -/
theorem decode_reencode (buffer : Bytes) (hb : AllBytes buffer) (msgLen : Nat) (m : Msg) (rest : Bytes)
    (h : decode buffer msgLen = .ok (m, rest)) (rest' : Bytes) :
    encodeE m = .ok (encode m) ∧ (encode m).length ≤ msgLen ∧
    decode (encode m ++ rest') (size m) = .ok (m, rest') := by
  obtain ⟨hwf, hsz, _⟩ := decode_spec buffer hb msgLen m rest h
  exact ⟨encodeE_ok m hwf, by rw [encode_length]; exact hsz, decode_encode m hwf rest'⟩

end PyAirtouch.Lemmas.At4FF11
