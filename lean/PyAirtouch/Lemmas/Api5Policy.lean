import PyAirtouch.Lemmas.Api5Step
/-!
# The retry-policy table of the AirTouch 5 API layer (definitions used by `Props.C02At5`) and lemmas about the calls
-/
namespace PyAirtouch.Lemmas.Api5
open PyAirtouch.Model PyAirtouch.Model.Api5 PyAirtouch.Model.At5 PyAirtouch.Model.At5.Registry
open PyAirtouch.Gen PyAirtouch.Gen.Api5

/-- a command whose repetition changes the outcome -/
def accumulating : Msg → Bool
  | .controlStatus (.acCtrl m) => m.ac_control.any fun d => d.power = .TOGGLE
  | .controlStatus (.zoneCtrl m) => m.zone_control.any fun d => d.zone_power = .TOGGLE ||
      match d.zone_setting with
      | some (.incDec _) => true
      | _ => false
  | _ => false

/-- the policy table -/
def expectedPolicy : Op → Msg → Policy
  | .callAt, _ => .idempotent
  | .callAc _ _, m | .callZone _ _, m => if accumulating m then .nonIdempotent else .idempotent
  | _, _ => .connected

def CallPol (o : Out) : Prop :=
  match o with
  | .send p m _ => p = if accumulating m then .nonIdempotent else .idempotent
  | _ => True

theorem acCall_callPol (s : State) (a : AcObj) (c : AcCall) : AllOut CallPol (acCall s a c) := by
  rcases acCall_cases a c with ⟨e, _, h⟩ | ⟨power, _, _, _, _, _, h⟩ | ⟨m, _, hm, h⟩ <;> rw [h s]
  · exact allOut_nil _ _ _
  · exact allOut_sendMsg _ _ _ _ (by simp [CallPol, accumulating, msgAcControl])
  · rcases hm with ⟨d, rfl⟩ | ⟨t, n, rfl⟩ <;> exact allOut_sendMsg _ _ _ _ rfl

def ZonePol (o : Out) : Prop :=
  match o with
  | .send p _ _ => p = .idempotent
  | _ => True

theorem zoneCall_zonePol (s : State) (z : ZoneObj) (c : ZoneCall) : AllOut ZonePol (zoneCall s z c) := by
  rcases zoneCall_cases z c with ⟨e, _, h⟩ | ⟨d, _, _, h⟩ <;> rw [h s]
  · exact allOut_nil _ _ _
  · exact allOut_sendMsg _ _ _ _ rfl

theorem zoneCall_callPol (s : State) (z : ZoneObj) (c : ZoneCall) : AllOut CallPol (zoneCall s z c) := by
  rcases zoneCall_cases z c with ⟨e, _, h⟩ | ⟨d, h1, h2, h⟩ <;> rw [h s]
  · exact allOut_nil _ _ _
  · refine allOut_sendMsg _ _ _ _ ?_
    have : accumulating (msgZoneControl d) = false := by
      simp only [accumulating, msgZoneControl, List.any_cons, List.any_nil, Bool.or_false, decide_eq_false h1]
    simp [CallPol, this]

theorem mem_callOut {r : HR} {p : Policy} {m : Msg} {b : Bool} (h : Out.send p m b ∈ callOut r) : Out.send p m b ∈ r.out := by
  simpa [callOut] using h

theorem callAc_send_mem {s : State} {id : Nat} {c : AcCall} {p : Policy} {m : Msg} {b : Bool}
    (h : Out.send p m b ∈ (apiStep s (.callAc id c)).2) : ∃ r a, s.ac? id = some (r, a) ∧ Out.send p m b ∈ (acCall s a c).out := by
  simp only [apiStep] at h
  split at h
  · exact ⟨_, _, ‹_›, mem_callOut h⟩
  · simp at h

theorem callZone_send_mem {s : State} {id : Nat} {c : ZoneCall} {p : Policy} {m : Msg} {b : Bool}
    (h : Out.send p m b ∈ (apiStep s (.callZone id c)).2) :
    ∃ r z, s.zone? id = some (r, z) ∧ Out.send p m b ∈ (zoneCall s z c).out := by
  simp only [apiStep] at h
  split at h
  · exact ⟨_, _, ‹_›, mem_callOut h⟩
  · simp at h

def AcPol (c : AcCall) (o : Out) : Prop :=
  match o with
  | .send p _ _ => (p = .nonIdempotent ↔ c = .setPower .TOGGLE)
  | _ => True

theorem acCall_acPol (s : State) (a : AcObj) (c : AcCall) : AllOut (AcPol c) (acCall s a c) := by
  rcases acCall_cases a c with ⟨e, _, h⟩ | ⟨power, _, _, _, _, hp, h⟩ | ⟨m, hc, _, h⟩ <;> rw [h s]
  · exact allOut_nil _ _ _
  · refine allOut_sendMsg _ _ _ _ ?_
    show _ ↔ _
    rw [← hp]
    by_cases ht : power = .TOGGLE <;> simp [ht]
  · exact allOut_sendMsg _ _ _ _ ⟨(fun h => by cases h), fun h => absurd h (hc _)⟩

/-- every send of every op: a call follows the accumulation rule (`check_for_updates` is idempotent), everything else -
connection handler, frame handler, timers - is a request with the connected-only policy -/
theorem apiStep_send (s : State) (op : Op) (p : Policy) (m : Msg) (b : Bool) (h : Out.send p m b ∈ (apiStep s op).2) :
    match op with
    | .callAt => p = .idempotent
    | .callAc _ _ | .callZone _ _ => p = if accumulating m then .nonIdempotent else .idempotent
    | _ => p = .connected ∧ isRequest m = true := by
  cases op with
  | init => simp only [apiStep, doInit] at h; split at h <;> simp at h
  | shutdown => simp [apiStep, doShutdown] at h
  | conn up =>
    simp only [apiStep, doConn_eq] at h
    split at h
    · obtain ⟨_, _, _, e3, _⟩ := handleConnection_shape { s with hb := hbStep s.hb (.conn up s.now) } up
      exact (excOut_connReq _ (fun o ho => (e3 o ho).2) _ h).imp_right And.left
    · simp at h
  | msg toAddr m' =>
    rcases doMsg_out_mem h with ⟨_, h | ⟨c, _, hc⟩ | h⟩
    · exact (handleMessage_connReq _ _ _ _ h).imp_right And.left
    · cases hc
    · exact (hbFeed_connReq _ _ _ h).imp_right And.left
  | undecodable c => simp [apiStep] at h
  | callAt =>
    have := mem_callOut h
    simp only [sendMsg] at this
    split at this <;> simp at this
    exact this.1
  | callAc id c =>
    obtain ⟨_, a, _, h⟩ := callAc_send_mem h
    exact acCall_callPol _ a c _ h
  | callZone id c =>
    obtain ⟨_, z, _, h⟩ := callZone_send_mem h
    exact zoneCall_callPol _ z c _ h
  | sub t sid r => cases subTarget_out _ _ _ _ h
  | unsub t sid => cases subTarget_out _ _ _ _ h
  | adv n =>
    rcases doAdv_out s n _ h with h | h | h
    · cases h
    · cases h; exact ⟨rfl, rfl⟩
    · cases h
  | view => simp only [apiStep] at h; split at h <;> simp at h

end PyAirtouch.Lemmas.Api5
