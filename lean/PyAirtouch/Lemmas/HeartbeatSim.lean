import PyAirtouch.Lemmas.Heartbeat
/-!
# Observational equivalence of heartbeat-manager states

Two `HB` records that differ only in what no step ever reads behave alike.  Never read: the ghost
fields `lastArm`, `expiries`; the event flag while the manager is not running (`start` clears it,
a response is not even delivered); `resetAt` outside a reset in progress (it is written on entering
the reset).  `trace` is append-only output: equivalent states append the same events.

Used by the API models: the manager of an API object that was shut down and the manager of a fresh
object are equivalent in this sense, and stay so for ever.

That the scheduler (`settle`, `feed`) respects the equivalence is in `Lemmas/HeartbeatSched.lean`.
-/
namespace PyAirtouch.Lemmas.Heartbeat
open PyAirtouch.Model.Heartbeat PyAirtouch.Spec.Heartbeat

/-- equal in everything a step can read -/
structure HbEquiv (h h' : HB) : Prop where
  now : h.now = h'.now
  interval : h.interval = h'.interval
  timeout : h.timeout = h'.timeout
  tl : h.tl = h'.tl
  hl : h.hl = h'.hl
  connected : h.connected = h'.connected
  flag : h.tl ≠ .idle → h.flag = h'.flag
  resetAt : h.tl = .resetting → h.resetAt = h'.resetAt

theorem HbEquiv.refl (h : HB) : HbEquiv h h := ⟨rfl, rfl, rfl, rfl, rfl, rfl, fun _ => rfl, fun _ => rfl⟩

theorem HbEquiv.symm {h h' : HB} (e : HbEquiv h h') : HbEquiv h' h :=
  ⟨e.now.symm, e.interval.symm, e.timeout.symm, e.tl.symm, e.hl.symm, e.connected.symm,
   fun hn => (e.flag (by rw [e.tl]; exact hn)).symm, fun hr => (e.resetAt (by rw [e.tl]; exact hr)).symm⟩

theorem HbEquiv.trans {a b c : HB} (e1 : HbEquiv a b) (e2 : HbEquiv b c) : HbEquiv a c :=
  ⟨e1.now.trans e2.now, e1.interval.trans e2.interval, e1.timeout.trans e2.timeout, e1.tl.trans e2.tl,
   e1.hl.trans e2.hl, e1.connected.trans e2.connected,
   fun hn => (e1.flag hn).trans (e2.flag (by rw [← e1.tl]; exact hn)),
   fun hr => (e1.resetAt hr).trans (e2.resetAt (by rw [← e1.tl]; exact hr))⟩

theorem HbEquiv.ghost (h : HB) (la : Nat) (ex : List Nat) (tr : List HEv) :
    HbEquiv h { h with lastArm := la, expiries := ex, trace := tr } :=
  ⟨rfl, rfl, rfl, rfl, rfl, rfl, fun _ => rfl, fun _ => rfl⟩

/-- what a step appended to the trace -/
def newEvents (h h' : HB) : List HEv := h'.trace.drop h.trace.length

theorem HbEquiv.transfer {h k g : HB} {l : Label} (e : HbEquiv h k) (hs : Step h l g) :
    ∃ g', Step k l g' ∧ HbEquiv g g' ∧ ∃ evs, g.trace = h.trace ++ evs ∧ g'.trace = k.trace ++ evs := by
  obtain ⟨e1, e2, e3, e4, e5, e6, e7, e8⟩ := e
  cases h with | mk n i t f tl hl c la ra ex tr =>
  cases k with | mk n' i' t' f' tl' hl' c' la' ra' ex' tr' =>
  dsimp only at e1 e2 e3 e4 e5 e6 e7 e8
  subst e1 e2 e3 e4 e5 e6
  have nil : ∃ evs : List HEv, tr = tr ++ evs ∧ tr' = tr' ++ evs :=
    ⟨[], (List.append_nil _).symm, (List.append_nil _).symm⟩
  have ne : ∀ {d}, tl = .waiting d → tl ≠ .idle := fun ed k => by rw [ed] at k; cases k
  -- the two successors are built from the same `now … connected`
  have same : ∀ {f f' : Bool} {tl : TL} {hl : HL} {la la' ra ra' : Nat} {ex ex' : List Nat} {tr tr' : List HEv}
      {n i t : Nat} {c : Bool}, (tl ≠ .idle → f = f') → (tl = .resetting → ra = ra') →
      HbEquiv ⟨n, i, t, f, tl, hl, c, la, ra, ex, tr⟩ ⟨n, i, t, f', tl, hl, c, la', ra', ex', tr'⟩ :=
    fun a b => ⟨rfl, rfl, rfl, rfl, rfl, rfl, a, b⟩
  cases hs with
  | advance hn hd hu =>
    exact ⟨_, .advance hn (fun d ed => ⟨(hd d ed).1, e7 (ne ed) ▸ (hd d ed).2⟩) hu, same e7 e8, nil⟩
  | conn up => exact ⟨_, .conn up, same e7 e8, _, rfl, rfl⟩
  | start a b => exact ⟨_, .start a b, same (fun _ => rfl) nofun, _, rfl, rfl⟩
  | startAgain a => exact ⟨_, .startAgain a, same e7 e8, nil⟩
  | stop a => exact ⟨_, .stop a, same (fun k => absurd rfl k) nofun, _, rfl, rfl⟩
  | stopAgain a b => exact ⟨_, .stopAgain a b, same e7 e8, nil⟩
  | response a => exact ⟨_, .response a, same (fun _ => rfl) e8, _, rfl, rfl⟩
  | wake ed hf => exact ⟨_, .wake ed (e7 (ne ed) ▸ hf), same (fun _ => rfl) nofun, nil⟩
  | fireUp ed hle hc => exact ⟨_, .fireUp ed hle hc, same (fun _ => e7 (ne ed)) (fun _ => rfl), _, rfl, rfl⟩
  | fireDown ed hle hc => exact ⟨_, .fireDown ed hle hc, same (fun _ => rfl) nofun, nil⟩
  | resetDone a => exact ⟨_, .resetDone a, same (fun _ => rfl) nofun, _, rfl, rfl⟩
  | beatUp eu hle hc => exact ⟨_, .beatUp eu hle hc, same e7 e8, _, rfl, rfl⟩
  | beatDown eu hle hc => exact ⟨_, .beatDown eu hle hc, same e7 e8, nil⟩

theorem HbEquiv.step {h h' : HB} (e : HbEquiv h h') (l : Label) :
    (step h l = none ∧ step h' l = none) ∨
    ∃ g g', step h l = some g ∧ step h' l = some g' ∧ HbEquiv g g' ∧
      ∃ evs, g.trace = h.trace ++ evs ∧ g'.trace = h'.trace ++ evs := by
  -- (`step` alone would be this theorem: `HbEquiv.step` shadows the model's `step` in its own body)
  cases hs : PyAirtouch.Model.Heartbeat.step h l with
  | some g =>
    obtain ⟨g', s', eg, ev⟩ := e.transfer (step_iff.1 hs)
    exact .inr ⟨g, g', rfl, step_iff.2 s', eg, ev⟩
  | none =>
    cases hs' : PyAirtouch.Model.Heartbeat.step h' l with
    | none => exact .inl ⟨rfl, rfl⟩
    | some g' =>
      obtain ⟨g, s, -⟩ := e.symm.transfer (step_iff.1 hs')
      rw [step_iff.2 s] at hs; cases hs

/-- `HbEquiv` together with "the same events were appended since `(h0, h0')`" -/
structure HbSim (h0 h0' h h' : HB) : Prop where
  equiv : HbEquiv h h'
  events : ∃ evs, h.trace = h0.trace ++ evs ∧ h'.trace = h0'.trace ++ evs

theorem HbSim.refl {h h' : HB} (e : HbEquiv h h') : HbSim h h' h h' :=
  ⟨e, [], (List.append_nil _).symm, (List.append_nil _).symm⟩

theorem HbSim.apply {h0 h0' h h' : HB} (s : HbSim h0 h0' h h') (l : Label) :
    HbSim h0 h0' (apply! h l) (apply! h' l) := by
  obtain ⟨e, evs, t1, t2⟩ := s
  rcases e.step l with ⟨n1, n2⟩ | ⟨g, g', s1, s2, eg, evs', u1, u2⟩
  · simp only [apply!, n1, n2, Option.getD_none]; exact ⟨e, evs, t1, t2⟩
  · simp only [apply!, s1, s2, Option.getD_some]
    exact ⟨eg, evs ++ evs', by rw [u1, t1, List.append_assoc], by rw [u2, t2, List.append_assoc]⟩

end PyAirtouch.Lemmas.Heartbeat
