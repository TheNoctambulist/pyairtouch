import PyAirtouch.Lemmas.Api4Poll
import PyAirtouch.Lemmas.Api4Events
import PyAirtouch.Lemmas.Heartbeat
/-!
# The heartbeat embedded in the AirTouch 4 API model

Every op acts on the embedded `Heartbeat.HB` as a sequence of enabled labels of the heartbeat model, so what
`Props/C08.lean` proves about reachable heartbeat states holds for `s.hb` of every reachable API state.  What the
handlers do outside the object model is in `Api4Ctl.lean`.

The bridge is a `Heartbeat.Ran` at every level.  Each piece of a handler is specified from the model's own actions
(`startedHB_ran`, `respondedHB_ran`, the two loops under the clock `timeoutHB_ran`, `beatHB_ran`); a tick is their composition
(`tickHB_calc`, with `TickCalc` also giving the invariant and the two timers afterwards), then `advHB_ran`, `recvHB_ran`,
`opHB_ran`, `apiStep_ran` - the one to build on: `apiStep s op` runs `opLabels s op` and logs `opTrace s op` - and `run_ran`
for scripts.  `tick_hb_run`, `apiStep_hb_run`, `run_hb_run` are these as conjunctions, with counts and time stamps.

On the way: the invariant `HbWf` (`HbOk` on clock, connection flag and manager) under which the labels are enabled; which
op outputs `RESET`, `HBSTART`, `HBSTOP` and how often; `adv n` in closed form, the manager's two loops being timers armed again one period after each expiry
(`dueRun` in `Api4Poll.lean`); scripts along which no `RESET` can occur (`responsive`).
-/
namespace PyAirtouch.Lemmas.Api4
open PyAirtouch.Model PyAirtouch.Model.Api4 PyAirtouch.Model.At4 PyAirtouch.Gen
open PyAirtouch.Model.Heartbeat (HB TL HL Label step Reachable enterTimeout)
open PyAirtouch.Spec.Heartbeat (HEv)
open PyAirtouch.Lemmas.Heartbeat (reachable_step reachable_run reachable_basic step_iff Frame apply_frame apply_cases apply_inv
  apply_of_step Step Ran Drives)

/-- the heartbeat interval and timeout of the API object, in ticks -/
abbrev hbI : Nat := heartbeatDefaultIntervalField
abbrev hbT : Nat := heartbeatDefaultTimeoutField

/-- the heartbeat request as an output event; `hbMessage` is `versionRequest`, so the handshake's version request, sent
    with the same policy when the connection comes up, is this event too -/
def hbEv : Ev := Ev.send .connected hbMessage

/-! ## the embedded heartbeat alone -/

theorem hbIdle_iff (h : HB) : hbIdle h = true ↔ h.tl = .idle ∧ h.hl = .idle := by
  unfold Api4.hbIdle
  cases h.tl <;> cases h.hl <;> simp

theorem hbApply_frame (h : HB) (l : Label) : Frame h l (hbApply h l) := apply_frame h l

theorem hbApply_of_step {h g : HB} {l : Label} (hs : Step h l g) : hbApply h l = g := apply_of_step hs

theorem hbIdle_apply (h : HB) (l : Label) (h1 : l ≠ .start) (h2 : l ≠ .stop) : hbIdle (hbApply h l) = hbIdle h := by
  obtain ⟨e1, e2⟩ := (hbApply_frame h l).running h1 h2
  rw [Bool.eq_iff_iff, hbIdle_iff, hbIdle_iff, e1, e2]

theorem hbApply_start_running {h : HB} (hi : hbIdle h = false) : hbApply h .start = h := by
  unfold Api4.hbIdle at hi
  unfold hbApply step
  cases htl : h.tl <;> cases hhl : h.hl <;> first | rfl | (rw [htl, hhl] at hi; cases hi)

theorem hbApply_run (h : HB) (l : Label) : ∃ ls, Model.Heartbeat.run h ls = some (hbApply h l) ∧
    (ls = [l] ∨ (ls = [] ∧ step h l = none)) :=
  (apply_cases h l).elim (fun e => ⟨[], congrArg some e.2.symm, .inr ⟨rfl, e.1⟩⟩)
    fun hs => ⟨[l], Lemmas.Heartbeat.run_one (step_iff.2 hs), .inl rfl⟩

theorem reachable_hbApply {i t : Nat} {h : HB} (l : Label) (hr : Reachable i t h) :
    Reachable i t (hbApply h l) :=
  apply_inv (P := Reachable i t) hr fun _ hs => reachable_step hr (step_iff.2 hs)

theorem hb_now_self (h : HB) (n : Nat) (hn : h.now = n) : { h with now := n } = h := by
  subst hn; rfl

/-- the heartbeat part of the API-level invariant, as a predicate of the clock `n`, the socket's connection
    flag `c` and the embedded heartbeat: the strong invariant (`HbWf` is it on a state, `HbOk0` of Api4Shutdown its weak
    part); its AirTouch 5 counterpart is `Api5.HbOk` -/
structure HbOk (n : Nat) (c : Bool) (h : HB) : Prop where
  now_eq : h.now = n
  reach : Reachable hbI hbT h
  flag : h.flag = false
  not_resetting : h.tl ≠ .resetting
  deadline : ∀ d, h.tl = .waiting d → n < d
  wake : ∀ u, h.hl = .sleeping u → n < u
  conn : h.connected = c

theorem HbOk.timeout_eq {n c h} (ok : HbOk n c h) : h.timeout = 2640 := (reachable_basic ok.reach).timeout_eq
theorem HbOk.interval_eq {n c h} (ok : HbOk n c h) : h.interval = 2400 := (reachable_basic ok.reach).interval_eq
theorem HbOk.both {n c h} (ok : HbOk n c h) : h.tl = .idle ↔ h.hl = .idle := (reachable_basic ok.reach).both

theorem hbOk_conn {n c h} (up : Bool) (ok : HbOk n c h) : HbOk n up (hbApply h (.conn up)) :=
  ⟨ok.now_eq, reachable_hbApply _ ok.reach, ok.flag, ok.not_resetting, ok.deadline, ok.wake, rfl⟩

theorem hbApply_stop (h : HB) :
    (hbApply h .stop).tl = .idle ∧ (hbApply h .stop).hl = .idle ∧ (hbApply h .stop).flag = h.flag := by
  unfold hbApply step
  cases htl : h.tl <;> cases hhl : h.hl <;> exact ⟨by first | rfl | exact htl, by first | rfl | exact hhl, rfl⟩

theorem hbOk_stop {n c h} (ok : HbOk n c h) :
    HbOk n false (hbApply (hbApply h .stop) (.conn false)) ∧
    hbIdle (hbApply (hbApply h .stop) (.conn false)) = true := by
  obtain ⟨t, l, f⟩ := hbApply_stop h
  have fr := hbApply_frame h .stop
  refine ⟨hbOk_conn false ⟨(fr.now nofun).trans ok.now_eq, reachable_hbApply _ ok.reach, f.trans ok.flag,
    (by rw [t]; intro h; cases h), (fun d hd => by rw [t] at hd; cases hd), (fun u hu => by rw [l] at hu; cases hu),
    (fr.connected nofun).trans ok.conn⟩, ?_⟩
  exact (hbIdle_iff _).mpr ⟨t, l⟩

/-- `g` is `h` with the timeout loop armed at `h`'s clock; configuration, clock and connection flag as in `h` -/
structure Armed (h g : HB) : Prop where
  tl : g.tl = .waiting (h.now + h.timeout)
  lastArm : g.lastArm = h.now
  flag : g.flag = false
  now : g.now = h.now
  interval : g.interval = h.interval
  timeout : g.timeout = h.timeout
  connected : g.connected = h.connected

theorem HbOk.armed {n c h g} (ok : HbOk n c h) (a : Armed h g) {ls : List Label} {tr : List HEv}
    (r : Ran h ls tr g) (hw : ∀ u, g.hl = .sleeping u → n < u) : HbOk n c g := by
  have ht := ok.timeout_eq
  refine ⟨a.now.trans ok.now_eq, reachable_run ok.reach r.run, a.flag, by rw [a.tl]; nofun, fun d hd => ?_, hw,
    a.connected.trans ok.conn⟩
  rw [a.tl, ok.now_eq] at hd; cases hd; omega

theorem startedHB_ran {h : HB} (hi : hbIdle h = true) :
    Armed h (startedHB h) ∧ (startedHB h).hl = .sleeping (h.now + h.interval) ∧
    Ran h [.start, .hlBeat] ([.start h.now] ++ if h.connected then [.beat h.now] else []) (startedHB h) := by
  have a := Step.start ((hbIdle_iff h).1 hi).1 ((hbIdle_iff h).1 hi).2
  unfold startedHB
  rw [hbApply_of_step a]
  cases hc : h.connected with
  | true =>
    have b := Step.beatUp (h := { enterTimeout h with hl := .sleeping h.now }.emit (.start h.now)) rfl (Nat.le_refl _) hc
    rw [hbApply_of_step b]
    exact ⟨⟨rfl, rfl, rfl, rfl, rfl, rfl, rfl⟩, rfl, (a.ran rfl).trans (b.ran rfl)⟩
  | false =>
    have b := Step.beatDown (h := { enterTimeout h with hl := .sleeping h.now }.emit (.start h.now)) rfl (Nat.le_refl _) hc
    rw [hbApply_of_step b]
    exact ⟨⟨rfl, rfl, rfl, rfl, rfl, rfl, rfl⟩, rfl, (a.ran rfl).trans (b.ran_nil rfl)⟩

theorem hbOk_started {n c h} (ok : HbOk n c h) (hi : hbIdle h = true) : HbOk n c (startedHB h) := by
  obtain ⟨a, hl, r⟩ := startedHB_ran hi
  have hiv := ok.interval_eq
  exact ok.armed a r fun u hu => by rw [hl, ok.now_eq] at hu; cases hu; omega

theorem respondedHB_idle {h : HB} (hi : h.tl = .idle) : respondedHB h = h := by
  simp [respondedHB, hbApply, step, hi]

theorem respondedHB_ran {h : HB} {d : Nat} (hw : h.tl = .waiting d) :
    Armed h (respondedHB h) ∧ (respondedHB h).hl = h.hl ∧ Ran h [.response, .tlWake] [.resp h.now] (respondedHB h) := by
  have a := Step.response (h := h) (by rw [hw]; nofun)
  have b := Step.wake (h := { h with flag := true }.emit (.resp h.now)) hw rfl
  unfold respondedHB
  rw [hbApply_of_step a, hbApply_of_step b]
  exact ⟨⟨rfl, rfl, rfl, rfl, rfl, rfl, rfl⟩, rfl, (a.ran rfl).trans (b.ran_nil rfl)⟩

theorem respondedHB_run {h : HB} (hnr : h.tl ≠ .resetting) :
    ∃ ls, Model.Heartbeat.run h ls = some (respondedHB h) ∧ (ls = [] ∨ ls = [.response, .tlWake]) := by
  cases htl : h.tl with
  | idle => exact ⟨[], by rw [respondedHB_idle htl]; rfl, Or.inl rfl⟩
  | waiting d => exact ⟨_, (respondedHB_ran htl).2.2.run, Or.inr rfl⟩
  | resetting => exact absurd htl hnr

theorem hbOk_responded {n c h} (ok : HbOk n c h) : HbOk n c (respondedHB h) := by
  cases htl : h.tl with
  | idle => rw [respondedHB_idle htl]; exact ok
  | resetting => exact absurd htl ok.not_resetting
  | waiting d =>
    obtain ⟨a, hl, r⟩ := respondedHB_ran htl
    exact ok.armed a r fun u hu => ok.wake u (hl ▸ hu)

/-! ### one tick of the clock -/

/-- one tick to time `t` as labels of the heartbeat model -/
def tickLabels (c : Bool) (t : Nat) (h : HB) : List Label :=
  [.advance t] ++
  (match h.tl with
   | .waiting d => if d ≤ t then (if c then [.tlFire, .tlResetDone] else [.tlFire]) else []
   | _ => []) ++
  (match h.hl with
   | .sleeping u => if u ≤ t then [.hlBeat] else []
   | .idle => [])

/-- the events the manager records during one tick to time `t` -/
def tickTrace (c : Bool) (t : Nat) (h : HB) : List HEv :=
  (match h.tl with
   | .waiting d => if d ≤ t then (if c then [.reset t, .resetDone t] else []) else []
   | _ => []) ++
  (match h.hl with
   | .sleeping u => if u ≤ t then (if c then [.beat t] else []) else []
   | .idle => [])

theorem tickTrace_eq (c : Bool) (t : Nat) (h : HB) :
    tickTrace c t h = (if tlDue t h.tl && c then [.reset t, .resetDone t] else []) ++
      (if hlDue t h.hl && c then [.beat t] else []) := by
  unfold tickTrace tlDue hlDue
  cases h.tl <;> cases h.hl <;> cases c <;> simp

/-! `tickLabels` and `tickTrace` are the clock, then the timeout loop's share, then the heartbeat loop's -/

def tlLabels (c : Bool) (t : Nat) : TL → List Label
  | .waiting d => if d ≤ t then (if c then [.tlFire, .tlResetDone] else [.tlFire]) else []
  | _ => []

def tlTrace (c : Bool) (t : Nat) : TL → List HEv
  | .waiting d => if d ≤ t then (if c then [.reset t, .resetDone t] else []) else []
  | _ => []

def hlLabels (t : Nat) : HL → List Label
  | .sleeping u => if u ≤ t then [.hlBeat] else []
  | .idle => []

def hlTrace (c : Bool) (t : Nat) : HL → List HEv
  | .sleeping u => if u ≤ t then (if c then [.beat t] else []) else []
  | .idle => []

theorem tickLabels_shares (c : Bool) (t : Nat) (h : HB) :
    tickLabels c t h = [.advance t] ++ tlLabels c t h.tl ++ hlLabels t h.hl := rfl

theorem tickTrace_shares (c : Bool) (t : Nat) (h : HB) :
    tickTrace c t h = [] ++ tlTrace c t h.tl ++ hlTrace c t h.hl := rfl

def tickTl (t T : Nat) : TL → TL
  | .waiting d => .waiting (dueStep T t d)
  | x => x

def tickHl (t I : Nat) : HL → HL
  | .sleeping u => .sleeping (dueStep I t u)
  | .idle => .idle

/-- resetting the connection takes no time: `tlResetDone` follows `tlFire` within the tick -/
theorem timeoutHB_ran {c : Bool} {t : Nat} {h : HB} (hn : h.now = t) (hc : h.connected = c) :
    Ran h (tlLabels c t h.tl) (tlTrace c t h.tl) (timeoutHB c t h) ∧
    (timeoutHB c t h).tl = tickTl t h.timeout h.tl ∧ (h.flag = false → (timeoutHB c t h).flag = false) := by
  subst hn hc
  unfold timeoutHB
  cases hw : h.tl with
  | idle | resetting => exact ⟨.nil h, hw, id⟩
  | waiting d =>
    by_cases hd : d ≤ h.now
    · simp only [tlLabels, tlTrace, tickTl, dueStep, if_pos hd]
      cases hc : h.connected with
      | true =>
        have s := Step.fireUp hw hd hc
        rw [hbApply_of_step s, hbApply_of_step (.resetDone rfl)]
        exact ⟨(s.ran rfl).trans (Step.ran (.resetDone rfl) rfl), rfl, fun _ => rfl⟩
      | false =>
        have s := Step.fireDown hw hd hc
        rw [hbApply_of_step s]
        exact ⟨s.ran_nil rfl, rfl, fun _ => rfl⟩
    · simp only [tlLabels, tlTrace, tickTl, dueStep, if_neg hd]
      exact ⟨.nil h, hw, id⟩

theorem beatHB_ran {c : Bool} {t : Nat} {h : HB} (hn : h.now = t) (hc : h.connected = c) :
    Ran h (hlLabels t h.hl) (hlTrace c t h.hl) (beatHB t h) ∧
    (beatHB t h).hl = tickHl t h.interval h.hl ∧ (beatHB t h).tl = h.tl ∧ (beatHB t h).flag = h.flag := by
  subst hn hc
  unfold beatHB
  cases hw : h.hl with
  | idle => exact ⟨.nil h, hw, rfl, rfl⟩
  | sleeping u =>
    by_cases hu : u ≤ h.now
    · simp only [hlLabels, hlTrace, tickHl, dueStep, if_pos hu]
      cases hc : h.connected with
      | true =>
        have s := Step.beatUp hw hu hc
        rw [hbApply_of_step s]
        exact ⟨s.ran rfl, rfl, rfl, rfl⟩
      | false =>
        have s := Step.beatDown hw hu hc
        rw [hbApply_of_step s]
        exact ⟨s.ran_nil rfl, rfl, rfl, rfl⟩
    · simp only [hlLabels, hlTrace, tickHl, dueStep, if_neg hu, and_true]
      exact ⟨.nil h, hw⟩

/-- what the labels of the timeout loop keep holds without any invariant (`tick_counts` has none at hand) -/
theorem timeoutHB_hl (c : Bool) (t : Nat) (h : HB) : (timeoutHB c t h).hl = h.hl :=
  (timeoutHB_drives c t h).inv_apply (Q := fun g => g.hl = h.hl) (fun g l hl e => ((hbApply_frame g l).timeoutLoop hl).trans e) rfl

structure TickCalc (c : Bool) (n : Nat) (h : HB) : Prop where
  ran : Ran h (tickLabels c (n + 1) h) (tickTrace c (n + 1) h) (tickHB c (n + 1) h)
  ok : HbOk (n + 1) c (tickHB c (n + 1) h)
  tl : (tickHB c (n + 1) h).tl = tickTl (n + 1) h.timeout h.tl
  hl : (tickHB c (n + 1) h).hl = tickHl (n + 1) h.interval h.hl

/-- the clock moves (the invariant says that it may), then the two loops look at it, one after the other; what their
    labels keep comes from `Drives` -/
theorem tickHB_calc {n : Nat} {c : Bool} {h : HB} (ok : HbOk n c h) : TickCalc c n h := by
  have a : Step h (.advance (n + 1)) { h with now := n + 1 } :=
    .advance (ok.now_eq ▸ Nat.le_succ n) (fun d hd => ⟨ok.deadline d hd, ok.flag⟩) (fun u hu => ok.wake u hu)
  have d1 := timeoutHB_drives c (n + 1) { h with now := n + 1 }
  obtain ⟨n1, c1⟩ := d1.clock (by rintro _ (rfl | rfl) <;> exact ⟨nofun, nofun⟩)
  obtain ⟨n2, c2⟩ := (tickHB_drives c (n + 1) h).clock timerLabel_clock
  obtain ⟨r1, tl1, f1⟩ := timeoutHB_ran (c := c) (t := n + 1) (h := { h with now := n + 1 }) rfl ok.conn
  obtain ⟨r2, hl2, tl2, f2⟩ := beatHB_ran (t := n + 1) n1 (c1.trans ok.conn)
  rw [timeoutHB_hl] at r2 hl2
  rw [d1.params.1] at hl2
  have ran : Ran h (tickLabels c (n + 1) h) (tickTrace c (n + 1) h) (tickHB c (n + 1) h) := by
    rw [tickLabels_shares, tickTrace_shares]; exact ((a.ran_nil rfl).trans r1).trans r2
  have etl : (tickHB c (n + 1) h).tl = tickTl (n + 1) h.timeout h.tl := tl2.trans tl1
  have ehl : (tickHB c (n + 1) h).hl = tickHl (n + 1) h.interval h.hl := hl2
  refine ⟨ran, ⟨n2, reachable_run ok.reach ran.run, f2.trans (f1 ok.flag), ?_, ?_, ?_, c2.trans ok.conn⟩, etl, ehl⟩
  · rw [etl]; cases htl : h.tl <;> first | exact absurd htl ok.not_resetting | nofun
  · intro d hd
    rw [etl] at hd
    cases htl : h.tl <;> rw [htl] at hd <;> cases hd
    exact dueStep_ahead (by rw [ok.timeout_eq]; decide)
  · intro u hu
    rw [ehl] at hu
    cases hhl : h.hl <;> rw [hhl] at hu <;> cases hu
    exact dueStep_ahead (by rw [ok.interval_eq]; decide)

theorem hbOk_tick {n c h} (ok : HbOk n c h) : HbOk (n + 1) c (tickHB c (n + 1) h) := (tickHB_calc ok).ok

/-! ## the API state -/

/-- everything an op that starts, stops, resets or beats can output: `RESET`, `HBSTART`, `HBSTOP`, the request, and
    `RESULT` (the completing message also releases the waiting `init()` calls, `shutdown()` reports `OK`); `Plain`
    lists have none of them.  `hbSys` further down is the life cycle alone. -/
def hbRelevant : Ev → Bool
  | .reset | .hbStart | .hbStop => true
  | .result _ => true
  | .send .connected m => m == hbMessage
  | _ => false

/-! ### events that do not concern the heartbeat -/

def Plain (l : List Ev) : Prop := ∀ e ∈ l, hbRelevant e = false

theorem plain_nil : Plain [] := fun _ he => nomatch he

theorem plain_append {l₁ l₂ : List Ev} (h1 : Plain l₁) (h2 : Plain l₂) : Plain (l₁ ++ l₂) :=
  fun e he => (List.mem_append.mp he).elim (h1 e) (h2 e)

theorem plain_single {e : Ev} (h : hbRelevant e = false) : Plain [e] :=
  fun _ he => List.mem_singleton.mp he ▸ h

theorem Plain.not_mem {l : List Ev} (h : Plain l) {e : Ev} (he : hbRelevant e = true) : e ∉ l :=
  fun hm => by rw [h e hm] at he; cases he

theorem Plain.count_zero {l : List Ev} (h : Plain l) {e : Ev} (he : hbRelevant e = true) : l.count e = 0 :=
  List.count_eq_zero.mpr (h.not_mem he)

theorem plain_of_update {e : Ev} (h : UpdateEv e) : hbRelevant e = false := by
  rcases h with h | ⟨ac, rfl⟩
  · cases e <;> first | rfl | cases h
  · simp [hbRelevant, errInfoRequest, hbMessage, versionRequest]

theorem plain_store (s : State) (m : RMsg) : Plain (store s m).2 :=
  fun e he => plain_of_update (updateEv_store s m e he)

/-- the request that follows an awaited answer is not the heartbeat's (which is the version request) -/
theorem plain_request {st : AState} {m : RMsg} (h : answerKind st m = true) :
    Plain ((requestOnLeaving st).toList.map (Ev.send .connected)) := by
  unfold answerKind at h
  split at h
  case h_8 => cases h
  all_goals unfold Plain; decide

theorem plain_onMessage (s : State) (m : RMsg) (hc : completes s m = false) : Plain (onMessage s m).2.1 := by
  rcases onMessage_cases s m with ⟨_, e⟩ | ⟨h, hs, _⟩ | ⟨_, _, _, e⟩ | ⟨h, _, _, e⟩
  · rw [e]; exact fun e he => plain_of_update (updateEv_absorb s m e he)
  · obtain ⟨l, rfl⟩ := answerKind_final hs h
    rw [(completes_iff s _).2 ⟨hs, l, rfl⟩] at hc; cases hc
  · rw [e]; exact plain_nil
  · rw [e]; exact plain_append (plain_store s m) (plain_request h)

theorem hbOnMessage_eq (s : State) (m : RMsg) :
    hbOnMessage s m =
      if isHeartbeatResponse m then { s with hb := respondedHB { s.hb with now := s.now } } else s := rfl

theorem plain_recv (s : State) (m : RMsg) (hc : (s.subscribed && completes s m) = false) : Plain (recv s m).2 := by
  unfold recv
  cases hsub : s.subscribed with
  | false =>
    simp only [Bool.false_eq_true, ↓reduceIte, List.nil_append]
    exact plain_nil
  | true =>
    rw [hsub] at hc
    simp only [Bool.true_and] at hc
    simp only [↓reduceIte]
    apply plain_append (plain_onMessage s m hc)
    split
    · exact plain_single rfl
    · exact plain_nil

theorem recv_completes_events (s : State) (l : List X2B.GroupStatusData) (hsub : s.subscribed = true)
    (hst : s.st = .INIT_GROUP_STATUS) :
    ∃ E, Plain E ∧
      (recv s (.groupStatus (.status l))).2 =
        E ++ [Ev.hbStart] ++ s.initWaits.map (fun _ => Ev.result "init True") ++
          (if hbIdle s.hb && s.sockConnected then [hbEv] else []) :=
  ⟨_, plain_store s (.groupStatus (.status l)), recv_final_events s hsub l hst⟩

theorem plain_firePolls (s : State) : Plain (firePolls s).2 :=
  fun e he => by rw [firePolls_events s e he]; rfl

/-! ### `adv n` -/

/-- `n` ticks from time `t` on the embedded heartbeat -/
def advHB (c : Bool) : Nat → Nat → HB → HB
  | 0, _, h => h
  | k+1, t, h => advHB c k (t + 1) (tickHB c (t + 1) h)

def advLabels (c : Bool) : Nat → Nat → HB → List Label
  | 0, _, _ => []
  | k+1, t, h => tickLabels c (t + 1) h ++ advLabels c k (t + 1) (tickHB c (t + 1) h)

def advTrace (c : Bool) : Nat → Nat → HB → List HEv
  | 0, _, _ => []
  | k+1, t, h => tickTrace c (t + 1) h ++ advTrace c k (t + 1) (tickHB c (t + 1) h)

theorem advance_hb (k : Nat) (s : State) :
    (advance k s).1.hb = advHB s.sockConnected k s.now s.hb ∧ (advance k s).1.now = s.now + k ∧
    (advance k s).1.sockConnected = s.sockConnected := by
  induction k generalizing s with
  | zero => exact ⟨rfl, rfl, rfl⟩
  | succ k ih =>
    simp only [advance, ih, tick_hb, tick_now, tick_sockConnected, advHB, Nat.add_assoc, Nat.add_comm 1 k, and_self]

theorem advHB_ran {c : Bool} (k : Nat) {n : Nat} {h : HB} (ok : HbOk n c h) :
    Ran h (advLabels c k n h) (advTrace c k n h) (advHB c k n h) := by
  induction k generalizing n h with
  | zero => exact .nil h
  | succ k ih => exact (tickHB_calc ok).ran.trans (ih (hbOk_tick ok))

/-! ### the invariant -/

/-- `HbOk` at the state's clock and socket: the embedded heartbeat is a reachable state of the heartbeat model, in step
    with the API object's clock and socket, with no event pending, no reset in progress, and its deadline and wake-up
    strictly ahead (`Api5.HbWf` is the weak invariant, here `HbWf0`) -/
structure HbWf (s : State) : Prop where
  now_eq : s.hb.now = s.now
  reach : Reachable heartbeatDefaultIntervalField heartbeatDefaultTimeoutField s.hb
  flag : s.hb.flag = false
  not_resetting : s.hb.tl ≠ .resetting
  deadline : ∀ d, s.hb.tl = .waiting d → s.now < d
  wake : ∀ u, s.hb.hl = .sleeping u → s.now < u
  conn : s.hb.connected = s.sockConnected

theorem HbWf.ok {s : State} : HbWf s → HbOk s.now s.sockConnected s.hb
  | ⟨a, b, c, d, e, f, g⟩ => ⟨a, b, c, d, e, f, g⟩

theorem hbWf_of_ok {s : State} : HbOk s.now s.sockConnected s.hb → HbWf s
  | ⟨a, b, c, d, e, f, g⟩ => ⟨a, b, c, d, e, f, g⟩

theorem hbWf_initial : HbWf State.initial :=
  ⟨rfl, ⟨[], rfl⟩, rfl, nofun, nofun, nofun, rfl⟩

/-! ### every op on the heartbeat wiring

The manager after an op (`opHB`), the labels that lead there (`opLabels`) and the events recorded (`opTrace`) are three
functions with the same case split; `opHB_ran` ties them. -/

def opHB (s : State) : Op → HB
  | .shutdown => hbApply (hbApply { s.hb with now := s.now } .stop) (.conn false)
  | .conn up => hbApply { s.hb with now := s.now } (.conn up)
  | .msg mid payload =>
    match decodeTop mid payload with
    | .ok m => recvHB s m
    | .error _ => s.hb
  | .recv m => recvHB s m
  | .adv n => advHB s.sockConnected n s.now s.hb
  | _ => s.hb

/-- the clock after an op -/
def opNow (s : State) : Op → Nat
  | .adv n => s.now + n
  | _ => s.now

theorem hbView_apiStep (s : State) (op : Op) :
    (apiStep s op).1.hb = opHB s op ∧ (apiStep s op).1.now = opNow s op ∧
    (apiStep s op).1.sockConnected = (match op with | .shutdown => false | .conn up => up | _ => s.sockConnected) := by
  have hrecv : ∀ m, (recv s m).1.hb = recvHB s m ∧ (recv s m).1.now = s.now ∧
      (recv s m).1.sockConnected = s.sockConnected := fun m =>
    ⟨recv_hb s m, (recv_sock s m).now, (recv_sock s m).sockConnected⟩
  cases op with
  | init | view => simp only [apiStep, doInit]; split <;> exact ⟨rfl, rfl, rfl⟩
  | shutdown | call c | callBad c => exact ⟨rfl, rfl, rfl⟩
  | conn up => simp only [apiStep]; rw [onConn_eq]; exact ⟨rfl, rfl, rfl⟩
  | msg mid payload =>
    simp only [apiStep, opHB]
    cases decodeTop mid payload with
    | ok m => exact hrecv m
    | error e => exact ⟨rfl, rfl, rfl⟩
  | recv m => exact hrecv m
  | sub t sid r | unsub t sid => simp only [apiStep]; rw [subUnsub_frame]; exact ⟨rfl, rfl, rfl⟩
  | adv n => exact advance_hb n s

theorem hbWf_apiStep {s : State} (op : Op) (wf : HbWf s) : HbWf (apiStep s op).1 := by
  refine hbWf_of_ok (ctl_inv (P := fun c => HbOk c.now c.sockConnected c.hb) s op (fun l c c' _ h ok => ?_) wf.ok)
  have hn := hb_now_self c.hb c.now ok.now_eq
  cases h with
  | init | answer | rearm => exact ok
  | shutdown => dsimp only; rw [hn]; exact (hbOk_stop ok).1
  | conn _ up => dsimp only; rw [hn]; exact hbOk_conn up ok
  | complete =>
    dsimp only [Ctl.entered]
    unfold startHB; rw [hn]; split
    · exact hbOk_started ok ‹_›
    · exact ok
  | response => dsimp only; rw [hn]; exact hbOk_responded ok
  | tick => exact hbOk_tick ok

theorem hbWf_run {s : State} (ops : List Op) (wf : HbWf s) : HbWf (run s ops).1 :=
  run4_eq s ops ▸ FoldW.foldW_inv ops s wf fun _ op _ => hbWf_apiStep op

/-! ### the bridge: every op is a run of the heartbeat model -/

def isResetEv : HEv → Bool
  | .reset _ => true
  | _ => false

def isBeatEv : HEv → Bool
  | .beat _ => true
  | _ => false

/-- number of `reset` / `beat` events in a piece of heartbeat trace -/
def numResets (tr : List HEv) : Nat := tr.countP isResetEv
def numBeats (tr : List HEv) : Nat := tr.countP isBeatEv

theorem numResets_append (a b : List HEv) : numResets (a ++ b) = numResets a + numResets b := List.countP_append ..
theorem numBeats_append (a b : List HEv) : numBeats (a ++ b) = numBeats a + numBeats b := List.countP_append ..

def recvLabels (s : State) (m : RMsg) : List Label :=
  if s.subscribed && completes s m then (if hbIdle s.hb then [.start, .hlBeat] else [])
  else if isHeartbeatResponse m then (match s.hb.tl with | .waiting _ => [.response, .tlWake] | _ => [])
  else []

def recvTrace (s : State) (m : RMsg) : List HEv :=
  if s.subscribed && completes s m then
    (if hbIdle s.hb then [.start s.now] ++ (if s.sockConnected then [.beat s.now] else []) else [])
  else if isHeartbeatResponse m then (match s.hb.tl with | .waiting _ => [.resp s.now] | _ => [])
  else []

/-- the labels by which each op drives the embedded heartbeat (in a state satisfying `HbWf`) -/
def opLabels (s : State) : Op → List Label
  | .shutdown => [.stop, .conn false]
  | .conn up => [.conn up]
  | .msg mid payload =>
    match decodeTop mid payload with
    | .ok m => recvLabels s m
    | .error _ => []
  | .recv m => recvLabels s m
  | .adv n => advLabels s.sockConnected n s.now s.hb
  | _ => []

def opTrace (s : State) : Op → List HEv
  | .shutdown => (if hbIdle s.hb then [] else [.stop s.now]) ++ [.conn false s.now]
  | .conn up => [.conn up s.now]
  | .msg mid payload =>
    match decodeTop mid payload with
    | .ok m => recvTrace s m
    | .error _ => []
  | .recv m => recvTrace s m
  | .adv n => advTrace s.sockConnected n s.now s.hb
  | _ => []

theorem recvHB_ran {s : State} (m : RMsg) (wf : HbWf s) : Ran s.hb (recvLabels s m) (recvTrace s m) (recvHB s m) := by
  have hn := hb_now_self s.hb s.now wf.now_eq
  have hnow := wf.now_eq
  have hconn := wf.conn
  unfold recvHB recvLabels recvTrace startHB
  rw [hn]
  split
  · split
    · next hi =>
      exact hnow ▸ hconn ▸ (startedHB_ran hi).2.2
    · exact .nil _
  · split
    · cases htl : s.hb.tl with
      | idle => simp only []; rw [respondedHB_idle htl]; exact .nil _
      | resetting => exact absurd htl wf.not_resetting
      | waiting d =>
        exact hnow ▸ (respondedHB_ran htl).2.2
    · exact .nil _

theorem opHB_ran {s : State} (op : Op) (wf : HbWf s) : Ran s.hb (opLabels s op) (opTrace s op) (opHB s op) := by
  have hn := hb_now_self s.hb s.now wf.now_eq
  have hnow := wf.now_eq
  cases op with
  | shutdown =>
    simp only [opHB, opLabels, opTrace, hn]
    have c := fun g => Step.conn (h := g) false
    by_cases hi : hbIdle s.hb = true
    · have a := Step.stopAgain ((hbIdle_iff _).1 hi).1 ((hbIdle_iff _).1 hi).2
      rw [if_pos hi, hbApply_of_step a, hbApply_of_step (c _)]
      exact (a.ran_nil rfl).trans ((c _).ran (hnow ▸ rfl))
    · have a := Step.stop (h := s.hb) fun k => hi ((hbIdle_iff _).2 k)
      rw [if_neg hi, hbApply_of_step a, hbApply_of_step (c _)]
      exact (a.ran (hnow ▸ rfl)).trans ((c _).ran (hnow ▸ rfl))
  | conn up =>
    simp only [opHB, opLabels, opTrace, hn]
    exact Step.ran (hbApply_of_step (.conn up) ▸ .conn up) (hnow ▸ rfl)
  | msg mid payload =>
    simp only [opHB, opLabels, opTrace]
    cases decodeTop mid payload with
    | ok m => exact recvHB_ran m wf
    | error e => exact .nil _
  | recv m => exact recvHB_ran m wf
  | adv n => exact advHB_ran n wf.ok
  | _ => exact .nil _

theorem apiStep_ran {s : State} (op : Op) (wf : HbWf s) : Ran s.hb (opLabels s op) (opTrace s op) (apiStep s op).1.hb :=
  (hbView_apiStep s op).1 ▸ opHB_ran op wf

/-! ### output events against recorded events -/

theorem tick_counts (s : State) :
    (tick s).2.count Ev.reset = numResets (tickTrace s.sockConnected (s.now + 1) s.hb) ∧
    (tick s).2.count hbEv = numBeats (tickTrace s.sockConnected (s.now + 1) s.hb) := by
  suffices key : ∀ e, e = Ev.reset ∨ e = hbEv → (tick s).2.count e =
      (timeoutEvs s.sockConnected (s.now + 1) s.hb).count e + (beatEvs s.sockConnected (s.now + 1) s.hb).count e by
    rw [key _ (.inl rfl), key _ (.inr rfl), timeoutEvs, beatEvs, tickTrace_eq]
    cases tlDue (s.now + 1) s.hb.tl <;> cases hlDue (s.now + 1) s.hb.hl <;> cases s.sockConnected <;> exact ⟨rfl, rfl⟩
  intro e he
  unfold tick
  have hr : ∀ t : State, (fireInitWaits t).2.count e = 0 := fun t =>
    List.count_eq_zero.mpr fun h => by
      obtain ⟨_, _, h⟩ := List.mem_map.mp h
      rcases he with rfl | rfl <;> cases h
  simp only [fireHbTimeout_eq, fireBeat_eq, List.count_append, hr,
    (plain_firePolls _).count_zero (show hbRelevant e = true by rcases he with rfl | rfl <;> rfl), Nat.add_zero]
  congr 1
  show (beatEvs s.sockConnected (s.now + 1)
    (timeoutHB s.sockConnected (s.now + 1) { s.hb with now := s.now + 1 })).count e = _
  unfold beatEvs
  rw [timeoutHB_hl]

theorem advance_counts (k : Nat) (s : State) :
    (advance k s).2.count Ev.reset = numResets (advTrace s.sockConnected k s.now s.hb) ∧
    (advance k s).2.count hbEv = numBeats (advTrace s.sockConnected k s.now s.hb) := by
  induction k generalizing s with
  | zero => exact ⟨rfl, rfl⟩
  | succ k ih =>
    simp only [advance, advTrace, List.count_append, numResets_append, numBeats_append, ih, tick_hb, tick_now,
      tick_sockConnected, tick_counts s, and_self]

theorem tickTrace_time (c : Bool) (t : Nat) (h : HB) : ∀ e ∈ tickTrace c t h, e.time = t := by
  rw [tickTrace_eq]
  cases tlDue t h.tl <;> cases hlDue t h.hl <;> cases c <;> simp [HEv.time]

theorem advTrace_time (c : Bool) (k t : Nat) (h : HB) : ∀ e ∈ advTrace c k t h, t < e.time ∧ e.time ≤ t + k := by
  induction k generalizing t h with
  | zero => intro e he; cases he
  | succ k ih =>
    intro e he
    simp only [advTrace, List.mem_append] at he
    rcases he with he | he
    · have := tickTrace_time c _ h e he; omega
    · have := ih _ _ e he; omega

/-! ### which op outputs `RESET`, `HBSTART`, `HBSTOP` -/

/-- the events of the heartbeat's life cycle -/
def hbSys : Ev → Bool
  | .reset | .hbStart | .hbStop => true
  | _ => false

theorem hbSys_of_plain {l : List Ev} (h : Plain l) : ∀ e ∈ l, hbSys e = false := by
  intro e he
  cases hs : hbSys e with
  | false => rfl
  | true => exact absurd (h e he) (by cases e <;> simp_all [hbSys, hbRelevant])

/-- ops that have nothing to do with the heartbeat's life cycle -/
def lifeless : Op → Bool
  | .init | .conn _ | .call _ | .callBad _ | .sub _ _ _ | .unsub _ _ | .view => true
  | _ => false

theorem noSys_of_all {l : List Ev} (h : l.all (fun e => !hbSys e) = true) : ∀ e ∈ l, hbSys e = false :=
  fun e he => by simpa using List.all_eq_true.mp h e he

theorem noSys_lifeless (s : State) (op : Op) (h : lifeless op = true) : ∀ e ∈ (apiStep s op).2, hbSys e = false := by
  cases op with
  | init | view =>
    simp only [apiStep, doInit]
    split <;> exact noSys_of_all rfl
  | conn up => exact fun e he => by rcases onConn_events _ up e he with rfl | rfl | rfl | rfl <;> rfl
  | call c =>
    simp only [apiStep, doCall]
    repeat' split
    all_goals exact noSys_of_all rfl
  | callBad c => exact noSys_of_all rfl
  | sub t sid r | unsub t sid =>
    rcases subUnsub_events s t _ with h | h <;> simp only [apiStep] <;> rw [h] <;> exact noSys_of_all rfl
  | _ => cases h

/-- results are none of the events counted here; for a constructor other than `result` the default proof of `he` does -/
theorem count_map_result (l : List Nat) (t : String) (e : Ev) (he : ∀ x, e ≠ Ev.result x := by intro _ h; cases h) :
    (l.map (fun _ => Ev.result t)).count e = 0 := by
  apply List.count_eq_zero.mpr
  intro h
  simp only [List.mem_map] at h
  obtain ⟨_, _, h⟩ := h
  exact he t h.symm

theorem numResets_recvTrace (s : State) (m : RMsg) : numResets (recvTrace s m) = 0 := by
  unfold recvTrace numResets
  repeat' split
  all_goals simp [isResetEv]

theorem numBeats_completes {s : State} {m : RMsg} (hsub : s.subscribed = true) (hc : completes s m = true) :
    numBeats (recvTrace s m) = if hbIdle s.hb && s.sockConnected then 1 else 0 := by
  unfold recvTrace numBeats
  rw [hsub, hc]
  cases hbIdle s.hb <;> cases s.sockConnected <;> simp [List.countP_cons, isBeatEv]

structure RecvCounts (s : State) (m : RMsg) : Prop where
  reset : (recv s m).2.count Ev.reset = 0
  hbStop : (recv s m).2.count Ev.hbStop = 0
  hbStart : (recv s m).2.count Ev.hbStart = (if s.subscribed && completes s m then 1 else 0)
  beats : (recv s m).2.count hbEv = numBeats (recvTrace s m)

theorem recv_counts (s : State) (m : RMsg) : RecvCounts s m := by
  suffices h : (recv s m).2.count Ev.reset = 0 ∧ (recv s m).2.count Ev.hbStop = 0 ∧
      (recv s m).2.count Ev.hbStart = (if s.subscribed && completes s m then 1 else 0) ∧
      (recv s m).2.count hbEv = numBeats (recvTrace s m) from ⟨h.1, h.2.1, h.2.2.1, h.2.2.2⟩
  cases hc : (s.subscribed && completes s m) with
  | false =>
    have hp := plain_recv s m hc
    refine ⟨hp.count_zero rfl, hp.count_zero rfl, by simpa using hp.count_zero rfl, ?_⟩
    rw [hp.count_zero (by decide)]
    unfold recvTrace numBeats
    rw [hc]
    simp only [Bool.false_eq_true, ↓reduceIte]
    repeat' split
    all_goals simp [isBeatEv]
  | true =>
    simp only [Bool.and_eq_true] at hc
    obtain ⟨hst, l, rfl⟩ := (completes_iff s m).mp hc.2
    obtain ⟨E, hE, hev⟩ := recv_completes_events s l hc.1 hst
    rw [hev]
    simp only [List.count_append, hE.count_zero (e := Ev.reset) rfl, hE.count_zero (e := Ev.hbStop) rfl,
      hE.count_zero (e := Ev.hbStart) rfl, hE.count_zero (e := hbEv) (by decide),
      count_map_result _ _ Ev.reset, count_map_result _ _ Ev.hbStop, count_map_result _ _ Ev.hbStart,
      count_map_result _ _ hbEv]
    rw [numBeats_completes hc.1 ((completes_iff s _).mpr ⟨hst, l, rfl⟩)]
    cases hbIdle s.hb <;> cases s.sockConnected <;> simp [hbEv]

theorem reset_count_apiStep (s : State) (op : Op) :
    (apiStep s op).2.count Ev.reset = numResets (opTrace s op) := by
  by_cases hl : lifeless op = true
  · have h0 : (apiStep s op).2.count Ev.reset = 0 :=
      List.count_eq_zero.mpr (fun hm => by have := noSys_lifeless s op hl _ hm; cases this)
    rw [h0]
    cases op <;> first | rfl | cases hl
  · cases op with
    | shutdown =>
      simp only [apiStep, doShutdown, opTrace, numResets]
      split <;> simp [isResetEv]
    | msg mid payload =>
      simp only [apiStep, opTrace]
      cases decodeTop mid payload with
      | ok m => simp only []; rw [(recv_counts s m).reset, numResets_recvTrace]
      | error e => simp [numResets]
    | recv m => simp only [apiStep, opTrace]; rw [(recv_counts s m).reset, numResets_recvTrace]
    | adv n => simp only [apiStep, opTrace]; rw [(advance_counts n s).1]
    | _ => exact absurd rfl hl

/-- heartbeat requests output by a message or by the clock = `beat` events recorded during the op.  Not for every op:
    `conn true` in `CONNECTING` sends the version request, an `hbEv` with no `beat` recorded -/
theorem beat_count_apiStep (s : State) (op : Op)
    (hop : (∃ n, op = .adv n) ∨ (∃ m, op = .recv m) ∨ ∃ mid p, op = .msg mid p) :
    (apiStep s op).2.count hbEv = numBeats (opTrace s op) := by
  rcases hop with ⟨n, rfl⟩ | ⟨m, rfl⟩ | ⟨mid, p, rfl⟩
  · simp only [apiStep, opTrace]; rw [(advance_counts n s).2]
  · simp only [apiStep, opTrace]; exact (recv_counts s m).beats
  · simp only [apiStep, opTrace]
    cases decodeTop mid p with
    | ok m => exact (recv_counts s m).beats
    | error e => simp [numBeats, hbEv]

theorem sys_source {s : State} {op : Op} {e : Ev} (he : e ∈ (apiStep s op).2) (hs : hbSys e = true) :
    op = .shutdown ∨ (∃ m, opMsg op = some m) ∨ ∃ n, op = .adv n := by
  by_cases hl : lifeless op = true
  · rw [noSys_lifeless s op hl e he] at hs; cases hs
  · cases op with
    | shutdown => exact Or.inl rfl
    | recv m => exact Or.inr (Or.inl ⟨m, rfl⟩)
    | adv n => exact Or.inr (Or.inr ⟨n, rfl⟩)
    | msg mid payload =>
      cases hd : decodeTop mid payload with
      | ok m => exact Or.inr (Or.inl ⟨m, by simp only [opMsg, hd]⟩)
      | error c => simp only [apiStep, hd, List.mem_singleton] at he; subst he; cases hs
    | _ => exact absurd rfl hl

theorem advance_no_other (n : Nat) (s : State) {e : Ev} (he : hbSys e = true) (h1 : e ≠ Ev.reset) : e ∉ (advance n s).2 :=
  fun hm => by rcases advance_events n s e hm with (rfl | rfl | rfl) | rfl <;> first | exact h1 rfl | cases he

theorem reset_only_adv (s : State) (op : Op) (h : Ev.reset ∈ (apiStep s op).2) : ∃ n, op = .adv n := by
  rcases sys_source h rfl with rfl | ⟨m, hm⟩ | hn
  · simp [apiStep, doShutdown] at h
  · rw [apiStep_of_opMsg hm] at h; exact absurd h (List.count_eq_zero.mp (recv_counts s m).reset)
  · exact hn

theorem hbStop_iff (s : State) (op : Op) : Ev.hbStop ∈ (apiStep s op).2 ↔ op = .shutdown := by
  constructor
  · intro h
    rcases sys_source h rfl with rfl | ⟨m, hm⟩ | ⟨n, rfl⟩
    · rfl
    · rw [apiStep_of_opMsg hm] at h; exact absurd h (List.count_eq_zero.mp (recv_counts s m).hbStop)
    · exact absurd h (advance_no_other n s rfl (by decide))
  · rintro rfl; simp [apiStep, doShutdown]

theorem hbStart_iff (s : State) (op : Op) :
    Ev.hbStart ∈ (apiStep s op).2 ↔
      ∃ l, opMsg op = some (.groupStatus (.status l)) ∧ s.subscribed = true ∧ s.st = .INIT_GROUP_STATUS := by
  constructor
  · intro h
    rcases sys_source h rfl with rfl | ⟨m, hm⟩ | ⟨n, rfl⟩
    · simp [apiStep, doShutdown] at h
    · rw [apiStep_of_opMsg hm] at h
      have hc := (recv_counts s m).hbStart
      by_cases hx : (s.subscribed && completes s m) = true
      · simp only [Bool.and_eq_true] at hx
        obtain ⟨hst, l, rfl⟩ := (completes_iff s m).mp hx.2
        exact ⟨l, hm, hx.1, hst⟩
      · rw [if_neg hx] at hc; exact absurd h (List.count_eq_zero.mp hc)
    · exact absurd h (advance_no_other n s rfl (by decide))
  · rintro ⟨l, hm, hsub, hst⟩
    rw [apiStep_of_opMsg hm]
    have := (recv_counts s (.groupStatus (.status l))).hbStart
    rw [hsub, (completes_iff s _).mpr ⟨hst, l, rfl⟩] at this
    simp only [Bool.and_self, ↓reduceIte] at this
    exact List.count_pos_iff.mp (by omega)

/-! ### a tick and an op as conjunctions, with the counts and the time stamps -/

theorem tick_hb_run {s : State} (wf : HbWf s) :
    Model.Heartbeat.run s.hb (tickLabels s.sockConnected (s.now + 1) s.hb) = some (tick s).1.hb ∧
    (tick s).1.hb.trace = s.hb.trace ++ tickTrace s.sockConnected (s.now + 1) s.hb ∧
    (tick s).2.count Ev.reset = numResets (tickTrace s.sockConnected (s.now + 1) s.hb) ∧
    (tick s).2.count hbEv = numBeats (tickTrace s.sockConnected (s.now + 1) s.hb) ∧
    (∀ e ∈ tickTrace s.sockConnected (s.now + 1) s.hb, e.time = s.now + 1) ∧
    HbWf (tick s).1 := by
  have ok := wf.ok
  have hc := tickHB_calc ok
  refine ⟨by rw [tick_hb]; exact hc.ran.run, by rw [tick_hb]; exact hc.ran.trace, ?_, ?_, tickTrace_time _ _ _, ?_⟩
  · exact (tick_counts s).1
  · exact (tick_counts s).2
  · exact hbWf_of_ok (by rw [tick_hb, tick_now, tick_sockConnected]; exact hbOk_tick ok)

theorem recvTrace_time (s : State) (m : RMsg) : ∀ e ∈ recvTrace s m, e.time = s.now := by
  unfold recvTrace
  repeat' split
  all_goals simp [HEv.time]

theorem opTrace_time_now (s : State) {op : Op} (hop : ∀ n, op ≠ .adv n) : ∀ e ∈ opTrace s op, e.time = s.now := by
  cases op with
  | adv n => exact absurd rfl (hop n)
  | recv m => exact recvTrace_time s m
  | msg mid payload =>
    simp only [opTrace]
    cases decodeTop mid payload with
    | ok m => exact recvTrace_time s m
    | error _ => exact fun _ h => nomatch h
  | shutdown =>
    intro e he
    simp only [opTrace, List.mem_append, List.mem_singleton] at he
    rcases he with he | rfl
    · split at he
      · cases he
      · cases List.mem_singleton.mp he; rfl
    · rfl
  | conn up => intro e he; cases List.mem_singleton.mp he; rfl
  | _ => exact fun _ h => nomatch h

theorem apiStep_hb_run {s : State} (op : Op) (wf : HbWf s) :
    Model.Heartbeat.run s.hb (opLabels s op) = some (apiStep s op).1.hb ∧
    (apiStep s op).1.hb.trace = s.hb.trace ++ opTrace s op ∧
    (apiStep s op).2.count Ev.reset = numResets (opTrace s op) ∧
    (∀ e ∈ opTrace s op, s.now ≤ e.time ∧ e.time ≤ (apiStep s op).1.now) := by
  refine ⟨(apiStep_ran op wf).run, (apiStep_ran op wf).trace, reset_count_apiStep s op, ?_⟩
  rw [(hbView_apiStep s op).2.1]
  cases op with
  | adv n =>
    intro e he
    have := advTrace_time _ _ _ _ e he
    simp only [opNow]; omega
  | _ =>
    intro e he
    rw [opTrace_time_now s (fun _ => Op.noConfusion) e he]
    exact ⟨Nat.le_refl _, Nat.le_refl _⟩

/-! ### what never stops the heartbeat -/

structure HbKeep (h h' : HB) : Prop where
  interval_eq : h'.interval = h.interval
  timeout_eq : h'.timeout = h.timeout
  running : hbIdle h = false → hbIdle h' = false

theorem HbKeep.refl (h : HB) : HbKeep h h := ⟨rfl, rfl, id⟩

theorem HbKeep.trans {a b c : HB} (h1 : HbKeep a b) (h2 : HbKeep b c) : HbKeep a c :=
  ⟨h2.1.trans h1.1, h2.2.trans h1.2, fun h => h2.3 (h1.3 h)⟩

theorem hbKeep_now (h : HB) (t : Nat) : HbKeep h { h with now := t } := ⟨rfl, rfl, id⟩

theorem hbKeep_apply (h : HB) (l : Label) (hl : l ≠ .stop) : HbKeep h (hbApply h l) := by
  refine ⟨(hbApply_frame h l).interval, (hbApply_frame h l).timeout, fun hi => ?_⟩
  by_cases hs : l = .start
  · rw [hs, hbApply_start_running hi]; exact hi
  · rw [hbIdle_apply h l hs hl]; exact hi

theorem _root_.PyAirtouch.Lemmas.Heartbeat.Drives.idle {P : Label → Prop} {h g : HB} (d : Drives P h g)
    (hP : ∀ l, P l → l ≠ .start ∧ l ≠ .stop) : hbIdle g = hbIdle h :=
  d.inv_apply (Q := fun x => hbIdle x = hbIdle h) (fun a l hl e => (hbIdle_apply a l (hP l hl).1 (hP l hl).2).trans e) rfl

theorem _root_.PyAirtouch.Lemmas.Heartbeat.Drives.keep {P : Label → Prop} {h g : HB} (d : Drives P h g)
    (hP : ∀ l, P l → l ≠ .stop) : HbKeep h g :=
  d.inv_apply (Q := HbKeep h) (fun a l hl k => k.trans (hbKeep_apply a l (hP l hl))) (.refl h)

/-! ### started by the completed handshake, stopped by `shutdown()` only -/

theorem hbKeep_apiStep (s : State) (op : Op) (hop : op ≠ .shutdown) : HbKeep s.hb (apiStep s op).1.hb :=
  ctl_inv (P := fun c => HbKeep s.hb c.hb) s op
    (fun _ _ _ hl h k => k.trans (h.hb_drives.elim (fun e => e ▸ .refl _) fun v => (hbKeep_now _ _).trans
      (v.keep (CLabel.hbLabel_ne_stop fun e => hop (by subst e; exact hl)))))
    (.refl _)

theorem hb_params_const (s : State) (op : Op) :
    (apiStep s op).1.hb.interval = s.hb.interval ∧ (apiStep s op).1.hb.timeout = s.hb.timeout :=
  ctl_inv (P := fun c => c.hb.interval = s.hb.interval ∧ c.hb.timeout = s.hb.timeout) s op
    (fun _ _ _ _ h k => h.hb_drives.elim (fun e => e ▸ k) fun v => ⟨v.params.1.trans k.1, v.params.2.trans k.2⟩) ⟨rfl, rfl⟩

theorem initialised_set_only_with_hbStart (s : State) (op : Op) (h0 : s.initialised = false)
    (h1 : (apiStep s op).1.initialised = true) : Ev.hbStart ∈ (apiStep s op).2 := by
  -- only the completing move sets the event, and it is part of a delivered message
  obtain ⟨m, hm⟩ : ∃ m, opMsg op = some m := by
    refine (ctl_inv (P := fun c => c.initialised = false ∨ ∃ m, opMsg op = some m) s op (fun l c c' hl h p => ?_)
      (.inl h0)).resolve_left (by rw [show (ctl (apiStep s op).1).initialised = true from h1]; nofun)
    cases h with
    | complete _ m => exact .inr ⟨m, hl⟩
    | shutdown => exact .inl rfl
    | init | conn | answer | rearm | response | tick => exact p
  rw [apiStep_of_opMsg hm] at h1 ⊢
  by_cases hx : (s.subscribed && completes s m) = true
  · simp only [Bool.and_eq_true] at hx
    obtain ⟨hst, l, rfl⟩ := (completes_iff s m).mp hx.2
    exact (hbStart_iff s (.recv _)).mpr ⟨l, rfl, hx.1, hst⟩
  · have e := congrArg Ctl.initialised (ctl_recv s m)
    rw [show (s.subscribed && completes s m) = false by simpa using hx] at e
    simp only [Bool.false_eq_true, ↓reduceIte] at e
    split at e <;> exact absurd (h0.symm.trans (e.symm.trans h1)) nofun

/-! ### `adv n` in closed form -/

theorem counts_tickTrace (c : Bool) (t : Nat) (h : HB) :
    numResets (tickTrace c t h) = (if tlDue t h.tl && c then 1 else 0) ∧
    numBeats (tickTrace c t h) = (if hlDue t h.hl && c then 1 else 0) := by
  rw [tickTrace_eq]
  cases tlDue t h.tl <;> cases hlDue t h.hl <;> cases c <;> exact ⟨rfl, rfl⟩

/-- `k` ticks without a message.  The timeout loop expires at `d`, `d + T`, `d + 2T`, …; each expiry resets the connection
    iff the socket is connected, and re-arms at once.  The heartbeat loop wakes at `u`, `u + I`, `u + 2I`, … and sends a
    request each time iff the socket is connected. -/
theorem adv_timers (c : Bool) (k : Nat) {n : Nat} {h : HB} (ok : HbOk n c h) :
    (∀ d, h.tl = .waiting d → (advHB c k n h).tl = .waiting (dueRun hbT k n d) ∧
      numResets (advTrace c k n h) = if c then dueFires hbT k n d else 0) ∧
    (∀ u, h.hl = .sleeping u → (advHB c k n h).hl = .sleeping (dueRun hbI k n u) ∧
      numBeats (advTrace c k n h) = if c then dueFires hbI k n u else 0) := by
  induction k generalizing n h with
  | zero => exact ⟨fun _ hw => ⟨hw, by cases c <;> rfl⟩, fun _ hw => ⟨hw, by cases c <;> rfl⟩⟩
  | succ k ih =>
    have hc := tickHB_calc ok
    obtain ⟨i1, i2⟩ := ih hc.ok
    refine ⟨fun d hw => ?_, fun u hw => ?_⟩
    · obtain ⟨j1, j2⟩ := i1 (dueStep hbT (n + 1) d) (by rw [hc.tl, hw, ok.timeout_eq]; rfl)
      refine ⟨j1, ?_⟩
      simp only [advTrace, numResets_append, (counts_tickTrace _ _ _).1, hw, tlDue, j2, dueFires]
      cases c <;> simp
    · obtain ⟨j1, j2⟩ := i2 (dueStep hbI (n + 1) u) (by rw [hc.hl, hw, ok.interval_eq]; rfl)
      refine ⟨j1, ?_⟩
      simp only [advTrace, numBeats_append, (counts_tickTrace _ _ _).2, hw, hlDue, j2, dueFires]
      cases c <;> simp

theorem advance_resets {s : State} (n d : Nat) (wf : HbWf s) (hw : s.hb.tl = .waiting d) :
    (apiStep s (.adv n)).2.count Ev.reset = (if s.sockConnected then deadlinesUpTo d hbT (s.now + n) else 0) ∧
    (apiStep s (.adv n)).1.hb.tl = .waiting (d + hbT * deadlinesUpTo d hbT (s.now + n)) := by
  obtain ⟨k1, k2⟩ := (adv_timers s.sockConnected n wf.ok).1 d hw
  obtain ⟨c1, c2⟩ := due_closed hbT (by decide) n s.now d (wf.deadline d hw)
  rw [c1] at k1; rw [c2] at k2
  have e1 : (apiStep s (.adv n)).1.hb = _ := (hbView_apiStep s (.adv n)).1
  rw [e1, reset_count_apiStep]
  exact ⟨k2, k1⟩

theorem advance_beats {s : State} (n u : Nat) (wf : HbWf s) (hw : s.hb.hl = .sleeping u) :
    (apiStep s (.adv n)).2.count hbEv = (if s.sockConnected then deadlinesUpTo u hbI (s.now + n) else 0) ∧
    (apiStep s (.adv n)).1.hb.hl = .sleeping (u + hbI * deadlinesUpTo u hbI (s.now + n)) := by
  obtain ⟨k1, k2⟩ := (adv_timers s.sockConnected n wf.ok).2 u hw
  obtain ⟨c1, c2⟩ := due_closed hbI (by decide) n s.now u (wf.wake u hw)
  rw [c1] at k1; rw [c2] at k2
  have e1 : (apiStep s (.adv n)).1.hb = _ := (hbView_apiStep s (.adv n)).1
  rw [e1, beat_count_apiStep s _ (Or.inl ⟨n, rfl⟩)]
  exact ⟨k2, k1⟩

/-! ### no false reset -/

/-- A check on an op list alone.  `rem` is the number of ticks left until the heartbeat's deadline.  An `adv n`
    must stay strictly below it; a delivered message accepted by `isHeartbeatResponse` puts it back to the full
    timeout; `shutdown` is not allowed; every other op leaves it alone. -/
def responsive : Nat → List Op → Bool
  | _, [] => true
  | rem, op :: ops =>
    match op with
    | .adv n => decide (n < rem) && responsive (rem - n) ops
    | .shutdown => false
    | _ =>
      match opMsg op with
      | some m => responsive (if isHeartbeatResponse m then hbT else rem) ops
      | none => responsive rem ops

theorem recvHB_tl_waiting {s : State} {d : Nat} (m : RMsg) (wf : HbWf s) (hw : s.hb.tl = .waiting d) :
    (recvHB s m).tl = if isHeartbeatResponse m then .waiting (s.now + hbT) else .waiting d := by
  have hn := hb_now_self s.hb s.now wf.now_eq
  have hni : hbIdle s.hb = false := by simp [hbIdle, hw]
  unfold recvHB startHB
  rw [hn]
  split
  · next hc =>
    simp only [Bool.and_eq_true] at hc
    rw [completes_not_response hc.2]
    simp [hni, hw]
  · split
    · rw [(respondedHB_ran hw).1.tl, wf.now_eq, wf.ok.timeout_eq]; rfl
    · exact hw

theorem apiStep_now (s : State) (op : Op) : (apiStep s op).1.now = opNow s op := (hbView_apiStep s op).2.1

theorem responsive_step {s : State} {d : Nat} (op : Op) (ops : List Op) (wf : HbWf s) (hw : s.hb.tl = .waiting d)
    (hr : responsive (d - s.now) (op :: ops) = true) :
    Ev.reset ∉ (apiStep s op).2 ∧
    ∃ d1, (apiStep s op).1.hb.tl = .waiting d1 ∧ responsive (d1 - (apiStep s op).1.now) ops = true := by
  have e1 : (apiStep s op).1.hb = opHB s op := (hbView_apiStep s op).1
  have hn := hb_now_self s.hb s.now wf.now_eq
  have hlt := wf.deadline d hw
  have msg : ∀ m, responsive (if isHeartbeatResponse m then hbT else d - s.now) ops = true →
      ∃ d1, (recvHB s m).tl = .waiting d1 ∧ responsive (d1 - s.now) ops = true := fun m h => by
    rw [recvHB_tl_waiting m wf hw]
    split
    · next hm => rw [if_pos hm] at h; exact ⟨_, rfl, by rw [Nat.add_sub_cancel_left]; exact h⟩
    · next hm => rw [if_neg hm] at h; exact ⟨_, rfl, h⟩
  by_cases hadv : ∃ n, op = .adv n
  · obtain ⟨n, rfl⟩ := hadv
    simp only [responsive, Bool.and_eq_true, decide_eq_true_eq] at hr
    obtain ⟨a1, a2⟩ := advance_resets n d wf hw
    rw [deadlinesUpTo_before _ _ _ (by omega)] at a1 a2
    refine ⟨List.count_eq_zero.mp (a1.trans (by split <;> rfl)), d, by simpa using a2, ?_⟩
    rw [apiStep_now]
    have : d - (s.now + n) = d - s.now - n := by omega
    simp only [opNow]; rw [this]; exact hr.2
  · refine ⟨fun h => hadv (reset_only_adv s op h), ?_⟩
    rw [e1, apiStep_now]
    cases op with
    | shutdown => simp [responsive] at hr
    | recv m => exact msg m hr
    | msg mid payload =>
      simp only [responsive, opMsg] at hr
      simp only [opHB]
      cases hd : decodeTop mid payload <;> rw [hd] at hr
      · exact ⟨d, hw, hr⟩
      · exact msg _ hr
    | adv n => exact absurd ⟨n, rfl⟩ hadv
    | conn up => exact ⟨d, by simp only [opHB, hn, hbApply, step, HB.emit, Option.getD_some]; exact hw, hr⟩
    | _ => exact ⟨d, hw, hr⟩

theorem responsive_run (ops : List Op) {s : State} {d : Nat} (wf : HbWf s) (hw : s.hb.tl = .waiting d)
    (hr : responsive (d - s.now) ops = true) :
    Ev.reset ∉ (run s ops).2 ∧ ∃ d', (run s ops).1.hb.tl = .waiting d' ∧ (run s ops).1.now < d' := by
  induction ops generalizing s d with
  | nil => exact ⟨by simp [run], d, hw, wf.deadline d hw⟩
  | cons op ops ih =>
    obtain ⟨s1, d1, k1, k2⟩ := responsive_step op ops wf hw hr
    obtain ⟨i1, i2⟩ := ih (hbWf_apiStep op wf) k1 k2
    refine ⟨?_, i2⟩
    simp only [run, List.mem_append]
    rintro (h | h)
    · exact s1 h
    · exact i1 h

/-! ### whole scripts -/

def runLabels (s : State) : List Op → List Label
  | [] => []
  | op :: ops => opLabels s op ++ runLabels (apiStep s op).1 ops

def runTrace (s : State) : List Op → List HEv
  | [] => []
  | op :: ops => opTrace s op ++ runTrace (apiStep s op).1 ops

theorem run_ran (ops : List Op) {s : State} (wf : HbWf s) :
    Ran s.hb (runLabels s ops) (runTrace s ops) (run s ops).1.hb ∧
    (run s ops).2.count Ev.reset = numResets (runTrace s ops) := by
  induction ops generalizing s with
  | nil => exact ⟨.nil _, rfl⟩
  | cons op ops ih =>
    obtain ⟨i1, i2⟩ := ih (hbWf_apiStep op wf)
    exact ⟨(apiStep_ran op wf).trans i1,
      by simp only [runTrace, run, List.count_append, numResets_append, reset_count_apiStep, i2]⟩

theorem run_hb_run (ops : List Op) {s : State} (wf : HbWf s) :
    Model.Heartbeat.run s.hb (runLabels s ops) = some (run s ops).1.hb ∧
    (run s ops).1.hb.trace = s.hb.trace ++ runTrace s ops ∧
    (run s ops).2.count Ev.reset = numResets (runTrace s ops) :=
  ⟨(run_ran ops wf).1.run, (run_ran ops wf).1.trace, (run_ran ops wf).2⟩

end PyAirtouch.Lemmas.Api4
