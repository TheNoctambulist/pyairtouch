import PyAirtouch.Model.Part3Text
/-!
# Python dicts as association lists

Look-up in a dict whose keys are known, and assignment `d[k] = v` (`Model.dictInsert`) on dicts keyed by numbers.
"`k` is a key of `d`" is written three ways in the model: `d.any (·.1 = k)` in `dictInsert`, `k ∈ d.map (·.1)` in the
invariants, `(d.lookup k).isSome` at look-ups.  `any_key` and `lookup_isSome` join them; what `dictInsert` does follows
from its two cases `dictInsert_mem` and `dictInsert_fresh`.  (`dictKeys d` of the codec models is `d.map (·.1)` by
`rfl`; the two lemmas about dict literals, `dictInsert_next` and `foldl_dictInsert_nodup`, are stated with it.)
-/
namespace PyAirtouch.Lemmas.Dict
open PyAirtouch.Model

section
variable {α β : Type} [BEq α] [LawfulBEq α]

theorem any_lookup_isNone {d : List (α × β)} {l : List α} (hl : ∀ k ∈ l, k ∈ d.map (·.1)) :
    (l.any fun k => (d.lookup k).isNone) = false :=
  List.any_eq_false.mpr fun k hk hn => by
    obtain ⟨p, hp, rfl⟩ := List.mem_map.mp (hl k hk)
    simpa using List.lookup_eq_none_iff.mp (Option.isNone_iff_eq_none.mp hn) p hp

theorem eq_map_lookup (dflt : β) {d : List (α × β)} {ks : List α} (hk : d.map (·.1) = ks) (hnd : ks.Nodup) :
    d = ks.map (fun k => (k, (d.lookup k).getD dflt)) := by
  induction d generalizing ks with
  | nil => subst hk; rfl
  | cons p d ih =>
    subst hk
    obtain ⟨hp, hnd⟩ := List.nodup_cons.mp hnd
    rw [List.map_cons, List.map_cons, List.lookup_cons_self, Option.getD_some]
    congr 1
    refine (ih rfl hnd).trans (List.map_congr_left fun k hk => ?_)
    have : (k == p.1) = false := beq_false_of_ne (fun h => hp (by subst h; exact hk))
    rw [List.lookup_cons, this]

end

theorem lookup_cons {β} (k a : Nat) (b : β) (d : List (Nat × β)) :
    List.lookup k ((a, b) :: d) = if k = a then some b else List.lookup k d := by
  rw [List.lookup_cons]
  by_cases h : k = a
  · simp [h]
  · rw [beq_false_of_ne h]; simp [h]

theorem any_key {β} (d : List (Nat × β)) (k : Nat) :
    d.any (fun p => decide (p.1 = k)) = decide (k ∈ d.map (·.1)) := by
  rw [List.any_eq]
  exact decide_eq_decide.2 ⟨fun ⟨p, hp, e⟩ => List.mem_map.2 ⟨p, hp, of_decide_eq_true e⟩,
    fun h => (List.mem_map.1 h).imp fun p ⟨hp, e⟩ => ⟨hp, decide_eq_true e⟩⟩

theorem lookup_isSome {β} (d : List (Nat × β)) (k : Nat) : (d.lookup k).isSome = decide (k ∈ d.map (·.1)) := by
  induction d with
  | nil => rfl
  | cons p d ih => obtain ⟨a, b⟩ := p; rw [lookup_cons]; by_cases h : k = a <;> simp [h, ih]

theorem lookup_of_mem_nodup {β} (d : List (Nat × β)) (hnd : (d.map (·.1)).Nodup) (k : Nat) (v : β) (h : (k, v) ∈ d) :
    d.lookup k = some v := by
  induction d with
  | nil => cases h
  | cons p ps ih =>
    obtain ⟨a, b⟩ := p
    simp only [List.map_cons, List.nodup_cons] at hnd
    rw [lookup_cons]
    rcases List.mem_cons.mp h with heq | hmem
    · cases heq; simp
    · have : k ≠ a := by
        intro e; subst e
        exact hnd.1 (List.mem_map.mpr ⟨(k, v), hmem, rfl⟩)
      simp [this, ih hnd.2 hmem]

theorem dictInsert_mem {β} (d : List (Nat × β)) (k : Nat) (v : β) (h : k ∈ d.map (·.1)) :
    dictInsert d k v = d.map (fun p => if p.1 = k then (k, v) else p) := by
  unfold dictInsert; rw [any_key, decide_eq_true h]; rfl

theorem dictInsert_fresh {β} (d : List (Nat × β)) (k : Nat) (v : β) (h : k ∉ d.map (·.1)) :
    dictInsert d k v = d ++ [(k, v)] := by
  unfold dictInsert; rw [any_key, decide_eq_false h]; rfl

theorem dictInsert_next {β} (acc : List (Nat × β)) (k : Nat) (v : β) (ps : List (Nat × β))
    (h : (dictKeys (acc ++ (k, v) :: ps)).Nodup) :
    dictInsert acc k v = acc ++ [(k, v)] ∧ (dictKeys ((acc ++ [(k, v)]) ++ ps)).Nodup := by
  refine ⟨dictInsert_fresh acc k v fun hk => ?_, by simpa using h⟩
  simp only [dictKeys, List.map_append, List.map_cons] at h
  exact (List.nodup_append.mp h).2.2 k hk k (by simp) rfl

theorem foldl_dictInsert_nodup {β γ} (key : γ → Nat) (val : γ → β) :
    ∀ (xs : List γ) (acc : List (Nat × β)), (dictKeys (acc ++ xs.map fun x => (key x, val x))).Nodup →
      xs.foldl (fun d x => dictInsert d (key x) (val x)) acc = acc ++ xs.map fun x => (key x, val x)
  | [], acc, _ => (List.append_nil acc).symm
  | x :: xs, acc, h => by
    obtain ⟨hins, hnd⟩ := dictInsert_next acc (key x) (val x) _ h
    rw [List.foldl_cons, hins, foldl_dictInsert_nodup key val xs _ hnd, List.append_assoc]
    rfl

theorem keys_dictInsert {β} (d : List (Nat × β)) (k : Nat) (v : β) :
    (dictInsert d k v).map (·.1) = if k ∈ d.map (·.1) then d.map (·.1) else d.map (·.1) ++ [k] := by
  split
  · next h =>
    rw [dictInsert_mem d k v h, List.map_map]
    exact List.map_congr_left fun p _ => by dsimp only [Function.comp]; split <;> simp [*]
  · next h => rw [dictInsert_fresh d k v h, List.map_append]; rfl

theorem nodup_keys_dictInsert {β} (d : List (Nat × β)) (k : Nat) (v : β) (h : (d.map (·.1)).Nodup) :
    ((dictInsert d k v).map (·.1)).Nodup := by
  rw [keys_dictInsert]
  split
  · exact h
  · next hk => exact List.nodup_append.mpr ⟨h, by simp, by intro a ha b hb; simp at hb; subst hb; exact fun e => hk (e ▸ ha)⟩

theorem mem_dictInsert {β} (d : List (Nat × β)) (k : Nat) (v : β) (p : Nat × β) (h : p ∈ dictInsert d k v) :
    p ∈ d ∨ p = (k, v) := by
  by_cases hk : k ∈ d.map (·.1)
  · rw [dictInsert_mem d k v hk] at h
    obtain ⟨q, hq, rfl⟩ := List.mem_map.1 h
    split
    · exact .inr rfl
    · exact .inl hq
  · rw [dictInsert_fresh d k v hk] at h
    exact (List.mem_append.1 h).imp_right List.mem_singleton.1

theorem lookup_map_replace {β} (d : List (Nat × β)) (k n : Nat) (v : β) :
    (d.map (fun p => if p.1 = k then (k, v) else p)).lookup n =
      if n = k then (d.lookup k).map (fun _ => v) else d.lookup n := by
  induction d with
  | nil => simp [List.lookup]
  | cons p d ih =>
    obtain ⟨a, b⟩ := p
    rw [List.map_cons]
    by_cases hak : a = k
    · subst hak
      rw [if_pos rfl, lookup_cons, lookup_cons, lookup_cons, ih]
      by_cases hn : n = a
      · rw [if_pos hn, if_pos hn, if_pos rfl]; rfl
      · rw [if_neg hn, if_neg hn, if_neg hn, if_neg hn]
    · rw [if_neg hak, lookup_cons, lookup_cons, lookup_cons, ih, if_neg (Ne.symm hak)]
      by_cases hn : n = a
      · rw [if_pos hn, if_neg (hn ▸ hak), if_pos hn]
      · rw [if_neg hn, if_neg hn]

theorem lookup_dictInsert {β} (d : List (Nat × β)) (k n : Nat) (v : β) :
    (dictInsert d k v).lookup n = if n = k then some v else d.lookup n := by
  have hs := lookup_isSome d k
  by_cases hk : k ∈ d.map (·.1)
  · rw [dictInsert_mem d k v hk, lookup_map_replace]
    rw [decide_eq_true hk] at hs
    cases hl : d.lookup k with
    | none => rw [hl] at hs; cases hs
    | some _ => rfl
  · rw [dictInsert_fresh d k v hk, List.lookup_append]
    rw [decide_eq_false hk] at hs
    by_cases hn : n = k
    · subst hn
      cases hl : d.lookup n with
      | none => rw [if_pos rfl, lookup_cons, if_pos rfl]; rfl
      | some _ => rw [hl] at hs; cases hs
    · rw [if_neg hn, lookup_cons, if_neg hn]; cases d.lookup n <;> rfl

end PyAirtouch.Lemmas.Dict
