import PyAirtouch.Lemmas.Api4Inv
/-!
# A concrete installation and the state after its handshake (used by the non-vacuity examples)
-/
namespace PyAirtouch.Lemmas.Api4
open PyAirtouch.Model PyAirtouch.Model.Api4 PyAirtouch.Model.At4

/-- a two-zone, one-AC installation (group bitmap {0,1}) -/
def demoAbility : FF11.AcAbility :=
  { ac_number := 0, ac_name := [65, 67], ac_mode_support := FF11.decModeSupport 0x1F,
    fan_speed_support := FF11.decFanSpeedSupport 0x7F, min_set_point := 16, max_set_point := 30,
    groups := some [0, 1], start_group := 0, group_count := 0 }

def demoAcStatus : X2D.AcStatusData :=
  { ac_number := 0, power_state := .ON, mode := .AUTO_HEAT, fan_speed := .LOW, spill_active := false,
    timer_set := false, set_point := 22, temperature := 235, error_code := 0 }

def demoTimer : TimerCommon.AcTimerStatusData :=
  { ac_number := 0, on_timer := { disabled := false, hour := 7, minute := 30 },
    off_timer := { disabled := true, hour := 0, minute := 0 } }

def demoGroup : X2B.GroupStatusData :=
  { group_number := 1, power_state := .ON, control_method := .TEMPERATURE, spill_active := false,
    supports_turbo := true, has_sensor := true, battery_status := .NORMAL, temperature := some 215,
    damper_percentage := 50, set_point := some 22 }

def demoVersionMsg : RMsg := .extended (.consoleVer (.message { update_available := false, versions := [[49]] }))
def demoNamesMsg : RMsg := .extended (.groupNames (.message { group_names := [(0, [97]), (1, [98])] }))
def demoAbilityMsg : RMsg := .extended (.acAbility (.ability [demoAbility]))
def demoAcStatusMsg : RMsg := .acStatus (.status [demoAcStatus])
def demoTimerMsg : RMsg := .acTimerStatus (.status [demoTimer])
def demoGroupMsg : RMsg := .groupStatus (.status [demoGroup])

def demoAnswers : List RMsg :=
  [demoVersionMsg, demoNamesMsg, demoAbilityMsg, demoAcStatusMsg, demoTimerMsg, demoGroupMsg]

def demoOps : List Op := [.init, .conn true] ++ demoAnswers.map Op.recv

/-- the state after a complete handshake -/
def demo : State := (run State.initial demoOps).1

/-- `demo` written out, so that a statement about it is evaluated without running the handshake again: two zones
    (the second with its reported status), one air-conditioner built with both, the poll armed for 300 s (the
    heartbeat record, which no example inspects field by field, is left as the handshake leaves it) -/
def demoState : State :=
  { State.initial with
    st := .CONNECTED, version := { update_available := false, versions := [[49]] }
    zoneObjs := [mkZone 0 [97], { mkZone 1 [98] with status := demoGroup }]
    acObjs := [{ status := demoAcStatus, timer := demoTimer, errInfo := none, zones := [0, 1], ability := demoAbility,
                 supportedModes := [.AUTO, .HEAT, .DRY, .FAN, .COOL],
                 supportedFanSpeeds := [.AUTO, .QUIET, .LOW, .MEDIUM, .HIGH, .POWERFUL, .TURBO],
                 subs := [], stateSubs := [] }]
    zoneDict := [(0, 0), (1, 1)], acDict := [(0, 0)], initialised := true, pollCur := some 2400
    hb := { now := 0, interval := 2400, timeout := 2640, flag := false, tl := .waiting 2640, hl := .sleeping 2400,
            connected := true, lastArm := 0, resetAt := 0, expiries := [2640],
            trace := [.conn true 0, .start 0, .beat 0] }
    sockOpen := true, sockConnected := true, subscribed := true }

theorem demo_eq : demo = demoState := rfl

theorem demo_hb : demo.hb.tl = .waiting 2640 ∧ demo.hb.hl = .sleeping 2400 ∧ demo.hb.lastArm = 0 ∧ demo.now = 0 := by
  rw [demo_eq]; decide

theorem demo_tl : demo.hb.tl = .waiting 2640 := demo_hb.1
theorem demo_hl : demo.hb.hl = .sleeping 2400 := demo_hb.2.1
theorem demo_now : demo.now = 0 := demo_hb.2.2.2
theorem demo_poll : demo.pollCur = some 2400 := by rw [demo_eq]; rfl

theorem demo_inv : Inv demo := Inv_run Inv_initial _
theorem demo_connected : demo.st = .CONNECTED := by rw [demo_eq]; rfl
theorem demo_subscribed : demo.subscribed = true := by rw [demo_eq]; rfl
theorem demo_open : demo.sockOpen = true := by rw [demo_eq]; rfl
theorem demo_connectedSock : demo.sockConnected = true := by rw [demo_eq]; rfl

/-- the demo state with one subscriber of each kind (the AC-state one raises) -/
def demoSub : State :=
  (run demo [.sub (.ac 0 true) "g" false, .sub (.ac 0 false) "t" true, .sub (.zone 1) "z" false, .sub .airtouch "a" false]).1

theorem demoSub_eq : demoSub =
    { demoState with
      subs := [⟨"a", false⟩]
      zoneObjs := [mkZone 0 [97], { mkZone 1 [98] with status := demoGroup, subs := [⟨"z", false⟩] }]
      acObjs := demoState.acObjs.map fun a => { a with subs := [⟨"g", false⟩], stateSubs := [⟨"t", true⟩] } } := by
  unfold demoSub; rw [demo_eq]; rfl

/-- right after `init()` and the connection: the version request is outstanding -/
def afterConn : State := (run State.initial [.init, .conn true]).1

/-- the demo installation's handshake as junk/answer stages, with interleaved junk -/
def demoSteps : List (List Op × RMsg) :=
  [([.recv (.acStatus (.status [demoAcStatus])), .msg 0x99 [1, 2], .conn false], demoVersionMsg),
   ([.recv demoVersionMsg], demoNamesMsg),
   ([.recv (.extended (.consoleVer .request))], demoAbilityMsg),
   ([], demoAcStatusMsg),
   ([.recv (.extended (.errInfo (.message { ac_number := 0, error_info := some [69] })))], demoTimerMsg),
   ([.recv demoAcStatusMsg], demoGroupMsg)]

end PyAirtouch.Lemmas.Api4
