import PyAirtouch.Lemmas.Api4Handler
/-!
# The message handler on two states side by side

`_message_received` reads `st` and `subscribed` and is assembled from nine pieces: an update of one status record,
re-arming the polls, one zone of the names loop, one air-conditioner of the ability loop, taking the console version as
the first answer, a version update, moving the handshake state, entering `CONNECTED`, the heartbeat manager's own
subscriber.  `HandlerRel R` says that each piece, run on two `R`-related states, ends in related states with the same
outputs - the four pieces that move `st` or compare the stored version under the guard under which the handler uses
them, the others everywhere; then so does a whole delivery (`HandlerRel.recv`).  The text of the handler is followed
here and nowhere else for arguments about two runs: `Api4Raises` (`R a b := b = er a`, the "raises" flags erased) and
`Api4Shutdown` (`SimK k`: another heartbeat manager, a stale console version) supply the eleven facts.  A relation under
which the outputs differ (other subscriber sets, say) is not an instance: `Agree` asks for equal outputs.

The guards are what lets a relation depend on the handshake state.  `SimK false` allows different console versions
before the first answer: moving `st` out of `INIT_VERSION` alone would break it, so the first answer (version and state
at once) is a piece of its own, and `setSt` is asked for only from `INIT_GROUP_NAMES` on.
-/
namespace PyAirtouch.Lemmas.Api4
open PyAirtouch.Model PyAirtouch.Model.Api4 PyAirtouch.Model.At4 PyAirtouch.Gen

def Agree (R : State → State → Prop) {ε : Type} (x y : State × ε) : Prop := R x.1 y.1 ∧ x.2 = y.2

theorem Kind.update_agree {ρ ω β : Type} [DecidableEq β] (K : Kind ρ ω β) {R : State → State → Prop} (Q : ω → ω → Prop)
    {a b : State} (r : ρ)
    (hfind : (K.tbl.find a (K.key r) = none ∧ K.tbl.find b (K.key r) = none) ∨
      ∃ o o', K.tbl.find a (K.key r) = some o ∧ K.tbl.find b (K.key r) = some o' ∧ Q o o')
    (hget : ∀ o o', Q o o' → K.get o' = K.get o)
    (hset : ∀ o o', Q o o' → R (K.tbl.set a (K.key r) (K.put r o)) (K.tbl.set b (K.key r) (K.put r o')))
    (hevs : ∀ o o', Q o o' → K.evs a r o = K.evs b r o') (h : R a b) : Agree R (K.update a r) (K.update b r) := by
  rcases hfind with ⟨ea, eb⟩ | ⟨o, o', ea, eb, q⟩
  · simp only [Kind.update, ea, eb]; exact ⟨h, rfl⟩
  · simp only [Kind.update, ea, eb, hget o o' q]
    split
    · exact ⟨h, rfl⟩
    · exact ⟨hset o o' q, hevs o o' q⟩

structure HandlerRel (R : State → State → Prop) : Prop where
  st : ∀ {a b}, R a b → b.st = a.st
  subscribed : ∀ {a b}, R a b → b.subscribed = a.subscribed
  update : ∀ {ρ ω β : Type} [DecidableEq β] {K : Kind ρ ω β} {a b : State}, StatusKind K → ∀ r : ρ, R a b →
    Agree R (K.update a r) (K.update b r)
  rearm : ∀ {a b}, R a b → R (rearmPolls a) (rearmPolls b)
  addZone : ∀ {a b} (p : Nat × Bytes), R a b → R (addZone a p) (addZone b p)
  /-- one iteration of the ability loop raises `KeyError` on both states or on neither -/
  addAc : ∀ {a b} (x : Bool) (ab : FF11.AcAbility), R a b → (addAc a x ab = none ∧ addAc b x ab = none) ∨
    ∃ a' b', addAc a x ab = some a' ∧ addAc b x ab = some b' ∧ R a' b'
  firstAnswer : ∀ {a b} (v : FF30.ConsoleVersionMessage), R a b → a.st = .INIT_VERSION →
    R { a with version := v, st := .INIT_GROUP_NAMES } { b with version := v, st := .INIT_GROUP_NAMES }
  /-- the handler updates the version in `CONNECTED` only; `updateVersion` compares with the stored version, which is
      why a relation may need to know the state -/
  newVersion : ∀ {a b} (v : FF30.ConsoleVersionMessage), R a b → a.st = .CONNECTED →
    Agree R (updateVersion a v) (updateVersion b v)
  setSt : ∀ {a b} (x : AState), R a b → 3 ≤ stage a.st → R { a with st := x } { b with st := x }
  /-- the last answer, after it has been stored -/
  enter : ∀ {a b}, R a b → a.st = .INIT_GROUP_STATUS → Agree R (enterConnected a) (enterConnected b)
  hbResponse : ∀ {a b} (m : RMsg), R a b → R (hbOnMessage a m) (hbOnMessage b m)

namespace HandlerRel
variable {R : State → State → Prop} (H : HandlerRel R)
include H

theorem fold {ρ ω β : Type} [DecidableEq β] {K : Kind ρ ω β} (hK : StatusKind K) (l : List ρ) {a b : State}
    (h : R a b) : Agree R (foldEv K.update a l) (foldEv K.update b l) := by
  rw [foldEv_eq, foldEv_eq]
  have ⟨r1, r2⟩ := FoldW.foldW_sim (f := K.update) (g := K.update) (R := R) (p := fun _ => True) l a b h
    fun a b x _ h => ⟨(H.update hK x h).1, fun _ => (H.update hK x h).2⟩
  exact ⟨r1, r2 fun _ _ => trivial⟩

theorem names (l : List (Nat × Bytes)) {a b : State} (h : R a b) :
    R (processGroupNames a l) (processGroupNames b l) := by
  unfold processGroupNames
  induction l generalizing a b with
  | nil => exact h
  | cons p ps ih => exact ih (H.addZone p h)

theorem ability (x : Bool) (l : List FF11.AcAbility) {a b : State} (h : R a b) :
    Agree R (processAbility a x l) (processAbility b x l) := by
  induction l generalizing a b with
  | nil => exact ⟨h, rfl⟩
  | cons ab rest ih =>
    simp only [processAbility]
    rcases H.addAc x ab h with ⟨ea, eb⟩ | ⟨a', b', ea, eb, h'⟩ <;> rw [ea, eb]
    · exact ⟨h, rfl⟩
    · exact ih h'

theorem absorb {a b : State} (h : R a b) (m : RMsg) : Agree R (absorb a m) (absorb b m) := by
  unfold Api4.absorb
  rw [H.st h]
  split
  · split
    · next hc => exact H.newVersion _ h hc
    · exact ⟨h, rfl⟩
  · split; exact H.fold .acStatus _ h; exact ⟨h, rfl⟩
  · split; exact H.fold .acTimer _ h; exact ⟨h, rfl⟩
  · split; exact H.fold .acTimer _ h; exact ⟨h, rfl⟩
  · split; exact H.fold .group _ (H.rearm h); exact ⟨h, rfl⟩
  · exact H.update .errInfo _ h
  · exact ⟨h, rfl⟩

theorem answer {a b : State} (h : R a b) {m : RMsg} (hk : answerKind a.st m = true) :
    (a.st = .INIT_VERSION ∧ ∃ v, m = .extended (.consoleVer (.message v))) ∨
    (3 ≤ stage a.st ∧ Agree R (store a m) (store b m)) := by
  rcases answer_cases hk with ⟨hv, v, hm, _⟩ | ⟨hs, n, e⟩ | ⟨hs, acs, _, e⟩ | ⟨h5, _, _, _, _, K, l, hK, e⟩
  · exact .inl ⟨hv, v, hm⟩
  · exact .inr ⟨by rw [hs]; decide, by rw [e a, e b]; exact ⟨H.names n h, rfl⟩⟩
  · exact .inr ⟨by rw [hs]; decide, by rw [e a, e b]; exact ⟨(H.ability _ acs h).1, rfl⟩⟩
  · exact .inr ⟨Nat.le_trans (by decide) h5, by rw [e a, e b]; exact H.fold hK l h⟩

theorem abilityOk {a b : State} (h : R a b) (m : RMsg) : abilityOk a m = abilityOk b m := by
  unfold Api4.abilityOk; split
  · exact (H.ability _ _ h).2
  · rfl

theorem onMessage {a b : State} (h : R a b) (m : RMsg) : Agree R (onMessage a m) (onMessage b m) := by
  have hb := H.st h
  have ho := H.abilityOk h m
  rw [onMessage_eq a, onMessage_eq b, hb, ← ho]
  by_cases hk : answerKind a.st m = true
  · rw [if_pos hk, if_pos hk]
    rcases H.answer h hk with ⟨hv, v, rfl⟩ | ⟨h3, p, q⟩
    · have e1 : ¬ a.st = .INIT_GROUP_STATUS := by rw [hv]; nofun
      have e2 : ¬ Api4.abilityOk a (.extended (.consoleVer (.message v))) = false := nofun
      rw [if_neg e1, if_neg e1, if_neg e2, if_neg e2]
      rw [hv]
      exact ⟨H.firstAnswer (a := a) (b := b) v h hv, rfl⟩
    · by_cases hg : a.st = .INIT_GROUP_STATUS
      · rw [if_pos hg, if_pos hg]
        obtain ⟨p', q'⟩ := H.enter p ((st_store a m).trans hg)
        exact ⟨p', by rw [q, q']⟩
      · rw [if_neg hg, if_neg hg]
        by_cases hf : Api4.abilityOk a m = false
        · rw [if_pos hf, if_pos hf]; exact ⟨p, rfl⟩
        · rw [if_neg hf, if_neg hf]; exact ⟨H.setSt _ p (by rw [st_store]; exact h3), by rw [q]⟩
  · rw [if_neg hk, if_neg hk]
    exact ⟨(H.absorb h m).1, by rw [(H.absorb h m).2]⟩

theorem recv {a b : State} (h : R a b) (m : RMsg) : Agree R (recv a m) (recv b m) := by
  have ⟨p, q⟩ : Agree R (handled a m) (handled b m) := by
    unfold handled
    rw [H.subscribed h]
    split
    · exact H.onMessage h m
    · exact ⟨h, rfl⟩
  rw [recv_eq, recv_eq]
  exact ⟨H.hbResponse m p, by rw [q]⟩

end HandlerRel

end PyAirtouch.Lemmas.Api4
