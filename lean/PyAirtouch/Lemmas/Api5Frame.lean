import PyAirtouch.Lemmas.Api5Out
/-!
# Frame lemmas for the AirTouch 5 API model

What the handlers of a frame keep: `SameHb` (the heartbeat manager and its surroundings), `SameSt` (that and the state
machine; the entity handlers, `digest` and `report` keep it).  With what they emit: `Touch`.  That an entity handler
neither reads nor writes the heartbeat manager and the console version: `Ent`, all of it in one case split per
`_process_*` loop.  (`SameCtl` also lists the subscribers and the stored console version: it is the relation in which
`sameCtl_cv` of `Api5Shutdown` speaks; nothing here needs more than `SameSt`.)
-/
namespace PyAirtouch.Lemmas.Api5
open PyAirtouch.Model PyAirtouch.Model.Api5 PyAirtouch.Model.At5 PyAirtouch.Model.At5.Registry
open PyAirtouch.Model.TimerCommon (AcTimerState AcTimerStatusData)
open PyAirtouch.Model.Heartbeat
open PyAirtouch.Gen PyAirtouch.Gen.Api5

/-- the control part of the state is the same: everything but the identity strings (`airtouchId`, `serial`, `name`,
`host`), the two heaps and the two dicts -/
structure SameCtl (s s' : State) : Prop where
  st : s'.st = s.st
  sockOpen : s'.sockOpen = s.sockOpen
  sockSubscribed : s'.sockSubscribed = s.sockSubscribed
  initialised : s'.initialised = s.initialised
  pendingInits : s'.pendingInits = s.pendingInits
  hb : s'.hb = s.hb
  now : s'.now = s.now
  subs : s'.subs = s.subs
  consoleVersion : s'.consoleVersion = s.consoleVersion

/-- the heartbeat manager, the clock, the event, the waiting `init()` calls and the stub socket (open, listened to) are
untouched -/
structure SameHb (s s' : State) : Prop where
  hb : s'.hb = s.hb
  now : s'.now = s.now
  initialised : s'.initialised = s.initialised
  pendingInits : s'.pendingInits = s.pendingInits
  sockSubscribed : s'.sockSubscribed = s.sockSubscribed
  sockOpen : s'.sockOpen = s.sockOpen

theorem SameHb.refl (s : State) : SameHb s s := ⟨rfl, rfl, rfl, rfl, rfl, rfl⟩

theorem SameHb.trans {a b c : State} (h1 : SameHb a b) (h2 : SameHb b c) : SameHb a c :=
  ⟨h2.hb.trans h1.hb, h2.now.trans h1.now, h2.initialised.trans h1.initialised, h2.pendingInits.trans h1.pendingInits,
   h2.sockSubscribed.trans h1.sockSubscribed, h2.sockOpen.trans h1.sockOpen⟩

theorem SameHb.setHb {s s' : State} (e : SameHb s s') (g : HB) : SameHb { s with hb := g } { s' with hb := g } :=
  ⟨rfl, e.now, e.initialised, e.pendingInits, e.sockSubscribed, e.sockOpen⟩

theorem sameHb_st (s : State) (st : AirTouchState) : SameHb s { s with st := st } := ⟨rfl, rfl, rfl, rfl, rfl, rfl⟩

/-- … and the state machine is where it was: what every entity handler, `digest` and `report` keep (the stored console
version is not in it: the version answer and the version update write it) -/
structure SameSt (s s' : State) : Prop extends SameHb s s' where
  st : s'.st = s.st

theorem sameSt_heaps (s : State) (zo : List ZoneObj) (ao : List AcObj) (z a : List (Nat × Nat))
    (v : FF30.ConsoleVersionMessage) :
    SameSt s { s with zobjs := zo, aobjs := ao, zones := z, acs := a, consoleVersion := v } :=
  ⟨⟨rfl, rfl, rfl, rfl, rfl, rfl⟩, rfl⟩

theorem SameSt.refl (s : State) : SameSt s s := sameSt_heaps s _ _ _ _ _

theorem SameSt.trans {a b c : State} (h1 : SameSt a b) (h2 : SameSt b c) : SameSt a c :=
  ⟨h1.toSameHb.trans h2.toSameHb, h2.st.trans h1.st⟩

theorem sameSt_setAc (s : State) (r : Nat) (a : AcObj) : SameSt s (s.setAc r a) := sameSt_heaps s _ _ _ _ _

theorem sameSt_processZoneNames (names : List (Nat × Bytes)) (s : State) : SameSt s (processZoneNames names s) := by
  unfold processZoneNames
  induction names generalizing s with
  | nil => exact SameSt.refl s
  | cons p ps ih =>
    simp only [List.foldl_cons]
    exact SameSt.trans (sameSt_heaps s _ _ _ _ _ : SameSt s (addZone s p)) (ih _)

/-! ### what an entity update may do

`Touch O s r`: the handler result `r` from `s` kept what `SameSt` lists and emitted only outputs in `O`.

`Ent O f s`: at `s` the handler `f` does that, and it neither reads nor writes the heartbeat manager and the console
version: it commutes with overwriting them (`State.over`).  (Of the other fields `SameSt` lists it says that they are
not written, not that they are not read.)  After `dsimp only [Ent, …, State.over]` the three copies of the
handler's body branch on the same terms, so one case split of the handler shows all of it; `Ent` passes through `andThen`
and `forEach`.  (`Api5Shutdown` reads the simulation of an entity handler off it: `Ent.sim`.) -/

structure Touch (O : Out → Prop) (s : State) (r : HR) : Prop where
  ctl : SameSt s r.s
  out : AllOut O r

theorem touch_nil (O : Out → Prop) (s : State) (e : Option String) : Touch O s { s := s, out := [], exc := e } :=
  ⟨SameSt.refl s, allOut_nil O s e⟩

theorem Touch.mono {O O' : Out → Prop} {s : State} {r : HR} (h : Touch O s r) (hi : ∀ o, O o → O' o) : Touch O' s r :=
  ⟨h.ctl, h.out.mono hi⟩

theorem touch_setAc {O : Out → Prop} (s : State) (r : Nat) (a : AcObj) (l : List Out) (h : ∀ o ∈ l, O o) :
    Touch O s { s := s.setAc r a, out := l } := ⟨sameSt_setAc s r a, h⟩

def _root_.PyAirtouch.Model.Api5.State.over (s : State) (h : HB) (v : FF30.ConsoleVersionMessage) : State :=
  { s with hb := h, consoleVersion := v }

def _root_.PyAirtouch.Model.Api5.HR.over (r : HR) (h : HB) (v : FF30.ConsoleVersionMessage) : HR :=
  { s := r.s.over h v, out := r.out, exc := r.exc }

def Ent (O : Out → Prop) (f : State → HR) (s : State) : Prop :=
  Touch O s (f s) ∧ ∀ h v, f (s.over h v) = (f s).over h v

theorem Ent.touch {O : Out → Prop} {f : State → HR} {s : State} (h : Ent O f s) : Touch O s (f s) := h.1

theorem ent_andThen {O : Out → Prop} {f g : State → HR} {s : State} (hf : Ent O f s) (hg : ∀ s', Ent O g s') :
    Ent O (fun s => (f s).andThen g) s := by
  refine ⟨⟨?_, allOut_andThen hf.1.out fun s' => (hg s').1.out⟩, fun h v => ?_⟩
  · dsimp only [HR.andThen]
    split
    · exact hf.1.ctl
    · exact hf.1.ctl.trans (hg _).1.ctl
  · simp only [hf.2 h v, HR.andThen, HR.over]
    split
    · rfl
    · simp only [(hg _).2 h v, HR.over]

theorem ent_forEach {O : Out → Prop} {α} (xs : List α) {f : State → α → HR} (hf : ∀ x s, Ent O (fun s => f s x) s)
    (s : State) : Ent O (forEach xs f) s := by
  induction xs generalizing s with
  | nil => exact ⟨touch_nil _ _ _, fun _ _ => rfl⟩
  | cons x xs ih => exact ent_andThen (hf x s) ih

theorem ent_sendMsg {O : Out → Prop} (p : Policy) (m : Msg) (i : Bool) (ho : O (.send p m i)) (s : State) :
    Ent O (fun s => sendMsg s p m i) s := by
  refine ⟨⟨by rw [sendMsg_s]; exact SameSt.refl s, allOut_sendMsg _ _ _ _ ho⟩, fun h v => ?_⟩
  dsimp only [sendMsg, State.over]
  split <;> rfl

theorem Ent.after_setAc {O : Out → Prop} {f : State → HR} {s : State} {r : Nat} {a : AcObj} (hf : Ent O f (s.setAc r a)) :
    Touch O s (f (s.setAc r a)) ∧ ∀ h v, f ((s.over h v).setAc r a) = (f (s.setAc r a)).over h v :=
  ⟨⟨(sameSt_setAc s r a).trans hf.1.ctl, hf.1.out⟩, hf.2⟩

theorem ent_processAcStatus (l : List C023.AcStatusData) (s : State) : Ent ErrOrNotify (processAcStatus l) s := by
  refine ent_forEach _ (fun d s => ?_) s
  dsimp only [Ent, State.acRef, updateAcStatus, State.over]
  split
  · split
    · exact ⟨touch_nil _ _ _, fun _ _ => rfl⟩
    · split
      · exact ⟨touch_nil _ _ _, fun _ _ => rfl⟩
      · have hn (a : AcObj) : ∀ o ∈ acNotifyAll a, ErrOrNotify o := fun o ho => .inl (acNotifyAll_isNotify a o ho)
        split
        · -- the error-information request goes out first; on a closed socket the update ends there
          exact (ent_andThen (g := fun s => { s, out := acNotifyAll _ }) (ent_sendMsg _ _ _ (.inr ⟨_, rfl⟩) _)
            fun s' => ⟨⟨SameSt.refl s', hn _⟩, fun _ _ => rfl⟩).after_setAc
        · exact ⟨touch_setAc _ _ _ _ (hn _), fun _ _ => rfl⟩
  · exact ⟨touch_nil _ _ _, fun _ _ => rfl⟩

theorem ent_processAcTimer (l : List AcTimerStatusData) (s : State) : Ent (·.isNotify = true) (processAcTimer l) s := by
  refine ent_forEach _ (fun d s => ?_) s
  dsimp only [Ent, State.acRef, updateAcTimer, State.over]
  split
  · split
    · exact ⟨touch_nil _ _ _, fun _ _ => rfl⟩
    · split
      · exact ⟨touch_nil _ _ _, fun _ _ => rfl⟩
      · exact ⟨touch_setAc _ _ _ _ (acNotifyAll_isNotify _), fun _ _ => rfl⟩
  · exact ⟨touch_nil _ _ _, fun _ _ => rfl⟩

theorem ent_processZoneStatus (l : List C021.ZoneStatusData) (s : State) :
    Ent (·.isNotify = true) (processZoneStatus l) s := by
  refine ent_forEach _ (fun d s => ?_) s
  dsimp only [Ent, updateZoneStatus, State.over]
  split
  · split
    · exact ⟨touch_nil _ _ _, fun _ _ => rfl⟩
    · split
      · exact ⟨touch_nil _ _ _, fun _ _ => rfl⟩
      · exact ⟨⟨sameSt_heaps s _ _ _ _ _, zoneNotify_isNotify _ _⟩, fun _ _ => rfl⟩
  · exact ⟨touch_nil _ _ _, fun _ _ => rfl⟩

/-- error information is taken whatever the socket's state: no exception -/
theorem ent_processErrInfo (e : FF10.AcErrorInformationMessage) (s : State) :
    Ent (·.isNotify = true) (processErrInfo e) s ∧ (processErrInfo e s).exc = none := by
  dsimp only [Ent, processErrInfo, State.acRef, updateAcErrInfo, State.over]
  split
  · split
    · exact ⟨⟨touch_nil _ _ _, fun _ _ => rfl⟩, rfl⟩
    · split
      · exact ⟨⟨touch_nil _ _ _, fun _ _ => rfl⟩, rfl⟩
      · exact ⟨⟨touch_setAc _ _ _ _ (acNotifyAll_isNotify _), fun _ _ => rfl⟩, rfl⟩
  · exact ⟨⟨touch_nil _ _ _, fun _ _ => rfl⟩, rfl⟩

theorem addAc_over (s : State) (ab : FF11.AcAbility) (h : HB) (v : FF30.ConsoleVersionMessage) :
    addAc (s.over h v) ab = (addAc s ab).map (·.over h v) := by
  dsimp only [addAc, State.over]
  split <;> rfl

theorem ent_processAcAbility (l : List FF11.AcAbility) (s : State) : Ent (fun _ => False) (processAcAbility l) s := by
  refine ent_forEach _ (fun ab s => ⟨?_, fun h v => ?_⟩) s
  · dsimp only
    split
    · rename_i s' h
      unfold addAc at h
      split at h <;> cases h
      exact ⟨sameSt_heaps s _ _ _ _ _, allOut_nil _ _ _⟩
    · exact touch_nil _ _ _
  · dsimp only
    rw [addAc_over]
    cases addAc s ab <;> rfl

end PyAirtouch.Lemmas.Api5
