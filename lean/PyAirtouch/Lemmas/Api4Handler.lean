import PyAirtouch.Lemmas.Api4Kind
/-!
# The message handler of `AirTouch4`, case by case

`_message_received` does one of four things with a message: it is not the answer the handshake waits for and is
absorbed (`absorb`: stored in state `CONNECTED`, dropped otherwise, error information stored always); or it is the
awaited answer, whose content is stored (`store`) and then either the state moves on and the next request goes
out, or the handshake completes (`enterConnected`), or the ability loop has raised `KeyError`.
`onMessage_cases` says so once (`stage` numbers the states of the handshake in the order it passes them; the modules
above state "not yet" / "already" with it).  `absorb_kinds` and `store_kinds` say what absorbing and storing can be:
a loop of `Kind.update` for one of the four kinds of status record, or one of a few silent assignments; so a property
of one delivery is a property of `Kind.update`, `enterConnected` and `hbOnMessage` (frame lemmas: here, and
`hbOnMessage_frame` in `Api4Records`).  `answer_cases` is `store_kinds` read from the other side: by the state that
awaits the answer, what the answer is and what storing it does, for every state at once.  `recv_cases` is
`onMessage_cases` for a whole delivery.
`onMessage_eq` is `onMessage_cases` as one equation and `handled` / `recv_eq` a delivery in two steps, for proofs that
run the handler on two states side by side (`Api4HandlerRel`).
The connection handler and the heartbeat's two timers are likewise written as functions of the few fields they read
(`connStep`; `timeoutHB` / `timeoutEvs`, `beatHB` / `beatEvs`).
-/
namespace PyAirtouch.Lemmas.Api4
open PyAirtouch.Model PyAirtouch.Model.Api4 PyAirtouch.Model.At4 PyAirtouch.Gen

/-- position of a state in the handshake: 2 … 7 are the states in which the version, names, ability, AC-status,
    timer-status and group-status answer is awaited (so `5 ≤ stage` is "the ability answer has been processed",
    `stage ≤ 7` "not yet `CONNECTED`") -/
def stage : AState → Nat
  | .CLOSED => 0 | .CONNECTING => 1 | .INIT_VERSION => 2 | .INIT_GROUP_NAMES => 3 | .INIT_AC_ABILITY => 4
  | .INIT_AC_STATUS => 5 | .INIT_AC_TIMER_STATUS => 6 | .INIT_GROUP_STATUS => 7 | .CONNECTED => 8

theorem stage_inj {a b : AState} (h : stage a = stage b) : a = b := by
  -- `stage` has a left inverse
  have inv : ∀ x : AState, (match stage x with
      | 0 => .CLOSED | 1 => .CONNECTING | 2 => .INIT_VERSION | 3 => .INIT_GROUP_NAMES | 4 => .INIT_AC_ABILITY
      | 5 => .INIT_AC_STATUS | 6 => .INIT_AC_TIMER_STATUS | 7 => .INIT_GROUP_STATUS | _ => .CONNECTED : AState) = x :=
    fun x => by cases x <;> rfl
  rw [← inv a, h]
  exact inv b

/-- the state after the answer has been consumed -/
def nextState : AState → AState
  | .CLOSED => .CLOSED | .CONNECTING => .INIT_VERSION | .INIT_VERSION => .INIT_GROUP_NAMES
  | .INIT_GROUP_NAMES => .INIT_AC_ABILITY | .INIT_AC_ABILITY => .INIT_AC_STATUS
  | .INIT_AC_STATUS => .INIT_AC_TIMER_STATUS | .INIT_AC_TIMER_STATUS => .INIT_GROUP_STATUS
  | .INIT_GROUP_STATUS => .CONNECTED | .CONNECTED => .CONNECTED

/-- the request that is sent on *leaving* a state (`CONNECTING` is left by the connection, the others by the
    answer to the previous request) -/
def requestOnLeaving : AState → Option OutMsg
  | .CONNECTING => some versionRequest | .INIT_VERSION => some namesRequest
  | .INIT_GROUP_NAMES => some abilityRequest | .INIT_AC_ABILITY => some acStatusRequest
  | .INIT_AC_STATUS => some timerStatusRequest | .INIT_AC_TIMER_STATUS => some groupStatusRequest
  | _ => none

/-- the message class that answers the request outstanding in a state -/
def answerKind : AState → RMsg → Bool
  | .INIT_VERSION, .extended (.consoleVer (.message _)) => true
  | .INIT_GROUP_NAMES, .extended (.groupNames (.message _)) => true
  | .INIT_AC_ABILITY, .extended (.acAbility (.ability _)) => true
  | .INIT_AC_STATUS, .acStatus (.status _) => true
  | .INIT_AC_TIMER_STATUS, .acTimerStatus (.status _) => true
  | .INIT_AC_TIMER_STATUS, .acTimerCtrl _ => true      -- a subclass instance of the timer-status message
  | .INIT_GROUP_STATUS, .groupStatus (.status _) => true
  | _, _ => false

theorem updateAcStatus_eq : updateAcStatus = acStatusK.update := funext fun s => funext (updateAcStatus_kind s)
theorem updateAcTimer_eq : updateAcTimer = acTimerK.update := funext fun s => funext (updateAcTimer_kind s)
theorem updateErrInfo_eq : updateErrInfo = errInfoK.update := funext fun s => funext (updateErrInfo_kind s)
theorem updateGroupStatus_eq : updateGroupStatus = groupK.update := funext fun s => funext (updateGroupStatus_kind s)

/-- what a message that is not the awaited answer does -/
def absorb (s : State) : RMsg → State × List Ev
  | .extended (.consoleVer (.message v)) => if s.st = .CONNECTED then updateVersion s v else (s, [])
  | .acStatus (.status l) => if s.st = .CONNECTED then foldEv acStatusK.update s l else (s, [])
  | .acTimerStatus (.status l) => if s.st = .CONNECTED then foldEv acTimerK.update s l else (s, [])
  | .acTimerCtrl c => if s.st = .CONNECTED then foldEv acTimerK.update s c.ac_timer_status else (s, [])
  | .groupStatus (.status l) => if s.st = .CONNECTED then foldEv groupK.update (rearmPolls s) l else (s, [])
  | .extended (.errInfo (.message e)) => errInfoK.update s e
  | _ => (s, [])

/-- what the awaited answer stores, before the state moves on -/
def store (s : State) : RMsg → State × List Ev
  | .extended (.consoleVer (.message v)) => ({ s with version := v }, [])
  | .extended (.groupNames (.message n)) => (processGroupNames s n.group_names, [])
  | .extended (.acAbility (.ability acs)) => ((processAbility s (acs.length == 1) acs).1, [])
  | .acStatus (.status l) => foldEv acStatusK.update s l
  | .acTimerStatus (.status l) => foldEv acTimerK.update s l
  | .acTimerCtrl c => foldEv acTimerK.update s c.ac_timer_status
  | .groupStatus (.status l) => foldEv groupK.update s l
  | _ => (s, [])

/-- the ability loop raises `KeyError` on this message -/
def AbilityFails (s : State) (m : RMsg) : Prop :=
  ∃ acs, m = .extended (.acAbility (.ability acs)) ∧ (processAbility s (acs.length == 1) acs).2 = false

theorem absorb_kinds (s : State) (m : RMsg) :
    absorb s m = (s, []) ∨ (∃ v, absorb s m = updateVersion s v) ∨
    ∃ (ρ ω β : Type) (_ : DecidableEq β) (K : Kind ρ ω β) (l : List ρ) (t : State),
      StatusKind K ∧ (t = s ∨ t = rearmPolls s) ∧ absorb s m = foldEv K.update t l := by
  unfold absorb
  split
  case h_1 => split; exact .inr (.inl ⟨_, rfl⟩); exact .inl rfl
  case h_2 => split; exact .inr (.inr ⟨_, _, _, _, _, _, s, .acStatus, .inl rfl, rfl⟩); exact .inl rfl
  case h_3 | h_4 => split; exact .inr (.inr ⟨_, _, _, _, _, _, s, .acTimer, .inl rfl, rfl⟩); exact .inl rfl
  case h_5 => split; exact .inr (.inr ⟨_, _, _, _, _, _, _, .group, .inr rfl, rfl⟩); exact .inl rfl
  case h_6 e => exact .inr (.inr ⟨_, _, _, _, _, [e], s, .errInfo, .inl rfl, (foldEv_single _ s e).symm⟩)
  case h_7 => exact .inl rfl

theorem store_kinds (s : State) (m : RMsg) :
    (∃ s', store s m = (s', []) ∧ (s' = s ∨ (∃ v, s' = { s with version := v }) ∨
      (∃ n, s' = processGroupNames s n) ∨ ∃ b acs, s' = (processAbility s b acs).1)) ∨
    ∃ (ρ ω β : Type) (_ : DecidableEq β) (K : Kind ρ ω β) (l : List ρ),
      StatusKind K ∧ store s m = foldEv K.update s l := by
  unfold store
  split
  · exact .inl ⟨_, rfl, .inr (.inl ⟨_, rfl⟩)⟩
  · exact .inl ⟨_, rfl, .inr (.inr (.inl ⟨_, rfl⟩))⟩
  · exact .inl ⟨_, rfl, .inr (.inr (.inr ⟨_, _, rfl⟩))⟩
  · exact .inr ⟨_, _, _, _, _, _, .acStatus, rfl⟩
  · exact .inr ⟨_, _, _, _, _, _, .acTimer, rfl⟩
  · exact .inr ⟨_, _, _, _, _, _, .acTimer, rfl⟩
  · exact .inr ⟨_, _, _, _, _, _, .group, rfl⟩
  · exact .inl ⟨_, rfl, .inl rfl⟩

theorem answer_cases {st : AState} {m : RMsg} (h : answerKind st m = true) :
    (st = .INIT_VERSION ∧ ∃ v, m = .extended (.consoleVer (.message v)) ∧ ∀ s, store s m = ({ s with version := v }, [])) ∨
    (st = .INIT_GROUP_NAMES ∧ ∃ n, ∀ s, store s m = (processGroupNames s n, [])) ∨
    (st = .INIT_AC_ABILITY ∧ ∃ acs, m = .extended (.acAbility (.ability acs)) ∧
      ∀ s, store s m = ((processAbility s (acs.length == 1) acs).1, [])) ∨
    (5 ≤ stage st ∧ ∃ (ρ ω β : Type) (_ : DecidableEq β) (K : Kind ρ ω β) (l : List ρ), StatusKind K ∧
      ∀ s, store s m = foldEv K.update s l) := by
  unfold answerKind at h
  split at h
  · exact .inl ⟨rfl, _, rfl, fun _ => rfl⟩
  · exact .inr (.inl ⟨rfl, _, fun _ => rfl⟩)
  · exact .inr (.inr (.inl ⟨rfl, _, rfl, fun _ => rfl⟩))
  · exact .inr (.inr (.inr ⟨by decide, _, _, _, _, _, _, .acStatus, fun _ => rfl⟩))
  · exact .inr (.inr (.inr ⟨by decide, _, _, _, _, _, _, .acTimer, fun _ => rfl⟩))
  · exact .inr (.inr (.inr ⟨by decide, _, _, _, _, _, _, .acTimer, fun _ => rfl⟩))
  · exact .inr (.inr (.inr ⟨by decide, _, _, _, _, _, _, .group, fun _ => rfl⟩))
  · cases h

theorem absorb_early {s : State} (hc : s.st ≠ .CONNECTED) (h0 : s.acDict = []) (m : RMsg) : absorb s m = (s, []) := by
  unfold absorb
  split <;> first | rw [if_neg hc] | rfl |
    exact errInfoK.update_noop s _ fun o ho => by
      rw [show errInfoK.tbl.find s _ = (s.acDict.lookup _).bind (s.acObjs[·]?) from rfl, h0] at ho; cases ho

theorem abilityOk_of_not_fails {s : State} {m : RMsg} (h : ¬ AbilityFails s m) (acs : List FF11.AcAbility)
    (hm : m = .extended (.acAbility (.ability acs))) : (processAbility s (acs.length == 1) acs).2 = true := by
  cases hp : (processAbility s (acs.length == 1) acs).2 with
  | true => rfl
  | false => exact absurd ⟨acs, hm, hp⟩ h

theorem answerKind_final {s : State} {m : RMsg} (hs : s.st = .INIT_GROUP_STATUS) (h : answerKind s.st m = true) :
    ∃ l, m = .groupStatus (.status l) := by
  rw [hs] at h
  unfold answerKind at h
  split at h <;> first | exact ⟨_, rfl⟩ | (rename_i heq; cases heq) | cases h

theorem onMessage_of_not_answer {s : State} {m : RMsg} (h : answerKind s.st m = false) :
    onMessage s m = ((absorb s m).1, (absorb s m).2, none) := by
  unfold onMessage
  split
  case h_8 => rw [updateErrInfo_eq]; rfl
  case h_9 =>
    -- no pattern of `onMessage` matches, so none of `absorb` does: `absorb.eq_7` is the equation Lean generates for
    -- the last arm of `absorb`, its hypotheses (one per earlier arm, in the order of the arms) are in the context
    rw [absorb.eq_7 s m (by assumption) (by assumption) (by assumption) (by assumption) (by assumption) (by assumption)]
  all_goals
    -- the state the answer is awaited in is excluded; otherwise both sides store in `CONNECTED` and drop elsewhere
    simp only [absorb, processTimers, updateAcStatus_eq, updateAcTimer_eq, updateGroupStatus_eq]
    split
    · next hs => rw [hs] at h; cases h
    · first | rfl | (split <;> rfl)

theorem onMessage_of_answer {s : State} {m : RMsg} (h : answerKind s.st m = true)
    (hne : s.st ≠ .INIT_GROUP_STATUS) (hok : ¬ AbilityFails s m) :
    onMessage s m = ({ (store s m).1 with st := nextState s.st },
      (store s m).2 ++ (requestOnLeaving s.st).toList.map (Ev.send .connected), none) := by
  unfold answerKind at h
  split at h
  case h_3 acs hs =>
    simp only [onMessage, store, hs, nextState, requestOnLeaving, ↓reduceIte]
    cases hp : processAbility s (acs.length == 1) acs with
    | mk s' ok =>
      cases ok
      · exact absurd ⟨acs, rfl, by rw [hp]⟩ hok
      · rfl
  case h_7 hs => exact absurd hs hne
  case h_8 => cases h
  all_goals
    rename_i hs
    simp only [onMessage, processTimers, store, hs, nextState, requestOnLeaving, ↓reduceIte, updateAcStatus_eq,
      updateAcTimer_eq]
    rfl

theorem onMessage_cases (s : State) (m : RMsg) :
    (answerKind s.st m = false ∧ onMessage s m = ((absorb s m).1, (absorb s m).2, none)) ∨
    (answerKind s.st m = true ∧ s.st = .INIT_GROUP_STATUS ∧
      onMessage s m = ((enterConnected (store s m).1).1, (store s m).2 ++ (enterConnected (store s m).1).2, none)) ∨
    (answerKind s.st m = true ∧ s.st = .INIT_AC_ABILITY ∧ AbilityFails s m ∧
      onMessage s m = ((store s m).1, [], some .keyError)) ∨
    (answerKind s.st m = true ∧ s.st ≠ .INIT_GROUP_STATUS ∧ ¬ AbilityFails s m ∧
      onMessage s m = ({ (store s m).1 with st := nextState s.st },
        (store s m).2 ++ (requestOnLeaving s.st).toList.map (Ev.send .connected), none)) := by
  cases h : answerKind s.st m with
  | false => exact Or.inl ⟨rfl, onMessage_of_not_answer h⟩
  | true =>
    refine Or.inr ?_
    by_cases hg : s.st = .INIT_GROUP_STATUS
    · obtain ⟨l, rfl⟩ := answerKind_final hg h
      exact Or.inl ⟨rfl, hg, by simp only [onMessage, store, hg, ↓reduceIte, updateGroupStatus_eq]⟩
    · by_cases hf : AbilityFails s m
      · obtain ⟨acs, rfl, hf'⟩ := hf
        have hs : s.st = .INIT_AC_ABILITY := by
          unfold answerKind at h
          split at h <;> first | assumption | (rename_i hm; cases hm) | cases h
        refine Or.inr (Or.inl ⟨rfl, hs, ⟨acs, rfl, hf'⟩, ?_⟩)
        simp only [onMessage, store, hs, ↓reduceIte]
        cases hp : processAbility s (acs.length == 1) acs with
        | mk s' ok =>
          rw [hp] at hf'
          cases hf'
          rfl
      · exact Or.inr (Or.inr ⟨rfl, hg, hf, onMessage_of_answer h hg hf⟩)

/-- the ability loop of this message, if it is one, runs through: `AbilityFails` as a `Bool`, which the one equation
    `onMessage_eq` branches on (the case lemmas hand `AbilityFails` to users who take the message out of it) -/
def abilityOk (s : State) : RMsg → Bool
  | .extended (.acAbility (.ability acs)) => (processAbility s (acs.length == 1) acs).2
  | _ => true

theorem abilityFails_iff (s : State) (m : RMsg) : AbilityFails s m ↔ abilityOk s m = false := by
  constructor
  · rintro ⟨acs, rfl, h⟩; exact h
  · intro h
    unfold abilityOk at h
    split at h
    · exact ⟨_, rfl, h⟩
    · cases h

theorem onMessage_eq (s : State) (m : RMsg) :
    onMessage s m =
      if answerKind s.st m = true then
        if s.st = .INIT_GROUP_STATUS then
          ((enterConnected (store s m).1).1, (store s m).2 ++ (enterConnected (store s m).1).2, none)
        else if abilityOk s m = false then ((store s m).1, [], some .keyError)
        else ({ (store s m).1 with st := nextState s.st },
          (store s m).2 ++ (requestOnLeaving s.st).toList.map (Ev.send .connected), none)
      else ((absorb s m).1, (absorb s m).2, none) := by
  rcases onMessage_cases s m with ⟨h, e⟩ | ⟨h, hs, e⟩ | ⟨h, hs, hf, e⟩ | ⟨h, hs, hf, e⟩
  · rw [e, h]; rfl
  · rw [e, h, if_pos rfl, if_pos hs]
  · rw [e, h, if_pos rfl, if_neg (by rw [hs]; nofun), if_pos ((abilityFails_iff s m).mp hf)]
  · rw [e, h, if_pos rfl, if_neg hs, if_neg (fun h' => hf ((abilityFails_iff s m).mpr h'))]

theorem recv_cases (s : State) (m : RMsg) :
    (s.subscribed = false ∧ recv s m = (hbOnMessage s m, [])) ∨
    (answerKind s.st m = false ∧ recv s m = (hbOnMessage (absorb s m).1 m, (absorb s m).2)) ∨
    (s.subscribed = true ∧ answerKind s.st m = true ∧ s.st = .INIT_GROUP_STATUS ∧
      recv s m = (hbOnMessage (enterConnected (store s m).1).1 m, (store s m).2 ++ (enterConnected (store s m).1).2)) ∨
    (s.subscribed = true ∧ answerKind s.st m = true ∧ s.st = .INIT_AC_ABILITY ∧ AbilityFails s m ∧
      recv s m = (hbOnMessage (store s m).1 m, [Ev.subscriberExc "KeyError"])) ∨
    (s.subscribed = true ∧ answerKind s.st m = true ∧ s.st ≠ .INIT_GROUP_STATUS ∧ ¬ AbilityFails s m ∧
      recv s m = (hbOnMessage { (store s m).1 with st := nextState s.st } m,
        (store s m).2 ++ (requestOnLeaving s.st).toList.map (Ev.send .connected))) := by
  unfold recv
  cases hsub : s.subscribed with
  | false => exact Or.inl ⟨rfl, rfl⟩
  | true =>
    refine Or.inr ?_
    simp only [↓reduceIte]
    rcases onMessage_cases s m with ⟨h, e⟩ | ⟨h, hs, e⟩ | ⟨h, hs, hf, e⟩ | ⟨h, hs, hf, e⟩
    · exact Or.inl ⟨h, by rw [e, List.append_nil]⟩
    · exact Or.inr (Or.inl ⟨trivial, h, hs, by rw [e, List.append_nil]⟩)
    · exact Or.inr (Or.inr (Or.inl ⟨trivial, h, hs, hf, by rw [e]; rfl⟩))
    · exact Or.inr (Or.inr (Or.inr ⟨trivial, h, hs, hf, by rw [e, List.append_nil]⟩))

/-- `recv` in two steps: the API's handler if it listens, then the manager's -/
def handled (s : State) (m : RMsg) : State × List Ev × Option Exc :=
  if s.subscribed then onMessage s m else (s, [], none)

theorem recv_eq (s : State) (m : RMsg) :
    recv s m = (hbOnMessage (handled s m).1 m,
      (handled s m).2.1 ++ (match (handled s m).2.2 with | some e => [Ev.subscriberExc e.name] | none => [])) := rfl

theorem answerKind_connected (m : RMsg) : answerKind .CONNECTED m = false := by
  unfold answerKind
  split <;> first | rfl | (rename_i h; cases h)

theorem recv_of_not_answer {s : State} (hsub : s.subscribed = true) {m : RMsg} (h : answerKind s.st m = false) :
    recv s m = (hbOnMessage (absorb s m).1 m, (absorb s m).2) := by
  unfold recv
  rw [if_pos hsub, onMessage_of_not_answer h]
  simp only [List.append_nil]

theorem recv_connected {s : State} (hst : s.st = .CONNECTED) (hsub : s.subscribed = true) (m : RMsg) :
    recv s m = (hbOnMessage (absorb s m).1 m, (absorb s m).2) :=
  recv_of_not_answer hsub (by rw [hst]; exact answerKind_connected m)

theorem recv_connected_events {s : State} (hst : s.st = .CONNECTED) (hsub : s.subscribed = true) (m : RMsg) :
    (recv s m).2 = (absorb s m).2 := by
  rw [recv_connected hst hsub m]

theorem recv_errInfo {s : State} (hsub : s.subscribed = true) (e : FF10.AcErrorInformationMessage) :
    recv s (.extended (.errInfo (.message e))) = errInfoK.update s e := by
  rw [recv_of_not_answer hsub (by cases s.st <;> rfl)]
  rfl

theorem absorb_acStatus {s : State} (hst : s.st = .CONNECTED) (l : List X2D.AcStatusData) :
    absorb s (.acStatus (.status l)) = foldEv acStatusK.update s l := by
  simp only [absorb, hst, ↓reduceIte]

theorem absorb_acTimer {s : State} (hst : s.st = .CONNECTED) (l : List TimerCommon.AcTimerStatusData) :
    absorb s (.acTimerStatus (.status l)) = foldEv acTimerK.update s l := by
  simp only [absorb, hst, ↓reduceIte]

theorem absorb_groupStatus {s : State} (hst : s.st = .CONNECTED) (l : List X2B.GroupStatusData) :
    absorb s (.groupStatus (.status l)) = foldEv groupK.update (rearmPolls s) l := by
  simp only [absorb, hst, ↓reduceIte]

theorem hbStart_frame (s : State) : (hbStart s).1 = { s with hb := (hbStart s).1.hb } := by
  unfold hbStart; split <;> rfl

/-- the state `enterConnected` hands to the heartbeat manager's `start()` -/
def connectedCore (s : State) : State :=
  { s with st := .CONNECTED, pollOrphans := s.pollOrphans ++ s.pollCur.toList,
           pollCur := some (s.now + Api4.GROUP_STATUS_TIMEOUT), initialised := true, initWaits := [] }

theorem enterConnected_eq (s : State) :
    enterConnected s = ((hbStart (connectedCore s)).1,
      [Ev.hbStart] ++ s.initWaits.map (fun _ => Ev.result "init True") ++ (hbStart (connectedCore s)).2) := rfl

theorem enterConnected_frame (s : State) :
    (enterConnected s).1 = { connectedCore s with hb := (enterConnected s).1.hb } := by
  rw [enterConnected_eq, hbStart_frame]

theorem hbStart_events (s : State) :
    (hbStart s).2 = (if hbIdle s.hb && s.sockConnected then [Ev.send .connected hbMessage] else []) := by
  unfold hbStart
  by_cases hi : hbIdle s.hb = true
  · simp [hi]
  · simp [hi]

theorem enterConnected_events (s : State) :
    (enterConnected s).2 = [Ev.hbStart] ++ s.initWaits.map (fun _ => Ev.result "init True") ++
      (if hbIdle s.hb && s.sockConnected then [Ev.send .connected hbMessage] else []) := by
  unfold enterConnected; simp only; rw [hbStart_events]

theorem updateVersion_frame (s : State) (v : FF30.ConsoleVersionMessage) :
    (updateVersion s v).1 = { s with version := (updateVersion s v).1.version } := by
  unfold updateVersion; split <;> rfl

theorem absorb_frame (s : State) (m : RMsg) :
    (absorb s m).1 =
      { s with version := (absorb s m).1.version, acObjs := (absorb s m).1.acObjs, zoneObjs := (absorb s m).1.zoneObjs,
               pollCur := (absorb s m).1.pollCur, pollOrphans := (absorb s m).1.pollOrphans } := by
  rcases absorb_kinds s m with e | ⟨_, e⟩ | ⟨_, _, _, _, K, l, t, _, ht, e⟩ <;> rw [e]
  · rw [updateVersion_frame]
  · rw [K.fold_objs]; rcases ht with rfl | rfl <;> rfl

theorem processGroupNames_frame (s : State) (l : List (Nat × Bytes)) :
    processGroupNames s l =
      { s with zoneObjs := (processGroupNames s l).zoneObjs, zoneDict := (processGroupNames s l).zoneDict } := by
  unfold processGroupNames
  induction l generalizing s with
  | nil => rfl
  | cons p ps ih => rw [List.foldl_cons, ih]; rfl

theorem addAc_eq_some {s s' : State} {single : Bool} {ab : FF11.AcAbility} (h : addAc s single ab = some s') :
    ∃ zs a, zonesForAbility s single ab = some zs ∧ mkAc ab zs = some a ∧
      s' = { s with acObjs := s.acObjs ++ [a], acDict := dictInsert s.acDict ab.ac_number s.acObjs.length } := by
  unfold addAc at h
  cases hz : zonesForAbility s single ab with
  | none => simp [hz] at h
  | some zs =>
    cases hm : mkAc ab zs with
    | none => simp [hz, hm] at h
    | some a => simp [hz, hm] at h; exact ⟨zs, a, rfl, hm, h.symm⟩

theorem processAbility_frame (s : State) (single : Bool) (l : List FF11.AcAbility) :
    (processAbility s single l).1 =
      { s with acObjs := (processAbility s single l).1.acObjs, acDict := (processAbility s single l).1.acDict } := by
  induction l generalizing s with
  | nil => rfl
  | cons ab rest ih =>
    simp only [processAbility]
    cases ha : addAc s single ab with
    | none => rfl
    | some s' =>
      obtain ⟨zs, a, _, _, rfl⟩ := addAc_eq_some ha
      simp only; rw [ih]

theorem store_frame (s : State) (m : RMsg) :
    (store s m).1 =
      { s with version := (store s m).1.version, zoneObjs := (store s m).1.zoneObjs, zoneDict := (store s m).1.zoneDict,
               acObjs := (store s m).1.acObjs, acDict := (store s m).1.acDict } := by
  rcases store_kinds s m with ⟨_, e, rfl | ⟨_, rfl⟩ | ⟨_, rfl⟩ | ⟨_, _, rfl⟩⟩ | ⟨_, _, _, _, K, l, _, e⟩ <;> rw [e]
  · simp only; rw [processGroupNames_frame]
  · simp only; rw [processAbility_frame]
  · rw [K.fold_objs]

theorem st_store (s : State) (m : RMsg) : (store s m).1.st = s.st := by rw [store_frame]

/-- `_connection_changed` reads the callback registration, the state and whether the socket is open, and writes
    the state: the new state and the output as a function of these -/
def connStep (subscribed : Bool) (st : AState) (sockOpen up : Bool) : AState × List Ev :=
  if !subscribed then (st, [])
  else if up && st == .CONNECTING then
    (.INIT_VERSION, if sockOpen then [Ev.send .connected versionRequest] else [Ev.subscriberExc Exc.notOpen.name])
  else if up then
    (st, if sockOpen then [Ev.send .connected acStatusRequest, Ev.send .connected groupStatusRequest]
         else [Ev.subscriberExc Exc.notOpen.name])
  else (st, [])

theorem onConn_eq (s : State) (up : Bool) :
    onConn s up = ({ s with st := (connStep s.subscribed s.st s.sockOpen up).1 },
                   (connStep s.subscribed s.st s.sockOpen up).2) := by
  unfold onConn connStep
  repeat' split
  all_goals rfl

theorem apiStep_conn_false (s : State) :
    apiStep s (.conn false) =
      ({ s with sockConnected := false, hb := hbApply { s.hb with now := s.now } (.conn false) }, []) := by
  simp only [apiStep, onConn, Bool.false_and, Bool.false_eq_true, ↓reduceIte, ite_self]

theorem connStep_st (sub : Bool) (st : AState) (o up : Bool) :
    (connStep sub st o up).1 = st ∨ (st = .CONNECTING ∧ (connStep sub st o up).1 = .INIT_VERSION) := by
  cases sub
  · exact .inl rfl
  · cases up
    · exact .inl rfl
    · cases st <;> first | exact .inr ⟨rfl, rfl⟩ | exact .inl rfl

theorem onConn_st (s : State) (up : Bool) :
    (onConn s up).1.st = s.st ∨ (s.st = .CONNECTING ∧ (onConn s up).1.st = .INIT_VERSION) := by
  rw [onConn_eq]; exact connStep_st _ _ _ _

theorem subUnsub_frame (s : State) (t : Target) (f : List Sub → List Sub) :
    (subUnsub s t f).1 = { s with subs := (subUnsub s t f).1.subs, acObjs := (subUnsub s t f).1.acObjs,
                                  zoneObjs := (subUnsub s t f).1.zoneObjs } := by
  cases t with
  | airtouch => rfl
  | ac i general =>
    simp only [subUnsub]
    cases s.findAc i with
    | none => rfl
    | some a => simp only; rw [show s.setAc i _ = _ from acTable.set_objs s i _]
  | zone i =>
    simp only [subUnsub]
    cases s.findZone i with
    | none => rfl
    | some zi =>
      simp only
      cases s.zoneObjs[zi]? <;> rfl

/-! ### the heartbeat's two timers under the clock -/

/-- `fireHbTimeout` on the heartbeat: the timeout loop at time `t`, socket connection flag `c` -/
def timeoutHB (c : Bool) (t : Nat) (h : Heartbeat.HB) : Heartbeat.HB :=
  match h.tl with
  | .waiting d => if d ≤ t then (if c then hbApply (hbApply h .tlFire) .tlResetDone else hbApply h .tlFire) else h
  | _ => h

/-- the timeout loop's deadline / the heartbeat loop's wake-up is due at time `t` -/
def tlDue (t : Nat) : Heartbeat.TL → Bool
  | .waiting d => decide (d ≤ t)
  | _ => false

def hlDue (t : Nat) : Heartbeat.HL → Bool
  | .sleeping u => decide (u ≤ t)
  | .idle => false

/-- an expiry resets the connection iff the socket is connected -/
def timeoutEvs (c : Bool) (t : Nat) (h : Heartbeat.HB) : List Ev := if tlDue t h.tl && c then [Ev.reset] else []

/-- `fireBeat` on the heartbeat -/
def beatHB (t : Nat) (h : Heartbeat.HB) : Heartbeat.HB :=
  match h.hl with
  | .sleeping u => if u ≤ t then hbApply h .hlBeat else h
  | .idle => h

/-- an iteration of the heartbeat loop sends the request iff the socket is connected -/
def beatEvs (c : Bool) (t : Nat) (h : Heartbeat.HB) : List Ev :=
  if hlDue t h.hl && c then [Ev.send .connected hbMessage] else []

/-- what one `tick` to time `t` does to the embedded heartbeat -/
def tickHB (c : Bool) (t : Nat) (h : Heartbeat.HB) : Heartbeat.HB := beatHB t (timeoutHB c t { h with now := t })

theorem fireHbTimeout_eq (s : State) :
    fireHbTimeout s = ({ s with hb := timeoutHB s.sockConnected s.now s.hb }, timeoutEvs s.sockConnected s.now s.hb) := by
  unfold fireHbTimeout timeoutHB timeoutEvs tlDue
  cases s.hb.tl with
  | waiting d =>
    by_cases hd : d ≤ s.now <;>
      simp only [hd, decide_true, decide_false, Bool.true_and, Bool.false_and, ↓reduceIte, Bool.false_eq_true] <;>
      (try split) <;> rfl
  | _ => rfl

theorem fireBeat_eq (s : State) :
    fireBeat s = ({ s with hb := beatHB s.now s.hb }, beatEvs s.sockConnected s.now s.hb) := by
  unfold fireBeat beatHB beatEvs hlDue
  cases s.hb.hl with
  | sleeping u =>
    by_cases hu : u ≤ s.now <;>
      simp only [hu, decide_true, decide_false, Bool.true_and, Bool.false_and, ↓reduceIte, Bool.false_eq_true] <;>
      (try split) <;> rfl
  | idle => rfl

theorem timeoutEvs_cases (c : Bool) (t : Nat) (h : Heartbeat.HB) :
    timeoutEvs c t h = [] ∨ timeoutEvs c t h = [Ev.reset] := by
  unfold timeoutEvs
  repeat' split
  all_goals first | exact .inl rfl | exact .inr rfl

theorem beatEvs_cases (c : Bool) (t : Nat) (h : Heartbeat.HB) :
    beatEvs c t h = [] ∨ beatEvs c t h = [Ev.send .connected hbMessage] := by
  unfold beatEvs
  repeat' split
  all_goals first | exact .inl rfl | exact .inr rfl

/-! ### the poll tasks under the clock -/

def pollEv : Ev := Ev.send .connected groupStatusRequest

theorem firePoll_events (c o : Bool) (t d : Nat) : (firePoll c o t d).2 = [] ∨ (firePoll c o t d).2 = [pollEv] := by
  unfold firePoll
  repeat' split
  all_goals first | exact .inl rfl | exact .inr rfl

theorem firePolls_events (s : State) : ∀ e ∈ (firePolls s).2, e = pollEv := by
  have hp : ∀ d, ∀ e ∈ (firePoll s.sockConnected s.sockOpen s.now d).2, e = pollEv := fun d e he => by
    rcases firePoll_events s.sockConnected s.sockOpen s.now d with h | h <;> rw [h] at he
    · cases he
    · exact List.mem_singleton.mp he
  intro e he
  simp only [firePolls, List.mem_append, List.mem_flatMap, List.mem_map] at he
  rcases he with ⟨_, ⟨d, _, rfl⟩, hx⟩ | he
  · exact hp d e hx
  · cases hc : s.pollCur with
    | none => rw [hc] at he; cases he
    | some d => rw [hc] at he; exact hp d e he

end PyAirtouch.Lemmas.Api4
