import PyAirtouch.Model.At5.Part5Utils
import PyAirtouch.Lemmas.BitField
/-! The set-point byte and the temperature word of the AirTouch 5 control and status records. -/
namespace PyAirtouch.Lemmas.At5Utils
open PyAirtouch.Model PyAirtouch.Model.At5.Utils PyAirtouch.Lemmas.BitField

/-- set-points from 10.0 °C to 35.5 °C fit the byte -/
theorem packB_encodeSetPoint {sp : Int} (h1 : 100 ≤ sp) (h2 : sp ≤ 355) :
    packB (encodeSetPoint sp) = .ok (encodeSetPoint sp).toNat :=
  packB_ok (by simp only [encodeSetPoint]; omega) (by simp only [encodeSetPoint]; omega)

theorem decodeSetPoint_encodeSetPoint {sp : Int} (h : 100 ≤ sp) :
    decodeSetPoint (encodeSetPoint sp).toNat = sp := by
  simp only [decodeSetPoint, encodeSetPoint]
  omega

theorem decodeTemperature_word {t : Int} (h1 : -500 ≤ t) (h2 : t ≤ 1547) :
    decodeTemperature (be16 (mask11 (encodeTemperature t) / 256 % 256) (mask11 (encodeTemperature t) % 256) % 2048)
      = t := by
  have hc : mask11 (encodeTemperature t) < 2048 := by simp only [mask11]; omega
  rw [be16_be16Bytes (by omega), Nat.mod_eq_of_lt hc]
  simp only [decodeTemperature, mask11, encodeTemperature]
  omega

end PyAirtouch.Lemmas.At5Utils
