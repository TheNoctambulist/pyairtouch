import PyAirtouch.Lemmas.Api4Events
import PyAirtouch.Lemmas.Api4Ctl
/-!
# The initialisation state machine of `AirTouch4`

One message at a time (ignored, answer, last answer, `KeyError`), then runs of socket events: the requests go out in
order, each stage survives interleaved junk, the handshake completes; and the clock side: `init()` calls that time
out while the handshake is incomplete.
-/
namespace PyAirtouch.Lemmas.Api4
open PyAirtouch.Model PyAirtouch.Model.Api4 PyAirtouch.Model.At4 PyAirtouch.Gen

/-- the six handshake requests in the order they are sent -/
def handshakeRequests : List OutMsg :=
  [versionRequest, namesRequest, abilityRequest, acStatusRequest, timerStatusRequest, groupStatusRequest]

/-- a send that is not an error-information request -/
def hsSend : Ev → Option OutMsg
  | .send _ (.reg (.extended (.errInfo (.request _)))) => none
  | .send _ m => some m
  | _ => none

def hsSends (evs : List Ev) : List OutMsg := evs.filterMap hsSend

theorem hsSends_append (a b : List Ev) : hsSends (a ++ b) = hsSends a ++ hsSends b := by
  simp [hsSends, List.filterMap_append]

/-- an event that is neither a send other than an error-information request nor a handler's exception -/
def Quiet (e : Ev) : Prop := hsSend e = none ∧ ∀ c, e ≠ Ev.subscriberExc c

theorem quiet_of {e : Ev} (h1 : hsSend e = none) (h2 : ∀ c, e ≠ Ev.subscriberExc c) : Quiet e := ⟨h1, h2⟩

theorem hsSends_quiet {l : List Ev} (h : ∀ e ∈ l, Quiet e) : hsSends l = [] := by
  induction l with
  | nil => rfl
  | cons x xs ih =>
    simp only [hsSends, List.filterMap_cons]
    rw [show hsSend x = none from (h x List.mem_cons_self).1]
    exact ih (fun e he => h e (List.mem_cons_of_mem _ he))

theorem UpdateEv.quiet {e : Ev} (h : UpdateEv e) : Quiet e := by
  rcases h with h | ⟨ac, rfl⟩
  · refine ⟨?_, fun c hc => ?_⟩
    · cases e <;> first | rfl | cases h
    · subst hc; cases h
  · exact ⟨rfl, fun c hc => by cases hc⟩

theorem noExc_of_quiet {l : List Ev} (h : ∀ e ∈ l, Quiet e) : ∀ c, Ev.subscriberExc c ∉ l :=
  fun c hc => (h _ hc).2 c rfl

theorem noExc_append {l₁ l₂ : List Ev} (h1 : ∀ c, Ev.subscriberExc c ∉ l₁) (h2 : ∀ c, Ev.subscriberExc c ∉ l₂) :
    ∀ c, Ev.subscriberExc c ∉ l₁ ++ l₂ :=
  fun c hc => (List.mem_append.mp hc).elim (h1 c) (h2 c)

theorem quiet_absorb (s : State) (m : RMsg) : ∀ e ∈ (absorb s m).2, Quiet e :=
  fun e he => (updateEv_absorb s m e he).quiet

theorem quiet_store (s : State) (m : RMsg) : ∀ e ∈ (store s m).2, Quiet e :=
  fun e he => (updateEv_store s m e he).quiet

theorem st_hbOnMessage (s : State) (m : RMsg) : (hbOnMessage s m).st = s.st := by
  rw [hbOnMessage_frame]

theorem st_enterConnected (s : State) : (enterConnected s).1.st = .CONNECTED := by
  rw [enterConnected_frame]; rfl

theorem recv_not_answer (s : State) (m : RMsg) (h : answerKind s.st m = false) :
    (recv s m).1.st = s.st ∧ hsSends (recv s m).2 = [] ∧ ∀ c, Ev.subscriberExc c ∉ (recv s m).2 := by
  rcases recv_cases s m with ⟨_, e⟩ | ⟨_, e⟩ | ⟨_, h', _⟩ | ⟨_, h', _⟩ | ⟨_, h', _⟩
  · rw [e]; exact ⟨st_hbOnMessage s m, rfl, fun c hc => by cases hc⟩
  · rw [e]
    refine ⟨?_, hsSends_quiet (quiet_absorb s m), noExc_of_quiet (quiet_absorb s m)⟩
    rw [st_hbOnMessage, absorb_frame]
  all_goals rw [h] at h'; cases h'

theorem hsSends_requestOnLeaving (st : AState) :
    hsSends ((requestOnLeaving st).toList.map (Ev.send .connected)) = (requestOnLeaving st).toList := by
  cases st <;> rfl

theorem recv_answer (s : State) (hsub : s.subscribed = true) (m : RMsg) (h : answerKind s.st m = true)
    (hne : s.st ≠ .INIT_GROUP_STATUS)
    (hab : ∀ acs, m = .extended (.acAbility (.ability acs)) → (processAbility s (acs.length == 1) acs).2 = true) :
    (recv s m).1.st = nextState s.st ∧ hsSends (recv s m).2 = (requestOnLeaving s.st).toList ∧
    ∀ c, Ev.subscriberExc c ∉ (recv s m).2 := by
  rcases recv_cases s m with ⟨h', _⟩ | ⟨h', _⟩ | ⟨_, _, hs, _⟩ | ⟨_, _, _, ⟨acs, hm, hf⟩, _⟩ | ⟨_, _, _, _, e⟩
  · rw [hsub] at h'; cases h'
  · rw [h] at h'; cases h'
  · exact absurd hs hne
  · rw [hab acs hm] at hf; cases hf
  · rw [e]
    refine ⟨st_hbOnMessage _ m, ?_, ?_⟩
    · rw [hsSends_append, hsSends_quiet (quiet_store s m), hsSends_requestOnLeaving]; rfl
    · refine noExc_append (noExc_of_quiet (quiet_store s m)) fun c hc => ?_
      obtain ⟨_, _, hr⟩ := List.mem_map.mp hc
      cases hr

theorem hbStart_running (s : State) : hbIdle (hbStart s).1.hb = false := by
  unfold hbStart
  by_cases hi : hbIdle s.hb = true
  · simp only [hi, ↓reduceIte]
    have h1 : s.hb.tl = .idle ∧ s.hb.hl = .idle := by
      simpa [hbIdle] using hi
    simp [hbApply, Heartbeat.step, h1.1, h1.2, Heartbeat.enterTimeout, Heartbeat.HB.emit, hbIdle]
  · simp only [hi, Bool.false_eq_true, ↓reduceIte]

-- the hypothesis `h` is not used: the count is zero by `hn` alone
set_option linter.unusedVariables false in
theorem count_result_quiet {l : List Ev} (h : ∀ e ∈ l, Quiet e) (t : String) (hn : ∀ e ∈ l, ∀ t, e ≠ Ev.result t) :
    l.count (Ev.result t) = 0 :=
  List.count_eq_zero.mpr (fun hm => hn _ hm t rfl)

theorem count_replicate_map {α} (l : List α) (e : Ev) : (l.map fun _ => e).count e = l.length := by
  induction l with
  | nil => rfl
  | cons x xs ih => simp [ih]

theorem recv_final_answer (s : State) (hsub : s.subscribed = true) (l : List X2B.GroupStatusData)
    (hs : s.st = .INIT_GROUP_STATUS) :
    (recv s (.groupStatus (.status l))).1.st = .CONNECTED ∧
    (recv s (.groupStatus (.status l))).1.initialised = true ∧
    (recv s (.groupStatus (.status l))).1.initWaits = [] ∧
    (recv s (.groupStatus (.status l))).1.pollCur = some (s.now + Api4.GROUP_STATUS_TIMEOUT) ∧
    hbIdle (recv s (.groupStatus (.status l))).1.hb = false ∧
    Ev.hbStart ∈ (recv s (.groupStatus (.status l))).2 ∧
    (recv s (.groupStatus (.status l))).2.count (Ev.result "init True") = s.initWaits.length ∧
    hsSends (recv s (.groupStatus (.status l))).2 =
      (if hbIdle s.hb && s.sockConnected then [hbMessage] else []) ∧
    ∀ c, Ev.subscriberExc c ∉ (recv s (.groupStatus (.status l))).2 := by
  have hc : completes s (.groupStatus (.status l)) = true := (completes_iff _ _).mpr ⟨hs, l, rfl⟩
  have e := ctl_recv s (.groupStatus (.status l))
  rw [hsub, hc] at e
  have hq := updateEv_store s (.groupStatus (.status l))
  have hr : ∀ t, (store s (.groupStatus (.status l))).2.count (Ev.result t) = 0 := fun t =>
    List.count_eq_zero.mpr fun hm => by rcases hq _ hm with h | ⟨_, h⟩ <;> cases h
  rw [recv_final_events s hsub l hs]
  refine ⟨?_, congrArg Ctl.initialised e, congrArg Ctl.initWaits e, congrArg Ctl.pollCur e, ?_, by simp, ?_, ?_, ?_⟩
  · simp only [recv, hsub, ↓reduceIte, onMessage, hs, st_hbOnMessage, st_enterConnected]
  · rw [show (recv s (.groupStatus (.status l))).1.hb = _ from congrArg Ctl.hb e, recvHB_completes hsub hc, ← hbStart_hb]
    exact hbStart_running s
  · simp only [List.count_append, hr, count_replicate_map]
    split <;> simp
  · rw [hsSends_append, hsSends_append, hsSends_append, hsSends_quiet (fun e he => (hq e he).quiet)]
    have e5 : hsSends (s.initWaits.map fun _ => Ev.result "init True") = [] :=
      hsSends_quiet fun e he => by obtain ⟨_, _, rfl⟩ := List.mem_map.mp he; exact ⟨rfl, nofun⟩
    rw [e5]
    split <;> rfl
  · intro c hc
    simp only [List.mem_append, List.mem_singleton, List.mem_map, reduceCtorEq, and_false, exists_false,
      or_false] at hc
    rcases hc with hc | hc
    · exact (hq _ hc).quiet.2 c rfl
    · split at hc <;> simp at hc

theorem recv_ability_keyerror (s : State) (hsub : s.subscribed = true) (acs : List FF11.AcAbility)
    (hs : s.st = .INIT_AC_ABILITY) (hf : (processAbility s (acs.length == 1) acs).2 = false) :
    (recv s (.extended (.acAbility (.ability acs)))).1.st = .INIT_AC_ABILITY ∧
    (recv s (.extended (.acAbility (.ability acs)))).2 = [Ev.subscriberExc "KeyError"] := by
  rcases recv_cases s (.extended (.acAbility (.ability acs))) with
    ⟨h', _⟩ | ⟨h', _⟩ | ⟨_, _, hs', _⟩ | ⟨_, _, _, _, e⟩ | ⟨_, _, _, hok, _⟩
  · rw [hsub] at h'; cases h'
  · rw [hs] at h'; cases h'
  · rw [hs] at hs'; cases hs'
  · rw [e, st_hbOnMessage, store_frame]; exact ⟨hs, rfl⟩
  · exact absurd ⟨acs, rfl, hf⟩ hok

/-- ops that are events from the socket other than "connection established": arriving frames / messages and
    the loss of the connection -/
def passive : Op → Bool
  | .recv _ => true
  | .msg _ _ => true
  | .conn false => true
  | _ => false

/-- the op delivers a message of the class that answers the request outstanding in state `st` -/
def answers (st : AState) : Op → Bool
  | .recv m => answerKind st m
  | .msg mid payload =>
    match decodeTop mid payload with
    | .ok m => answerKind st m
    | .error _ => false
  | _ => false

theorem passive_cases (s : State) (op : Op) (hp : passive op = true) :
    (∃ m, apiStep s op = recv s m ∧ ∀ st, answers st op = answerKind st m) ∨
    ((∀ st, answers st op = false) ∧
      (apiStep s op).1 = { s with sockConnected := (apiStep s op).1.sockConnected, hb := (apiStep s op).1.hb } ∧
      ((apiStep s op).2 = [] ∨ ∃ c, (apiStep s op).2 = [Ev.undecodable c])) := by
  unfold passive at hp
  split at hp
  · exact Or.inl ⟨_, rfl, fun _ => rfl⟩
  · next mid payload =>
    simp only [apiStep, answers]
    cases decodeTop mid payload with
    | ok m => exact Or.inl ⟨m, rfl, fun _ => rfl⟩
    | error c => exact Or.inr ⟨fun _ => rfl, rfl, Or.inr ⟨c, rfl⟩⟩
  · rw [apiStep_conn_false]
    exact Or.inr ⟨fun _ => rfl, rfl, Or.inl rfl⟩
  · cases hp

theorem answer_stage {st : AState} {m : RMsg} (h : answerKind st m = true) (hne : st ≠ .INIT_GROUP_STATUS) :
    2 ≤ stage st ∧ stage st ≤ 6 ∧ stage (nextState st) = stage st + 1 ∧
    ∃ r, handshakeRequests[stage st - 1]? = some r ∧ requestOnLeaving st = some r := by
  unfold answerKind at h
  split at h
  case h_7 => exact absurd rfl hne  -- `INIT_GROUP_STATUS`
  case h_8 => cases h  -- no answer is awaited
  all_goals exact ⟨by decide, by decide, rfl, _, rfl, rfl⟩

theorem passive_step (s : State) (hsub : s.subscribed = true) (op : Op) (hp : passive op = true) :
    (apiStep s op).1.subscribed = true ∧
    (((apiStep s op).1.st = s.st ∧ hsSends (apiStep s op).2 = []) ∨
     (stage (apiStep s op).1.st = stage s.st + 1 ∧ 2 ≤ stage s.st ∧ stage s.st ≤ 6 ∧
        (∃ r, handshakeRequests[stage s.st - 1]? = some r ∧ hsSends (apiStep s op).2 = [r])) ∨
     (s.st = .INIT_GROUP_STATUS ∧ (apiStep s op).1.st = .CONNECTED)) := by
  rcases passive_cases s op hp with ⟨m, e, _⟩ | ⟨_, e1, e2⟩
  · rw [e]
    refine ⟨(recv_subscribed s m).trans hsub, ?_⟩
    rcases recv_cases s m with ⟨h', _⟩ | ⟨hk, _⟩ | ⟨_, hk, hg, _⟩ | ⟨_, _, hst, ⟨acs, rfl, hf⟩, _⟩ | ⟨_, hk, hg, hok, _⟩
    · rw [hsub] at h'; cases h'
    · obtain ⟨h1, h2, _⟩ := recv_not_answer s m hk
      exact Or.inl ⟨h1, h2⟩
    · obtain ⟨l, rfl⟩ := answerKind_final hg hk
      exact Or.inr (Or.inr ⟨hg, (recv_final_answer s hsub l hg).1⟩)
    · obtain ⟨h1, h2⟩ := recv_ability_keyerror s hsub acs hst hf
      exact Or.inl ⟨h1.trans hst.symm, by rw [h2]; rfl⟩
    · obtain ⟨hs1, hs6, hn, r, hr1, hr2⟩ := answer_stage hk hg
      obtain ⟨h1, h2, _⟩ := recv_answer s hsub m hk hg (abilityOk_of_not_fails hok)
      exact Or.inr (Or.inl ⟨by rw [h1, hn], hs1, hs6, r, hr1, by rw [h2, hr2]; rfl⟩)
  · rw [e1]
    refine ⟨hsub, Or.inl ⟨rfl, ?_⟩⟩
    rcases e2 with e2 | ⟨c, e2⟩ <;> rw [e2] <;> rfl

theorem drop_pred_cons {α} (L : List α) (i : Nat) (hi : 1 ≤ i) (r : α) (h : L[i - 1]? = some r) :
    L.drop (i - 1) = r :: L.drop i := by
  obtain ⟨hlt, hr⟩ := List.getElem?_eq_some_iff.mp h
  rw [List.drop_eq_getElem_cons hlt, hr]
  congr 2
  omega

theorem passive_run (s : State) (hsub : s.subscribed = true) (ops : List Op) (hops : ∀ op ∈ ops, passive op = true) :
    stage s.st ≤ stage (run s ops).1.st ∧ (run s ops).1.subscribed = true ∧
    (stage (run s ops).1.st ≤ 7 →
      hsSends (run s ops).2 =
        (handshakeRequests.drop (stage s.st - 1)).take (stage (run s ops).1.st - stage s.st)) := by
  induction ops generalizing s with
  | nil => simp [run, hsub, hsSends]
  | cons op ops ih =>
    obtain ⟨hsub1, hstep⟩ := passive_step s hsub op (hops op List.mem_cons_self)
    obtain ⟨ih1, ih2, ih3⟩ := ih (apiStep s op).1 hsub1 (fun o ho => hops o (List.mem_cons_of_mem _ ho))
    simp only [run, hsSends_append]
    rcases hstep with ⟨h1, h2⟩ | ⟨h1, h2, h3, r, h4, h5⟩ | ⟨h1, h2⟩
    · rw [h1] at ih1 ih3
      exact ⟨ih1, ih2, fun hle => by rw [h2, ih3 hle]; rfl⟩
    · rw [h1] at ih1 ih3
      refine ⟨by omega, ih2, fun hle => ?_⟩
      rw [h5, ih3 hle, drop_pred_cons handshakeRequests (stage s.st) (by omega) r h4]
      have : stage (run (apiStep s op).1 ops).1.st - stage s.st =
          (stage (run (apiStep s op).1 ops).1.st - (stage s.st + 1)) + 1 := by omega
      rw [this, List.take_succ_cons]
      simp
    · rw [h2] at ih1
      have e7 : stage s.st = 7 := by rw [h1]; rfl
      have e8 : 8 ≤ stage (run (apiStep s op).1 ops).1.st := ih1
      exact ⟨by omega, ih2, fun hle => by omega⟩

/-- the initialised event and the pending `init()` calls -/
def initView (s : State) : Bool × List Nat := (s.initialised, s.initWaits)

theorem initView_recv (s : State) (m : RMsg) (h : answerKind s.st m = false ∨ s.st ≠ .INIT_GROUP_STATUS) :
    initView (recv s m).1 = initView s := by
  rcases recv_cases s m with ⟨_, e⟩ | ⟨_, e⟩ | ⟨_, hk, hs, _⟩ | ⟨_, _, _, _, e⟩ | ⟨_, _, _, _, e⟩
  · rw [e, hbOnMessage_frame]; rfl
  · rw [e, hbOnMessage_frame, absorb_frame]; rfl
  · exact (h.elim (fun h' => by rw [hk] at h'; cases h') (fun h' => h' hs)).elim
  · rw [e, hbOnMessage_frame, store_frame]; rfl
  · rw [e, hbOnMessage_frame]; simp only; rw [store_frame]; rfl

/-- anything that is not the awaited answer - unsolicited status, duplicates of earlier answers, premature
    later answers, requests, unknown or undecodable frames, connection losses -/
def Junk (st : AState) (ops : List Op) : Prop := ∀ op ∈ ops, passive op = true ∧ answers st op = false

theorem junk_step (s : State) (op : Op) (hp : passive op = true) (ha : answers s.st op = false) :
    (apiStep s op).1.st = s.st ∧ (apiStep s op).1.subscribed = s.subscribed ∧
    initView (apiStep s op).1 = initView s ∧ hsSends (apiStep s op).2 = [] ∧
    (∀ c, Ev.subscriberExc c ∉ (apiStep s op).2) := by
  rcases passive_cases s op hp with ⟨m, e, hm⟩ | ⟨_, e1, e2⟩
  · rw [hm] at ha
    rw [e]
    obtain ⟨h1, h2, h3⟩ := recv_not_answer s m ha
    exact ⟨h1, recv_subscribed s m, initView_recv s m (Or.inl ha), h2, h3⟩
  · rw [e1]
    refine ⟨rfl, rfl, rfl, ?_⟩
    rcases e2 with e2 | ⟨c, e2⟩ <;> rw [e2] <;> exact ⟨rfl, fun c hc => by simp at hc⟩

theorem junk_run (s : State) (ops : List Op) (hj : Junk s.st ops) :
    (run s ops).1.st = s.st ∧ (run s ops).1.subscribed = s.subscribed ∧
    initView (run s ops).1 = initView s ∧ hsSends (run s ops).2 = [] ∧
    (∀ c, Ev.subscriberExc c ∉ (run s ops).2) := by
  -- the state machine, the subscription and the pending `init()` calls stay; every event is quiet
  have ⟨⟨i1, i2, i3⟩, q⟩ := FoldW.foldW_ind (f := apiStep) (O := fun _ => Quiet)
    (I := fun t => t.st = s.st ∧ t.subscribed = s.subscribed ∧ initView t = initView s) ops s ⟨rfl, rfl, rfl⟩
    fun t op hop ⟨e1, e2, e3⟩ =>
      have ⟨h1, h2, h3, h4, h5⟩ := junk_step t op (hj op hop).1 (e1 ▸ (hj op hop).2)
      ⟨⟨h1.trans e1, h2.trans e2, h3.trans e3⟩,
        fun e he => ⟨List.filterMap_eq_nil_iff.1 h4 e he, fun c ec => h5 c (ec ▸ he)⟩⟩
  rw [run4_eq]
  exact ⟨i1, i2, i3, hsSends_quiet fun e he => (q e he).elim fun _ h => h.2,
    fun c hc => (q _ hc).elim fun _ h => h.2.2 c rfl⟩

theorem stage_run (s : State) (hsub : s.subscribed = true) (j : List Op) (a : RMsg) (hj : Junk s.st j)
    (hk : answerKind s.st a = true) (hne : s.st ≠ .INIT_GROUP_STATUS)
    (hab : ∀ acs, a = .extended (.acAbility (.ability acs)) →
      (processAbility (run s j).1 (acs.length == 1) acs).2 = true) :
    ((run s j).1.st = s.st ∧ (run s j).1.subscribed = true) ∧
    ((recv (run s j).1 a).1.st = nextState s.st ∧ (recv (run s j).1 a).1.subscribed = true) ∧
    ∀ c, Ev.subscriberExc c ∉ (run s j).2 ++ (recv (run s j).1 a).2 := by
  obtain ⟨j1, j2, _, _, j5⟩ := junk_run s j hj
  have hsub1 := j2.trans hsub
  obtain ⟨a1, _, a3⟩ := recv_answer (run s j).1 hsub1 a (by rw [j1]; exact hk) (by rw [j1]; exact hne) hab
  exact ⟨⟨j1, hsub1⟩, ⟨by rw [a1, j1], (recv_subscribed _ _).trans hsub1⟩, noExc_append j5 a3⟩

/-- junk, then the answer: one stage of the handshake -/
def hsScript (steps : List (List Op × RMsg)) : List Op := steps.flatMap fun p => p.1 ++ [Op.recv p.2]

/-- each stage's junk is junk for that stage and its answer is of the answering class -/
def ValidSteps : AState → List (List Op × RMsg) → Prop
  | _, [] => True
  | st, (j, a) :: rest => Junk st j ∧ answerKind st a = true ∧ ValidSteps (nextState st) rest

theorem hsScript_cons (j : List Op) (a : RMsg) (rest : List (List Op × RMsg)) :
    hsScript ((j, a) :: rest) = j ++ ([Op.recv a] ++ hsScript rest) := by
  simp [hsScript, List.append_assoc]

/-- at each stage whose answer is an ability message, that message names only known groups in the state in which it
    arrives -/
def AbilityOk : State → List (List Op × RMsg) → Prop
  | _, [] => True
  | s, (j, a) :: rest =>
    (∀ acs, a = .extended (.acAbility (.ability acs)) → (processAbility (run s j).1 (acs.length == 1) acs).2 = true) ∧
    AbilityOk (recv (run s j).1 a).1 rest

theorem abilityOk_of_split (s : State) (steps : List (List Op × RMsg))
    (h : ∀ pre j acs post, steps = pre ++ (j, .extended (.acAbility (.ability acs))) :: post →
      (processAbility (run s (hsScript pre ++ j)).1 (acs.length == 1) acs).2 = true) : AbilityOk s steps := by
  induction steps generalizing s with
  | nil => trivial
  | cons p rest ih =>
    obtain ⟨j, a⟩ := p
    refine ⟨fun acs ha => by simpa [hsScript] using h [] j acs rest (by rw [ha]; rfl),
      ih _ fun pre j' acs post hr => ?_⟩
    have := h ((j, a) :: pre) j' acs post (by rw [hr]; rfl)
    rw [hsScript_cons, List.append_assoc, run_append, List.append_assoc, run_append] at this
    simpa [run, apiStep] using this

theorem handshake_run (s : State) (hsub : s.subscribed = true) (steps : List (List Op × RMsg))
    (hv : ValidSteps s.st steps) (hs2 : 2 ≤ stage s.st) (hlen : stage s.st + steps.length ≤ 8)
    (hab : AbilityOk s steps) :
    stage (run s (hsScript steps)).1.st = stage s.st + steps.length ∧
    (run s (hsScript steps)).1.subscribed = true ∧
    (∀ c, Ev.subscriberExc c ∉ (run s (hsScript steps)).2) ∧
    (steps ≠ [] → stage s.st + steps.length = 8 →
      (run s (hsScript steps)).1.initialised = true ∧ hbIdle (run s (hsScript steps)).1.hb = false ∧
      Ev.hbStart ∈ (run s (hsScript steps)).2) := by
  induction steps generalizing s with
  | nil => exact ⟨rfl, hsub, by simp [hsScript, run], fun h => absurd rfl h⟩
  | cons p rest ih =>
    obtain ⟨j, a⟩ := p
    obtain ⟨hj, hk, hvr⟩ := hv
    rw [hsScript_cons, run_append, run_append]
    simp only [run, List.append_nil, apiStep]
    by_cases hg : s.st = .INIT_GROUP_STATUS
    · -- the last answer
      have hrest : rest = [] := by
        have : stage s.st = 7 := by rw [hg]; rfl
        simp only [List.length_cons] at hlen
        cases rest with
        | nil => rfl
        | cons x xs => simp only [List.length_cons] at hlen; omega
      subst hrest
      obtain ⟨j1, j2, _, _, j5⟩ := junk_run s j hj
      have hsub1 : (run s j).1.subscribed = true := j2.trans hsub
      have hg1 : (run s j).1.st = .INIT_GROUP_STATUS := j1.trans hg
      obtain ⟨l, rfl⟩ := answerKind_final hg1 (by rw [j1]; exact hk)
      obtain ⟨f1, f2, _, _, f5, f6, _, _, f9⟩ := recv_final_answer (run s j).1 hsub1 l hg1
      simp only [hsScript, List.flatMap_nil, run, List.append_nil]
      exact ⟨by rw [f1, hg]; rfl, (recv_subscribed _ _).trans hsub1, noExc_append j5 f9,
        fun _ _ => ⟨f2, f5, List.mem_append_right _ f6⟩⟩
    · obtain ⟨_, ⟨a1, hsub2⟩, a3⟩ := stage_run s hsub j a hj hk hg hab.1
      obtain ⟨_, _, kn, _⟩ := answer_stage hk hg
      simp only [List.length_cons] at hlen ⊢
      obtain ⟨i1, i2, i3, i4⟩ := ih (recv (run s j).1 a).1 hsub2 (a1 ▸ hvr) (by rw [a1, kn]; omega)
        (by rw [a1, kn]; omega) hab.2
      rw [a1, kn] at i1 i4
      refine ⟨by omega, i2, ?_, fun _ h8 => ?_⟩
      · rw [← List.append_assoc]; exact noExc_append a3 i3
      · have hne : rest ≠ [] := by
          intro hr; subst hr
          simp only [List.length_nil] at h8
          omega
        obtain ⟨k1, k2, k3⟩ := i4 hne (by omega)
        exact ⟨k1, k2, List.mem_append_right _ (List.mem_append_right _ k3)⟩

theorem answers_final (s : State) (hsub : s.subscribed = true) (op : Op) (hg : s.st = .INIT_GROUP_STATUS)
    (ha : answers s.st op = true) : (apiStep s op).1.st = .CONNECTED := by
  cases hp : passive op with
  | false => cases op <;> first | cases ha | cases hp
  | true =>
    rcases passive_cases s op hp with ⟨m, e, hm⟩ | ⟨hn, _⟩
    · rw [hm] at ha
      obtain ⟨l, rfl⟩ := answerKind_final hg ha
      rw [e]
      exact (recv_final_answer s hsub l hg).1
    · rw [hn] at ha; cases ha

theorem passive_cons_incomplete (s : State) (hsub : s.subscribed = true) (op : Op) (ops : List Op)
    (hops : ∀ o ∈ op :: ops, passive o = true) (hle : stage (run s (op :: ops)).1.st ≤ 7) :
    (answers s.st op = false ∨ s.st ≠ .INIT_GROUP_STATUS) ∧ (apiStep s op).1.subscribed = true ∧
    stage (run (apiStep s op).1 ops).1.st ≤ 7 := by
  obtain ⟨hsub1, _⟩ := passive_step s hsub op (hops op List.mem_cons_self)
  have hmono := (passive_run (apiStep s op).1 hsub1 ops (fun o ho => hops o (List.mem_cons_of_mem _ ho))).1
  refine ⟨?_, hsub1, hle⟩
  by_cases hg : s.st = .INIT_GROUP_STATUS
  · refine .inl (Bool.eq_false_iff.mpr fun ha => ?_)
    rw [answers_final s hsub op hg ha] at hmono
    have : stage Api4.AirTouchState.CONNECTED = 8 := rfl
    have : stage (run (apiStep s op).1 ops).1.st ≤ 7 := hle
    omega
  · exact .inr hg

theorem initView_passive_step (s : State) (op : Op) (hp : passive op = true)
    (hn : answers s.st op = false ∨ s.st ≠ .INIT_GROUP_STATUS) : initView (apiStep s op).1 = initView s := by
  rcases passive_cases s op hp with ⟨m, e, hm⟩ | ⟨_, e, _⟩ <;> rw [e]
  · exact initView_recv s m (hn.imp (fun h => (hm _).symm.trans h) id)
  · rfl

theorem initView_passive_run (s : State) (hsub : s.subscribed = true) (ops : List Op)
    (hops : ∀ op ∈ ops, passive op = true) (hle : stage (run s ops).1.st ≤ 7) :
    initView (run s ops).1 = initView s := by
  induction ops generalizing s with
  | nil => rfl
  | cons op ops ih =>
    obtain ⟨hn, hsub1, hle1⟩ := passive_cons_incomplete s hsub op ops hops hle
    exact (ih _ hsub1 (fun o ho => hops o (List.mem_cons_of_mem _ ho)) hle1).trans
      (initView_passive_step s op (hops op List.mem_cons_self) hn)

def initFalse : Ev := Ev.result "init False"

theorem TimerEv.tickEv {e : Ev} (h : TimerEv e) :
    ((∀ c, e ≠ Ev.subscriberExc c) ∧ e.isNotify = false) ∧ e ≠ initFalse := by
  rcases h with rfl | rfl | rfl <;> exact ⟨⟨fun c h => (by cases h), rfl⟩, fun h => (by cases h)⟩

theorem timerEv_count_initFalse {l : List Ev} (h : ∀ e ∈ l, TimerEv e) : l.count initFalse = 0 :=
  List.count_eq_zero.mpr (fun hm => (h _ hm).tickEv.2 rfl)

theorem tick_init (s : State) (hi : s.initialised = false) :
    ((tick s).1.initialised = false ∧
      (tick s).1.initWaits = s.initWaits.filter (fun d => !decide (d ≤ s.now + 1)) ∧ (tick s).1.now = s.now + 1) ∧
    (tick s).2.count initFalse = (s.initWaits.filter (fun d => decide (d ≤ s.now + 1))).length := by
  have e := ctl_tick s
  refine ⟨⟨(congrArg Ctl.initialised e).trans hi, congrArg Ctl.initWaits e, congrArg Ctl.now e⟩, ?_⟩
  unfold tick
  simp only [List.count_append, timerEv_count_initFalse (timerEv_fireHbTimeout _), timerEv_count_initFalse (timerEv_firePolls _),
    timerEv_count_initFalse (timerEv_fireBeat _), Nat.zero_add, Nat.add_zero]
  rw [fireHbTimeout_eq]
  show ((s.initWaits.filter fun d => decide (d ≤ s.now + 1)).map
    fun _ => Ev.result ("init " ++ cBool s.initialised)).count initFalse = _
  rw [hi]
  exact count_replicate_map _ initFalse

theorem length_filter_le_split (w : List Nat) {a b : Nat} (h : a ≤ b) :
    (w.filter fun d => decide (d ≤ a)).length +
      ((w.filter fun d => !decide (d ≤ a)).filter fun d => decide (d ≤ b)).length =
    (w.filter fun d => decide (d ≤ b)).length := by
  induction w with
  | nil => rfl
  | cons x xs ih =>
    by_cases h1 : x ≤ a <;> by_cases h2 : x ≤ b <;>
      simp only [List.filter_cons, h1, h2, decide_true, decide_false, Bool.not_true, Bool.not_false,
        Bool.false_eq_true, ↓reduceIte, List.length_cons] <;> omega

theorem filter_not_le_twice (w : List Nat) {a b : Nat} (h : a ≤ b) :
    ((w.filter fun d => !decide (d ≤ a)).filter fun d => !decide (d ≤ b)) = w.filter fun d => !decide (d ≤ b) := by
  rw [List.filter_filter]
  refine List.filter_congr fun d _ => ?_
  by_cases h1 : d ≤ a <;> by_cases h2 : d ≤ b <;> simp [h1, h2]
  omega

theorem advance_initWaits (n : Nat) (s : State) (hi : s.initialised = false) (hw : ∀ d ∈ s.initWaits, s.now < d) :
    (advance n s).2.count initFalse = (s.initWaits.filter fun d => decide (d ≤ s.now + n)).length ∧
    (advance n s).1.initialised = false ∧
    (advance n s).1.initWaits = s.initWaits.filter (fun d => !decide (d ≤ s.now + n)) ∧
    (advance n s).1.now = s.now + n := by
  induction n generalizing s with
  | zero =>
    -- every deadline is ahead of the clock: none is due
    have e0 : s.initWaits.filter (fun d => decide (d ≤ s.now)) = [] :=
      List.filter_eq_nil_iff.mpr fun d hd => by simpa using hw d hd
    have e1 : s.initWaits.filter (fun d => !decide (d ≤ s.now)) = s.initWaits :=
      List.filter_eq_self.mpr fun d hd => by simpa using hw d hd
    simp only [advance, Nat.add_zero, e0, e1, and_true]
    exact ⟨rfl, hi⟩
  | succ n ih =>
    obtain ⟨⟨g1, g2, g3⟩, t2⟩ := tick_init s hi
    obtain ⟨i1, i2, i3, i4⟩ := ih (tick s).1 g1 (by
      intro d hd
      rw [g2] at hd
      rw [g3]
      simpa using (List.mem_filter.mp hd).2)
    have hnn : s.now + 1 + n = s.now + (n + 1) := by omega
    rw [g2, g3, hnn] at i1 i3
    rw [g3, hnn] at i4
    refine ⟨?_, i2, ?_, i4⟩
    · simp only [advance, List.count_append, t2, i1]
      exact length_filter_le_split _ (by omega)
    · simp only [advance]
      rw [i3, filter_not_le_twice _ (by omega)]

theorem advance_init (n : Nat) (s : State) (d : Nat) (hi : s.initialised = false) (hw : s.initWaits = [d])
    (hd : s.now < d) :
    (advance n s).2.count initFalse = (if s.now + n < d then 0 else 1) ∧
    ((advance n s).1.initialised = false ∧ (advance n s).1.initWaits = (if s.now + n < d then [d] else []) ∧
      (advance n s).1.now = s.now + n) ∧
    (∀ e ∈ (advance n s).2, (∀ c, e ≠ Ev.subscriberExc c) ∧ e.isNotify = false) := by
  obtain ⟨h1, h2, h3, h4⟩ :=
    advance_initWaits n s hi (by intro x hx; rw [hw, List.mem_singleton] at hx; rw [hx]; exact hd)
  rw [hw] at h1 h3
  refine ⟨?_, ⟨h2, ?_, h4⟩, fun e he => (advance_events n s e he).elim (·.tickEv.1) fun h => h ▸ ⟨nofun, rfl⟩⟩
  · rw [h1]
    by_cases h : s.now + n < d
    · simp [h, Nat.not_le.mpr h]
    · simp [h, Nat.le_of_not_lt h]
  · rw [h3]
    by_cases h : s.now + n < d
    · simp [h, Nat.not_le.mpr h]
    · simp [h, Nat.le_of_not_lt h]

end PyAirtouch.Lemmas.Api4
