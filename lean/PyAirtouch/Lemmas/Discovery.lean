import PyAirtouch.Model.Discovery
import PyAirtouch.Spec.Discovery
import PyAirtouch.Model.Part3Text
/-!
# Discovery: the model against its specification

The datagram handler adds an entry exactly for the vendor response format of `Spec.Discovery`, field for field;
a search takes one of three courses, decided by the interval in which the first valid response arrives.
-/
namespace PyAirtouch.Lemmas.Discovery
open PyAirtouch.Model PyAirtouch.Model.Discovery PyAirtouch.Gen.Discovery
open PyAirtouch.Spec.Discovery (splitFirst readResponse marker4 marker5)

abbrev SResponse := PyAirtouch.Spec.Discovery.Response

/-- the model's response seen as a response of the specification -/
def toSpec (r : Response) : SResponse :=
  { gen := r.gen, host := r.host, serial := r.serial, airtouchId := r.airtouch_id, name := r.name }

theorem toSpec_inj {r s : Response} (h : toSpec r = toSpec s) : r = s := by
  cases r; cases s; simp only [toSpec, PyAirtouch.Spec.Discovery.Response.mk.injEq] at h
  simp [h]

theorem utf8Valid_eq (bs : Bytes) : Model.utf8Valid bs = PyAirtouch.Spec.Discovery.utf8Valid bs := rfl

def NoComma (bs : Bytes) : Prop := ∀ b ∈ bs, b ≠ 44

theorem span_loop_eq {α} (p : α → Bool) (l acc : List α) :
    List.span.loop p l acc = (acc.reverse ++ l.takeWhile p, l.dropWhile p) := by
  induction l generalizing acc with
  | nil => simp [List.span.loop]
  | cons a l ih =>
    cases h : p a <;> simp [List.span.loop, h, ih]

theorem span_eq {α} (p : α → Bool) (l : List α) : l.span p = (l.takeWhile p, l.dropWhile p) := by
  simp [List.span, span_loop_eq]

theorem splitFirst_zero (bs : Bytes) : splitFirst 0 bs = [bs] := rfl

theorem splitFirst_succ (n : Nat) (bs : Bytes) :
    splitFirst (n+1) bs = match bs.span (fun x => decide (x ≠ 44)) with
      | (pre, []) => [pre]
      | (pre, _ :: rest) => pre :: splitFirst n rest := rfl

theorem splitMax_succ (n : Nat) (bs : Bytes) :
    splitMax (n+1) bs = match bs.span (fun x => decide (x ≠ 44)) with
      | (pre, []) => [pre]
      | (pre, _ :: rest) => pre :: splitMax n rest := rfl

theorem splitMax_eq_splitFirst (n : Nat) (bs : Bytes) : splitMax n bs = splitFirst n bs := by
  induction n generalizing bs with
  | zero => rfl
  | succ n ih =>
    rw [splitMax_succ, splitFirst_succ]
    cases List.span (fun x => decide (x ≠ 44)) bs with
    | mk pre post => cases post <;> simp [ih]

theorem splitFirst_cons (n : Nat) (h rest : Bytes) (hh : NoComma h) :
    splitFirst (n+1) (h ++ 44 :: rest) = h :: splitFirst n rest := by
  have hp : ∀ b ∈ h, decide (b ≠ 44) = true := fun b hb => by simpa using hh b hb
  rw [splitFirst_succ, span_eq, List.takeWhile_append_of_pos hp, List.dropWhile_append_of_pos hp]
  simp

theorem splitFirst_noComma (n : Nat) (h : Bytes) (hh : NoComma h) : splitFirst n h = [h] := by
  have hp : ∀ b ∈ h, decide (b ≠ 44) = true := fun b hb => by simpa using hh b hb
  have := List.takeWhile_append_of_pos (l₂ := []) hp
  have := List.dropWhile_append_of_pos (l₂ := []) hp
  cases n with
  | zero => rfl
  | succ n => rw [splitFirst_succ, span_eq]; simp_all

theorem span_comma_spec (bs pre post : Bytes) (h : bs.span (fun x => decide (x ≠ 44)) = (pre, post)) :
    bs = pre ++ post ∧ NoComma pre ∧ (post = [] ∨ ∃ rest, post = 44 :: rest) := by
  rw [span_eq, Prod.mk.injEq] at h
  obtain ⟨rfl, rfl⟩ := h
  refine ⟨List.takeWhile_append_dropWhile.symm,
    fun b hb => by simpa using List.all_eq_true.1 List.all_takeWhile b hb, ?_⟩
  cases hd : bs.dropWhile (fun x => decide (x ≠ 44)) with
  | nil => exact .inl rfl
  | cons x rest =>
    have := List.head_dropWhile_not (fun x => decide (x ≠ 44)) (l := bs) (by rw [hd]; exact List.cons_ne_nil _ _)
    simp only [hd, List.head_cons, decide_eq_false_iff_not, ne_eq, Decidable.not_not] at this
    exact .inr ⟨rest, by rw [this]⟩

theorem splitFirst_spec (n : Nat) (bs : Bytes) :
    joinSep 44 (splitFirst n bs) = bs ∧ (∀ p ∈ (splitFirst n bs).dropLast, NoComma p) ∧ splitFirst n bs ≠ [] := by
  induction n generalizing bs with
  | zero => simp [splitFirst, joinSep]
  | succ n ih =>
    rw [splitFirst_succ]
    split
    · rename_i pre h
      obtain ⟨h1, _, _⟩ := span_comma_spec _ _ _ h
      simp [joinSep, h1]
    · rename_i pre x rest h
      obtain ⟨h1, h2, h3⟩ := span_comma_spec _ _ _ h
      obtain ⟨j1, j2, j3⟩ := ih rest
      have hx : x = 44 := by
        rcases h3 with h3 | ⟨r, h3⟩
        · simp at h3
        · simp at h3; exact h3.1
      subst hx
      refine ⟨?_, ?_, by simp⟩
      · cases hs : splitFirst n rest with
        | nil => exact absurd hs j3
        | cons y r => rw [joinSep, ← hs, j1, h1]
      · intro p hp
        cases hs : splitFirst n rest with
        | nil => exact absurd hs j3
        | cons y r =>
          rw [hs, List.dropLast_cons_cons] at hp
          rcases List.mem_cons.1 hp with rfl | hp
          · exact h2
          · exact j2 p (by rw [hs]; exact hp)

theorem contains_of_prefix (needle rest : Bytes) : contains needle (needle ++ rest) = true := by
  cases h : needle ++ rest with
  | nil =>
    simp at h
    simp [contains, h.1]
  | cons b bs =>
    rw [contains, ← h]
    simp

theorem contains_append_left (needle pre rest : Bytes) (h : contains needle rest = true) :
    contains needle (pre ++ rest) = true := by
  induction pre with
  | nil => simpa
  | cons b pre ih => simp [contains, ih]

theorem stripped4 : At4.responseIdStripped = marker4 := by decide +kernel
theorem stripped5 : At5.responseIdStripped = marker5 := by decide +kernel

/-- the model's response with the fields of `s` (the inverse of `toSpec`) -/
def ofSpec (s : SResponse) : Response :=
  { gen := s.gen, airtouch_id := s.airtouchId, name := s.name, serial := s.serial, host := s.host }

theorem toSpec_ofSpec (s : SResponse) : toSpec (ofSpec s) = s := rfl

theorem received_added_iff (c : Cfg) (d : Bytes) (r : Response) :
    received c d = .added r ↔ «match» c d = true ∧ decode c d = .ok (.response r) := by
  unfold received
  cases «match» c d
  · simp
  · cases hdec : decode c d with
    | ok x => cases x <;> simp
    | error e => cases e <;> simp

theorem contains_joinSep : ∀ parts : List Bytes, 4 ≤ parts.length →
    contains (44 :: (parts.getD 2 [] ++ [44])) (joinSep 44 parts) = true
  | h :: s :: m :: a :: rest, _ => by
    have : joinSep 44 (h :: s :: m :: a :: rest) = (h ++ 44 :: s) ++ ((44 :: (m ++ [44])) ++ joinSep 44 (a :: rest)) := by
      simp [joinSep]
    rw [this]
    exact contains_append_left _ _ _ (contains_of_prefix _ _)

/-- the match pattern is the marker between commas, and the format has at least four fields -/
structure WF (c : Cfg) : Prop where
  responseId_eq : c.responseId = 44 :: (c.responseIdStripped ++ [44])
  numParts_ge : 4 ≤ c.numParts

/-- the pre-filter rejects nothing that decodes as a response -/
theorem match_of_decode {c : Cfg} (wf : WF c) {d : Bytes} {r : Response}
    (h : decode c d = .ok (.response r)) : «match» c d = true := by
  unfold decode at h
  split at h
  · cases h
  · simp only [splitMax_eq_splitFirst] at h
    split at h
    · cases h
    · next hlen =>
      split at h
      · cases h
      · next hm =>
        have := contains_joinSep _ ((Decidable.of_not_not hlen) ▸ wf.numParts_ge)
        rw [(splitFirst_spec _ d).1, Decidable.of_not_not hm, ← wf.responseId_eq] at this
        simp [«match», this]

theorem received_iff_decode {c : Cfg} (wf : WF c) (d : Bytes) (r : Response) :
    received c d = .added r ↔ decode c d = .ok (.response r) :=
  (received_added_iff c d r).trans ⟨And.right, fun h => ⟨match_of_decode wf h, h⟩⟩

theorem wf4 : WF cfg4 := ⟨by decide +kernel, by decide⟩
theorem wf5 : WF cfg5 := ⟨by decide +kernel, by decide⟩

theorem utf8_bind_ok {α} (bs : Bytes) (f : Bytes → Except DecErr α) (x : α) :
    (utf8 bs >>= f) = .ok x ↔ PyAirtouch.Spec.Discovery.utf8Valid bs = true ∧ f bs = .ok x := by
  unfold utf8
  rw [utf8Valid_eq]
  cases PyAirtouch.Spec.Discovery.utf8Valid bs <;> simp [bind, Except.bind]

theorem toSpec_eq_iff (r : Response) (s : SResponse) : s = toSpec r ↔ r = ofSpec s :=
  ⟨fun h => toSpec_inj (by rw [← h, toSpec_ofSpec]), fun h => by rw [h, toSpec_ofSpec]⟩

theorem ite_error_eq_ok {p : Prop} [Decidable p] {ε α : Type} (x : Except ε α) (e : ε) (y : α) :
    (if p then x else .error e) = .ok y ↔ p ∧ x = .ok y := by
  split <;> simp [*]

theorem decode4_eq_spec (d : Bytes) (r : Response) :
    decode cfg4 d = .ok (.response r) ↔ readResponse 4 d = some (toSpec r) := by
  by_cases hd : d = At4.requestData
  · subst hd
    have h2 : readResponse 4 At4.requestData = none := by decide
    simp [decode, cfg4, h2]
  · simp only [decode, cfg4, readResponse, At4.numParts, splitMax_eq_splitFirst,
      beq_iff_eq, hd, Nat.reduceSub, if_true, if_false, stripped4]
    match splitFirst 3 d with
    | [] | [_] | [_,_] | [_,_,_] | _::_::_::_::_::_ => simp
    | [h, s, m, a] =>
      simp only [List.length_cons, List.length_nil, ne_eq, not_true_eq_false, if_false, List.getD_cons_succ,
        List.getD_cons_zero, ite_not, ite_error_eq_ok, utf8_bind_ok, pure, Except.pure, Except.ok.injEq,
        Decoded.response.injEq, Option.ite_none_right_eq_some, Option.some.injEq, toSpec_eq_iff, ofSpec]
      exact ⟨fun ⟨a, b, c, d, e⟩ => ⟨⟨a, d, c, b⟩, e.symm⟩, fun ⟨⟨a, d, c, b⟩, e⟩ => ⟨a, b, c, d, e.symm⟩⟩

theorem decode5_eq_spec (d : Bytes) (r : Response) :
    decode cfg5 d = .ok (.response r) ↔ readResponse 5 d = some (toSpec r) := by
  by_cases hd : d = At5.requestData
  · subst hd
    have h2 : readResponse 5 At5.requestData = none := by decide
    simp [decode, cfg5, h2]
  · simp only [decode, cfg5, readResponse, At5.numParts, splitMax_eq_splitFirst,
      beq_iff_eq, hd, Nat.reduceSub, if_false, stripped5, Nat.reduceEqDiff]
    match splitFirst 4 d with
    | [] | [_] | [_,_] | [_,_,_] | [_,_,_,_] | _::_::_::_::_::_::_ => simp
    | [h, s, m, a, n] =>
      simp only [List.length_cons, List.length_nil, ne_eq, not_true_eq_false, if_false, List.getD_cons_succ,
        List.getD_cons_zero, ite_not, ite_error_eq_ok, utf8_bind_ok, pure, Except.pure, Except.ok.injEq,
        Decoded.response.injEq, Option.ite_none_right_eq_some, Option.some.injEq, toSpec_eq_iff, ofSpec]
      exact ⟨fun ⟨a, b, c, d, e, f⟩ => ⟨⟨a, e, d, b, c⟩, f.symm⟩, fun ⟨⟨a, e, d, b, c⟩, f⟩ => ⟨a, b, c, d, e, f.symm⟩⟩

/-- the model and the specification agree on every datagram -/
abbrev Agree (c : Cfg) : Prop :=
  ∀ d r, received c d = .added r ↔ readResponse c.gen d = some (toSpec r)

theorem agree4 : Agree cfg4 := fun d r => (received_iff_decode wf4 d r).trans (decode4_eq_spec d r)
theorem agree5 : Agree cfg5 := fun d r => (received_iff_decode wf5 d r).trans (decode5_eq_spec d r)

/-- what one arrival does to the collected responses -/
def stepR (c : Cfg) (acc : List Response) (a : Nat × Bytes) : List Response :=
  match received c a.2 with
  | .added r => insertNew acc r
  | _ => acc

theorem mem_insertNew (acc : List Response) (r x : Response) : x ∈ insertNew acc r ↔ x ∈ acc ∨ x = r := by
  unfold insertNew; split
  · constructor
    · exact .inl
    · rintro (h | rfl) <;> assumption
  · simp

theorem nodup_insertNew (acc : List Response) (r : Response) (h : acc.Nodup) : (insertNew acc r).Nodup := by
  unfold insertNew; split
  · exact h
  · rename_i hr
    rw [List.nodup_append]
    refine ⟨h, by simp, ?_⟩
    intro a ha b hb
    simp at hb; subst hb
    intro hab; subst hab; exact hr ha

theorem mem_foldl_stepR (c : Cfg) (l : List (Nat × Bytes)) (acc : List Response) (x : Response) :
    x ∈ l.foldl (stepR c) acc ↔ x ∈ acc ∨ ∃ a ∈ l, received c a.2 = .added x := by
  induction l generalizing acc with
  | nil => simp
  | cons a l ih =>
    rw [List.foldl_cons, ih]
    unfold stepR
    cases hr : received c a.2 with
    | added r =>
      simp only [mem_insertNew, List.mem_cons, exists_eq_or_imp, hr, Received.added.injEq, or_assoc, @eq_comm _ r x]
    | _ => simp [hr]

theorem nodup_foldl_stepR (c : Cfg) (l : List (Nat × Bytes)) (acc : List Response) (h : acc.Nodup) :
    (l.foldl (stepR c) acc).Nodup := by
  induction l generalizing acc with
  | nil => exact h
  | cons a l ih =>
    rw [List.foldl_cons]; apply ih
    unfold stepR; split
    · exact nodup_insertNew _ _ h
    · exact h

/-- the responses collected during the interval `[now, now + 4)` starting from nothing -/
def window (c : Cfg) (arr : List (Nat × Bytes)) (now : Nat) : List Response :=
  (arr.filter (fun a => now ≤ a.1 ∧ a.1 < now + requestInterval)).foldl (stepR c) []

theorem mem_window {c} (H : Agree c) (arr now) (x : Response) :
    x ∈ window c arr now ↔
      ∃ a ∈ arr, now ≤ a.1 ∧ a.1 < now + 4 ∧ readResponse c.gen a.2 = some (toSpec x) := by
  unfold window
  rw [mem_foldl_stepR]
  simp only [List.not_mem_nil, false_or, List.mem_filter, requestInterval, H]
  constructor
  · rintro ⟨a, ⟨h1, h2⟩, h4⟩
    have h2 := of_decide_eq_true h2
    exact ⟨a, h1, h2.1, h2.2, h4⟩
  · rintro ⟨a, h1, h2, h3, h4⟩; exact ⟨a, ⟨h1, decide_eq_true ⟨h2, h3⟩⟩, h4⟩

theorem searchLoop_zero (c arr now sent rs) : searchLoop c arr 0 now sent rs = (sent, now, rs) := rfl

theorem searchLoop_stop (c arr f now sent) (rs : List Response) (h : rs ≠ []) :
    searchLoop c arr (f+1) now sent rs = (sent, now, rs) := by
  cases rs with
  | nil => exact absurd rfl h
  | cons x l => rfl

theorem searchLoop_go (c arr f now sent) :
    searchLoop c arr (f+1) now sent [] = searchLoop c arr f (now + 4) (sent ++ [now]) (window c arr now) := rfl

/-- the Spec's test "nothing collected before `t`" -/
def quietB (g : Nat) (arr : List (Nat × Bytes)) (t : Nat) : Bool :=
  (arr.filter (fun a => a.1 < t ∧ (readResponse g a.2).isSome)).isEmpty

theorem expectedRequests_eq (g arr) :
    PyAirtouch.Spec.Discovery.expectedRequests g arr = [0, 4, 8].filter (quietB g arr) := rfl

/-- no response in the format of generation `g` arrived strictly before `t` -/
def Quiet (g : Nat) (arr : List (Nat × Bytes)) (t : Nat) : Prop :=
  ∀ a ∈ arr, a.1 < t → readResponse g a.2 = none

theorem quietB_iff (g arr t) : quietB g arr t = true ↔ Quiet g arr t := by
  simp only [quietB, List.isEmpty_iff, List.filter_eq_nil_iff, decide_eq_true_eq, not_and, Quiet]
  constructor
  · intro h a ha hlt
    have := h a ha hlt
    cases hr : readResponse g a.2 <;> simp_all
  · intro h a ha hlt; simp [h a ha hlt]

theorem quiet_zero (g arr) : Quiet g arr 0 := fun _ _ h => absurd h (Nat.not_lt_zero _)

theorem quiet_mono {g arr s t} (hst : s ≤ t) (h : Quiet g arr t) : Quiet g arr s :=
  fun a ha hlt => h a ha (Nat.lt_of_lt_of_le hlt hst)

theorem quietB_eq_false_iff (g arr t) : quietB g arr t = false ↔ ¬ Quiet g arr t :=
  Bool.eq_false_iff.trans (not_congr (quietB_iff g arr t))

theorem expectedRequests_congr (g : Nat) {arr arr' : List (Nat × Bytes)} (h : ∀ a, a ∈ arr ↔ a ∈ arr') :
    PyAirtouch.Spec.Discovery.expectedRequests g arr = PyAirtouch.Spec.Discovery.expectedRequests g arr' := by
  rw [expectedRequests_eq, expectedRequests_eq]
  refine List.filter_congr fun t _ => ?_
  rw [Bool.eq_iff_iff, quietB_iff, quietB_iff]
  exact ⟨fun q a ha => q a ((h a).2 ha), fun q a ha => q a ((h a).1 ha)⟩

theorem window_nil_iff {c} (H : Agree c) {arr : List (Nat × Bytes)} {now : Nat} (q : Quiet c.gen arr now) :
    window c arr now = [] ↔ Quiet c.gen arr (now + 4) := by
  constructor
  · intro h a ha hlt
    by_cases hl : a.1 < now
    · exact q a ha hl
    · cases hr : readResponse c.gen a.2 with
      | none => rfl
      | some s =>
        have : ofSpec s ∈ window c arr now :=
          (mem_window H arr now _).2 ⟨a, ha, Nat.le_of_not_lt hl, hlt, by rw [hr, toSpec_ofSpec]⟩
        rw [h] at this; cases this
  · intro h
    cases hw : window c arr now with
    | nil => rfl
    | cons x l =>
      obtain ⟨a, ha, _, h2, h3⟩ := (mem_window H arr now x).1 (hw ▸ List.mem_cons_self ..)
      rw [h a ha h2] at h3; cases h3

open PyAirtouch.Spec.Discovery (expectedRequests returnTime) in
/-- the course of a search: the last request goes out at some `t` among 0, 4, 8 - nothing valid arrived before `t`,
    and something valid arrives during `[t, t + 4)` unless `t` is the last round; the search returns at `t + 4` with
    what arrived in that interval (the instants 0, 4, 8 and the latest return at 12 are `requestInterval` = 4 ticks
    times at most `maxRequests` = 3 rounds of `Gen.Discovery`, as in `Spec.Discovery.expectedRequests`) -/
theorem search_spec {c} (H : Agree c) (arr : List (Nat × Bytes)) :
    ∃ t ∈ [0, 4, 8], Quiet c.gen arr t ∧ (t = 8 ∨ ¬ Quiet c.gen arr (t + 4)) ∧
      search c arr = (expectedRequests c.gen arr, t + 4, window c arr t) ∧ returnTime c.gen arr = t + 4 := by
  have q0 := quiet_zero c.gen arr
  have e0 := (quietB_iff c.gen arr 0).2 q0
  by_cases q4 : Quiet c.gen arr 4
  · have e4 := (quietB_iff c.gen arr 4).2 q4
    by_cases q8 : Quiet c.gen arr 8
    · have he : expectedRequests c.gen arr = [0, 4, 8] := by
        simp only [expectedRequests_eq, List.filter, e0, e4, (quietB_iff c.gen arr 8).2 q8]
      refine ⟨8, by decide, q8, .inl rfl, ?_, by rw [returnTime, he]; rfl⟩
      rw [he, search, maxRequests, searchLoop_go, (window_nil_iff H q0).2 q4, searchLoop_go,
        (window_nil_iff H q4).2 q8, searchLoop_go, searchLoop_zero]; rfl
    · have he : expectedRequests c.gen arr = [0, 4] := by
        simp only [expectedRequests_eq, List.filter, e0, e4, (quietB_eq_false_iff c.gen arr 8).2 q8]
      refine ⟨4, by decide, q4, .inr q8, ?_, by rw [returnTime, he]; rfl⟩
      rw [he, search, maxRequests, searchLoop_go, (window_nil_iff H q0).2 q4, searchLoop_go,
        searchLoop_stop _ _ _ _ _ _ (mt (window_nil_iff H q4).1 q8)]; rfl
  · have q8 : ¬ Quiet c.gen arr 8 := mt (quiet_mono (by omega)) q4
    have he : expectedRequests c.gen arr = [0] := by
      simp only [expectedRequests_eq, List.filter, e0, (quietB_eq_false_iff c.gen arr 4).2 q4,
        (quietB_eq_false_iff c.gen arr 8).2 q8]
    refine ⟨0, by decide, q0, .inr q4, ?_, by rw [returnTime, he]; rfl⟩
    rw [he, search, maxRequests, searchLoop_go, searchLoop_stop _ _ _ _ _ _ (mt (window_nil_iff H q0).1 q4)]; rfl

theorem mem_dedup {α} [DecidableEq α] (l : List α) (x : α) : x ∈ PyAirtouch.Spec.Discovery.dedup l ↔ x ∈ l := by
  induction l with
  | nil => simp [PyAirtouch.Spec.Discovery.dedup]
  | cons y l ih =>
    unfold PyAirtouch.Spec.Discovery.dedup
    split
    · rename_i hy
      rw [ih, List.mem_cons]
      constructor
      · exact .inr
      · rintro (rfl | h)
        · exact hy
        · exact h
    · simp [ih]

theorem mem_expectedResponses (g arr) (s : SResponse) :
    s ∈ PyAirtouch.Spec.Discovery.expectedResponses g arr ↔
      ∃ a ∈ arr, a.1 < PyAirtouch.Spec.Discovery.returnTime g arr ∧ readResponse g a.2 = some s := by
  simp only [PyAirtouch.Spec.Discovery.expectedResponses, mem_dedup, List.mem_filterMap, List.mem_filter,
    decide_eq_true_eq]
  constructor
  · rintro ⟨a, ⟨h1, h2⟩, h3⟩; exact ⟨a, h1, h2, h3⟩
  · rintro ⟨a, h1, h2, h3⟩; exact ⟨a, ⟨h1, h2⟩, h3⟩

open PyAirtouch.Spec.Discovery (expectedResponses) in
/-- the collected responses are duplicate-free and, as a set, the specification's -/
theorem search_responses {c} (H : Agree c) (arr : List (Nat × Bytes)) :
    (search c arr).2.2.Nodup ∧ ∀ r, r ∈ (search c arr).2.2 ↔ toSpec r ∈ expectedResponses c.gen arr := by
  obtain ⟨t, _, q, _, hs, hr⟩ := search_spec H arr
  rw [hs]
  refine ⟨nodup_foldl_stepR _ _ _ List.nodup_nil, fun r => ?_⟩
  rw [mem_window H, mem_expectedResponses, hr]
  constructor
  · rintro ⟨a, ha, _, h2, h3⟩; exact ⟨a, ha, h2, h3⟩
  · rintro ⟨a, ha, h2, h3⟩
    refine ⟨a, ha, Nat.le_of_not_lt fun hlt => ?_, h2, h3⟩
    rw [q a ha hlt] at h3; cases h3

end PyAirtouch.Lemmas.Discovery
