import PyAirtouch.Model.Api4
/-!
# Public calls: the retry-policy table, the translations of the enum arguments, that every call follows the table, and
what a call does (`call_cases`)
-/
namespace PyAirtouch.Lemmas.Api4
open PyAirtouch.Model PyAirtouch.Model.Api4 PyAirtouch.Gen

/-- the policy table of the public calls -/
def expectedPolicy : Call → Policy
  | .acSetPower _ .TOGGLE => .nonIdempotent
  | _ => .idempotent

/-- the output of a call that raises `ValueError` -/
def valueError : List Ev := [Ev.result "ValueError"]

/-- an `AcControlMessage` without set-point control -/
def acCtl (a : AcObj) (pw : At4.X2CAcCtrl.AcPowerControl) (md : At4.X2CAcCtrl.AcModeControl)
    (fs : At4.X2CAcCtrl.AcFanSpeedControl) : OutMsg :=
  .reg (.acCtrl { ac_number := a.status.ac_number, power := pw, mode := md, fan_speed := fs, set_point_control := .none })

/-- the translation of the mode argument: `Gen.Api4.API_MODE_CONTROL_MAPPING` as a function (`fanCtl`, `zonePowerCtl`
    likewise for `API_FAN_SPEED_CONTROL_MAPPING`, `API_ZONE_POWER_MAPPING`); agreement with the tables is shown where
    they are used, in `Props/C11At4` -/
def modeCtl : ApiEnums.AcMode → At4.X2CAcCtrl.AcModeControl
  | .AUTO => .AUTO | .HEAT => .HEAT | .DRY => .DRY | .FAN => .FAN | .COOL => .COOL

/-- the translation of the fan-speed argument (`INTELLIGENT_AUTO` has no AirTouch 4 counterpart) -/
def fanCtl : ApiEnums.AcFanSpeed → Option At4.X2CAcCtrl.AcFanSpeedControl
  | .AUTO => some .AUTO | .QUIET => some .QUIET | .LOW => some .LOW | .MEDIUM => some .MEDIUM | .HIGH => some .HIGH
  | .POWERFUL => some .POWERFUL | .TURBO => some .TURBO | .INTELLIGENT_AUTO => none

def zonePowerCtl : ApiEnums.ZonePowerState → At4.X2AGroupCtrl.GroupPowerControl
  | .OFF => .TURN_OFF | .ON => .TURN_ON | .TURBO => .TURBO

theorem callAc_policy (a : AcObj) (c : Call) (p : Policy) (m : OutMsg) (h : callAc a c = .ok (p, m)) :
    p = expectedPolicy c := by
  cases c with
  | atCheckForUpdates => cases h
  | acSetPower i pc => cases pc <;> cases h <;> rfl
  | acSetMode i md po =>
    simp only [callAc] at h
    split at h
    · cases md <;> cases po <;> cases h <;> rfl
    · cases h
  | acSetFanSpeed i f =>
    simp only [callAc] at h
    split at h
    · cases f <;> cases h <;> rfl
    · cases h
  | acSetTemp i t => cases h; rfl
  | acSetTimerTime i tt hh mm =>
    simp only [callAc] at h
    split at h
    · cases h; rfl
    · cases h
  | acSetTimerDuration i tt secs => cases tt <;> cases h <;> rfl
  | acClearTimer i tt => cases h; rfl
  | zoneSetPower i p => cases h
  | zoneSetTemp i t => cases h
  | zoneSetDamper i d => cases h

theorem callZone_policy (z : ZoneObj) (c : Call) (p : Policy) (m : OutMsg) (h : callZone z c = .ok (p, m)) :
    p = .idempotent := by
  cases c with
  | zoneSetPower i pw =>
    simp only [callZone] at h
    split at h
    · cases pw <;> cases h <;> rfl
    · cases h
  | zoneSetTemp i t =>
    simp only [callZone] at h
    split at h
    · split at h <;> cases h <;> rfl
    · cases h
  | zoneSetDamper i d =>
    simp only [callZone] at h
    split at h
    · cases h
    · cases h; rfl
  | atCheckForUpdates => cases h
  | acSetPower i pc => cases h
  | acSetMode i md po => cases h
  | acSetFanSpeed i f => cases h
  | acSetTemp i t => cases h
  | acSetTimerTime i tt hh mm => cases h
  | acSetTimerDuration i tt secs => cases h
  | acClearTimer i tt => cases h

theorem callResult_policy (s : State) (c : Call) (p : Policy) (m : OutMsg) (hr : callResult s c = .ok (p, m)) :
    p = expectedPolicy c := by
  unfold callResult at hr
  split at hr
  · cases hr; rfl
  · split at hr
    · split at hr
      · exact callAc_policy _ _ _ _ hr
      · cases hr
    · next hac =>
      split at hr
      · split at hr
        · rw [callZone_policy _ _ _ _ hr]
          cases c <;> first | rfl | cases hac
        · cases hr
      · cases hr

theorem call_cases (s : State) (c : Call) :
    (∃ p m, callResult s c = .ok (p, m) ∧ s.sockOpen = true ∧
      (apiStep s (.call c)).2 = [Ev.send p m, Ev.result "OK"]) ∨
    (∃ e : Exc, (apiStep s (.call c)).2 = [Ev.result e.name]) := by
  simp only [apiStep, doCall]
  cases hr : callResult s c with
  | error e => exact .inr ⟨e, rfl⟩
  | ok pm =>
    cases ho : s.sockOpen
    · exact .inr ⟨.notOpen, rfl⟩
    · exact .inl ⟨pm.1, pm.2, rfl, rfl, rfl⟩

end PyAirtouch.Lemmas.Api4
