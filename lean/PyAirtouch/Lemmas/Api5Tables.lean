import PyAirtouch.Lemmas.Api5Defs
/-!
# The getter tables of the AirTouch 5 API layer against the reference functions of `Api5Defs`, each by evaluation
-/
namespace PyAirtouch.Lemmas.Api5
open PyAirtouch.Gen.Api5

theorem selectedMode_table (k : Gen.At5.XC023AcStatus.AcMode) : AC_SELECTED_MODE_MAPPING k = some (selectedModeSpec k) := by
  cases k <;> rfl

theorem activeMode_table (k : Gen.At5.XC023AcStatus.AcMode) : AC_ACTIVE_MODE_MAPPING k = some (activeModeSpec k) := by
  cases k <;> rfl

theorem selectedFan_table (k : Gen.At5.XC023AcStatus.AcFanSpeed) :
    AC_SELECTED_FAN_SPEED_MAPPING k = some (selectedFanSpec k) := by
  cases k <;> rfl

theorem activeFan_table (k : Gen.At5.XC023AcStatus.AcFanSpeed) :
    AC_ACTIVE_FAN_SPEED_MAPPING k = some (concreteFanSpec k) := by
  cases k <;> rfl

end PyAirtouch.Lemmas.Api5
