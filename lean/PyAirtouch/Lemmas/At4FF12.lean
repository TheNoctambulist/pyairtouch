import PyAirtouch.Model.At4.FF12
import PyAirtouch.Lemmas.Part3Text
import PyAirtouch.Lemmas.Dict
import PyAirtouch.Lemmas.Records
/-! Round trip and length lemmas for the AirTouch 4 group names codec. -/
namespace PyAirtouch.Lemmas.At4FF12
open PyAirtouch.Model PyAirtouch.Model.At4.FF12 PyAirtouch.Gen.At4.X1FFF12GroupNames
open PyAirtouch.Lemmas.Part3Text

theorem encEntry_length (p : Nat × Bytes) : (encEntry p).length = PER_GROUP_SIZE := by
  simp [encEntry, encodeCString_length, PER_GROUP_SIZE, GROUP_NAME_LENGTH]

theorem encode_length (m : Msg) : (encode m).length = size m := by
  cases m with
  | request r => rcases r with ⟨_ | n⟩ <;> rfl
  | message m => exact Records.flatMap_length encEntry _ encEntry_length _

theorem encodeE_ok (m : Msg) (h : WF m) : encodeE m = .ok (encode m) := by
  cases m with
  | request r =>
    rcases r with ⟨_ | n⟩
    · rfl
    · have : n < 256 := h n rfl
      simp [encodeE, encode, this]
  | message m =>
    have : m.group_names.all (fun p => decide (p.1 < 256)) = true := by
      rw [List.all_eq_true]
      intro p hp
      simpa using (h.2.2 p hp).1
    simp [encodeE, this]

theorem decGroups_encode (ns : List (Nat × Bytes)) :
    ∀ (acc : List (Nat × Bytes)) (rest : Bytes), (dictKeys (acc ++ ns)).Nodup →
      (∀ p ∈ ns, WFName p.2) →
      decGroups ns.length (ns.flatMap encEntry ++ rest) acc = .ok (acc ++ ns, rest) := by
  induction ns with
  | nil => intro acc rest _ _; simp [decGroups]
  | cons p ps ih =>
    intro acc rest hnd hwf
    rcases p with ⟨g, name⟩
    obtain ⟨hlen, h0, hv⟩ := hwf (g, name) (by simp)
    have htake : (encodeCString name GROUP_NAME_LENGTH ++ (ps.flatMap encEntry ++ rest)).take GROUP_NAME_LENGTH
        = encodeCString name GROUP_NAME_LENGTH := by
      apply List.take_left'
      exact encodeCString_length _ _
    have hdrop : (encodeCString name GROUP_NAME_LENGTH ++ (ps.flatMap encEntry ++ rest)).drop GROUP_NAME_LENGTH
        = ps.flatMap encEntry ++ rest := by
      apply List.drop_left'
      exact encodeCString_length _ _
    obtain ⟨hins, hnd'⟩ := Dict.dictInsert_next acc g name ps hnd
    simp only [List.length_cons, List.flatMap_cons, List.append_assoc, encEntry, List.cons_append,
      decGroups, htake, hdrop, decodeCString_encodeCString name _ hlen h0 hv,
      hins]
    simpa using ih (acc ++ [(g, name)]) rest hnd' (fun q hq => hwf q (by simp [hq]))

theorem decode_encode (m : Msg) (h : WF m) (rest : Bytes) :
    decode (encode m ++ rest) (size m) = .ok (m, rest) := by
  cases m with
  | request r =>
    rcases r with ⟨_ | n⟩
    · simp [decode, encode, size]
    · simp [decode, encode, size]
  | message m =>
    rcases m with ⟨ns⟩
    obtain ⟨hne, hnd, hwf⟩ := h
    have hlen : ns.length ≠ 0 := by simpa using hne
    have h0 : PER_GROUP_SIZE * ns.length ≠ 0 := by simp only [PER_GROUP_SIZE]; omega
    have h1 : PER_GROUP_SIZE * ns.length ≠ 1 := by simp only [PER_GROUP_SIZE]; omega
    have hmod : PER_GROUP_SIZE * ns.length % (1 + GROUP_NAME_LENGTH) = 0 := by
      simp only [PER_GROUP_SIZE, GROUP_NAME_LENGTH]; omega
    have hdiv : PER_GROUP_SIZE * ns.length / PER_GROUP_SIZE = ns.length := by simp [PER_GROUP_SIZE]
    simp only [decode, encode, size, h0, h1, ↓reduceIte, hmod, ne_eq, not_true_eq_false, hdiv]
    rw [decGroups_encode ns [] rest (by simpa using hnd) (fun p hp => (hwf p hp).2)]
    simp

theorem wfNameBool_iff (s : Bytes) : wfNameBool s = true ↔ WFName s := by
  simp [wfNameBool, WFName, and_assoc]

theorem wfBool_iff (m : Msg) : wfBool m = true ↔ WF m := by
  cases m with
  | request r => rcases r with ⟨_ | n⟩ <;> simp [wfBool, WF]
  | message m =>
    simp only [wfBool, WF, Bool.and_eq_true, nodupBool_iff, List.all_eq_true, decide_eq_true_eq,
      wfNameBool_iff, Bool.not_eq_true', List.isEmpty_eq_false_iff, ne_eq, and_assoc]

/-- the case excluded by `WF`: an empty mapping is sent with no content, which is the "ALL" request -/
theorem empty_mapping_not_preserved (rest : Bytes) :
    decode (encode (.message ⟨[]⟩) ++ rest) (size (.message ⟨[]⟩)) = .ok (.request ⟨none⟩, rest) := by
  simp [decode, encode, size]

end PyAirtouch.Lemmas.At4FF12
