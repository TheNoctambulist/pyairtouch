import PyAirtouch.Model.At4.Registry
import PyAirtouch.Lemmas.RegistryCommon
import PyAirtouch.Lemmas.Hdr
import PyAirtouch.Lemmas.At4X2A
import PyAirtouch.Lemmas.At4X2B
import PyAirtouch.Lemmas.At4X2C
import PyAirtouch.Lemmas.At4X2D
import PyAirtouch.Lemmas.At4X36
import PyAirtouch.Lemmas.At4X37
import PyAirtouch.Lemmas.At4FF10
import PyAirtouch.Lemmas.At4FF11
import PyAirtouch.Lemmas.At4FF12
import PyAirtouch.Lemmas.At4FF20
import PyAirtouch.Lemmas.At4FF30
/-!
# AirTouch 4: registry, 0x1F wrapper and whole frames

Each registered leaf codec gives a `LeafOK` (`x2a_ok` ...; the leaf's byte range is proved here, beside it, the
rest comes from the codec's file); the 0x1F wrapper and the registry pass it on (`ext_ok`, `msg_ok`), and `msg_ok`
with the header codec makes the generation a `Stack` (`stack_ok`), whose frame theorems (`Lemmas/Stack.lean`) are
the ones stated here.  Unknown type bytes and sub-ids are preserved as `UnsupportedMessage` (C17).
-/
namespace PyAirtouch.Lemmas.Registry4
open PyAirtouch.Model PyAirtouch.Model.At4 PyAirtouch.Model.At4.Registry
open PyAirtouch.Lemmas.RegistryCommon
open PyAirtouch.Lemmas.Records (ok_of_exists)
open PyAirtouch.Lemmas.BitField (boolToBit_le be16_be16Bytes)
open PyAirtouch.Lemmas.TimerCommon (allBytes_encTimerState)
open PyAirtouch.Lemmas.Part3Text (allBytes_encodeCString)
open PyAirtouch.Gen.At4

theorem x2a_ok (m : X2A.Msg) (hwf : X2A.WF m) : LeafOK X2A.decode m (X2A.size m) (X2A.encode m) := by
  have h := At4X2A.encode_ok m hwf
  refine .of_encode h (At4X2A.encode_length m _ h) (At4X2A.decode_encodeBytes m [] _) ?_
  unfold X2A.encode at h
  split at h
  · rename_i hc
    simp only [X2A.encodeBytes, allBytes_cons, allBytes_nil, and_true]
    omega
  · cases h

theorem x2b_encRec_bytes (g : X2B.GroupStatusData) : AllBytes (X2B.encRec g) := by
  have h1 : g.power_state.toNat < 4 := by cases g.power_state <;> decide
  have h2 : g.control_method.toNat < 2 := by cases g.control_method <;> decide
  have h3 : g.battery_status.toNat < 2 := by cases g.battery_status <;> decide
  have h4 := boolToBit_le g.supports_turbo 6
  have h5 := boolToBit_le g.has_sensor 7
  have h6 := At4X2B.encSetPoint_lt g.set_point
  refine allBytes_append.mpr ⟨?_, allBytes_be16Bytes _⟩
  simp only [allBytes_cons, allBytes_nil, and_true]
  omega

theorem x2b_ok (m : X2B.Msg) (hwf : X2B.WF m) :
    LeafOK X2B.decode m (X2B.size m) (.ok (X2B.encode m)) := by
  refine .of_encode rfl (At4X2B.encode_length m) (At4X2B.decode_encode m hwf []) ?_
  cases m with
  | request => exact allBytes_nil
  | status gs => exact allBytes_flatMap _ _ (fun g _ => x2b_encRec_bytes g)

theorem x2c_ok (m : X2C.Msg) (hwf : X2C.WF m) : LeafOK X2C.decode m (X2C.size m) (X2C.encode m) := by
  refine .of_encode (At4X2C.encode_ok m) (At4X2C.encode_length m _ (At4X2C.encode_ok m))
    (At4X2C.decode_encodeBytes m hwf [] _) ?_
  have h1 := At4X2C.encB1_lt m
  have h2 := At4X2C.encB2_lt m
  have h3 := At4X2C.encSetPointControl_lt m.set_point_control
  simp only [X2C.encodeBytes, allBytes_cons, allBytes_nil, and_true]
  omega

theorem x2d_encRec_bytes (a : X2D.AcStatusData) : AllBytes (X2D.encRec a) := by
  have h1 := At4X2D.encB1_lt a
  have h2 := At4X2D.encB2_lt a
  have h3 := At4X2D.encB3_lt a
  simp only [X2D.encRec, allBytes_append, allBytes_cons, allBytes_nil, allBytes_be16Bytes, and_true]
  omega

theorem x2d_ok (m : X2D.Msg) (hwf : X2D.WF m) : LeafOK X2D.decode m (X2D.size m) (X2D.encode m) := by
  obtain ⟨enc, he, hd⟩ := At4X2D.decode_encode m hwf []
  refine .of_encode he (At4X2D.encode_length m enc he) hd ?_
  cases he.symm.trans (At4X2D.encode_ok m hwf)
  cases m with
  | request => exact allBytes_nil
  | status acs => exact allBytes_flatMap _ _ (fun a _ => x2d_encRec_bytes a)

theorem x37_ok (m : X37.Msg) (hwf : X37.WF m) : LeafOK X37.decode m (X37.size m) (X37.encode m) :=
  .of_encode (At4X37.encode_ok m hwf) (At4X37.encodeBytes_length m) (At4X37.decode_encode m hwf [])
    (At4X37.encodeBytes_allBytes m hwf)

theorem x36_ok (m : X36.Msg) (hwf : X36.WF m) : LeafOK X36.decode m (X36.size m) (X36.encode m) :=
  .of_encode (At4X36.encode_ok m hwf) (At4X36.encodeBytes_length m) (At4X36.decode_encode m hwf [])
    (At4X37.encodeBytes_allBytes m.toStatus hwf)

theorem ff10_ok (m : FF10.Msg) (hwf : FF10.WF m) (ht : ∀ t ∈ (ExtSub.errInfo m).texts, AllBytes t)
    : LeafOK FF10.decode m (FF10.size m) (FF10.encodeE m) := by
  refine .of_encode (At4FF10.encodeE_ok m hwf) (At4FF10.encode_length m) (At4FF10.decode_encode m hwf []) ?_
  have h8 (n : Nat) : n % 256 < 256 := Nat.mod_lt _ (by decide)
  cases m with
  | request r => exact allBytes_cons.mpr ⟨h8 _, allBytes_nil⟩
  | message mm =>
    rcases mm with ⟨ac, _ | t⟩
    · exact allBytes_cons.mpr ⟨h8 _, allBytes_cons.mpr ⟨(by decide : 0 < 256), allBytes_nil⟩⟩
    · exact allBytes_cons.mpr ⟨h8 _, allBytes_cons.mpr
        ⟨Nat.lt_succ_of_le (hwf.2 t rfl).2.1, ht t (List.mem_singleton.mpr rfl)⟩⟩

theorem ff11_ok (m : FF11.Msg) (hwf : FF11.WF m) : LeafOK FF11.decode m (FF11.size m) (FF11.encodeE m) :=
  .of_encode (At4FF11.encodeE_ok m hwf) (At4FF11.encode_length m) (At4FF11.decode_encode m hwf [])
    (At4FF11.encode_allBytes m hwf)

theorem ff12_ok (m : FF12.Msg) (hwf : FF12.WF m) (ht : ∀ t ∈ (ExtSub.groupNames m).texts, AllBytes t)
    : LeafOK FF12.decode m (FF12.size m) (FF12.encodeE m) := by
  refine .of_encode (At4FF12.encodeE_ok m hwf) (At4FF12.encode_length m) (At4FF12.decode_encode m hwf []) ?_
  cases m with
  | request r =>
    rcases r with ⟨_ | n⟩
    · exact allBytes_nil
    · exact allBytes_cons.mpr ⟨hwf n rfl, allBytes_nil⟩
  | message mm =>
    exact allBytes_flatMap _ _ fun p hpm => allBytes_cons.mpr ⟨(hwf.2.2 p hpm).1,
      allBytes_encodeCString _ _ (ht p.2 (List.mem_map.mpr ⟨p, hpm, rfl⟩))⟩

theorem ff20_ok (m : FF20.Msg) (hwf : FF20.WF m) : LeafOK FF20.decode m (FF20.size m) (FF20.encode m) := by
  refine .of_encode (At4FF20.encode_ok m hwf) (At4FF20.encodeBytes_length m) (At4FF20.decode_encode m hwf []) ?_
  have hac : m.ac_number < 256 := hwf.1
  simp only [FF20.encodeBytes, TimerCommon.QuickTimer.encodeBytes, TimerCommon.QuickTimer.encodeDuration,
    allBytes_cons, allBytes_nil, and_true]
  omega

theorem ff30_ok (m : FF30.Msg) (hwf : FF30.WF m) (ht : ∀ t ∈ (ExtSub.consoleVer m).texts, AllBytes t)
    : LeafOK FF30.decode m (FF30.size m) (FF30.encodeE m) := by
  refine .of_encode (At4FF30.encodeE_ok m hwf) (At4FF30.encode_length m) (At4FF30.decode_encode m hwf []) ?_
  cases m with
  | request => exact allBytes_nil
  | message mm =>
    refine allBytes_cons.mpr ⟨by split <;> decide, allBytes_cons.mpr ⟨Nat.lt_succ_of_le hwf.2.2, ?_⟩⟩
    exact allBytes_joinSep _ (by decide) _ ht

theorem ext_ok (s : ExtSub) (hwf : WFSub s) :
    ∃ body, ExtSub.encode s = .ok body ∧ ExtSub.size s = .ok body.length ∧
      decodeSub s.messageId body.length body = .ok (s, []) ∧ AllBytes body ∧ s.messageId < 65536 := by
  -- the sub-ids are numerals, so `decodeSub` at `s.messageId` reduces to the leaf's decoder
  cases s with
  | errInfo m =>
    obtain ⟨body, he, hl, hd, hb⟩ := ff10_ok m hwf.1 hwf.2
    exact ⟨body, he, congrArg _ hl, congrArg (mapMsg _) hd, hb, of_decide_eq_true rfl⟩
  | acAbility m =>
    obtain ⟨body, he, hl, hd, hb⟩ := ff11_ok m hwf.1
    exact ⟨body, he, congrArg _ hl, congrArg (mapMsg _) hd, hb, of_decide_eq_true rfl⟩
  | groupNames m =>
    obtain ⟨body, he, hl, hd, hb⟩ := ff12_ok m hwf.1 hwf.2
    exact ⟨body, he, congrArg _ hl, congrArg (mapMsg _) hd, hb, of_decide_eq_true rfl⟩
  | quickTimer m =>
    obtain ⟨body, he, hl, hd, hb⟩ := ff20_ok m hwf.1
    exact ⟨body, he, congrArg _ hl, congrArg (mapMsg _) hd, hb, of_decide_eq_true rfl⟩
  | consoleVer m =>
    obtain ⟨body, he, hl, hd, hb⟩ := ff30_ok m hwf.1 hwf.2
    exact ⟨body, he, congrArg _ hl, congrArg (mapMsg _) hd, hb, of_decide_eq_true rfl⟩
  | unsupported id raw => exact hwf.1.elim

theorem encodeExt_of (s : ExtSub) (n : Nat) (body : Bytes) (hs : ExtSub.size s = .ok n)
    (he : ExtSub.encode s = .ok body) : encodeExt s = .ok (be16Bytes s.messageId ++ body) := by
  simp only [encodeExt, hs, he, bind, Except.bind, pure, Except.pure]

theorem msg_ok (m : Msg) (hwf : WFMsg m) :
    ∃ bs, encodeMsg m = .ok bs ∧ sizeMsg m = .ok bs.length ∧
      (∀ t f pid, decodeMsg ⟨t, f, pid, m.messageId, bs.length⟩ bs = .ok (m, [])) ∧ AllBytes bs := by
  cases m with
  | extended s =>
    obtain ⟨body, henc, hsz, hdec, hb, hid⟩ := ext_ok s hwf
    have hlen : (be16Bytes s.messageId ++ body).length = 2 + body.length := by
      simp only [be16Bytes, List.length_append, List.length_cons, List.length_nil]
    refine ⟨_, encodeExt_of s _ body hsz henc, ?_, ?_, allBytes_append.mpr ⟨allBytes_be16Bytes _, hb⟩⟩
    · rw [hlen]
      simp only [sizeMsg, hsz, Except.map, subHeaderSize, X1FExt.SUB_HEADER_STRUCT_size]
    · intro t f pid
      rw [hlen]
      simp only [decodeMsg, Msg.messageId, ↓reduceIte, decodeExt, be16Bytes, List.cons_append, List.nil_append,
        subHeaderSize, X1FExt.SUB_HEADER_STRUCT_size, Nat.add_sub_cancel_left, be16_be16Bytes hid]
      exact congrArg (mapMsg _) hdec
  | groupCtrl m =>
    obtain ⟨bs, he, hl, hd, hb⟩ := x2a_ok m hwf
    exact ⟨bs, he, congrArg _ hl, fun _ _ _ => congrArg (mapMsg _) hd, hb⟩
  | groupStatus m =>
    obtain ⟨bs, he, hl, hd, hb⟩ := x2b_ok m hwf
    exact ⟨bs, he, congrArg _ hl, fun _ _ _ => congrArg (mapMsg _) hd, hb⟩
  | acCtrl m =>
    obtain ⟨bs, he, hl, hd, hb⟩ := x2c_ok m hwf
    exact ⟨bs, he, congrArg _ hl, fun _ _ _ => congrArg (mapMsg _) hd, hb⟩
  | acStatus m =>
    obtain ⟨bs, he, hl, hd, hb⟩ := x2d_ok m hwf
    exact ⟨bs, he, congrArg _ hl, fun _ _ _ => congrArg (mapMsg _) hd, hb⟩
  | acTimerCtrl m =>
    obtain ⟨bs, he, hl, hd, hb⟩ := x36_ok m hwf
    exact ⟨bs, he, congrArg _ hl, fun _ _ _ => congrArg (mapMsg _) hd, hb⟩
  | acTimerStatus m =>
    obtain ⟨bs, he, hl, hd, hb⟩ := x37_ok m hwf
    exact ⟨bs, he, congrArg _ hl, fun _ _ _ => congrArg (mapMsg _) hd, hb⟩
  | unsupported id raw => exact hwf.elim

/-- the length computed in advance for the header (`encoder.size(message)`, nested sub-message included:
    `2 + size sub`) is the number of payload bytes the encoder writes -/
theorem size_eq_length (m : Msg) (bs : Bytes) (hwf : WFMsg m) (h : encodeMsg m = .ok bs) :
    sizeMsg m = .ok bs.length := (ok_of_exists (msg_ok m hwf) h).1

theorem decodeMsg_encodeMsg (m : Msg) (bs : Bytes) (pid : Nat) (hwf : WFMsg m) (h : encodeMsg m = .ok bs) :
    decodeMsg (mkHeader pid m bs.length) bs = .ok (m, []) := (ok_of_exists (msg_ok m hwf) h).2.1 _ _ _

theorem encodeMsg_bytes (m : Msg) (bs : Bytes) (hwf : WFMsg m) (h : encodeMsg m = .ok bs) : AllBytes bs :=
  (ok_of_exists (msg_ok m hwf) h).2.2

theorem encodeMsg_ok (m : Msg) (hwf : WFMsg m) : ∃ bs, encodeMsg m = .ok bs :=
  (msg_ok m hwf).imp fun _ h => h.1

theorem extended_layout (s : ExtSub) (bs : Bytes) (hwf : WFSub s) (h : encodeMsg (.extended s) = .ok bs) :
    ∃ body, ExtSub.encode s = .ok body ∧ ExtSub.size s = .ok body.length ∧
      sizeMsg (.extended s) = .ok (2 + body.length) ∧ bs = be16Bytes s.messageId ++ body := by
  obtain ⟨body, henc, hsz, -⟩ := ext_ok s hwf
  cases (encodeExt_of s _ body hsz henc).symm.trans h
  refine ⟨body, henc, hsz, ?_, rfl⟩
  simp only [sizeMsg, hsz, Except.map, subHeaderSize, X1FExt.SUB_HEADER_STRUCT_size]

/-- the generation's send path beside its receive path; `frameOf` is `Stack.frameOf` of it, by unfolding -/
def stack : Stack Hdr Msg :=
  { proto := proto, encodeHdr := At4.Hdr.encode, sizeMsg := sizeMsg, encodeMsg := encodeMsg, mkHeader := mkHeader,
    WFMsg := WFMsg }

theorem frameOf_eq (pid : Nat) (m : Msg) : frameOf pid m = stack.frameOf pid m := rfl

theorem stack_ok : stack.OK where
  hdr := Hdr.at4_hdrOK proto rfl rfl
  len _ _ _ := rfl
  msg m hwf := (msg_ok m hwf).imp fun _ ⟨he, hs, hd, hb⟩ => ⟨he, hs, fun pid => hd _ _ pid, hb⟩

/-- **whole-frame round trip**: the bytes `socket.send(m)` hands to the stream writer (size → header factory
    with packet id `pid` → header encoder → message encoder → CRC) are parsed by `_read_one_message` into the
    factory's header and the message `m`, and whatever follows the frame is left untouched.
    (`pid < 256` and "the payload fits the 16-bit length field" follow from `frameOf pid m = .ok fr`.) -/
theorem frame_roundtrip (m : Msg) (pid : Nat) (fr rest : Bytes) (hwf : WFMsg m)
    (hfr : frameOf pid m = .ok fr) :
    ∃ n, sizeMsg m = .ok n ∧ fr.length = At4.Hdr.headerLength + n + 2 ∧
      Frame.parseOne proto (fr ++ rest) = .deliver (mkHeader pid m n) m rest :=
  stack_ok.frame_roundtrip m pid fr rest hwf (frameOf_eq pid m ▸ hfr)

theorem messageId_lt (m : Msg) (hwf : WFMsg m) : m.messageId < 256 := by
  cases m <;> first | exact hwf.elim | (simp only [Msg.messageId]; decide)

/-- the send path does not raise on a well-formed message whose payload fits the 16-bit length field -/
theorem frameOf_ok (m : Msg) (pid : Nat) (hwf : WFMsg m) (hpid : pid < 256)
    (hfit : ∀ n, sizeMsg m = .ok n → n < 65536) : ∃ fr, frameOf pid m = .ok fr := by
  rw [frameOf_eq]
  refine stack_ok.frameOf_ok m pid hwf fun n hn => (Hdr.at4_encode_ok_iff _).mpr ?_
  show At4.Hdr.WF (mkHeader pid m n)
  refine ⟨?_, by simp only [mkHeader]; decide, hpid, messageId_lt m hwf, hfit n hn⟩
  simp only [mkHeader]
  split <;> decide

/-! ### addressing (against the constants the translator read off the real header factory) -/

theorem mkHeader_to_address (pid : Nat) (m : Msg) (n : Nat) :
    (mkHeader pid m n).to_address =
      if m.messageId = X1FExt.MESSAGE_ID then Registry.toAddressExtended else Registry.toAddressNormal := rfl

theorem mkHeader_from_address (pid : Nat) (m : Msg) (n : Nat) :
    (mkHeader pid m n).from_address = Registry.fromAddress := rfl

theorem mkHeader_fields (pid : Nat) (m : Msg) (n : Nat) :
    (mkHeader pid m n).packet_id = pid ∧ (mkHeader pid m n).message_id = m.messageId ∧
    (mkHeader pid m n).message_length = n := ⟨rfl, rfl, rfl⟩

theorem mkHeader_to_address_wf (pid : Nat) (m : Msg) (n : Nat) (hwf : WFMsg m) :
    (mkHeader pid m n).to_address =
      if m.isExtended then Registry.toAddressExtended else Registry.toAddressNormal := by
  cases m <;> first | exact hwf.elim | rfl

theorem toAddress_values : Registry.toAddressExtended = 0x90 ∧ Registry.toAddressNormal = 0x80 ∧
    Registry.fromAddress = 0xB0 := ⟨rfl, rfl, rfl⟩

theorem nextPacketId_lt (pid : Nat) : nextPacketId pid < Registry.packetIdModulus := by
  unfold nextPacketId Registry.packetIdModulus; omega

/-! ### unknown message types are preserved (C17) -/

theorem decodeMsg_of_unknown (h : Hdr) (b : Bytes) (hid : h.message_id ∉ Registry.decoderIds) :
    decodeMsg h b = .ok (.unsupported h.message_id (b.take h.message_length), b.drop h.message_length) := by
  simp only [Registry.decoderIds, List.mem_cons, List.not_mem_nil, or_false, not_or] at hid
  obtain ⟨h1, h2, h3, h4, h5, h6, h7⟩ := hid
  simp only [decodeMsg, X1FExt.MESSAGE_ID, X2AGroupCtrl.MESSAGE_ID, X2BGroupStatus.MESSAGE_ID, X2CAcCtrl.MESSAGE_ID,
    X2DAcStatus.MESSAGE_ID, X36AcTimerCtrl.MESSAGE_ID, X37AcTimerStatus.MESSAGE_ID, h1, h2, h3, h4, h5, h6, h7,
    ↓reduceIte]

/-- every type byte without a registered decoder: the whole payload is preserved, unchanged, in an
    `UnsupportedMessage` carrying the type byte; nothing is left over, nothing is raised -/
theorem decodeMsg_unknown (id : Nat) (hid : id ∉ Registry.decoderIds) (t f pid : Nat) (b : Bytes) :
    decodeMsg ⟨t, f, pid, id, b.length⟩ b = .ok (.unsupported id b, []) := by
  rw [decodeMsg_of_unknown _ b hid, List.take_length, List.drop_length]

theorem decodeSub_of_unknown (subId n : Nat) (body : Bytes) (hid : subId ∉ Registry.extDecoderIds) :
    decodeSub subId n body = .ok (.unsupported subId (body.take n), body.drop n) := by
  simp only [Registry.extDecoderIds, List.mem_cons, List.not_mem_nil, or_false, not_or] at hid
  obtain ⟨h1, h2, h3, h4, h5⟩ := hid
  simp only [decodeSub, X1FFF10ErrInfo.MESSAGE_ID, X1FFF11AcAbility.MESSAGE_ID, X1FFF12GroupNames.MESSAGE_ID,
    X1FFF20QuickTimer.MESSAGE_ID, X1FFF30ConsoleVer.MESSAGE_ID, h1, h2, h3, h4, h5, ↓reduceIte]

/-- every 0x1F sub-id without a registered sub-decoder: the bytes behind the two id bytes are preserved in
    `ExtendedMessage(UnsupportedMessage(sub_id, rest))`; nothing is left over -/
theorem decodeMsg_unknown_sub (hi lo : Nat) (hid : be16 hi lo ∉ Registry.extDecoderIds) (t f pid : Nat)
    (rest : Bytes) :
    decodeMsg ⟨t, f, pid, X1FExt.MESSAGE_ID, 2 + rest.length⟩ (hi :: lo :: rest) =
      .ok (.extended (.unsupported (be16 hi lo) rest), []) := by
  simp only [decodeMsg, ↓reduceIte, decodeExt, subHeaderSize, X1FExt.SUB_HEADER_STRUCT_size, Nat.add_sub_cancel_left,
    decodeSub_of_unknown _ _ _ hid, List.take_length, List.drop_length, mapMsg]

/-- the same through the receive path's eyes: for every sub-id value (two bytes) -/
theorem decodeMsg_unknown_sub' (subId : Nat) (hlt : subId < 65536) (hid : subId ∉ Registry.extDecoderIds)
    (t f pid : Nat) (rest : Bytes) :
    decodeMsg ⟨t, f, pid, X1FExt.MESSAGE_ID, (be16Bytes subId ++ rest).length⟩ (be16Bytes subId ++ rest) =
      .ok (.extended (.unsupported subId rest), []) := by
  have := decodeMsg_unknown_sub (subId / 256 % 256) (subId % 256) (by rwa [be16_be16Bytes hlt]) t f pid rest
  rwa [be16_be16Bytes hlt, Nat.add_comm] at this

theorem mapMsg_ne {M N : Type} (f : M → N) (n : N) (hf : ∀ m, f m ≠ n) (r : Except DecErr (M × Bytes))
    (rest : Bytes) : mapMsg f r ≠ .ok (n, rest) := by
  rcases r with _ | ⟨m, r'⟩
  · exact nofun
  · exact fun h => hf m (by cases h; rfl)

/-- a registered decoder wraps what its leaf returns in that leaf's constructor, never in `unsupported` -/
theorem decodeMsg_of_known (t f pid id len : Nat) (b : Bytes) (hid : id ∈ Registry.decoderIds) (uid : Nat)
    (raw rest : Bytes) : decodeMsg ⟨t, f, pid, id, len⟩ b ≠ .ok (.unsupported uid raw, rest) := by
  simp only [Registry.decoderIds, List.mem_cons, List.not_mem_nil, or_false] at hid
  rcases hid with rfl | rfl | rfl | rfl | rfl | rfl | rfl
  · intro hd
    change decodeExt _ b = _ at hd
    unfold decodeExt at hd
    split at hd
    · exact mapMsg_ne _ _ (fun _ => Msg.noConfusion) _ _ hd
    · cases hd
  all_goals exact mapMsg_ne _ _ (fun _ => Msg.noConfusion) _ _

/-- a decoder only ever answers `UnsupportedMessage` for an unregistered type byte, and then it carries
    exactly the announced part of the buffer -/
theorem decodeMsg_unsupported_inv (h : Hdr) (b : Bytes) (id : Nat) (raw rest : Bytes)
    (hd : decodeMsg h b = .ok (.unsupported id raw, rest)) :
    id = h.message_id ∧ id ∉ Registry.decoderIds ∧ raw = b.take h.message_length ∧
    rest = b.drop h.message_length := by
  by_cases hid : h.message_id ∈ Registry.decoderIds
  · exact absurd hd (decodeMsg_of_known _ _ _ _ _ b hid id raw rest)
  · rw [decodeMsg_of_unknown h b hid] at hd
    simp only [Except.ok.injEq, Prod.mk.injEq, Msg.unsupported.injEq] at hd
    obtain ⟨⟨rfl, rfl⟩, rfl⟩ := hd
    exact ⟨rfl, hid, rfl, rfl⟩

/-- the same one level down: a sub-decoder only ever answers `UnsupportedMessage` for an unregistered sub-id,
    which it carries -/
theorem decodeSub_unsupported_inv (subId n : Nat) (body : Bytes) (id : Nat) (raw rest : Bytes)
    (hd : decodeSub subId n body = .ok (.unsupported id raw, rest)) :
    id = subId ∧ subId ∉ Registry.extDecoderIds := by
  by_cases hid : subId ∈ Registry.extDecoderIds
  · simp only [Registry.extDecoderIds, List.mem_cons, List.not_mem_nil, or_false] at hid
    rcases hid with rfl | rfl | rfl | rfl | rfl <;>
      exact absurd hd (mapMsg_ne _ _ (fun _ => ExtSub.noConfusion) _ _)
  · rw [decodeSub_of_unknown _ _ _ hid] at hd
    cases hd
    exact ⟨rfl, hid⟩

/-! ### the decidable forms of `WFMsg`

`allBytesBool` and the three deciders of the 0xFF11 codec are defined in `Model/At4/Registry.lean`, not in a codec's
model file; hence their lemmas are here and not in a codec's lemma file. -/

theorem allBytesBool_iff (bs : Bytes) : allBytesBool bs = true ↔ AllBytes bs := by
  simp only [allBytesBool, List.all_eq_true, decide_eq_true_eq]
  rfl

theorem ff11NameBool_iff (s : Bytes) : ff11NameBool s = true ↔ FF11.WFName s := by
  simp only [ff11NameBool, FF11.WFName, Bool.and_eq_true, decide_eq_true_eq, List.all_eq_true,
    allBytesBool_iff, and_assoc]

theorem ff11RecBool_iff (ac : FF11.AcAbility) : ff11RecBool ac = true ↔ FF11.WFRec ac := by
  have hg : ff11GroupsBool ac.groups = true ↔
      (∀ gs, ac.groups = some gs → gs.Pairwise (· < ·) ∧ ∀ g ∈ gs, g ≤ X1FFF11AcAbility.MAX_GROUP_NUMBER) := by
    cases ac.groups with
    | none => simp [ff11GroupsBool]
    | some gs =>
      simp only [ff11GroupsBool, Bool.and_eq_true, decide_eq_true_eq, List.all_eq_true, Option.some.injEq]
      constructor
      · rintro h gs' rfl; exact h
      · intro h; exact h gs rfl
  simp only [ff11RecBool, FF11.WFRec, Bool.and_eq_true, decide_eq_true_eq, ff11NameBool_iff, and_assoc]
  rw [hg]

theorem ff11WfBool_iff (m : FF11.Msg) : ff11WfBool m = true ↔ FF11.WF m := by
  cases m with
  | request n =>
    cases n with
    | none => simp [ff11WfBool, FF11.WF]
    | some n => simp [ff11WfBool, FF11.WF]
  | ability acs =>
    simp only [ff11WfBool, FF11.WF, Bool.and_eq_true, Bool.not_eq_true', List.isEmpty_eq_false_iff,
      List.all_eq_true, ff11RecBool_iff, ne_eq]

theorem extSub_wfBool_iff (s : ExtSub) : s.wfBool = true ↔ s.WF := by
  cases s with
  | errInfo m => exact At4FF10.wfBool_iff m
  | acAbility m => exact ff11WfBool_iff m
  | groupNames m => exact At4FF12.wfBool_iff m
  | quickTimer m => exact At4FF20.wfBool_iff m
  | consoleVer m => exact At4FF30.wfBool_iff m
  | unsupported id raw => simp [ExtSub.wfBool, ExtSub.WF]

theorem wfSubBool_iff (s : ExtSub) : wfSubBool s = true ↔ WFSub s := by
  simp only [wfSubBool, WFSub, Bool.and_eq_true, extSub_wfBool_iff, List.all_eq_true, allBytesBool_iff]

theorem wfMsgBool_iff (m : Msg) : wfMsgBool m = true ↔ WFMsg m := by
  cases m with
  | extended s => exact wfSubBool_iff s
  | groupCtrl m => exact At4X2A.wfBool_iff m
  | groupStatus m => exact At4X2B.wfBool_iff m
  | acCtrl m => exact At4X2C.wfBool_iff m
  | acStatus m => exact At4X2D.wfBool_iff m
  | acTimerCtrl m => exact At4X36.wfBool_iff m
  | acTimerStatus m => exact At4X37.wfBool_iff m
  | unsupported id raw => simp [wfMsgBool, WFMsg]

/-- every message the AC-ability decoder produces from bytes is well formed (so is every extended
    AC-ability message the receive path delivers) -/
theorem ff11_decoded_wf (buffer : Bytes) (hb : AllBytes buffer) (msgLen : Nat) (m : FF11.Msg) (rest : Bytes)
    (h : FF11.decode buffer msgLen = .ok (m, rest)) : WFMsg (.extended (.acAbility m)) :=
  ⟨(At4FF11.decode_spec buffer hb msgLen m rest h).1, fun _ ht => by cases ht⟩

/-! ### non-vacuity: concrete frames -/

-- the vendor's group-status request `55 55 80 b0 01 2b 00 00 f5 2f`
example : frameOf 1 (.groupStatus .request) = .ok [0x55, 0x55, 0x80, 0xb0, 0x01, 0x2b, 0x00, 0x00, 0xf5, 0x2f] := by
  decide +kernel
example : WFMsg (.groupStatus .request) := trivial
-- an extended message goes to address 0x90 and carries the two-byte sub-id: "AC ability of all ACs"
example : frameOf 1 (.extended (.acAbility (.request none))) =
    .ok [0x55, 0x55, 0x90, 0xb0, 0x01, 0x1f, 0x00, 0x02, 0xff, 0x11, 0x83, 0x4c] := by decide +kernel
-- received: it comes back as the same message, the next frame's bytes stay in the buffer
example : Frame.parseOne proto ([0x55, 0x55, 0x90, 0xb0, 0x01, 0x1f, 0x00, 0x02, 0xff, 0x11, 0x83, 0x4c] ++ [0x55]) =
    .deliver (mkHeader 1 (.extended (.acAbility (.request none))) 2) (.extended (.acAbility (.request none))) [0x55] := by
  decide +kernel
-- an unknown type byte 0x45 and an unknown sub-id 0xFF77 are delivered as unsupported messages
example : decodeMsg ⟨0xb0, 0x80, 7, 0x45, 3⟩ [1, 2, 3] = .ok (.unsupported 0x45 [1, 2, 3], []) := by decide +kernel
example : decodeMsg ⟨0xb0, 0x90, 7, 0x1f, 5⟩ [0xff, 0x77, 1, 2, 3] =
    .ok (.extended (.unsupported 0xff77 [1, 2, 3]), []) := by decide +kernel
-- an `UnsupportedMessage` cannot be sent: `get_encoder` raises `NotImplementedError`
example : frameOf 1 (.unsupported 0x45 [1, 2, 3]) = .error .notImplemented := by decide +kernel

end PyAirtouch.Lemmas.Registry4
