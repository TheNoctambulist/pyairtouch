import PyAirtouch.Lemmas.SockXBasic
import PyAirtouch.Lemmas.SockDrain
/-!
# Everything the socket does, as one transition system

`Does` lists the primitive changes the model makes to `St`: the identities used by `send` so far, the socket's own
fields, and the entries held in flight by tasks suspended in `drain()`, each with the transport it was written to.
A constructor carries the part of the guard of its code path that speaks of `St` and logs at most one event.  It moves
at most one entry between the queue and the in-flight set or out of them with a record; the two that let go of entries
without a record take any number: `release` (entries stop being in flight) and `openFresh` (the queue is cleared).  What
the code does to several entries or with several events in one go is a composition: the purge at the head of `send`
discards entry by entry (`purge_does`), a write that fails and takes its transport down is `fault` then `lost`
(`drainLoop_does`), a new connection is `opened` then the `notify` (`step_does`); so an invariant needs no form for a
batch of events.

What depends on the task table is not recorded: `opened`, `connecting` and `disc` are unguarded (who is inside
`open_connection`, which task waited for which transport), `release` and `perm` say only that entries stop being in
flight or change order, and `log` ties neither the time nor the other arguments of its event to the state (so `burn sid`
and the `reject` of the same `send` are unconnected changes).  A proof about time stamps, about `reject` / `deliver` /
`attempt`, or about which task did what goes through `SockConn.Block`, not through `Does`.  `reopen` is what a
derivation must know to contain `openFresh`, the one change that discards queued entries without a record: `Does False`
is the system without it.

`drainLoop` and `exec` are analysed here once for `Does` (`drainLoop_does`, `exec_does`); `step_does` reads a step off
`SockConn.step_block`, `stepX_does` adds `cancel`, `runX_does` the run (`does_init`: from the initial state).  A property
of queue, trace, transports and in-flight entries is then an induction over `Does`, in which every event is a concrete
constructor.  The derivation of a block of `exec` and that of a whole step are not told apart: no invariant needs the
difference.
-/
namespace PyAirtouch.Lemmas.SockDoes
open PyAirtouch.Model.Sock PyAirtouch.Spec.Trace PyAirtouch.Lemmas.Sock PyAirtouch.Lemmas.SockConn
open PyAirtouch.Lemmas.SockDrain PyAirtouch.Lemmas.SockX

structure St where
  used : List Nat
  core : Core
  fl : List (Nat × Entry)

/-- the events of `log`: logged without any change of the socket fields, whatever the values of the fields and of
    their own arguments -/
def bareEv : Ev → Bool
  | .apiOpen _ | .apiClose _ | .apiCloseDone _ | .apiReset _ | .reject .. | .attempt _ | .refused _ | .deliver .. | .notify .. =>
    true
  | _ => false

inductive Does (reopen : Prop) : St → St → Prop
  | refl (a : St) : Does reopen a a
  | trans {a b c : St} : Does reopen a b → Does reopen b c → Does reopen a c
  -- the clock and the environment
  | tick (a : St) (t : Nat) (h : a.core.now ≤ t) : Does reopen a { a with core := { a.core with now := t } }
  | lost (a : St) (cid : Nat) (p f : Bool) (hc : a.core.conns[cid]? = some (.live p f)) :
      Does reopen a { a with core := { a.core with conns := a.core.conns.set cid (.dying true) }.emit (.lost cid a.core.now) }
  | ran (a : St) (cid : Nat) (e : Bool) (hc : a.core.conns[cid]? = some (.dying e)) :
      Does reopen a { a with core := { a.core with conns := a.core.conns.set cid (.dead e) } }
  | flags (a : St) (cid : Nat) (p f p' f' : Bool) (hc : a.core.conns[cid]? = some (.live p f)) :
      Does reopen a { a with core := { a.core with conns := a.core.conns.set cid (.live p' f') } }
  -- logging, `open_socket`, `close`, connecting
  | log (a : St) (ev : Ev) (h : bareEv ev = true) : Does reopen a { a with core := a.core.emit ev }
  /-- `open_socket()` on a socket that is not open: `self._message_queue.clear()`, nothing logged about the entries -/
  | openFresh (a : St) (hr : reopen) (ho : a.core.isOpen = false) :
      Does reopen a { a with core := { a.core.emit (.apiOpen a.core.now) with isOpen := true, queue := [] } }
  | closeStart (a : St) (ho : a.core.isOpen = true) :
      Does reopen a { a with core := { a.core.emit (.apiClose a.core.now) with isOpen := false } }
  | connecting (a : St) (b : Bool) : Does reopen a { a with core := { a.core with connecting := b } }
  | opened (a : St) :
      Does reopen a { a with core := ({ a.core with
          conns := a.core.conns ++ [ConnSt.live false false], rw := some a.core.conns.length, connecting := false,
          isConnected := true }.emit (.opened a.core.conns.length a.core.now)) }
  -- `send`
  | burn (a : St) (sid : Nat) : Does reopen a { a with used := a.used ++ [sid] }
  | accept (a : St) (sid r life : Nat) (ok : Bool) (ho : a.core.isOpen = true) (hcap : a.core.queue.length < CAP) :
      Does reopen a { a with
        used := a.used ++ [sid]
        core := { a.core with queue := a.core.queue ++ [(⟨sid, r, a.core.now + life, ok, false⟩ : Entry)] }.emit
                  (.accept sid a.core.now (a.core.now + life) r ok) }
  -- the drain loop
  /-- one entry is discarded with its reason: the head of the queue by the drain loop, an expired entry anywhere in the
      queue by the purge at the head of `_enqueue_message`.  The position is not tied to the reason: no invariant
      needs it. -/
  | discard (a : St) (e : Entry) (pre post : List Entry) (why : DropWhy) (hq : a.core.queue = pre ++ e :: post)
      (hw : Discards a.core e why) :
      Does reopen a { a with core := { a.core with queue := pre ++ post }.emit (.qdrop e.sid a.core.now why) }
  | wire (a : St) (e : Entry) (rest : List Entry) (w : Nat) (p : Bool) (hq : a.core.queue = e :: rest)
      (hlt : a.core.now < e.expiry) (hc : a.core.conns[w]? = some (.live p false)) :
      Does reopen a { a with core := { a.core with queue := rest }.emit (.wire w e.sid a.core.now), fl := (w, e) :: a.fl }
  /-- the failed write alone; the transport going down with it is `lost` -/
  | fault (a : St) (e : Entry) (rest : List Entry) (w : Nat) (p : Bool) (hq : a.core.queue = e :: rest)
      (hlt : a.core.now < e.expiry) (hc : a.core.conns[w]? = some (.live p true)) :
      Does reopen a { a with
        core := { a.core with queue := rest }.emit (.writeFault w e.sid a.core.now), fl := (w, e) :: a.fl }
  -- what becomes of an entry in flight
  /-- entries stop being in flight: the write completed, `drain()` returned, or the holding task was cancelled (by
      `close()`, or as a caller) -/
  | release (a : St) (fl' : List (Nat × Entry)) (h : fl'.Sublist a.fl) : Does reopen a { a with fl := fl' }
  | perm (a : St) (fl' : List (Nat × Entry)) (h : fl'.Perm a.fl) : Does reopen a { a with fl := fl' }
  | requeue (a : St) (w : Nat) (e : Entry) (fl' : List (Nat × Entry)) (hf : a.fl = (w, e) :: fl')
      (hd : ¬ liveAt a.core w) (hk : e.retries ≠ 0) :
      Does reopen a { a with
        core := { a.core with queue := { e with retries := e.retries - 1, requeued := true } :: a.core.queue }
        fl := fl' }
  | giveUp (a : St) (w : Nat) (e : Entry) (fl' : List (Nat × Entry)) (hf : a.fl = (w, e) :: fl')
      (hd : ¬ liveAt a.core w) (hk : e.retries = 0) :
      Does reopen a { a with core := a.core.emit (.qdrop e.sid a.core.now .maxRetries), fl := fl' }
  -- `_disconnect`
  | closeConn (a : St) (w : Nat) (p f : Bool) (hc : a.core.conns[w]? = some (.live p f)) :
      Does reopen a { a with core := { a.core with conns := a.core.conns.set w (.dying false) }.emit (.clientClose w a.core.now) }
  | disc (a : St) :
      Does reopen a { a with core := { a.core with isConnected := false, rw := none }.emit (.notify false a.core.now) }

def heldAt (w : Nat) : DrainStop → List (Nat × Entry)
  | .empty => []
  | .suspended e => [(w, e)]
  | .raised e => [(w, e)]

theorem drainLoop_does {R : Prop} (u : List Nat) (w : Nat) :
    ∀ (q : List Entry) (c : Core) (fl : List (Nat × Entry)),
      Does R ⟨u, { c with queue := q }, fl⟩ ⟨u, (drainLoop c w q).1, heldAt w (drainLoop c w q).2 ++ fl⟩ := by
  refine drainLoop_induction w (motive := fun c q r => ∀ fl,
    Does R ⟨u, { c with queue := q }, fl⟩ ⟨u, r.1, heldAt w r.2 ++ fl⟩) ?_ ?_ ?_ ?_ ?_ ?_
  · exact fun c fl => .refl _
  · exact fun c e rest _ fl => .refl _
  · exact fun c e rest why r hw ih fl => (Does.discard ⟨u, { c with queue := e :: rest }, fl⟩ e [] rest why rfl hw).trans (ih fl)
  · exact fun c e rest r hlt hc ih fl =>
      ((Does.wire ⟨u, { c with queue := e :: rest }, fl⟩ e rest w false rfl hlt hc).trans
        (.release _ fl (List.sublist_cons_self ..))).trans (ih fl)
  · exact fun c e rest hlt hc fl => Does.wire ⟨u, { c with queue := e :: rest }, fl⟩ e rest w true rfl hlt hc
  · exact fun c e rest p hlt hc fl => (Does.fault ⟨u, { c with queue := e :: rest }, fl⟩ e rest w p rfl hlt hc).trans
      (.lost _ w p true hc)

theorem purge_aux {R : Prop} (u : List Nat) (fl : List (Nat × Entry)) (c : Core) : ∀ (q pre : List Entry) (tr : List Ev),
    Does R ⟨u, { c with queue := pre ++ q, trace := tr }, fl⟩
      ⟨u, { c with queue := pre ++ purged c.now q, trace := tr ++ purgeEvents c.now q }, fl⟩ := by
  intro q
  induction q with
  | nil => intro pre tr; rw [show tr ++ purgeEvents c.now [] = tr from List.append_nil _]; exact .refl _
  | cons x q ih =>
    intro pre tr
    -- the entries behind `x` are looked at first: expired entries are logged from the back of the queue
    have h1 := ih (pre ++ [x]) tr
    rw [List.append_assoc, List.append_assoc] at h1
    by_cases hx : c.now < x.expiry
    · rw [show purgeEvents c.now (x :: q) = purgeEvents c.now q by
          simp [purgeEvents, List.filter_append, Nat.not_le_of_lt hx],
        show purged c.now (x :: q) = x :: purged c.now q by simp [purged, hx]]
      exact h1
    · have hx' : x.expiry ≤ c.now := Nat.le_of_not_lt hx
      rw [show purgeEvents c.now (x :: q) = purgeEvents c.now q ++ [.qdrop x.sid c.now .expired] by
          simp [purgeEvents, List.filter_append, hx'],
        show purged c.now (x :: q) = purged c.now q by simp [purged, hx], ← List.append_assoc]
      exact h1.trans (.discard _ x pre (purged c.now q) .expired rfl hx')

/-- `_enqueue_message` purges the queue entry by entry -/
theorem purge_does {R : Prop} (u : List Nat) (fl : List (Nat × Entry)) (c : Core) :
    Does R ⟨u, c, fl⟩ ⟨u, purgedCore c, fl⟩ :=
  purge_aux (R := R) u fl c c.queue [] c.trace

theorem requeue_does {R : Prop} (u : List Nat) (c : Core) (w : Nat) (e : Entry) (fl : List (Nat × Entry))
    (hd : ¬ liveAt c w) : Does R ⟨u, c, (w, e) :: fl⟩ ⟨u, requeue c e, fl⟩ := by
  unfold requeue
  split
  · rename_i hk; exact .giveUp ⟨u, c, (w, e) :: fl⟩ w e fl rfl hd hk
  · rename_i hk; exact .requeue ⟨u, c, (w, e) :: fl⟩ w e fl rfl hd hk

theorem closeConn_does {R : Prop} (u : List Nat) (c : Core) (w : Nat) (fl : List (Nat × Entry)) :
    Does R ⟨u, c, fl⟩ ⟨u, closeConn c w, fl⟩ := by
  unfold closeConn
  split
  · rename_i p f hc; exact .closeConn ⟨u, c, fl⟩ w p f hc
  · exact .refl _

/-- the transport and entry a task suspended in `drain()` is holding -/
def holdW : Pc → List (Nat × Entry)
  | .drainAwait w e _ => [(w, e)]
  | _ => []

/-- the cases are numbered as in the key above `SockConn.exec_spawned` -/
theorem exec_does {R : Prop} (u : List Nat) (fuel : Nat) (c : Core) (sp : List Pc) (k : Kont)
    (fl : List (Nat × Entry)) :
    Does R ⟨u, c, fl⟩ ⟨u, (exec fuel c sp k).core, holdW (exec fuel c sp k).pc ++ fl⟩ := by
  fun_induction exec fuel c sp k
  case case4 fuel c sp r hcon w hw c' hd ih =>
    have := drainLoop_does (R := R) u w c.queue c fl; rw [hd] at this; exact this.trans ih
  case case5 fuel c sp r hcon w hw c' e hd =>
    have := drainLoop_does (R := R) u w c.queue c fl; rw [hd] at this; exact this
  case case6 hd _ => exact absurd hd drainLoop_not_raised
  case case7 => exact closeConn_does u _ _ fl
  case case9 => exact .disc ⟨u, _, fl⟩
  case case12 => exact .log ⟨u, _, fl⟩ (.apiCloseDone _) rfl
  all_goals first | exact .refl _ | assumption

/-- every transport and entry held in flight by some task -/
def flW (ts : List Task) : List (Nat × Entry) := ts.flatMap (fun k => holdW k.pc)

def stOf (u : List Nat) (s : Sys) : St := ⟨u, s.core, flW s.tasks⟩

theorem holdW_spawn {p : Pc} (h : spawnPc p = true) : holdW p = [] := by cases p <;> first | rfl | cases h

theorem flW_spawn (sp : List Pc) (h : ∀ p ∈ sp, spawnPc p = true) : flW (sp.map bgTask) = [] :=
  List.flatMap_eq_nil_iff.2 fun k hk => by
    obtain ⟨p, hp, rfl⟩ := List.mem_map.1 hk
    exact holdW_spawn (h p hp)

theorem flW_cancel (ts : List Task) : (flW (ts.map cancelTask)).Sublist (flW ts) := by
  induction ts with
  | nil => exact List.Sublist.refl _
  | cons k ts ih =>
    refine List.Sublist.append ?_ ih
    unfold cancelTask
    split
    · split <;> simp [holdW]
    · exact List.Sublist.refl _

theorem ran_does {R : Prop} (u u' : List Nat) {s0 : Sys} {ts' old rest : List Task} {b : Bool} {out : Out}
    (hran : Ran s0.tasks ts' old ⟨out.pc, b⟩ out.spawned rest) (hsp : ∀ p ∈ out.spawned, spawnPc p = true)
    (h : Does R ⟨u, s0.core, flW (old ++ rest)⟩ ⟨u', out.core, flW (⟨out.pc, b⟩ :: rest)⟩) :
    Does R (stOf u s0) (stOf u' ⟨out.core, ts'⟩) := by
  refine ((Does.perm (stOf u s0) _ (hran.before.flatMap_right _).symm).trans h).trans ?_
  refine .perm _ _ ((hran.after.flatMap_right _).trans ?_)
  rw [← List.cons_append, List.flatMap_append,
    show List.flatMap (fun k => holdW k.pc) (out.spawned.map bgTask) = [] from flW_spawn _ hsp, List.append_nil]
  exact .refl _

/-- before it runs `exec`, a task resumed from `drain()` lets go of the entry it held: written, or handed to the
    retry path (the environment only reports a failed `drain()` on a transport that is not open) -/
theorem _root_.PyAirtouch.Lemmas.SockConn.ExecCase.does {R : Prop} (u : List Nat) {s : Sys} {pc : Pc} {a : Answer} {c0 : Core} {kont : Kont}
    (h : ExecCase s pc a c0 kont) (fl : List (Nat × Entry)) : Does R ⟨u, s.core, holdW pc ++ fl⟩ ⟨u, c0, fl⟩ := by
  cases h with
  | drainOk w e r => exact .release _ fl (List.sublist_cons_self ..)
  | drainErr w e r hd => exact requeue_does u s.core w e fl hd
  | _ => exact .refl _

/-- every step of the model is a composition of primitive changes; only `open_socket()` on a socket that is not
    open needs `reopen` (`Does.fate` in `SockHealFate.lean` is the invariant of `Does False`) -/
theorem step_does {R : Prop} (u : List Nat) (s s' : Sys) (l : Label)
    (hR : l = .apiOpen → s.core.isOpen = false → R) (h : step s l = some s') :
    Does R (stOf u s) (stOf (usedAfter u l) s') := by
  rcases step_block h with ⟨c', rfl, he⟩ | ⟨s0, old, b, out, rest, ts', hb, rfl, hran⟩
  · cases he with
    | advance t ht => exact .tick _ t ht
    | lost cid p f hc => exact .lost (stOf u s) cid p f hc
    | lostRan cid e hc => exact .ran (stOf u s) cid e hc
    | pause cid b p f hc => exact .flags (stOf u s) cid p f b f hc
    | failWrites cid b p f hc => exact .flags (stOf u s) cid p f p b hc
  -- `close()` on an open socket first clears `is_open` and cancels the background tasks
  have h0 : Does R (stOf u s) (stOf u s0) := by
    rcases hb.start with rfl | ⟨ho, rfl⟩
    · exact .refl _
    · exact (Does.closeStart (stOf u s) ho).trans (.release _ _ (flW_cancel _))
  suffices hf : Does R ⟨u, s0.core, flW (old ++ rest)⟩ ⟨usedAfter u l, out.core, flW (⟨out.pc, b⟩ :: rest)⟩ from
    h0.trans (ran_does u _ hran hb.spawned hf)
  clear hran h h0
  have log : ∀ (ev : Ev), bareEv ev = true → Does R ⟨u, s.core, flW rest⟩ ⟨u, s.core.emit ev, flW rest⟩ :=
    fun ev h => .log ⟨u, s.core, flW rest⟩ ev h
  -- the resumed task held nothing
  have idle : ∀ {k0 : Task} {p : Pc} {a : St}, k0.pc = p → holdW p = [] → Does R ⟨u, s.core, flW rest⟩ a →
      Does R ⟨u, s.core, flW ([k0] ++ rest)⟩ a := fun {k0 _ _} hp hh h => by
    rw [show flW ([k0] ++ rest) = holdW k0.pc ++ flW rest from rfl, hp, hh]; exact h
  cases hb with
  | openAgain => exact log _ rfl
  | openFresh ho => exact .openFresh ⟨u, s.core, _⟩ (hR rfl ho) ho
  | closeAgain => exact (log (.apiClose s.core.now) rfl).trans (.log _ (.apiCloseDone _) rfl)
  | closeGather => exact .refl _
  | closeNow => exact exec_does u FUEL _ [] _ _
  | reset => exact (log (.apiReset s.core.now) rfl).trans (exec_does u FUEL _ [] _ _)
  | sendClosed sid r life ok =>
    exact (Does.burn ⟨u, s.core, _⟩ sid).trans (.log _ (.reject sid s.core.now .notOpen) rfl)
  | sendFull sid r life ok =>
    exact ((purge_does u _ s.core).trans (.burn _ sid)).trans (.log _ (.reject sid s.core.now .overflow) rfl)
  | sendOk sid r life ok ho hcap =>
    exact ((purge_does u _ s.core).trans (.accept _ sid r life ok ho hcap)).trans (exec_does (u ++ [sid]) FUEL _ [] _ _)
  | exec t a k0 c0 kont hk0 hc =>
    exact (hc.does u _).trans (exec_does u FUEL c0 [] kont _)
  | connect t a k0 hk0 hpc =>
    have hh := holdW_spawn (connPc_spawnPc hpc)
    unfold connectBlock; split
    · exact idle rfl hh (.refl _)
    · exact idle rfl hh ((Does.connecting ⟨u, s.core, _⟩ true).trans (.log _ (.attempt s.core.now) rfl))
  | openOk t k0 hk0 hpc => exact idle hpc rfl ((Does.opened ⟨u, s.core, _⟩).trans (.log _ (.notify true s.core.now) rfl))
  | openRefused t a k0 hk0 hpc =>
    exact idle hpc rfl ((Does.connecting ⟨u, s.core, _⟩ false).trans (.log _ (.refused s.core.now) rfl))
  | cancelled t a k0 hk0 hpc => exact idle hpc rfl (.connecting ⟨u, s.core, _⟩ false)
  | readMsg t k0 c tag hk0 hpc =>
    exact idle hpc rfl (.log ⟨u, s.core, _⟩ (.deliver (s.core.rw.getD 0) tag s.core.now) rfl)
  | readEof t k0 c hk0 hpc => exact idle hpc rfl (.refl _)

theorem cancel_does {R : Prop} (u : List Nat) {s s' : Sys} {t : Nat} (h : stepX s (.cancel t) = some s') :
    Does R (stOf u s) (stOf u s') := by
  obtain ⟨k, hk, _, _, rfl⟩ := stepX_cancel h
  exact ran_does u u (out := ⟨s.core, .finished, []⟩) (modify_ran _ hk) (List.forall_mem_nil _)
    (.release _ _ (List.sublist_append_right ..))

theorem stepX_does {R : Prop} (u : List Nat) (s s' : Sys) (l : LabelX)
    (hR : l = .base .apiOpen → s.core.isOpen = false → R) (h : stepX s l = some s') :
    Does R (stOf u s) (stOf (usedAfterX u l) s') := by
  cases l with
  | base l => exact step_does u s s' l (fun hl => hR (congrArg _ hl)) h
  | cancel t => exact cancel_does u h

theorem runX_does {R : Prop} : ∀ (ls : List LabelX) (u : List Nat) (s s' : Sys),
    (R ∨ ∀ l ∈ ls, l ≠ .base .apiOpen) → runX s ls = some s' →
    Does R (stOf u s) (stOf (u ++ sendSidsX ls) s') := by
  intro ls
  induction ls with
  | nil => intro u s s' _ h; cases h; rw [show sendSidsX [] = [] from rfl, List.append_nil]; exact .refl _
  | cons l ls ih =>
    intro u s s' hR h
    obtain ⟨m, hm, hr⟩ := Option.bind_eq_some_iff.1 h
    have h1 := stepX_does (R := R) u s m l
      (fun hl _ => hR.elim id fun hno => absurd hl (hno l List.mem_cons_self)) hm
    have h2 := ih (usedAfterX u l) m s' (hR.imp id fun hno l' hl' => hno l' (List.mem_cons_of_mem _ hl')) hr
    rw [show usedAfterX u l ++ sendSidsX ls = u ++ sendSidsX (l :: ls) by
      rw [usedAfterX_eq, List.append_assoc, ← sendSidsX_append]; rfl] at h2
    exact h1.trans h2

/-- every run from the initial state, with or without cancelled callers: the reachable-state results are the values of
    the inductions over `Does` at this derivation -/
theorem does_init {ls : List LabelX} {s : Sys} (h : runX init ls = some s) :
    Does True (stOf [] init) (stOf (sendSidsX ls) s) := by
  have := runX_does (R := True) ls [] init s (.inl trivial) h
  rwa [List.nil_append] at this

end PyAirtouch.Lemmas.SockDoes
