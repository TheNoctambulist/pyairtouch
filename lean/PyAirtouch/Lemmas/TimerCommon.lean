import PyAirtouch.Model.TimerCommon
import PyAirtouch.Lemmas.RegistryCommon
/-! Lemmas shared by the timer codecs: the two-byte timer state and the generic quick-timer round trip.  The decoders match
on conses, so the codec files use the round trip of the state with its two bytes spelled out (`decTimerState_enc`). -/
namespace PyAirtouch.Lemmas.TimerCommon
open PyAirtouch.Model PyAirtouch.Model.TimerCommon PyAirtouch.Lemmas.BitField PyAirtouch.Lemmas.RegistryCommon

theorem timerStateOf_enc (t : AcTimerState) (h : WFState t) :
    timerStateOf (boolToBit t.disabled 7 + t.hour % 32) (t.minute % 64) = t := by
  obtain ⟨hh, hm⟩ := h
  rcases t with ⟨d, hr, mi⟩
  simp only at hh hm
  have hbit : (d.toNat * 2 ^ 7 + hr) / 2 ^ 7 % 2 = d.toNat := pack_div_mod (by omega) d.toNat_lt
  have hhour : (d.toNat * 2 ^ 7 + hr) % 32 = hr := by omega
  simp only [timerStateOf, boolToBit_eq, Nat.mod_eq_of_lt hh, Nat.mod_eq_of_lt hm, bitToBool_of_toNat hbit, hhour]

theorem decTimerState_enc (t : AcTimerState) (h : WFState t) (rest : Bytes) :
    decTimerState ((boolToBit t.disabled 7 + t.hour % 32) :: (t.minute % 64) :: rest) = .ok t := by
  simp only [decTimerState, timerStateOf_enc t h]

theorem decTimerState_encTimerState (t : AcTimerState) (h : WFState t) (rest : Bytes) :
    decTimerState (encTimerState t ++ rest) = .ok t := by
  simp only [encTimerState, List.cons_append, List.nil_append, decTimerState_enc t h]

theorem allBytes_encTimerState (t : AcTimerState) : AllBytes (encTimerState t) := by
  have := boolToBit_le t.disabled 7
  simp only [encTimerState, allBytes_cons, allBytes_nil, and_true]
  omega

theorem wfStateBool_iff (t : AcTimerState) : wfStateBool t = true ↔ WFState t := by
  simp only [wfStateBool, WFState, Bool.and_eq_true, decide_eq_true_eq]

theorem encTimerState_length (t : AcTimerState) : (encTimerState t).length = 2 := rfl

namespace QuickTimer
open PyAirtouch.Model.TimerCommon.QuickTimer

variable {T : Type}

theorem encodeBytes_length (ops : Ops T) (m : QuickTimerMessage T) :
    (encodeBytes ops m).length = size m := rfl

theorem encode_length (ops : Ops T) (m : QuickTimerMessage T) (bs : Bytes)
    (h : encode ops m = .ok bs) : bs.length = size m := by
  simp only [encode] at h
  split at h
  · cases h; rfl
  · cases h

theorem encode_ok (ops : Ops T) (m : QuickTimerMessage T) (h : WF m) :
    encode ops m = .ok (encodeBytes ops m) := by
  simp only [encode, h.1, ↓reduceIte]

theorem decode_encode (ops : Ops T) (hinv : ∀ t, ops.ofNat? (ops.toNat t) = some t)
    (hlt : ∀ t, ops.toNat t < 256) (m : QuickTimerMessage T) (h : WF m) (rest : Bytes) (msgLen : Nat) :
    decode ops (encodeBytes ops m ++ rest) msgLen = .ok (m, rest) := by
  obtain ⟨_, h60, hday⟩ := h
  rcases m with ⟨ac, ty, d⟩
  simp only at h60 hday
  simp only [encodeBytes, encodeDuration, List.cons_append, List.nil_append, decode,
    Nat.mod_eq_of_lt (hlt ty), hinv ty]
  -- below one day the hours are below 24 and pass both masks; the minutes pass theirs; no seconds are dropped
  have h1 : d / 3600 < 24 := Nat.div_lt_of_lt_mul hday
  have h2 : d % 3600 / 60 < 60 := Nat.div_lt_of_lt_mul (Nat.mod_lt d (by decide))
  have h3 : d % 3600 % 60 = 0 := (Nat.mod_mod_of_dvd d (by decide : 60 ∣ 3600)).trans h60
  rw [Nat.mod_eq_of_lt h1, Nat.mod_eq_of_lt (Nat.lt_trans h1 (by decide)),
    Nat.mod_eq_of_lt (Nat.lt_trans h2 (by decide)), Nat.div_mul_cancel (Nat.dvd_of_mod_eq_zero h3),
    Nat.div_add_mod']

theorem wfBool_iff (m : QuickTimerMessage T) : wfBool m = true ↔ WF m := by
  simp only [wfBool, WF, Bool.and_eq_true, decide_eq_true_eq, and_assoc]

/-- why `WF` bounds the duration: 24 h (payload `.. .. 18 00`) is re-encoded as 0 h 0 min -/
theorem roundtrip_fails_24h (ops : Ops T) (ac : Nat) (ty : T) :
    encodeBytes ops ⟨ac, ty, 24 * 3600⟩ = encodeBytes ops ⟨ac, ty, 0⟩ := by
  simp [encodeBytes, encodeDuration]

/-- ... and 60 minutes (payload `.. .. 00 3c`) as 1 h 0 min -/
theorem reencode_60min (ops : Ops T) (ac : Nat) (ty : T) :
    encodeBytes ops ⟨ac, ty, 0 * 3600 + 60 * 60⟩ = [ac, ops.toNat ty % 256, 1, 0] := by
  simp [encodeBytes, encodeDuration]

end QuickTimer

end PyAirtouch.Lemmas.TimerCommon
