import PyAirtouch.Lemmas.SockHealInv
import PyAirtouch.Lemmas.SockXIdle
/-!
# Healing of the socket model: the strategy

From every admissible (`ReachableH`) state that is open with no `close()` in progress, a sequence of benign labels
leads to a `Healed` state within `RETRY_DELAY`, in three phases:

* A: the environment stops pausing and failing writes (`Calm`);
* B: every pending `connection_lost` runs and every task that is neither a connection attempt nor a reader of a live
  transport is resumed (`drainOk` on a live transport, `drainErr` / `readErr` / `readEof` on one that is not, `go`
  otherwise) until none is left (`Quiescent`).  No connection is opened and the clock stands still; the measure is
  lexicographic: number of live transports, then `mu` = sum of the task ranks + number of closing transports;
* C: the clock advances to `now + RETRY_DELAY`, so that every retry deadline has passed, and the connection attempts
  run: the first one gets `openOk`, notifies, drains the whole queue into the healthy transport and starts the reader,
  the others see `is_connected` and return (measure `muC`).

When only finished tasks and readers are left the state is `Healed`: connected by the reconnect invariant, a reader
exists by the watch invariant, the queue is empty by `SockIdle.IInv`.  The file ends with the two negative results of
`Props/C07Heal.lean`: a wedged state never heals, and surplus readers never go away.
-/
namespace PyAirtouch.Lemmas.SockHeal
open PyAirtouch.Model.Sock PyAirtouch.Spec.Trace PyAirtouch.Lemmas.SockConn
open PyAirtouch.Lemmas.SockDrain

/-! ### calm environment -/

/-- no transport is pausing or failing writes -/
def Calm (c : Core) : Prop := ∀ (i : Nat) (p f : Bool), c.conns[i]? = some (ConnSt.live p f) → p = false ∧ f = false

theorem Calm.same {c c' : Core} (h : Calm c) (hc : c'.conns = c.conns) : Calm c' := by
  intro i p f hi; rw [hc] at hi; exact h i p f hi

theorem Calm.of_live {c : Core} {w : Nat} (h : Calm c) (hl : isLiveAt c w = true) :
    c.conns[w]? = some (.live false false) := by
  obtain ⟨p, f, hpf⟩ := isLiveAt_cases hl
  obtain ⟨rfl, rfl⟩ := h w p f hpf
  exact hpf

theorem Calm.set {c : Core} (h : Calm c) (w : Nat) (x : ConnSt) (hx : x.isLive = false ∨ x = .live false false) :
    Calm { c with conns := c.conns.set w x } := by
  intro i p f hi
  simp only [List.getElem?_set] at hi
  split at hi
  · split at hi
    · cases hi
      rcases hx with hx | hx
      · cases hx
      · cases hx; exact ⟨rfl, rfl⟩
    · cases hi
  · exact h i p f hi

theorem drainLoop_calm (w : Nat) (q : List Entry) : ∀ c : Core, Calm c → (drainLoop c w q).1.conns = c.conns := by
  refine drainLoop_induction w (motive := fun c _ r => Calm c → r.1.conns = c.conns) ?_ ?_ ?_ ?_ ?_ ?_ q
  · intro c _; rfl
  · intro c e rest _ _; rfl
  · intro c e rest why r _ ih hc; exact ih (hc.same rfl)
  · intro c e rest r _ _ ih hc; exact ih (hc.same rfl)
  · intro c e rest _ _ _; rfl
  · intro c e rest p _ hp hc; exact nomatch (hc w p true hp).2

theorem drainLoop_calm' {c c' : Core} {w : Nat} {st : DrainStop} (hc : Calm c)
    (h : drainLoop c w c.queue = (c', st)) : c'.conns = c.conns := by
  have := drainLoop_calm w c.queue c hc; rw [h] at this; exact this

theorem requeue_conns (c : Core) (e : Entry) : (requeue c e).conns = c.conns := by
  unfold requeue; split <;> rfl

theorem exec_conns (fuel : Nat) (c : Core) (sp : List Pc) (k : Kont) (hc : Calm c) :
    (exec fuel c sp k).core.conns = c.conns ∨
    ∃ w p f, c.conns[w]? = some (.live p f) ∧ (exec fuel c sp k).core.conns = c.conns.set w (.dying false) := by
  -- the cases are numbered as in the key above `SockConn.exec_spawned` (`SockStepRel.lean`)
  fun_induction exec fuel c sp k
  case case4 c' hd ih =>
    have e := drainLoop_calm' hc hd
    rcases ih (hc.same e) with h | ⟨w, p, f, h1, h2⟩
    · exact .inl (h.trans e)
    · exact .inr ⟨w, p, f, e ▸ h1, e ▸ h2⟩
  case case5 c' e hd => exact .inl (drainLoop_calm' hc hd)
  case case6 c' e hd ih => exact absurd hd drainLoop_not_raised
  case case7 =>
    rename_i c _ _ w _
    unfold closeConn
    split
    · rename_i p f hp; exact .inr ⟨w, p, f, hp, rfl⟩
    · exact .inl rfl
  all_goals first | exact .inl rfl | (rename_i ih; exact ih hc)

/-! ### draining into a healthy transport -/

theorem drainLoop_live (w : Nat) (q : List Entry) : ∀ c : Core, c.conns[w]? = some (.live false false) →
    ∃ c', drainLoop c w q = (c', .empty) ∧ c'.queue = [] ∧ c'.conns = c.conns := by
  refine drainLoop_induction w
    (motive := fun c _ r => c.conns[w]? = some (.live false false) → ∃ c', r = (c', .empty) ∧ c'.queue = [] ∧ c'.conns = c.conns)
    ?_ ?_ ?_ ?_ ?_ ?_ q
  · intro c _; exact ⟨_, rfl, rfl, rfl⟩
  · intro c e rest hd hc; rw [hc] at hd; cases hd
  · intro c e rest why r _ ih hc; exact ih hc
  · intro c e rest r _ _ ih hc; exact ih hc
  · intro c e rest _ hp hc; rw [hc] at hp; cases hp
  · intro c e rest p _ hp hc; rw [hc] at hp; cases hp

theorem exec_drain_live (fuel : Nat) (c : Core) (sp : List Pc) (r : Ret) (w : Nat) (hcon : c.isConnected = true)
    (hrw : c.rw = some w) (hl : c.conns[w]? = some (.live false false)) :
    ∃ c', Shrink c c' ∧ c'.conns = c.conns ∧ c'.queue = [] ∧
      exec (fuel + 1) c sp (.drain r) = exec fuel c' sp (.ret r) := by
  obtain ⟨c', h1, h2, h3⟩ := drainLoop_live w c.queue c hl
  refine ⟨c', shrink_drainLoop' h1, h3, h2, ?_⟩
  · simp [exec, hcon, hrw, h1]

theorem exec_drain_FUEL (c : Core) (sp : List Pc) (r : Ret) (w : Nat) (hcon : c.isConnected = true)
    (hrw : c.rw = some w) (hl : c.conns[w]? = some (.live false false)) :
    ∃ c' fuel, Shrink c c' ∧ c'.conns = c.conns ∧ c'.queue = [] ∧ exec FUEL c sp (.drain r) = exec fuel c' sp (.ret r) :=
  let ⟨c', h1, h2, h3, h4⟩ := exec_drain_live 15 c sp r w hcon hrw hl
  ⟨c', 15, h1, h2, h3, h4⟩

/-! ### ranks: how many more blocks a task can run without a new connection -/

/-- The ranks.  Two constraints fix the numbers.  (1) A block ends with at most the rank it started with, counting the pc
    it stops at and the pcs it spawns (`exec_rank`): `.connAfterNotify` = 8 = `rankK (.drain .connAfterDrain)`,
    `.connAfterDrain` = 5 = the `readStart` it spawns, `.readLoop` = 4 = the `readWait` it stops at, and the connection
    attempts a reset spawns count 0 - phase B does not run them.  (2) Resuming a task starts a continuation of smaller
    rank than the pc it was suspended at (`quiesce_task`): `drainAwait` (3 +) goes on at `.ret` on a healthy transport and at
    `.disconnect` (2 +) on one that is down, `discWait` (2 +) at `.discTail` (1 +), `notifyWait` (1 +) at `.ret`;
    `readStart` 5 > `.ret .readLoop` 4; a reader of a transport that is down (4) goes on at
    `.disconnect (.resetTail .done)` = 2; a reader of a live transport is not resumed and counts 0 (`rank`). -/
def rankRet : Ret → Nat
  | .done | .closeTail => 0
  | .readLoop => 4
  | .connAfterDrain => 5
  | .connAfterNotify => 8
  | .resetTail r => rankRet r

/-- rank of a program counter, whatever the state of the transports -/
def rankU : Pc → Nat
  | .drainAwait _ _ r => 3 + rankRet r
  | .discWait _ r => 2 + rankRet r
  | .notifyWait r => 1 + rankRet r
  | .readStart => 5
  | .readWait _ => 4
  | .cancelledOpening => 1
  | _ => 0

/-- a reader of a live transport stays where it is -/
def rank (c : Core) : Pc → Nat
  | .readWait x => if isLiveAt c x then 0 else 4
  | p => rankU p

def rankK : Kont → Nat
  | .ret r => rankRet r
  | .drain r => 3 + rankRet r
  | .disconnect r => 2 + rankRet r
  | .discTail _ r => 1 + rankRet r

def sumU (sp : List Pc) : Nat := (sp.map rankU).sum

theorem rank_le (c : Core) (p : Pc) : rank c p ≤ rankU p := by
  cases p <;> simp [rank, rankU]
  split <;> omega

theorem exec_rank (fuel : Nat) (c : Core) (sp : List Pc) (k : Kont) :
    rankU (exec fuel c sp k).pc + sumU (exec fuel c sp k).spawned ≤ rankK k + sumU sp := by
  fun_induction exec fuel c sp k
  case case14 =>
    simp only [rankU, rankK, rankRet, sumU, List.map_append, List.sum_append]
    split <;> simp [rankU] <;> omega
  case case15 ih =>
    simp only [rankK, rankRet] at ih ⊢
    have hs : sumU (if ‹Core›.isOpen = true then ‹List Pc› ++ [Pc.connStart] else ‹List Pc›) = sumU ‹List Pc› := by
      split
      · simp [sumU, rankU]
      · rfl
    rw [hs] at ih
    exact ih
  -- a block that goes on passes its bound down; one that stops has rank at most that of its continuation
  all_goals first
    | (rename_i ih; simp only [rankK, rankRet] at ih ⊢; omega)
    | simp [rankU, rankK, rankRet]

/-! ### the measure -/

def isDying : ConnSt → Bool
  | .dying _ => true
  | _ => false

def liveCount (c : Core) : Nat := c.conns.countP ConnSt.isLive
def dyingCount (c : Core) : Nat := c.conns.countP isDying
def taskSum (c : Core) (ts : List Task) : Nat := (ts.map (fun k => rank c k.pc)).sum
def mu (s : Sys) : Nat := taskSum s.core s.tasks + dyingCount s.core

theorem countP_set_eq {α : Type} (p : α → Bool) (l : List α) (w : Nat) (x y : α) (h : l[w]? = some x) :
    (l.set w y).countP p + (p x).toNat = l.countP p + (p y).toNat := by
  have ⟨h1, h2⟩ := modify_perm (fun _ => y) l w x h
  have e : l.set w y = l.modify w (fun _ => y) := haveI : Inhabited α := ⟨x⟩; (List.modify_eq_set (fun _ => y) w l).symm
  rw [e, h1.countP_eq, h2.countP_eq, List.countP_cons, List.countP_cons]
  cases p x <;> cases p y <;> simp <;> omega

theorem countP_set_same {α : Type} (p : α → Bool) (l : List α) (w : Nat) (x y : α) (h : l[w]? = some x) (hp : p x = p y) :
    (l.set w y).countP p = l.countP p := by
  have := countP_set_eq p l w x y h; rw [hp] at this; omega

theorem countP_set_lt {α : Type} (p : α → Bool) (l : List α) (w : Nat) (x y : α) (h : l[w]? = some x) (hx : p x = true)
    (hy : p y = false) : (l.set w y).countP p + 1 = l.countP p := by
  have := countP_set_eq p l w x y h; rw [hx, hy] at this; exact this

def SameLive (c c' : Core) : Prop := ∀ i, isLiveAt c' i = isLiveAt c i

theorem taskSum_sameLive {c c' : Core} (h : SameLive c c') (ts : List Task) : taskSum c' ts = taskSum c ts := by
  unfold taskSum
  congr 1
  apply List.map_congr_left
  intro k _; cases k.pc <;> simp [rank, h _]

theorem taskSum_spawn (c : Core) (sp : List Pc) : taskSum c (sp.map (fun p => (⟨p, true⟩ : Task))) ≤ sumU sp := by
  induction sp with
  | nil => simp [taskSum, sumU]
  | cons p sp ih =>
    simp only [taskSum, sumU, List.map_cons, List.sum_cons] at ih ⊢
    have := rank_le c p
    omega

theorem taskSum_upd {s : Sys} {t : Nat} {k0 : Task} {out : Out} (ht : s.tasks[t]? = some k0)
    (hl : SameLive s.core out.core) :
    taskSum out.core (upd s t out).tasks + rank s.core k0.pc ≤
      taskSum s.core s.tasks + rankU out.pc + sumU out.spawned := by
  have h1 := (upd_ran out ht).sum_map (fun k => rank s.core k.pc)
  have h2 := taskSum_spawn s.core out.spawned
  have h3 := rank_le s.core out.pc
  rw [taskSum_sameLive hl]
  simp only [taskSum, bgTask, List.map_cons, List.map_nil, List.sum_cons, List.sum_nil, List.map_map,
    Function.comp_def] at *
  omega

/-! ### benign steps stay inside the invariants -/

theorem benign_fair {d : Nat} {s : Sys} {l : Label} (h : benign d s l = true) : fair s l = true := by
  cases l with
  | run t a =>
    simp only [fair, disciplined, Bool.true_and]
    cases a <;> try rfl
    simp only [eofOk]
    simp only [benign] at h
    split <;> try rfl
    rename_i c hp
    rw [hp] at h
    simp only at h
    unfold clientClosed at h
    unfold excLost
    split at h <;> simp_all
  | apiOpen => cases h
  | apiClose => cases h
  | _ => rfl

theorem benign_run {d : Nat} {s : Sys} {l : Label} (hb : benign d s l = true) (hl : isEnv l = false) :
    ∃ t a, l = .run t a := by
  cases l <;> first | exact ⟨_, _, rfl⟩ | exact Bool.noConfusion hl | exact Bool.noConfusion hb

theorem run_isOpen {s s' : Sys} {t : Nat} {a : Answer} (h : step s (.run t a) = some s') :
    s'.core.isOpen = s.core.isOpen ∧ s'.core.now = s.core.now := by
  obtain ⟨s0, old, b, out, rest, ts', hb, rfl, -⟩ := step_block_of rfl h
  cases hb with
  | exec t a k0 c0 kont hk0 he =>
    have hf := exec_frame FUEL c0 [] kont
    exact ⟨hf.isOpen.trans he.shrink.isOpen, hf.now.trans he.shrink.now⟩
  | connect => unfold connectBlock; split <;> exact ⟨rfl, rfl⟩
  | _ => exact ⟨rfl, rfl⟩

theorem benign_step {d : Nat} {s s' : Sys} {l : Label} (hb : benign d s l = true) (h : step s l = some s') :
    (∃ c', s' = { s with core := c' } ∧ EnvStep s.core l c') ∨
    ∃ t a k0, l = .run t a ∧ s.tasks[t]? = some k0 ∧ k0.pc ≠ .finished := by
  rcases step_block h with he | ⟨_, _, _, _, _, _, hbl, -, -⟩
  · exact .inl he
  obtain ⟨t, a, rfl⟩ := benign_run hb hbl.notEnv
  obtain ⟨k0, hk0, hne⟩ := hbl.resumed
  exact .inr ⟨t, a, k0, rfl, hk0, hne⟩

theorem benign_isOpen {d : Nat} {s s' : Sys} {l : Label} (hb : benign d s l = true) (h : step s l = some s') :
    s'.core.isOpen = s.core.isOpen := by
  rcases benign_step hb h with ⟨c', rfl, he⟩ | ⟨t, a, _, rfl, -, -⟩
  · exact he.rel.isOpen
  · exact (run_isOpen h).1

theorem benign_now {d : Nat} {s s' : Sys} {l : Label} (hb : benign d s l = true) (h : step s l = some s') :
    s'.core.now = s.core.now ∨ s'.core.now ≤ d := by
  rcases benign_step hb h with ⟨c', rfl, he⟩ | ⟨t, a, _, rfl, -, -⟩
  · cases he with
    | advance t _ => exact .inr (by simpa [benign] using hb)
    | _ => exact .inl rfl
  · exact .inl (run_isOpen h).2

theorem BReach.now_le {d : Nat} {s s' : Sys} (h : BReach d s s') (h0 : s.core.now ≤ d) : s'.core.now ≤ d :=
  h.invariant (P := fun s => s.core.now ≤ d) (fun _ _ _ h0 hb hs => (benign_now hb hs).elim (fun e => e ▸ h0) id) h0

/-- where the strategy lives: reachable under the two rules, and open -/
structure Good (s : Sys) : Prop where
  reach : ReachableH s
  isOpen : s.core.isOpen = true

theorem Good.next {d : Nat} {s s' : Sys} {l : Label} (h : Good s) (hb : benign d s l = true)
    (hs : step s l = some s') : Good s' :=
  ⟨h.reach.next (benign_fair hb) hs, (benign_isOpen hb hs).trans h.isOpen⟩

theorem Good.breach {d : Nat} {s s' : Sys} (h : Good s) (hr : BReach d s s') : Good s' :=
  hr.invariant (fun _ _ _ h hb hs => h.next hb hs) h

theorem Good.inv {s : Sys} (h : Good s) : Inv s := inv_reachable h.reach.reachable
theorem Good.cinv {s : Sys} (h : Good s) : CInv s := cinv_reachableD h.reach.reachableD
theorem Good.h1 {s : Sys} (h : Good s) : HInv1 s := hinv1_reachable h.reach.reachable
theorem Good.h2 {s : Sys} (h : Good s) : HInv2 s := hinv2_reachableH h.reach
theorem Good.iinv {s : Sys} (h : Good s) : SockIdle.IInv s := SockIdle.idle_invariant h.reach.reachable
theorem Good.notClosing {s : Sys} (h : Good s) : closing s.core.trace = false := not_closing_of_open h.cinv h.isOpen
theorem Good.noClose {s : Sys} (h : Good s) : ∀ k ∈ s.tasks, closePc k.pc = false :=
  h.cinv.none_closing h.notClosing

/-! ### phase A: the environment calms down -/

theorem calm_of_current {s : Sys} (hinv : Inv s)
    (h : ∀ (w : Nat) (p f : Bool), s.core.rw = some w → s.core.conns[w]? = some (ConnSt.live p f) → p = false ∧ f = false) :
    Calm s.core := by
  intro i p f hi
  have hl : liveAt s.core i := liveAt_iff_live.2 ⟨p, f, hi⟩
  exact h i p f (hinv.core.live_rw i hl) hi

theorem calm_reach (d : Nat) {s : Sys} (hG : Good s) :
    ∃ s', BReach d s s' ∧ Calm s'.core ∧ s'.core.now = s.core.now := by
  -- only the current transport can be open; if it is, the environment stops pausing it and failing its writes
  by_cases hcur : ∃ w p f, s.core.rw = some w ∧ s.core.conns[w]? = some (ConnSt.live p f)
  · obtain ⟨w, p, f, hrw, hw⟩ := hcur
    have hlen : w < s.core.conns.length := (List.getElem?_eq_some_iff.1 hw).1
    let s1 : Sys := { s with core := { s.core with conns := s.core.conns.set w (.live false f) } }
    have hst1 : step s (.envPause w false) = some s1 := by simp [step, hw, s1]
    have hw1 : s1.core.conns[w]? = some (.live false f) := by simp [s1, hlen]
    let s2 : Sys := { s1 with core := { s1.core with conns := s1.core.conns.set w (.live false false) } }
    have hst2 : step s1 (.envFailWrites w false) = some s2 := by simp only [step, hw1]; rfl
    have hG2 : Good s2 :=
      (hG.next (d := d) (l := .envPause w false) rfl hst1).next (d := d) (l := .envFailWrites w false) rfl hst2
    refine ⟨s2, .cons _ rfl hst1 (.cons _ rfl hst2 (.refl _)), calm_of_current hG2.inv ?_, rfl⟩
    intro w' p' f' h h'
    have : s2.core.rw = some w := hrw
    rw [this] at h; cases h
    have : s2.core.conns[w]? = some (.live false false) := by simp [s2, s1, hlen]
    rw [this] at h'; cases h'; exact ⟨rfl, rfl⟩
  · exact ⟨s, .refl _, calm_of_current hG.inv (fun w p f h h' => absurd ⟨w, p, f, h, h'⟩ hcur), rfl⟩

/-! ### phase B: quiescing -/

/-- lexicographic order on (number of live transports, `mu`) -/
def quiesceLt (s' s : Sys) : Prop :=
  liveCount s'.core < liveCount s.core ∨ (liveCount s'.core = liveCount s.core ∧ mu s' < mu s)

theorem quiesceLt_plain {s : Sys} {t : Nat} {k0 : Task} {out : Out} (ht : s.tasks[t]? = some k0)
    (hc : out.core.conns = s.core.conns) (hr : rankU out.pc + sumU out.spawned < rank s.core k0.pc) :
    quiesceLt (upd s t out) s := by
  right
  have h1 := taskSum_upd (out := out) ht (fun i => by unfold isLiveAt; rw [hc])
  have e1 : liveCount (upd s t out).core = liveCount s.core := by show liveCount out.core = _; unfold liveCount; rw [hc]
  have e2 : dyingCount (upd s t out).core = dyingCount s.core := by show dyingCount out.core = _; unfold dyingCount; rw [hc]
  refine ⟨e1, ?_⟩
  unfold mu
  rw [e2]
  show taskSum out.core (upd s t out).tasks + _ < _
  omega

theorem quiesce_exec {s : Sys} {t : Nat} {k0 : Task} {c0 : Core} {kont : Kont} (fuel : Nat) (ht : s.tasks[t]? = some k0)
    (hcalm : Calm s.core) (hc0 : c0.conns = s.core.conns) (hr : rankK kont < rank s.core k0.pc) :
    Calm (upd s t (exec fuel c0 [] kont)).core ∧ quiesceLt (upd s t (exec fuel c0 [] kont)) s := by
  have hcalm0 : Calm c0 := hcalm.same hc0
  have hrk := exec_rank fuel c0 [] kont
  rcases exec_conns fuel c0 [] kont hcalm0 with h | ⟨w, p, f, h1, h2⟩
  · refine ⟨hcalm.same (h.trans hc0), quiesceLt_plain ht (h.trans hc0) ?_⟩
    simp only [sumU, List.map_nil, List.sum_nil, Nat.add_zero] at hrk
    simp only [sumU] at *
    omega
  · constructor
    · show Calm (exec fuel c0 [] kont).core
      intro i p' f' hi
      rw [h2] at hi
      exact (hcalm0.set w (.dying false) (.inl rfl)) i p' f' hi
    · left
      show liveCount (exec fuel c0 [] kont).core < liveCount s.core
      unfold liveCount
      rw [h2, ← hc0]
      have := countP_set_lt ConnSt.isLive c0.conns w (.live p f) (.dying false) h1 rfl rfl
      omega

def quiescentPc (c : Core) : Pc → Bool
  | .finished | .connStart | .connDelay _ | .connOpening => true
  | .readWait x => isLiveAt c x
  | _ => false

/-- nothing left to do without a new connection -/
def Quiescent (s : Sys) : Prop := dyingCount s.core = 0 ∧ ∀ k ∈ s.tasks, quiescentPc s.core k.pc = true

theorem exists_dying {c : Core} (h : dyingCount c ≠ 0) : ∃ (i : Nat) (e : Bool), c.conns[i]? = some (ConnSt.dying e) := by
  unfold dyingCount at h
  have : 0 < c.conns.countP isDying := Nat.pos_of_ne_zero h
  rw [List.countP_pos_iff] at this
  obtain ⟨x, hx, hd⟩ := this
  obtain ⟨i, hi⟩ := List.getElem?_of_mem hx
  cases x with
  | dying e => exact ⟨i, e, hi⟩
  | _ => cases hd

theorem isLiveAt_set_notLive (c : Core) (w : Nat) (x y : ConnSt) (hx : c.conns[w]? = some x) (h1 : x.isLive = false)
    (h2 : y.isLive = false) : SameLive c { c with conns := c.conns.set w y } := by
  intro i
  unfold isLiveAt
  rcases getElem?_set_cases y hx i with e | ⟨e1, e2⟩
  · exact congrArg (fun o => (o.map ConnSt.isLive).getD false) e
  · show ((c.conns.set w y)[i]?.map ConnSt.isLive).getD false = _
    rw [e1, e2]; simp [h1, h2]

theorem quiesce_lostRan {s : Sys} {i : Nat} {e : Bool} (hcalm : Calm s.core) (hi : s.core.conns[i]? = some (.dying e))
    (d : Nat) :
    Progress d (fun s => Calm s.core) quiesceLt s := by
  refine ⟨.envLostRan i, { s with core := { s.core with conns := s.core.conns.set i (.dead e) } }, rfl, by simp [step, hi],
    hcalm.set i (.dead e) (.inl rfl), rfl, .inr ⟨?_, ?_⟩⟩
  · exact countP_set_same ConnSt.isLive _ _ _ _ hi rfl
  · have hsl := isLiveAt_set_notLive s.core i _ (.dead e) hi rfl rfl
    have hd := countP_set_lt isDying s.core.conns i _ (.dead e) hi rfl rfl
    unfold mu
    show taskSum _ s.tasks + dyingCount _ < _
    rw [taskSum_sameLive hsl]
    unfold dyingCount
    show _ + (s.core.conns.set i (.dead e)).countP isDying < _
    omega

theorem pcAt_of {s : Sys} {t : Nat} {k : Task} (h : s.tasks[t]? = some k) : pcAt s t = some k.pc := by
  simp [pcAt, h]

theorem not_dying_of {c : Core} (h : dyingCount c = 0) (i : Nat) (e : Bool) : c.conns[i]? ≠ some (.dying e) := by
  intro hi
  unfold dyingCount at h
  have : 0 < c.conns.countP isDying := List.countP_pos_iff.2 ⟨_, List.mem_of_getElem? hi, rfl⟩
  omega

theorem quiesce_task {s : Sys} (hG : Good s) (hcalm : Calm s.core) (hdy : dyingCount s.core = 0) {t : Nat} {k : Task}
    (ht : s.tasks[t]? = some k) (hq : quiescentPc s.core k.pc = false) (d : Nat) :
    Progress d (fun s => Calm s.core) quiesceLt s := by
  have hp := pcAt_of ht
  have hkm : k ∈ s.tasks := List.mem_of_getElem? ht
  -- the task runs a block of `exec` whose continuation has a smaller rank
  have byExec : ∀ (a : Answer) (c0 : Core) (kont : Kont), benign d s (.run t a) = true →
      step s (.run t a) = some (upd s t (exec FUEL c0 [] kont)) → c0.conns = s.core.conns →
      rankK kont < rank s.core k.pc → Progress d (fun s => Calm s.core) quiesceLt s := by
    intro a c0 kont hb hst hc hr
    obtain ⟨h1, h2⟩ := quiesce_exec FUEL ht hcalm hc hr
    exact ⟨_, _, hb, hst, h1, (run_isOpen hst).2, h2⟩
  -- … or simply ends
  have byEnd : ∀ (a : Answer) (c0 : Core), benign d s (.run t a) = true →
      step s (.run t a) = some (upd s t ⟨c0, .finished, []⟩) → c0.conns = s.core.conns → c0.now = s.core.now →
      0 < rank s.core k.pc → Progress d (fun s => Calm s.core) quiesceLt s := by
    intro a c0 hb hst hc hn hr
    exact ⟨_, _, hb, hst, hcalm.same hc, hn, quiesceLt_plain ht hc (by simpa [rankU, sumU] using hr)⟩
  cases hpc : k.pc with
  | finished | connStart | connDelay | connOpening => rw [hpc] at hq; cases hq
  | closeGather => have := hG.noClose k hkm; rw [hpc] at this; cases this
  | cancelledOpening =>
    rw [hpc] at hp
    exact byEnd .go { s.core with connecting := false } rfl (by simp only [step, hp]) rfl rfl
      (by rw [hpc]; simp [rank, rankU])
  | readStart =>
    rw [hpc] at hp
    exact byExec .go s.core (.ret .readLoop) rfl (by simp only [step, hp]) rfl
      (by rw [hpc]; simp [rankK, rank, rankU, rankRet])
  | notifyWait r =>
    rw [hpc] at hp
    exact byExec .go s.core (.ret r) rfl (by simp only [step, hp]) rfl (by rw [hpc]; simp [rankK, rank, rankU])
  | discWait w r =>
    rw [hpc] at hp
    have hd := hG.h1.disc k hkm
    rw [hpc] at hd
    obtain ⟨hlen, hnl⟩ := hd
    have hdead : ∃ e, s.core.conns[w]? = some (.dead e) := by
      rw [List.getElem?_eq_getElem hlen]
      cases hx : s.core.conns[w] with
      | live p f => exact absurd (liveAt_iff_live.2 ⟨p, f, by rw [List.getElem?_eq_getElem hlen, hx]⟩) hnl
      | dying e => exfalso; exact not_dying_of hdy w e (by rw [List.getElem?_eq_getElem hlen, hx])
      | dead e => exact ⟨e, rfl⟩
    obtain ⟨e, he⟩ := hdead
    exact byExec .go s.core (.discTail (some w) r) rfl (by simp only [step, hp, he]) rfl
      (by rw [hpc]; simp [rankK, rank, rankU])
  | drainAwait w e r =>
    rw [hpc] at hp
    rcases Bool.eq_false_or_eq_true (isLiveAt s.core w) with hl | hl
    · -- the transport is healthy: the drain continues and empties the queue
      have hrw := hG.inv.core.live_rw w ((isLiveAt_iff _ _).1 hl)
      have hcon : s.core.isConnected = true := by rw [hG.inv.core.conn_rw, hrw]; rfl
      have hst : step s (.run t .drainOk) = some (upd s t (exec FUEL s.core [] (.drain r))) := by
        simp only [step, hp]
      obtain ⟨c', fuel, hs', hc', _, hex⟩ := exec_drain_FUEL s.core [] r w hcon hrw (hcalm.of_live hl)
      rw [hex] at hst
      have hrk : rankK (.ret r) < rank s.core k.pc := by rw [hpc]; simp [rankK, rank, rankU]
      obtain ⟨h1, h2⟩ := quiesce_exec fuel (c0 := c') (kont := .ret r) ht hcalm hc' hrk
      exact ⟨_, _, rfl, hst, h1, (run_isOpen hst).2, h2⟩
    · refine byExec .drainErr (requeue s.core e) (.disconnect (.resetTail r)) (by simp [benign, hp, hl]) ?_
        (requeue_conns _ _) (by rw [hpc]; simp [rankK, rank, rankU, rankRet])
      simp only [step, hp, ← isLiveAt_def, hl]
      rfl
  | readWait x =>
    rw [hpc] at hp hq
    have hnl : isLiveAt s.core x = false := hq
    have hrk : rankK (.disconnect (.resetTail .done)) < rank s.core k.pc := by
      rw [hpc]; simp [rankK, rank, rankRet, hnl]
    have hr0 : 0 < rank s.core k.pc := by rw [hpc]; simp [rank, hnl]
    rcases Bool.eq_false_or_eq_true (clientClosed s.core x) with hcc | hcc
    · have hb : benign d s (.run t .readEof) = true := by simp [benign, hp, hcc]
      cases hrw : s.core.rw with
      | none => exact byEnd .readEof s.core hb (by simp only [step, hp, hrw]) rfl rfl hr0
      | some w =>
        rcases Bool.eq_false_or_eq_true (isLiveAt s.core w) with hl | hl
        · exact byExec .readEof s.core _ hb (by simp only [step, hp, hrw, ← isLiveAt_def, hl, ↓reduceIte]) rfl hrk
        · exact byEnd .readEof s.core hb
            (by simp only [step, hp, hrw, ← isLiveAt_def, hl, Bool.false_eq_true, ↓reduceIte]) rfl rfl hr0
    · exact byExec .readErr s.core _ (by simp [benign, hp, hnl]) (by simp only [step, hp]) rfl hrk

theorem quiesce_progress {s : Sys} (hG : Good s) (hcalm : Calm s.core) (hq : ¬ Quiescent s) (d : Nat) :
    Progress d (fun s => Calm s.core) quiesceLt s := by
  by_cases hdy : dyingCount s.core = 0
  · have : ¬ (s.tasks.all (fun k => quiescentPc s.core k.pc) = true) := by
      intro h
      apply hq
      exact ⟨hdy, fun k hk => (List.all_eq_true.1 h) k hk⟩
    have this : s.tasks.all (fun k => quiescentPc s.core k.pc) = false := by simpa using this
    obtain ⟨k, hk, hkq⟩ := List.all_eq_false.1 this
    obtain ⟨t, ht⟩ := List.getElem?_of_mem hk
    exact quiesce_task hG hcalm hdy ht (by simpa using hkq) d
  · obtain ⟨i, e, hi⟩ := exists_dying hdy
    exact quiesce_lostRan hcalm hi d

theorem quiesceLt_wf : WellFounded quiesceLt :=
  Subrelation.wf (r := InvImage (Prod.Lex (· < ·) (· < ·)) fun s : Sys => (liveCount s.core, mu s))
    (fun {a b} h => show Prod.Lex _ _ (liveCount a.core, mu a) (liveCount b.core, mu b) from
      h.elim (.left _ _) fun ⟨e, h⟩ => e ▸ .right _ h)
    (InvImage.wf _ (Prod.lex Nat.lt_wfRel Nat.lt_wfRel).wf)

theorem quiesce (d : Nat) (s : Sys) (hG : Good s) (hcalm : Calm s.core) :
    ∃ s', BReach d s s' ∧ Calm s'.core ∧ Quiescent s' ∧ s'.core.now = s.core.now :=
  have ⟨s', h1, h2, h3, h4⟩ := BReach.of_progress (I := fun s => Good s ∧ Calm s.core) (Q := Quiescent) quiesceLt_wf
    (fun _ hI hq => (quiesce_progress hI.1 hI.2 hq d).imp fun _ _ hb hst hc => ⟨hI.1.next hb hst, hc⟩) s ⟨hG, hcalm⟩
  ⟨s', h1, h2.2, h3, h4⟩

/-! ### phase C: connecting -/

theorem exec_connAfterNotify_live (c : Core) (w : Nat) (hcon : c.isConnected = true)
    (hrw : c.rw = some w) (hl : c.conns[w]? = some (.live false false)) :
    ∃ c', Shrink c c' ∧ c'.conns = c.conns ∧ c'.queue = [] ∧
      exec FUEL c [] (.ret .connAfterNotify) = ⟨c', .finished, [.readStart]⟩ := by
  obtain ⟨c', h1, h2, h3, h4⟩ := exec_drain_live 14 c [] .connAfterDrain w hcon hrw hl
  refine ⟨c', h1, h2, h3, ?_⟩
  have : exec FUEL c [] (.ret .connAfterNotify) = exec (14 + 1) c [] (.drain .connAfterDrain) := rfl
  rw [this, h4]
  have hc' : c'.isConnected = true := h1.isConnected.trans hcon
  simp [exec, hc']

/-- program counters of phase C; `connDelay` deadlines have passed, readers read live transports -/
def phaseCPc (c : Core) : Pc → Bool
  | .finished | .connStart | .connOpening | .readStart | .notifyWait .connAfterNotify => true
  | .connDelay due => decide (due ≤ c.now)
  | .readWait x => isLiveAt c x
  | _ => false

/-- ranks of phase C: they fall along the path of a connection attempt, `connStart` / `connDelay` 12 > `connOpening`
    11 > `notifyWait .connAfterNotify` 9 > the `readStart` it spawns 5 > a reader of the live transport 0; an attempt
    that finds `is_connected` set ends at once (0) -/
def rankC : Pc → Nat
  | .connStart | .connDelay _ => 12
  | .connOpening => 11
  | .notifyWait _ => 9
  | .readStart => 5
  | _ => 0

def muC (s : Sys) : Nat := (s.tasks.map (fun k => rankC k.pc)).sum

/-- the task is past `openOk`: inside the connection notification, or about to start the read loop -/
def pastOpenOk : Pc → Bool
  | .notifyWait _ | .readStart => true
  | _ => false

structure PhaseC (s : Sys) : Prop where
  good : Good s
  pcs : ∀ k ∈ s.tasks, phaseCPc s.core k.pc = true
  live : s.core.isConnected = true → ∃ w, s.core.rw = some w ∧ s.core.conns[w]? = some (.live false false)
  act : (∃ k ∈ s.tasks, pastOpenOk k.pc = true) → s.core.isConnected = true

theorem muC_upd {s : Sys} {t : Nat} {k0 : Task} {out : Out} (ht : s.tasks[t]? = some k0) :
    muC (upd s t out) + rankC k0.pc = muC s + rankC out.pc + (out.spawned.map rankC).sum := by
  simpa [muC, bgTask] using (upd_ran out ht).sum_map (fun k => rankC k.pc)

theorem PhaseC.upd {s : Sys} (h : PhaseC s) {t : Nat} {k : Task} {out : Out} (ht : s.tasks[t]? = some k)
    (hg : Good (upd s t out)) (hpc : phaseCPc out.core out.pc = true)
    (hsp : ∀ p ∈ out.spawned, phaseCPc out.core p = true)
    (hmono : ∀ p, phaseCPc s.core p = true → phaseCPc out.core p = true)
    (hlive : out.core.isConnected = true → ∃ w, out.core.rw = some w ∧ out.core.conns[w]? = some (.live false false))
    (hcon : s.core.isConnected = true → out.core.isConnected = true)
    (hnew : (pastOpenOk out.pc = true ∨ ∃ p ∈ out.spawned, pastOpenOk p = true) → out.core.isConnected = true) :
    PhaseC (upd s t out) := by
  refine ⟨hg,
    (upd_ran out ht).forall_pc (P := (phaseCPc out.core · = true)) (fun k hk => hmono _ (h.pcs k hk)) hpc hsp,
    hlive, ?_⟩
  · rintro ⟨k, hk, ha⟩
    rcases (upd_ran out ht).mem_after hk with rfl | hk | ⟨p, hp, rfl⟩
    · exact hnew (.inl ha)
    · exact hcon (h.act ⟨k, (upd_ran out ht).rest_mem_before hk, ha⟩)
    · exact hnew (.inr ⟨p, hp, ha⟩)

theorem phaseCPc_congr {c c' : Core} (hn : c'.now = c.now) (hc : c'.conns = c.conns) (p : Pc) :
    phaseCPc c' p = phaseCPc c p := by
  cases p <;> simp [phaseCPc, hn, isLiveAt, hc]

theorem connectBlock_facts (c : Core) :
    (connectBlock c).core.conns = c.conns ∧ (connectBlock c).core.rw = c.rw ∧ (connectBlock c).core.now = c.now ∧
    (connectBlock c).core.isConnected = c.isConnected ∧
    ((connectBlock c).pc = .finished ∨ (connectBlock c).pc = .connOpening) ∧ (connectBlock c).spawned = [] := by
  unfold connectBlock
  split
  · exact ⟨rfl, rfl, rfl, rfl, .inl rfl, rfl⟩
  · exact ⟨rfl, rfl, rfl, rfl, .inr rfl, rfl⟩

theorem phaseC_connect {s : Sys} (h : PhaseC s) (d : Nat) {t : Nat} {k : Task} (ht : s.tasks[t]? = some k)
    (hst : step s (.run t .go) = some (upd s t (connectBlock s.core))) (hr : rankC k.pc = 12) :
    Progress d PhaseC (fun s' s => muC s' < muC s) s := by
  obtain ⟨f1, f2, f3, f4, f5, f6⟩ := connectBlock_facts s.core
  refine ⟨_, _, rfl, hst, ?_, f3, ?_⟩
  · refine h.upd ht (h.good.next (d := d) (l := .run t .go) rfl hst) ?_ ?_ ?_ ?_ ?_ ?_
    · rcases f5 with e | e <;> rw [e] <;> rfl
    · rw [f6]; intro p hp; cases hp
    · intro p hp; rw [phaseCPc_congr f3 f1]; exact hp
    · intro hc; rw [f2, f1]; exact h.live (f4 ▸ hc)
    · intro hc; rw [f4]; exact hc
    · rintro (ha | ⟨p, hp, _⟩)
      · rcases f5 with e | e <;> rw [e] at ha <;> cases ha
      · rw [f6] at hp; cases hp
  · have := muC_upd (out := connectBlock s.core) ht
    rw [f6, hr] at this
    rcases f5 with e | e <;> rw [e] at this <;> simp [rankC] at this <;> omega

theorem isLiveAt_append {c : Core} {x : Nat} (a : ConnSt) (h : isLiveAt c x = true) (evs : List Ev) (r : Option Nat)
    (b1 b2 : Bool) :
    isLiveAt { c with conns := c.conns ++ [a], rw := r, connecting := b1, isConnected := b2, trace := evs } x = true := by
  obtain ⟨p, f, hpf⟩ := isLiveAt_cases h
  unfold isLiveAt at *
  simp only [List.getElem?_append_left (List.getElem?_eq_some_iff.1 hpf).1]
  exact h

theorem phaseC_progress {s : Sys} (h : PhaseC s) (d : Nat) {t : Nat} {k : Task} (ht : s.tasks[t]? = some k)
    (hk : k.pc ≠ .finished ∧ ∀ x, k.pc ≠ .readWait x) :
    Progress d PhaseC (fun s' s => muC s' < muC s) s := by
  have hp := pcAt_of ht
  have hkm : k ∈ s.tasks := List.mem_of_getElem? ht
  have hc := h.pcs k hkm
  cases hpc : k.pc with
  | finished => exact absurd hpc hk.1
  | readWait x => exact absurd hpc (hk.2 x)
  | closeGather | cancelledOpening | drainAwait | discWait => rw [hpc] at hc; cases hc
  | connStart =>
    rw [hpc] at hp
    exact phaseC_connect h d ht (by simp only [step, hp]) (by rw [hpc]; rfl)
  | connDelay due =>
    rw [hpc] at hp hc
    have hdue : due ≤ s.core.now := by simpa [phaseCPc] using hc
    exact phaseC_connect h d ht (by simp only [step, hp, hdue, ↓reduceIte]) (by rw [hpc]; rfl)
  | connOpening =>
    rw [hpc] at hp
    have hst : step s (.run t .openOk) = some (upd s t
        ⟨({ s.core with conns := s.core.conns ++ [ConnSt.live false false], rw := some s.core.conns.length,
                        connecting := false, isConnected := true }.emit
            (.opened s.core.conns.length s.core.now)).emit (.notify true s.core.now),
         .notifyWait .connAfterNotify, []⟩) := by
      simp only [step, hp]
    refine ⟨_, _, rfl, hst, ?_, rfl, ?_⟩
    · refine h.upd ht (h.good.next (d := d) (l := .run t .openOk) rfl hst) rfl (by simp) ?_ ?_ (fun _ => rfl)
        (fun _ => rfl)
      · intro p hp'
        cases p with
        | readWait x => exact isLiveAt_append _ hp' _ _ _ _
        | notifyWait r => cases r <;> exact hp'
        | _ => exact hp'
      · intro _
        exact ⟨s.core.conns.length, rfl, by simp [Core.emit]⟩
    · refine Nat.lt_of_add_lt_add_right (n := rankC k.pc) ?_
      rw [muC_upd ht, hpc]
      simp [rankC]
  | notifyWait r =>
    rw [hpc] at hp hc
    have hr : r = .connAfterNotify := by revert hc; cases r <;> simp [phaseCPc]
    subst hr
    have hcon := h.act ⟨k, hkm, by rw [hpc]; rfl⟩
    obtain ⟨w, hrw, hl⟩ := h.live hcon
    obtain ⟨c', h1, h2, _, h4⟩ := exec_connAfterNotify_live s.core w hcon hrw hl
    have hst : step s (.run t .go) = some (upd s t ⟨c', .finished, [.readStart]⟩) := by
      simp only [step, hp, h4]
    refine ⟨_, _, rfl, hst, ?_, h1.now, ?_⟩
    · refine h.upd ht (h.good.next (d := d) (l := .run t .go) rfl hst) rfl ?_ ?_ ?_ ?_ ?_
      · intro p hp'; simp only [List.mem_singleton] at hp'; subst hp'; rfl
      · intro p hp'; rw [phaseCPc_congr h1.now h2]; exact hp'
      · intro _; exact ⟨w, h1.rw.trans hrw, by show c'.conns[w]? = _; rw [h2]; exact hl⟩
      · intro _; exact h1.isConnected.trans hcon
      · intro _; exact h1.isConnected.trans hcon
    · have := muC_upd (out := ⟨c', .finished, [.readStart]⟩) ht
      rw [hpc] at this
      simp [rankC] at this
      omega
  | readStart =>
    rw [hpc] at hp
    have hcon := h.act ⟨k, hkm, by rw [hpc]; rfl⟩
    obtain ⟨w, hrw, hl⟩ := h.live hcon
    have hst : step s (.run t .go) = some (upd s t ⟨s.core, .readWait w, []⟩) := by
      simp [step, hp, FUEL_eq, exec, hrw]
    refine ⟨_, _, rfl, hst, ?_, rfl, ?_⟩
    · refine h.upd ht (h.good.next (d := d) (l := .run t .go) rfl hst) ?_ (by simp) (fun _ hp' => hp') h.live
        (fun hc' => hc') (fun _ => hcon)
      simp [phaseCPc, isLiveAt, hl, ConnSt.isLive]
    · have := muC_upd (out := ⟨s.core, .readWait w, []⟩) ht
      rw [hpc] at this
      simp [rankC] at this
      omega

def doneC : Pc → Bool
  | .finished | .readWait _ => true
  | _ => false

theorem phaseC_loop (d : Nat) (s : Sys) (h : PhaseC s) :
    ∃ s', BReach d s s' ∧ PhaseC s' ∧ (∀ k ∈ s'.tasks, doneC k.pc = true) ∧ s'.core.now = s.core.now := by
  refine BReach.of_progress (I := PhaseC) (Q := fun s => ∀ k ∈ s.tasks, doneC k.pc = true)
    (r := fun s' s => muC s' < muC s) (measure muC).wf ?_ s h
  intro s h hq
  have hall : s.tasks.all (fun k => doneC k.pc) = false :=
    Bool.eq_false_iff.2 fun e => hq fun k hk => List.all_eq_true.1 e k hk
  obtain ⟨k, hk, hkd⟩ := List.all_eq_false.1 hall
  obtain ⟨t, ht⟩ := List.getElem?_of_mem hk
  exact phaseC_progress h d ht ⟨fun e => by rw [e] at hkd; exact hkd rfl, fun x e => by rw [e] at hkd; exact hkd rfl⟩

theorem healed_of_done {s : Sys} (h : PhaseC s) (hd : ∀ k ∈ s.tasks, doneC k.pc = true) : Healed s := by
  have hG := h.good
  have hcon : s.core.isConnected = true := by
    rcases Bool.eq_false_or_eq_true s.core.isConnected with hc | hc
    · exact hc
    · obtain ⟨k, hk, hr⟩ := hG.h2.reconn hG.isOpen hG.notClosing hc
      have := hd k hk
      revert hr this; cases k.pc <;> simp [reconnPc, doneC]
  obtain ⟨w, hrw, hl⟩ := h.live hcon
  refine ⟨hG.isOpen, hcon, ?_, ?_, w, hrw, hl, ?_, ?_⟩
  · rcases Bool.eq_false_or_eq_true s.core.connecting with hc | hc
    · have := hG.inv.core.connecting hc; rw [hcon] at this; cases this
    · exact hc
  · cases hq : s.core.queue with
    | nil => rfl
    | cons e q =>
      obtain ⟨k, hk, hp⟩ := hG.iinv.busy hcon (by rw [hq]; simp) (by simp [SockIdle.curLive, hrw, hl, ConnSt.isLive])
      have := hd k hk
      revert hp this; cases k.pc <;> simp [SockIdle.promising, doneC]
  · rcases hG.h2.watch hG.isOpen w hrw with ⟨k, hk, r, hr⟩ | ⟨_, k, hk, hch⟩
    · have := hd k hk; rw [hr] at this; cases this
    · refine ⟨k, hk, ?_⟩
      have := hd k hk
      revert hch this; cases k.pc <;> simp [chainPc, doneC]
  · intro k hk
    have h1 := hd k hk
    have h2 := h.pcs k hk
    cases hp : k.pc with
    | finished => exact .inl rfl
    | readWait x =>
      right
      rw [hp] at h2
      have : liveAt s.core x := (isLiveAt_iff _ _).1 h2
      have := hG.inv.core.live_rw x this
      rw [hrw] at this; cases this; rfl
    | _ => rw [hp] at h1; cases h1

theorem phaseC_of_quiescent {d : Nat} {s s' : Sys} (hG : Good s) (hcalm : Calm s.core) (hq : Quiescent s)
    (hd : d = s.core.now + RETRY_DELAY) (hst : step s (.advance d) = some s') : PhaseC s' := by
  have hs' : s' = { s with core := { s.core with now := d } } := by
    simp only [step] at hst
    split at hst
    · exact (Option.some.inj hst).symm
    · cases hst
  have hG' : Good s' := hG.next (d := d) (l := .advance d) (by simp [benign]) hst
  subst hs'
  refine ⟨hG', ?_, ?_, ?_⟩
  · intro k hk
    have h1 := hq.2 k hk
    have h2 := hG.h1.delay k hk
    cases hp : k.pc with
    | connDelay due =>
      rw [hp] at h2
      simp only [phaseCPc, decide_eq_true_eq]
      exact hd ▸ h2
    | readWait x => rw [hp] at h1; exact h1
    | finished => rfl
    | connStart => rfl
    | connOpening => rfl
    | _ => rw [hp] at h1; cases h1
  · intro hcon
    have hcon' : s.core.isConnected = true := hcon
    have hrw : ∃ w, s.core.rw = some w := by
      have := hG.inv.core.conn_rw
      rw [hcon'] at this
      cases h : s.core.rw with
      | none => rw [h] at this; cases this
      | some w => exact ⟨w, rfl⟩
    obtain ⟨w, hrw⟩ := hrw
    refine ⟨w, hrw, ?_⟩
    show s.core.conns[w]? = _
    rcases hG.h2.watch hG.isOpen w hrw with ⟨k, hk, r, hr⟩ | ⟨_, k, hk, hch⟩
    · have := hq.2 k hk; rw [hr] at this; cases this
    · have h1 := hq.2 k hk
      have hl : isLiveAt s.core w = true := by
        revert hch h1; cases k.pc <;> simp [chainPc, quiescentPc]
        intro e h; subst e; exact h
      exact hcalm.of_live hl
  · rintro ⟨k, hk, ha⟩
    have h1 := hq.2 k hk
    revert ha h1; cases k.pc <;> simp [pastOpenOk, quiescentPc]

/-- **never wedged**: from every state reachable under the calling discipline and the EOF rule in
    which the socket is open, a sequence of benign labels - in which the clock does not pass
    `now + RETRY_DELAY` - leads to a healed state -/
theorem heal_reach {s : Sys} (h : ReachableH s) (ho : s.core.isOpen = true) :
    ∃ s', BReach (s.core.now + RETRY_DELAY) s s' ∧ Healed s' ∧ s'.core.now ≤ s.core.now + RETRY_DELAY := by
  have hG : Good s := ⟨h, ho⟩
  obtain ⟨sA, rA, cA, nA⟩ := calm_reach (s.core.now + RETRY_DELAY) hG
  have hGA := hG.breach rA
  obtain ⟨sB, rB, cB, qB, nB⟩ := quiesce (s.core.now + RETRY_DELAY) sA hGA cA
  have hGB := hGA.breach rB
  have hnow : sB.core.now = s.core.now := nB.trans nA
  have hst : step sB (.advance (s.core.now + RETRY_DELAY)) =
      some { sB with core := { sB.core with now := s.core.now + RETRY_DELAY } } := by
    simp only [step]
    rw [if_pos (by rw [hnow]; exact Nat.le_add_right _ _)]
  have hPC := phaseC_of_quiescent hGB cB qB (by rw [hnow]) hst
  obtain ⟨s', rC, pC, dC, nC⟩ := phaseC_loop (s.core.now + RETRY_DELAY) _ hPC
  refine ⟨s', rA.trans (rB.trans (.cons _ (by simp [benign]) hst rC)), healed_of_done pC dC, ?_⟩
  rw [nC]
  exact Nat.le_refl _

theorem never_wedges {s : Sys} (h : ReachableH s) (ho : s.core.isOpen = true) :
    ∃ ls s', benignRun (s.core.now + RETRY_DELAY) s ls = true ∧ run s ls = some s' ∧ Healed s' ∧
      s'.core.now ≤ s.core.now + RETRY_DELAY := by
  obtain ⟨s', hr, hh, hn⟩ := heal_reach h ho
  obtain ⟨ls, h1, h2⟩ := hr.toRun
  exact ⟨ls, s', h1, h2, hh, hn⟩

theorem progress_possible {s : Sys} (h : ReachableH s) (ho : s.core.isOpen = true) (hn : ¬ Healed s) :
    ∃ l s1 s', benign (s.core.now + RETRY_DELAY) s l = true ∧ step s l = some s1 ∧
      BReach (s.core.now + RETRY_DELAY) s1 s' ∧ Healed s' := by
  obtain ⟨s', hr, hh, _⟩ := heal_reach h ho
  cases hr with
  | refl => exact absurd hh hn
  | cons l hb hs hr' => exact ⟨l, _, s', hb, hs, hr', hh⟩

/-! ### a decidable test for `Healed` (for the examples) -/

def healedB (s : Sys) : Bool :=
  s.core.isOpen && s.core.isConnected && !s.core.connecting && s.core.queue.isEmpty &&
  match s.core.rw with
  | some w => decide (s.core.conns[w]? = some (.live false false)) && s.tasks.any (fun k => k.pc == .readWait w) &&
      s.tasks.all (fun k => k.pc == .finished || k.pc == .readWait w)
  | none => false

theorem healed_of_healedB {s : Sys} (h : healedB s = true) : Healed s := by
  unfold healedB at h
  cases hrw : s.core.rw with
  | none => rw [hrw] at h; simp at h
  | some w =>
    rw [hrw] at h
    simp only [Bool.and_eq_true, Bool.not_eq_eq_eq_not, Bool.not_true, List.isEmpty_iff, decide_eq_true_eq,
      List.any_eq_true, beq_iff_eq, List.all_eq_true, Bool.or_eq_true] at h
    obtain ⟨⟨⟨⟨h1, h2⟩, h3⟩, h4⟩, ⟨h5, h6⟩, h7⟩ := h
    exact ⟨h1, h2, h3, h4, w, hrw, h5, h6, h7⟩

theorem healedB_of_healed {s : Sys} (h : Healed s) : healedB s = true := by
  obtain ⟨h1, h2, h3, h4, w, hrw, h5, h6, h7⟩ := h
  unfold healedB
  rw [hrw]
  simp only [Bool.and_eq_true, Bool.not_eq_eq_eq_not, Bool.not_true, List.isEmpty_iff, decide_eq_true_eq,
    List.any_eq_true, beq_iff_eq, List.all_eq_true, Bool.or_eq_true]
  exact ⟨⟨⟨⟨h1, h2⟩, h3⟩, h4⟩, ⟨h5, h6⟩, h7⟩

theorem not_healed_of_healedB {s : Sys} (h : healedB s = false) : ¬ Healed s := by
  intro hh; rw [healedB_of_healed hh] at h; cases h

/-! ### states from which no benign label sequence heals -/

/-- every task has finished and no transport is live: only the clock moves -/
def Stuck (s : Sys) : Prop := (∀ k ∈ s.tasks, k.pc = .finished) ∧ ∀ x ∈ s.core.conns, x.isLive = false

theorem stuck_step {d : Nat} {s s' : Sys} {l : Label} (h : Stuck s) (hb : benign d s l = true)
    (hs : step s l = some s') : Stuck s' := by
  rcases benign_step hb hs with ⟨c', rfl, he⟩ | ⟨t, a, k0, rfl, hk0, hne⟩
  · have hr := he.rel
    refine ⟨h.1, fun x hx => ?_⟩
    obtain ⟨i, hi⟩ := List.getElem?_of_mem hx
    rcases hr.conns i with e | ⟨x0, y, hx0, hy, hm⟩
    · exact h.2 x (List.mem_of_getElem? (e ▸ hi))
    · have h0 := h.2 x0 (List.mem_of_getElem? hx0)
      rw [hi] at hy; cases hy
      cases hm <;> first | rfl | cases h0
  · exact absurd (h.1 k0 (List.mem_of_getElem? hk0)) hne

theorem stuck_never_heals {d : Nat} {s s' : Sys} (h : Stuck s) (hr : BReach d s s') : ¬ Healed s' := by
  intro hh
  obtain ⟨w, _, hl, _⟩ := hh.conn
  cases (hr.invariant (fun _ _ _ h hb hs => stuck_step h hb hs) h).2 _ (List.mem_of_getElem? hl)

/-! ### readers of a live transport stay: "exactly one reader" cannot be restored by benign labels -/

theorem isLiveAt_set_other (c : Core) (cid w : Nat) {x0 : ConnSt} (x : ConnSt) (h : isLiveAt c w = true)
    (hx0 : c.conns[cid]? = some x0) (hx : x0.isLive = true → x.isLive = true) :
    isLiveAt { c with conns := c.conns.set cid x } w = true := by
  unfold isLiveAt at *
  rcases getElem?_set_cases x hx0 w with e | ⟨e1, e2⟩
  · exact (congrArg (fun o => (o.map ConnSt.isLive).getD false) e).trans h
  · show ((c.conns.set cid x)[w]?.map ConnSt.isLive).getD false = true
    rw [e1] at h; rw [e2]; exact hx h

theorem readers_step {d : Nat} {s s' : Sys} {l : Label} {w : Nat}
    (h1 : ∀ k ∈ s.tasks, k.pc = .finished ∨ k.pc = .readWait w) (h2 : isLiveAt s.core w = true)
    (hb : benign d s l = true) (hs : step s l = some s') : s'.tasks = s.tasks ∧ isLiveAt s'.core w = true := by
  rcases benign_step hb hs with ⟨c', rfl, he⟩ | ⟨t, a, k, rfl, hk, hne⟩
  · cases he with
    | advance => exact ⟨rfl, h2⟩
    | lost => cases hb
    | lostRan cid e he => exact ⟨rfl, isLiveAt_set_other _ _ _ _ h2 he nofun⟩
    | pause _ _ _ _ hc | failWrites _ _ _ _ hc => exact ⟨rfl, isLiveAt_set_other _ _ _ _ h2 hc (fun _ => rfl)⟩
  exfalso
  rcases h1 k (List.mem_of_getElem? hk) with e | e
  · exact hne e
  · -- a reader of a live transport that the client has not closed: no benign answer is enabled
    have hp : pcAt s t = some (.readWait w) := pcAt_eq.2 ⟨k, hk, e⟩
    have hcc : clientClosed s.core w = false := by
      obtain ⟨p, f, hx⟩ := isLiveAt_cases h2
      simp only [clientClosed, hx]
    cases a <;> first | (simp [step, hp] at hs; done) | (simp [benign, hp, h2, hcc] at hb; done)

theorem readers_persist {d : Nat} {s s' : Sys} {w : Nat}
    (h1 : ∀ k ∈ s.tasks, k.pc = .finished ∨ k.pc = .readWait w) (h2 : isLiveAt s.core w = true)
    (hr : BReach d s s') : s'.tasks = s.tasks :=
  (hr.invariant (P := fun x => x.tasks = s.tasks ∧ isLiveAt x.core w = true)
    (fun _ _ _ hx hb hs => have ⟨e1, e2⟩ := readers_step (hx.1 ▸ h1) hx.2 hb hs; ⟨e1.trans hx.1, e2⟩) ⟨rfl, h2⟩).1

end PyAirtouch.Lemmas.SockHeal
