/-!
# A loop that threads a state and collects outputs

The API models run a script, and process the records of one message, by the same recursion: apply a step to the state,
keep its outputs, go on with the rest (`Api4.foldEv`, `Api4.run`, `Api5.runSteps`, and `Api5.run` through `runS`/`runOut`).  `foldW` is that
recursion for any step function.  What holds along such a loop is shown by `foldW_ind`: an invariant of the state, and
for every output the element whose step produced it; two loops side by side are compared by `foldW_sim`.
-/
namespace PyAirtouch.Lemmas.FoldW

universe u v w
variable {σ τ : Type u} {α : Type v} {ε : Type w}

def foldW (f : σ → α → σ × List ε) : σ → List α → σ × List ε
  | s, [] => (s, [])
  | s, x :: xs => ((foldW f (f s x).1 xs).1, (f s x).2 ++ (foldW f (f s x).1 xs).2)

theorem foldW_append (f : σ → α → σ × List ε) (s : σ) (a b : List α) :
    foldW f s (a ++ b) = ((foldW f (foldW f s a).1 b).1, (foldW f s a).2 ++ (foldW f (foldW f s a).1 b).2) := by
  induction a generalizing s with
  | nil => rfl
  | cons x xs ih => simp only [List.cons_append, foldW, ih, List.append_assoc]

theorem foldW_ind {I : σ → Prop} {O : α → ε → Prop} {f : σ → α → σ × List ε} :
    ∀ (l : List α) (s : σ), I s → (∀ s, ∀ x ∈ l, I s → I (f s x).1 ∧ ∀ e ∈ (f s x).2, O x e) →
      I (foldW f s l).1 ∧ ∀ e ∈ (foldW f s l).2, ∃ x ∈ l, O x e
  | [], _, hs, _ => ⟨hs, nofun⟩
  | x :: xs, s, hs, h =>
    have ⟨h1, h2⟩ := h s x List.mem_cons_self hs
    have ⟨r1, r2⟩ := foldW_ind xs (f s x).1 h1 fun s y hy => h s y (List.mem_cons_of_mem _ hy)
    ⟨r1, fun e he => (List.mem_append.1 he).elim (fun he => ⟨x, List.mem_cons_self, h2 e he⟩)
      fun he => (r2 e he).imp fun _ ⟨hy, ho⟩ => ⟨List.mem_cons_of_mem _ hy, ho⟩⟩

theorem foldW_inv {I : σ → Prop} {f : σ → α → σ × List ε} (l : List α) (s : σ) (hs : I s)
    (h : ∀ s, ∀ x ∈ l, I s → I (f s x).1) : I (foldW f s l).1 :=
  (foldW_ind (O := fun _ _ => True) l s hs fun s x hx hi => ⟨h s x hx hi, fun _ _ => trivial⟩).1

theorem foldW_noop {f : σ → α → σ × List ε} {s : σ} {l : List α} (h : ∀ x ∈ l, f s x = (s, [])) :
    foldW f s l = (s, []) := by
  induction l with
  | nil => rfl
  | cons x xs ih => rw [foldW, h x List.mem_cons_self, ih fun y hy => h y (List.mem_cons_of_mem _ hy)]; rfl

theorem foldW_sim {R : σ → τ → Prop} {p : α → Prop} {f : σ → α → σ × List ε} {g : τ → α → τ × List ε} :
    ∀ (l : List α) (a : σ) (b : τ), R a b →
      (∀ a b, ∀ x ∈ l, R a b → R (f a x).1 (g b x).1 ∧ (p x → (f a x).2 = (g b x).2)) →
      R (foldW f a l).1 (foldW g b l).1 ∧ ((∀ x ∈ l, p x) → (foldW f a l).2 = (foldW g b l).2)
  | [], _, _, hr, _ => ⟨hr, fun _ => rfl⟩
  | x :: xs, a, b, hr, h =>
    have ⟨h1, h2⟩ := h a b x List.mem_cons_self hr
    have ⟨r1, r2⟩ := foldW_sim xs _ _ h1 fun a b y hy => h a b y (List.mem_cons_of_mem _ hy)
    ⟨r1, fun hp => by
      simp only [foldW, h2 (hp x List.mem_cons_self), r2 fun y hy => hp y (List.mem_cons_of_mem _ hy)]⟩

end PyAirtouch.Lemmas.FoldW
