import PyAirtouch.Lemmas.Api5
/-!
# Lemmas about subscriber sets and the entity look-ups of the AirTouch 5 API model
-/
namespace PyAirtouch.Lemmas.Api5
open PyAirtouch.Model PyAirtouch.Model.Api5 PyAirtouch.Model.At5 PyAirtouch.Model.At5.Registry
open PyAirtouch.Gen PyAirtouch.Gen.Api5

theorem mem_subAdd (l : List Sub) (x y : Sub) : y ∈ subAdd l x ↔ y ∈ l ∨ y = x := by
  unfold subAdd
  split
  · rename_i h
    have hx : x ∈ l := by simpa using h
    constructor
    · exact .inl
    · rintro (h | rfl)
      · exact h
      · exact hx
  · simp

theorem subAdd_of_mem (l : List Sub) (x : Sub) (h : x ∈ l) : subAdd l x = l := by
  unfold subAdd
  simp [h]

theorem subAdd_idem (l : List Sub) (x : Sub) : subAdd (subAdd l x) x = subAdd l x := by
  by_cases hx : x ∈ l
  · rw [subAdd_of_mem l x hx, subAdd_of_mem l x hx]
  · exact subAdd_of_mem _ _ ((mem_subAdd l x x).2 (.inr rfl))

theorem subAdd_nodup (l : List Sub) (x : Sub) (h : l.Nodup) : (subAdd l x).Nodup := by
  unfold subAdd
  split
  · exact h
  · rename_i hx
    have hx : x ∉ l := by simpa using hx
    rw [List.nodup_append]
    refine ⟨h, by simp, ?_⟩
    intro a ha b hb
    simp at hb; subst hb
    intro hab; subst hab; exact hx ha

theorem mem_subDel (l : List Sub) (x y : Sub) : y ∈ subDel l x ↔ y ∈ l ∧ y ≠ x := by
  simp [subDel]

theorem not_mem_subDel (l : List Sub) (x : Sub) : x ∉ subDel l x := by
  simp [mem_subDel]

theorem subDel_of_not_mem (l : List Sub) (x : Sub) (h : x ∉ l) : subDel l x = l := by
  unfold subDel
  rw [List.filter_eq_self]
  intro a ha
  simp
  intro hax; subst hax; exact h ha

theorem setAc_setAc (s : State) (r : Nat) (a b : AcObj) : (s.setAc r a).setAc r b = s.setAc r b := by
  simp [State.setAc, modifyAt_const_twice]

theorem setZone_setZone (s : State) (r : Nat) (a b : ZoneObj) : (s.setZone r a).setZone r b = s.setZone r b := by
  simp [State.setZone, modifyAt_const_twice]


/-- the two look-ups of the harness (`_ac`, `_zone`): a reference from a dict, then the object from the heap -/
theorem bind_pair_eq_some {α} {o : Option Nat} {g : Nat → Option α} {r : Nat} {a : α} :
    (do let r ← o; let a ← g r; pure (r, a)) = some (r, a) ↔ o = some r ∧ g r = some a := by
  simp only [bind, Option.bind_eq_some_iff, pure, Option.some.injEq, Prod.mk.injEq]
  constructor
  · rintro ⟨r', h1, a', h2, rfl, rfl⟩; exact ⟨h1, h2⟩
  · rintro ⟨h1, h2⟩; exact ⟨r, h1, a, h2, rfl, rfl⟩

theorem ac?_eq {s : State} {id r : Nat} {a : AcObj} :
    s.ac? id = some (r, a) ↔ s.acRef id = some r ∧ s.aobjs[r]? = some a := bind_pair_eq_some

theorem ac?_setAc {s : State} {id r : Nat} {a a' : AcObj} (h : s.ac? id = some (r, a)) :
    (s.setAc r a').ac? id = some (r, a') := by
  obtain ⟨h1, h2⟩ := ac?_eq.1 h
  refine ac?_eq.2 ⟨h1, ?_⟩
  simp [State.setAc, modifyAt_get_same, h2]

theorem zone?_eq {s : State} {id r : Nat} {z : ZoneObj} :
    s.zone? id = some (r, z) ↔ s.zoneRefOf id = some r ∧ s.zobjs[r]? = some z := bind_pair_eq_some

theorem zoneRefOf_setZone {s : State} {r : Nat} {z z' : ZoneObj} (n : Nat) (hz : s.zobjs[r]? = some z) (hid : z'.id = z.id) :
    (s.setZone r z').zoneRefOf n = s.zoneRefOf n := by
  have hp : (s.setZone r z').zoneHasId n = s.zoneHasId n := by
    funext r'
    simp only [State.zoneHasId, State.setZone]
    by_cases h : r = r'
    · subst h; simp [modifyAt_get_same, hz, hid]
    · rw [modifyAt_get_other _ _ _ _ h]
  unfold State.zoneRefOf
  rw [hp]
  rfl

theorem zone?_setZone {s : State} {id r : Nat} {z z' : ZoneObj} (h : s.zone? id = some (r, z)) (hid : z'.id = z.id) :
    (s.setZone r z').zone? id = some (r, z') := by
  obtain ⟨h1, h2⟩ := zone?_eq.1 h
  refine zone?_eq.2 ⟨by rw [zoneRefOf_setZone id h2 hid]; exact h1, ?_⟩
  simp [State.setZone, modifyAt_get_same, h2]

end PyAirtouch.Lemmas.Api5
