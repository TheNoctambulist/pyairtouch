import PyAirtouch.Lemmas.SockConn
import PyAirtouch.Lemmas.SockDoes
/-!
# The queue and trace of the socket model as an abstract transition system

`AStep` is what the model can do to the part of the state the queue / retry properties talk about (`Abs`:
identities used so far, clock, queue, trace, entries held in flight by tasks suspended in `drain()`).  It is the coarse
view of `SockDoes.Does` (`Does.astep`): it forgets transports and flags, lets the queue shrink to any sublist and logs
any event that is neither an acceptance nor a write.  Invariants that need no more than that are proved once per
abstract step; every run of the model, with or without cancelled callers, is a run of `AStep` (`runX_abs_from`).
-/
namespace PyAirtouch.Lemmas.Sock
open PyAirtouch.Model.Sock PyAirtouch.Spec.Trace

def sendSids (ls : List Label) : List Nat :=
  ls.filterMap fun | .apiSend sid _ _ _ => some sid | _ => none

/-- reachable by a label sequence whose sends carry pairwise distinct ids -/
def ReachableWF (s : Sys) : Prop := ∃ ls, (sendSids ls).Nodup ∧ run init ls = some s

theorem ReachableWF.reachable {s : Sys} (h : ReachableWF s) : Reachable s :=
  let ⟨ls, _, h⟩ := h; ⟨ls, h⟩

theorem run_induction {P : List Label → Sys → Prop} (h0 : P [] init)
    (hs : ∀ ls s l s', run init ls = some s → P ls s → step s l = some s' → P (ls ++ [l]) s') :
    ∀ ls s, run init ls = some s → P ls s := by
  rw [SockConn.run_eq] at hs ⊢
  exact RunWith.runW_induction h0 (fun ls s l s' hr hp _ hst => hs ls s l s' hr hp hst)

theorem Reachable.induction {P : Sys → Prop} (h0 : P init)
    (hs : ∀ s l s', Reachable s → P s → step s l = some s' → P s') : ∀ s, Reachable s → P s := by
  intro s ⟨ls, h⟩
  exact run_induction (P := fun _ s => P s) h0 (fun ls s l s' hr hp hst => hs s l s' ⟨ls, hr⟩ hp hst) ls s h

/-- the entry a task suspended inside `drain()` is holding -/
def hold : Pc → List Entry
  | .drainAwait _ e _ => [e]
  | _ => []

/-- every entry held in flight by some task -/
def flOf (ts : List Task) : List Entry := ts.flatMap (fun k => hold k.pc)

structure Abs where
  used : List Nat
  now : Nat
  queue : List Entry
  trace : List Ev
  fl : List Entry

/-- events that are neither an acceptance nor a write attempt -/
def Quiet : Ev → Bool
  | .accept .. | .wire .. | .wireUnknown .. | .deadWrite .. | .writeFault .. => false
  | _ => true

/-- `ev` records an attempt to write `sid` at time `now` -/
def IsWrite (ev : Ev) (sid now : Nat) : Prop :=
  ∃ cid, ev = .wire cid sid now ∨ ev = .deadWrite cid sid now ∨ ev = .writeFault cid sid now

/-- what the model can do to `(used, now, queue, trace, in-flight)`; reflexive and transitive -/
inductive AStep : Abs → Abs → Prop
  | refl (a : Abs) : AStep a a
  | trans {a b c : Abs} : AStep a b → AStep b c → AStep a c
  | tick (a : Abs) (t : Nat) (h : a.now ≤ t) : AStep a { a with now := t }
  | note (a : Abs) (ev : Ev) (h : Quiet ev = true) : AStep a { a with trace := a.trace ++ [ev] }
  | dropQ (a : Abs) (q' : List Entry) (h : q'.Sublist a.queue) : AStep a { a with queue := q' }
  /-- entries stop being in flight: the write completed, `drain()` returned, no retries are left, or the holding
      task was cancelled -/
  | dropF (a : Abs) (fl' : List Entry) (h : fl'.Sublist a.fl) : AStep a { a with fl := fl' }
  /-- `fl` is read off the task table in table order, which a resumed task may change -/
  | permF (a : Abs) (fl' : List Entry) (h : fl'.Perm a.fl) : AStep a { a with fl := fl' }
  | write (a : Abs) (e : Entry) (rest : List Entry) (wev : Ev) (hq : a.queue = e :: rest)
      (hlt : a.now < e.expiry) (hw : IsWrite wev e.sid a.now) :
      AStep a { a with queue := rest, trace := a.trace ++ [wev], fl := e :: a.fl }
  | requeue (a : Abs) (e : Entry) (fl' : List Entry) (hf : a.fl = e :: fl') (hk : e.retries ≠ 0) :
      AStep a { a with queue := { e with retries := e.retries - 1, requeued := true } :: a.queue, fl := fl' }
  /-- a `send` that is refused still uses up its identity -/
  | burn (a : Abs) (sid : Nat) : AStep a { a with used := a.used ++ [sid] }
  | accept (a : Abs) (sid r life : Nat) (ok : Bool) (hcap : a.queue.length < CAP) :
      AStep a { a with used := a.used ++ [sid]
                       queue := a.queue ++ [⟨sid, r, a.now + life, ok, false⟩]
                       trace := a.trace ++ [.accept sid a.now (a.now + life) r ok] }

def absC (used : List Nat) (c : Core) (fl : List Entry) : Abs := ⟨used, c.now, c.queue, c.trace, fl⟩

def abs (used : List Nat) (s : Sys) : Abs := absC used s.core (flOf s.tasks)


theorem astep_ext {a b : Abs} (h : AStep a b) : ∃ evs, b.trace = a.trace ++ evs := by
  induction h with
  | trans _ _ ih1 ih2 =>
    obtain ⟨e1, h1⟩ := ih1
    obtain ⟨e2, h2⟩ := ih2
    exact ⟨e1 ++ e2, by rw [h2, h1, List.append_assoc]⟩
  | note a ev _ => exact ⟨[ev], rfl⟩
  | write a e rest wev => exact ⟨[wev], rfl⟩
  | accept => exact ⟨[_], rfl⟩
  | _ => exact ⟨[], (List.append_nil _).symm⟩


end PyAirtouch.Lemmas.Sock

namespace PyAirtouch.Lemmas.SockDoes
open PyAirtouch.Model.Sock PyAirtouch.Spec.Trace PyAirtouch.Lemmas.Sock

def absS (a : St) : Abs := ⟨a.used, a.core.now, a.core.queue, a.core.trace, a.fl.map (·.2)⟩

theorem holdW_snd (p : Pc) : (holdW p).map (·.2) = hold p := by cases p <;> rfl

theorem flW_snd (ts : List Task) : (flW ts).map (·.2) = flOf ts := by
  induction ts with
  | nil => rfl
  | cons k ts ih =>
    simp only [flW, flOf, List.flatMap_cons, List.map_append] at ih ⊢
    rw [ih, holdW_snd]

theorem absS_stOf (u : List Nat) (s : Sys) : absS (stOf u s) = abs u s :=
  congrArg (Abs.mk u s.core.now s.core.queue s.core.trace) (flW_snd s.tasks)

theorem absS_fl {a : St} {w : Nat} {e : Entry} {fl' : List (Nat × Entry)} (hf : a.fl = (w, e) :: fl') :
    (absS a).fl = e :: fl'.map (·.2) :=
  congrArg (List.map (fun we : Nat × Entry => we.2)) hf

theorem quiet_of_bareEv {ev : Ev} (h : bareEv ev = true) : Quiet ev = true := by
  cases ev <;> first | rfl | cases h

theorem Does.astep {R : Prop} {a b : St} (h : Does R a b) : AStep (absS a) (absS b) := by
  induction h with
  | refl => exact .refl _
  | trans _ _ ih1 ih2 => exact ih1.trans ih2
  | tick a t h => exact .tick _ t h
  | lost a cid p f _ => exact .note _ (.lost cid a.core.now) rfl
  | ran | flags => exact .refl _
  | log a ev h => exact .note _ ev (quiet_of_bareEv h)
  | openFresh a _ _ => exact (AStep.note _ (.apiOpen a.core.now) rfl).trans (.dropQ _ [] (List.nil_sublist _))
  | closeStart a _ => exact .note _ (.apiClose a.core.now) rfl
  | connecting => exact .refl _
  | opened a => exact .note _ (.opened a.core.conns.length a.core.now) rfl
  | burn a sid => exact .burn _ sid
  | accept a sid r life ok _ hcap => exact .accept _ sid r life ok hcap
  | discard a e pre post why hq _ =>
    exact (AStep.dropQ _ (pre ++ post) (by
      rw [show (absS a).queue = pre ++ e :: post from hq]
      exact List.Sublist.append_left (List.sublist_cons_self ..) _)).trans (.note _ (.qdrop e.sid a.core.now why) rfl)
  | wire a e rest w p hq hlt _ => exact .write _ e rest (.wire w e.sid a.core.now) hq hlt ⟨w, .inl rfl⟩
  | fault a e rest w p hq hlt _ => exact .write _ e rest (.writeFault w e.sid a.core.now) hq hlt ⟨w, .inr (.inr rfl)⟩
  | release a fl' h => exact .dropF _ _ (h.map _)
  | perm a fl' h => exact .permF _ _ (h.map _)
  | requeue a w e fl' hf _ hk => exact .requeue (absS a) e (fl'.map (·.2)) (absS_fl hf) hk
  | giveUp a w e fl' hf _ _ =>
    exact (AStep.dropF (absS a) (fl'.map (·.2)) (by rw [absS_fl hf]; exact List.sublist_cons_self ..)).trans
      (.note _ (.qdrop e.sid a.core.now .maxRetries) rfl)
  | closeConn a w p f _ => exact .note _ (.clientClose w a.core.now) rfl
  | disc a => exact .note _ (.notify false a.core.now) rfl

theorem Does.trace_ext {R : Prop} {a b : St} (h : Does R a b) : ∃ evs, b.core.trace = a.core.trace ++ evs :=
  astep_ext h.astep

end PyAirtouch.Lemmas.SockDoes

namespace PyAirtouch.Lemmas.Sock
open PyAirtouch.Model.Sock PyAirtouch.Spec.Trace PyAirtouch.Lemmas.SockDoes

theorem flOf_split (f : Task → Task) (ts : List Task) (t : Nat) (k : Task) (h : ts[t]? = some k) :
    (flOf ts).Perm (hold k.pc ++ flOf (ts.eraseIdx t)) ∧
    (flOf (ts.modify t f)).Perm (hold (f k).pc ++ flOf (ts.eraseIdx t)) :=
  have ⟨h1, h2⟩ := SockConn.modify_perm f ts t k h
  ⟨h1.flatMap_right _, h2.flatMap_right _⟩

end PyAirtouch.Lemmas.Sock

namespace PyAirtouch.Lemmas.SockX
open PyAirtouch.Model.Sock PyAirtouch.Spec.Trace PyAirtouch.Lemmas.Sock PyAirtouch.Lemmas.SockDoes

theorem flOf_cancel_split {ts : List Task} {t : Nat} {k : Task} (hk : ts[t]? = some k) :
    (flOf ts).Perm (hold k.pc ++ flOf (ts.eraseIdx t)) ∧
    (flOf (ts.modify t (fun k => { k with pc := .finished }))).Perm (flOf (ts.eraseIdx t)) := by
  have hs := flOf_split (fun k => { k with pc := Pc.finished }) ts t k hk
  exact ⟨hs.1, by simpa [hold] using hs.2⟩

theorem sendSidsX_base (ls : List Label) : sendSidsX (ls.map LabelX.base) = sendSids ls := by
  unfold sendSidsX sendSids
  rw [List.filterMap_map]
  congr 1
  funext l
  cases l <;> rfl

theorem reachableWFX_of_reachableWF {s : Sys} (h : ReachableWF s) : ReachableWFX s :=
  let ⟨ls, hn, h⟩ := h; ⟨ls.map LabelX.base, by rw [sendSidsX_base]; exact hn, runX_base h⟩

theorem runX_abs_from (ls : List LabelX) (u : List Nat) (s s' : Sys) (h : runX s ls = some s') :
    AStep (abs u s) (abs (u ++ sendSidsX ls) s') := by
  rw [← absS_stOf, ← absS_stOf]; exact (runX_does (R := True) ls u s s' (.inl trivial) h).astep

theorem runX_abs (ls : List LabelX) (s : Sys) (h : runX init ls = some s) :
    AStep (abs [] init) (abs (sendSidsX ls) s) := by
  simpa using runX_abs_from ls [] init s h

end PyAirtouch.Lemmas.SockX
