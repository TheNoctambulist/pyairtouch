import PyAirtouch.Lemmas.Frame
import PyAirtouch.Lemmas.Records
/-!
# A protocol stack: one generation's send path beside its receive path

`Stack` bundles what `socket.send` uses (size, header factory, header encoder, message encoder) with the `Proto`
the receive path runs and the well-formedness predicate `WFMsg` the theorems are about.  `Stack.OK` says that the
header codec and the message codec each undo themselves; from it the send path has a closed form (`frameOf_iff`),
what it writes is delivered (`frame_roundtrip`) and it does not raise (`frameOf_ok`).  `Lemmas/Registry4.lean` and
`Lemmas/Registry5.lean` give the two instances; the frame theorems of either generation are these three.
-/
namespace PyAirtouch.Lemmas
open PyAirtouch.Model PyAirtouch.Model.Frame
open PyAirtouch.Lemmas.Records (bind_ok ok_of_exists)

structure Stack (H M : Type) where
  proto : Proto H M
  encodeHdr : H → Except EncErr (Bytes × Bytes)
  sizeMsg : M → Except EncErr Nat
  encodeMsg : M → Except EncErr Bytes
  mkHeader : Nat → M → Nat → H
  WFMsg : M → Prop

namespace Stack
variable {H M : Type}

/-- a header encoder whose output the receive path `p` reads back: the right number of bytes, the same header,
    nothing left, the same checksum data, and that data consists of bytes -/
def HdrOK (p : Proto H M) (encodeHdr : H → Except EncErr (Bytes × Bytes)) : Prop :=
  ∀ h hb ck, encodeHdr h = .ok (hb, ck) →
    hb.length = p.headerLength ∧ p.decodeHdr hb = .ok (h, [], ck) ∧ AllBytes ck

theorem HdrOK.ck_bytes {p : Proto H M} {encodeHdr} (hp : HdrOK p encodeHdr) {h : H} {hb ck : Bytes}
    (he : encodeHdr h = .ok (hb, ck)) : AllBytes ck :=
  (hp h hb ck he).2.2

theorem HdrOK.frame_roundtrip {p : Proto H M} {encodeHdr} (hp : HdrOK p encodeHdr) {h : H} {m : M}
    {hb ck payload fr : Bytes} (rest : Bytes) (henc : encodeHdr h = .ok (hb, ck))
    (hlen : p.msgLen h = payload.length) (hmsg : p.decodeMsg h payload = .ok (m, []))
    (hpay : AllBytes payload) (hfr : frame hb ck payload = some fr) :
    parseOne p (fr ++ rest) = .deliver h m rest :=
  let ⟨h1, h2, h3⟩ := hp h hb ck henc
  Frame.frame_roundtrip p hb ck payload fr rest h m h1 h2 hlen hmsg h3 hpay hfr

/-- `send(message)` followed by `_write` (the text of `At4.Registry.frameOf` and `At5.Registry.frameOf`) -/
def frameOf (S : Stack H M) (pid : Nat) (m : M) : Except EncErr Bytes := do
  let n ← S.sizeMsg m
  let (hb, ck) ← S.encodeHdr (S.mkHeader pid m n)
  let payload ← S.encodeMsg m
  match frame hb ck payload with
  | some fr => pure fr
  | none => .error .other

structure OK (S : Stack H M) : Prop where
  hdr : HdrOK S.proto S.encodeHdr
  len : ∀ pid m n, S.proto.msgLen (S.mkHeader pid m n) = n
  /-- the message codec on a well-formed message: the encoder succeeds, the size announced is the number of bytes
      written, the decoder under the factory's header reads the message back, and only bytes are written -/
  msg : ∀ m, S.WFMsg m → ∃ bs, S.encodeMsg m = .ok bs ∧ S.sizeMsg m = .ok bs.length ∧
    (∀ pid, S.proto.decodeMsg (S.mkHeader pid m bs.length) bs = .ok (m, [])) ∧ AllBytes bs

variable {S : Stack H M}

theorem frameOf_inv {pid : Nat} {m : M} {fr : Bytes} (hfr : frameOf S pid m = .ok fr) :
    ∃ n hb ck payload, S.sizeMsg m = .ok n ∧ S.encodeHdr (S.mkHeader pid m n) = .ok (hb, ck) ∧
      S.encodeMsg m = .ok payload ∧ frame hb ck payload = some fr := by
  obtain ⟨n, hs, hfr⟩ := bind_ok hfr
  obtain ⟨⟨hb, ck⟩, he, hfr⟩ := bind_ok hfr
  obtain ⟨payload, hm, hfr⟩ := bind_ok hfr
  refine ⟨n, hb, ck, payload, hs, he, hm, ?_⟩
  cases hf : frame hb ck payload with
  | none => rw [hf] at hfr; cases hfr
  | some fr' => rw [hf] at hfr; cases hfr; rfl

theorem OK.frameOf_iff (hS : OK S) {m : M} (hwf : S.WFMsg m) (pid : Nat) (fr : Bytes) :
    frameOf S pid m = .ok fr ↔ ∃ payload hb ck, S.encodeMsg m = .ok payload ∧
      S.encodeHdr (S.mkHeader pid m payload.length) = .ok (hb, ck) ∧
      fr = hb ++ payload ++ PyAirtouch.Spec.checkBytes (ck ++ payload) := by
  constructor
  · intro hfr
    obtain ⟨n, hb, ck, payload, hs, he, hm, hf⟩ := frameOf_inv hfr
    obtain ⟨hsz, -, hbytes⟩ := ok_of_exists (hS.msg m hwf) hm
    cases hs.symm.trans hsz
    exact ⟨payload, hb, ck, hm, he, Frame.frame_eq hb ck payload fr (hS.hdr.ck_bytes he) hbytes hf⟩
  · rintro ⟨payload, hb, ck, hm, he, rfl⟩
    obtain ⟨hsz, -, hbytes⟩ := ok_of_exists (hS.msg m hwf) hm
    simp only [frameOf, hsz, he, hm, Frame.frame_eq_some hb ck payload (hS.hdr.ck_bytes he) hbytes, bind,
      Except.bind, pure, Except.pure]

theorem OK.frame_roundtrip (hS : OK S) (m : M) (pid : Nat) (fr rest : Bytes) (hwf : S.WFMsg m)
    (hfr : frameOf S pid m = .ok fr) :
    ∃ n, S.sizeMsg m = .ok n ∧ fr.length = S.proto.headerLength + n + 2 ∧
      parseOne S.proto (fr ++ rest) = .deliver (S.mkHeader pid m n) m rest := by
  obtain ⟨payload, hb, ck, hm, he, rfl⟩ := (hS.frameOf_iff hwf pid fr).mp hfr
  obtain ⟨hsz, hdec, hbytes⟩ := ok_of_exists (hS.msg m hwf) hm
  obtain ⟨hl, -, hck⟩ := hS.hdr _ hb ck he
  refine ⟨_, hsz, ?_, hS.hdr.frame_roundtrip rest he (hS.len ..) (hdec pid) hbytes
    (Frame.frame_eq_some hb ck payload hck hbytes)⟩
  simp only [List.length_append, hl]
  rfl

theorem OK.frameOf_ok (hS : OK S) (m : M) (pid : Nat) (hwf : S.WFMsg m)
    (hh : ∀ n, S.sizeMsg m = .ok n → ∃ r, S.encodeHdr (S.mkHeader pid m n) = .ok r) :
    ∃ fr, frameOf S pid m = .ok fr := by
  obtain ⟨payload, hm, hsz, -⟩ := hS.msg m hwf
  obtain ⟨⟨hb, ck⟩, he⟩ := hh _ hsz
  exact ⟨_, (hS.frameOf_iff hwf pid _).mpr ⟨payload, hb, ck, hm, he, rfl⟩⟩

end Stack
end PyAirtouch.Lemmas
