import PyAirtouch.Model.Api4
/-!
# Stretches of time in which no timer of the AirTouch 4 API object is due

`adv n` goes through `n` single ticks.  A tick at which no timer is due only moves the two clocks (`tick_quiet`), so
a stretch without a due timer can be crossed in one step (`advance_quiet`).  `runJ` is `run` computed that way: the
scenario runs that let 300 s pass are evaluated through it, not tick by tick.
-/
namespace PyAirtouch.Lemmas.Api4
open PyAirtouch.Model PyAirtouch.Model.Api4

/-- every pending timer of the object: heartbeat deadline, heartbeat wake-up, poll tasks, `init()` waiters -/
def deadlines (s : State) : List Nat :=
  (match s.hb.tl with | .waiting d => [d] | _ => []) ++ (match s.hb.hl with | .sleeping u => [u] | .idle => []) ++
    s.pollOrphans ++ s.pollCur.toList ++ s.initWaits

/-- no timer is due at time `t` or before -/
def quietUntil (s : State) (t : Nat) : Bool := (deadlines s).all fun d => decide (t < d)

/-- the two clocks moved to `t` -/
def atTime (s : State) (t : Nat) : State := { s with now := t, hb := { s.hb with now := t } }

theorem quietUntil_mono {s : State} {t t' : Nat} (h : quietUntil s t = true) (ht : t' ≤ t) : quietUntil s t' = true := by
  simp only [quietUntil, List.all_eq_true, decide_eq_true_eq] at h ⊢
  exact fun d hd => Nat.lt_of_le_of_lt ht (h d hd)

theorem fireHbTimeout_quiet (s : State) (h : ∀ d, s.hb.tl = .waiting d → s.now < d) : fireHbTimeout s = (s, []) := by
  unfold fireHbTimeout
  split
  · next d hd => rw [if_neg (Nat.not_le_of_lt (h d hd))]
  · rfl

theorem fireBeat_quiet (s : State) (h : ∀ u, s.hb.hl = .sleeping u → s.now < u) : fireBeat s = (s, []) := by
  unfold fireBeat
  split
  · next u hu => rw [if_neg (Nat.not_le_of_lt (h u hu))]
  · rfl

theorem firePoll_before (c o : Bool) {t d : Nat} (h : t < d) : firePoll c o t d = (some d, []) := by
  unfold firePoll
  rw [if_neg (Nat.not_le_of_lt h)]

theorem firePolls_quiet (s : State) (ho : ∀ d ∈ s.pollOrphans, s.now < d) (hc : ∀ d ∈ s.pollCur.toList, s.now < d) :
    firePolls s = (s, []) := by
  have e1 : s.pollOrphans.map (firePoll s.sockConnected s.sockOpen s.now) = s.pollOrphans.map fun d => (some d, []) :=
    List.map_congr_left fun d hd => firePoll_before _ _ (ho d hd)
  have e2 : s.pollCur.map (firePoll s.sockConnected s.sockOpen s.now) = s.pollCur.map fun d => (some d, []) := by
    cases hp : s.pollCur with
    | none => rfl
    | some d => exact congrArg some (firePoll_before _ _ (hc d (by rw [hp]; exact List.mem_singleton_self d)))
  have e3 : (s.pollCur.map fun d => ((some d, []) : Option Nat × List Ev)).bind (·.1) = s.pollCur := by
    cases s.pollCur <;> rfl
  simp only [firePolls, e1, e2, e3, List.filterMap_map, List.flatMap_map, Function.comp_def, List.filterMap_some,
    Prod.mk.injEq, true_and]
  cases s.pollCur <;> simp

theorem fireInitWaits_quiet (s : State) (h : ∀ d ∈ s.initWaits, s.now < d) : fireInitWaits s = (s, []) := by
  unfold fireInitWaits
  rw [List.filter_eq_self.mpr fun d hd => by simpa using h d hd,
    List.filter_eq_nil_iff.mpr fun d hd => by simpa using h d hd]
  rfl

theorem tick_eq (s : State) :
    tick s = ((fireBeat (fireInitWaits (firePolls (fireHbTimeout (atTime s (s.now + 1))).1).1).1).1,
      (fireHbTimeout (atTime s (s.now + 1))).2 ++ (firePolls (fireHbTimeout (atTime s (s.now + 1))).1).2 ++
        (fireInitWaits (firePolls (fireHbTimeout (atTime s (s.now + 1))).1).1).2 ++
        (fireBeat (fireInitWaits (firePolls (fireHbTimeout (atTime s (s.now + 1))).1).1).1).2) := rfl

theorem tick_quiet {s : State} (h : quietUntil s (s.now + 1) = true) : tick s = (atTime s (s.now + 1), []) := by
  simp only [quietUntil, deadlines, List.all_append, Bool.and_eq_true, List.all_eq_true, decide_eq_true_eq] at h
  obtain ⟨⟨⟨⟨h1, h2⟩, h3⟩, h4⟩, h5⟩ := h
  rw [tick_eq, fireHbTimeout_quiet _ fun d hd => h1 d (by rw [show s.hb.tl = _ from hd]; exact List.mem_singleton_self d),
    firePolls_quiet (atTime s (s.now + 1)) h3 h4, fireInitWaits_quiet (atTime s (s.now + 1)) h5,
    fireBeat_quiet _ fun u hu => h2 u (by rw [show s.hb.hl = _ from hu]; exact List.mem_singleton_self u)]
  rfl

theorem advance_quiet (n : Nat) {s : State} (h : quietUntil s (s.now + (n + 1)) = true) :
    advance (n + 1) s = (atTime s (s.now + (n + 1)), []) := by
  induction n generalizing s with
  | zero => rw [advance, tick_quiet h]; rfl
  | succ n ih =>
    have e : (atTime s (s.now + 1)).now + (n + 1) = s.now + (n + 1 + 1) := by show s.now + 1 + (n + 1) = _; omega
    rw [advance, tick_quiet (quietUntil_mono h (by omega)), ih (s := atTime s (s.now + 1)) (by rw [e]; exact h), e]
    rfl

theorem advance_add (m n : Nat) (s : State) :
    advance (m + n) s = ((advance n (advance m s).1).1, (advance m s).2 ++ (advance n (advance m s).1).2) := by
  induction m generalizing s with
  | zero => simp [advance]
  | succ m ih => rw [Nat.add_right_comm, advance, advance, ih, List.append_assoc]

/-- `advance n s` computed by jumping (hence `J`) over the ticks at which no timer is due: a stretch that is not quiet
    is halved (`fuel` levels deep, then tick by tick) -/
def advanceJ : (fuel n : Nat) → State → State × List Ev
  | 0, n, s => advance n s
  | fuel + 1, n, s =>
    if 0 < n ∧ quietUntil s (s.now + n) = true then (atTime s (s.now + n), [])
    else if n ≤ 1 then advance n s
    else
      let r := advanceJ fuel (n / 2) s
      let r' := advanceJ fuel (n - n / 2) r.1
      (r'.1, r.2 ++ r'.2)

theorem advanceJ_eq (fuel n : Nat) (s : State) : advanceJ fuel n s = advance n s := by
  induction fuel generalizing n s with
  | zero => rfl
  | succ fuel ih =>
    unfold advanceJ
    split
    · next h =>
      obtain ⟨k, rfl⟩ := Nat.exists_eq_add_one_of_ne_zero (Nat.ne_of_gt h.1)
      exact (advance_quiet k h.2).symm
    · split
      · rfl
      · simp only [ih]
        rw [← advance_add, Nat.add_sub_cancel' (Nat.div_le_self n 2)]

/-- `apiStep` and `run` with `advanceJ` for `adv`; 16 halvings reach single ticks for every `adv n` with `n < 65536`
    (at 8 ticks a second about 2 h 16 min); beyond that the result is the same, only computed tick by tick at the bottom -/
def apiStepJ (s : State) : Op → State × List Ev
  | .adv n => advanceJ 16 n s
  | op => apiStep s op

def runJ (s : State) : List Op → State × List Ev
  | [] => (s, [])
  | op :: ops =>
    let r := apiStepJ s op
    let r' := runJ r.1 ops
    (r'.1, r.2 ++ r'.2)

theorem apiStep_eq_J (s : State) (op : Op) : apiStep s op = apiStepJ s op := by
  cases op <;> first | rfl | exact (advanceJ_eq _ _ _).symm

theorem run_eq_J (s : State) (ops : List Op) : run s ops = runJ s ops := by
  induction ops generalizing s with
  | nil => rfl
  | cons op ops ih => simp only [run, runJ, apiStep_eq_J, ih]

theorem run_fst_eq_J (s : State) (ops : List Op) : (run s ops).1 = (runJ s ops).1 := congrArg Prod.fst (run_eq_J s ops)

end PyAirtouch.Lemmas.Api4
