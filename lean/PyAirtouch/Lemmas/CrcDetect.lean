import PyAirtouch.Lemmas.Crc
/-!
# Error detection of CRC-16/MODBUS as deployed (check bytes high byte first)

A frame carries covered bytes `d` followed by `checkBytes d`.  A damaged frame is
`(xorL d e, xorL (checkBytes d) ke)`.  It passes the check iff `reg0 e = word2 ke`
(`undetected_iff`).  From this: every single-bit and (for `d.length ≤ 4093`) every double-bit
error is detected, every burst of at most 16 bits inside the covered bytes is detected (here the lemma
`feedBits_burst_ne_zero`, the statement in `Props/C06.lean`), every error
confined to the check bytes is detected - and there are undetected bursts of at most 16 bits that
straddle the boundary between the covered bytes and the check bytes (witness: `Props/C06.lean`).
-/
namespace PyAirtouch.Lemmas.CrcDetect
open PyAirtouch.Spec PyAirtouch.Lemmas.Crc
open PyAirtouch.Model (AllBytes crcValidate)

/-- bits of a byte in the order the CRC consumes them: least significant first -/
def bits8 (b : Nat) : List Bool := (List.range 8).map (fun j => b.testBit j)
def bitsOf (bs : List Nat) : List Bool := bs.flatMap bits8
/-- number of damaged bits -/
def weight (bs : List Nat) : Nat := (bitsOf bs).count true
/-- register reached from 0 over the error pattern alone -/
def reg0 (es : List Nat) : Nat := es.foldl PyAirtouch.Spec.stepBitwise 0
/-- value of a two-byte check error as a 16-bit word (high byte first) -/
def word2 (k : List Nat) : Nat := k.getD 0 0 * 256 + k.getD 1 0
/-- `Model.AllBytes` under the name the statements of `Props/C06.lean` use (not the type `Model.Bytes`: where both
    namespaces are open, `Bytes bs` is told from the type only by elaboration).  The lemmas say `AllBytes`; a
    `Bytes bs` is accepted where `AllBytes bs` is asked, by unfolding. -/
def Bytes (bs : List Nat) : Prop := ∀ b ∈ bs, b < 256

theorem bytes_iff (bs : List Nat) : Bytes bs ↔ AllBytes bs := Iff.rfl

instance (bs : List Nat) : Decidable (Bytes bs) := by unfold Bytes; infer_instance
/-- all set bits of the pattern lie in a window of 16 consecutive bit positions -/
def Burst16 (bits : List Bool) : Prop := ∃ s, ∀ i, bits.getD i false = true → s ≤ i ∧ i < s + 16

theorem xor_eq_zero {a b : Nat} (h : a ^^^ b = 0) : a = b := by
  have : (a ^^^ b) ^^^ b = b := by rw [h, Nat.zero_xor]
  rwa [Nat.xor_assoc, Nat.xor_self, Nat.xor_zero] at this

theorem xor_left_cancel {a b c : Nat} (h : a ^^^ b = a ^^^ c) : b = c := by
  have : a ^^^ (a ^^^ b) = a ^^^ (a ^^^ c) := by rw [h]
  simpa [← Nat.xor_assoc] using this

theorem bitStepN_zero (n : Nat) : bitStepN n 0 = 0 := by
  induction n with
  | zero => rfl
  | succ n ih => exact ih

theorem bitStepN_add (a b : Nat) : ∀ x, bitStepN (a + b) x = bitStepN b (bitStepN a x) := by
  induction a with
  | zero => intro x; simp [bitStepN]
  | succ a ih => intro x; rw [Nat.add_right_comm]; simp only [bitStepN]; exact ih _

theorem bitStep_eq_zero (x : Nat) (hx : x < 65536) (h : bitStep x = 0) : x = 0 := by
  rw [bitStep_eq] at h
  unfold fb at h
  split at h
  · have := xor_eq_zero h
    omega
  · rw [Nat.xor_zero] at h
    omega

theorem bitStepN_eq_zero (n : Nat) : ∀ x, x < 65536 → bitStepN n x = 0 → x = 0 := by
  induction n with
  | zero => intro x _ h; exact h
  | succ n ih =>
    intro x hx h
    exact bitStep_eq_zero x hx (ih _ (bitStep_lt x hx) h)

def bitVal (b : Bool) : Nat := if b then 1 else 0
def feedBit (r : Nat) (b : Bool) : Nat := bitStep (r ^^^ bitVal b)
def feedBits (r : Nat) (bits : List Bool) : Nat := bits.foldl feedBit r

/-- little-endian value of a bit list -/
def val : List Bool → Nat
  | [] => 0
  | b :: bs => bitVal b ^^^ (2 * val bs)

theorem feedBits_nil (r : Nat) : feedBits r [] = r := rfl
theorem feedBits_cons (r : Nat) (b : Bool) (bs : List Bool) :
    feedBits r (b :: bs) = feedBits (feedBit r b) bs := rfl
theorem feedBits_append (r : Nat) (as bs : List Bool) :
    feedBits r (as ++ bs) = feedBits (feedBits r as) bs := by
  unfold feedBits; exact List.foldl_append

theorem feedBits_val (w : List Bool) : ∀ r, feedBits r w = bitStepN w.length (r ^^^ val w) := by
  induction w with
  | nil => intro r; simp [feedBits_nil, val, bitStepN]
  | cons b bs ih =>
    intro r
    rw [feedBits_cons, ih, feedBit, List.length_cons, bitStepN, val, ← Nat.xor_assoc, bitStep_xor _ (2 * val bs),
      bitStep_even _ (Nat.mul_mod_right 2 _), Nat.mul_div_cancel_left _ (by decide : 0 < 2)]

theorem val_lt (w : List Bool) : val w < 2 ^ w.length := by
  induction w with
  | nil => simp [val]
  | cons b bs ih =>
    simp only [val, List.length_cons]
    apply Nat.xor_lt_two_pow
    · have : 2 ≤ 2 ^ (bs.length + 1) := by
        have := Nat.one_le_two_pow (n := bs.length)
        rw [Nat.pow_succ]; omega
      unfold bitVal; split <;> omega
    · rw [Nat.pow_succ]; omega

theorem val_true_ne_zero (bs : List Bool) : val (true :: bs) ≠ 0 := by
  intro h
  have : 1 = 2 * val bs := xor_eq_zero h
  omega

theorem feedBits_replicate_false (c : Nat) : ∀ r, feedBits r (List.replicate c false) = bitStepN c r := by
  induction c with
  | zero => intro r; rfl
  | succ c ih =>
    intro r
    rw [List.replicate_succ, feedBits_cons, ih]
    simp [feedBit, bitVal, bitStepN]

theorem feedBits_zero_replicate_append (a : Nat) (l : List Bool) :
    feedBits 0 (List.replicate a false ++ l) = feedBits 0 l := by
  rw [feedBits_append, feedBits_replicate_false, bitStepN_zero]

theorem val_testBits (b n : Nat) : ∀ s,
    val ((List.range' s n).map fun j => b.testBit j) = b / 2^s % 2^n := by
  induction n with
  | zero => intro s; simp [val, Nat.mod_one]
  | succ n ih =>
    intro s
    have hbit : ∀ c, bitVal (decide (c % 2 = 1)) = c % 2 := fun c => by
      rcases Nat.mod_two_eq_zero_or_one c with h | h <;> simp [h, bitVal]
    have hs := split_xor 1 (b / 2^s % 2^(n+1))
    rw [Nat.pow_one, Nat.pow_succ, Nat.mod_mul_left_mod, Nat.mul_comm (2^n) 2, Nat.mod_mul_right_div_self,
      Nat.mul_comm _ 2, Nat.div_div_eq_div_mul] at hs
    rw [List.range'_succ, List.map_cons, val, ih, Nat.testBit_eq_decide_div_mod_eq, hbit]
    simp only [Nat.pow_succ]
    rw [Nat.mul_comm (2^n) 2]
    exact hs.symm

theorem val_bits8 (b : Nat) (hb : b < 256) : val (bits8 b) = b := by
  rw [bits8, List.range_eq_range', val_testBits, Nat.pow_zero, Nat.div_one]
  exact Nat.mod_eq_of_lt hb

theorem length_bits8 (b : Nat) : (bits8 b).length = 8 := by simp [bits8]

theorem reg0_eq_feedBits (e : List Nat) (he : AllBytes e) : reg0 e = feedBits 0 (bitsOf e) := by
  rw [feedBits, bitsOf, List.foldl_flatMap]
  refine foldl_ext_mem _ _ e 0 fun r b hb => ?_
  rw [stepBitwise_eq, ← feedBits, feedBits_val, length_bits8, val_bits8 b (he b hb)]

theorem length_bitsOf (e : List Nat) : (bitsOf e).length = 8 * e.length := by
  simp [bitsOf, List.length_flatMap, length_bits8, List.map_const', Nat.mul_comm]

theorem count_zero_eq (bs : List Bool) (h : bs.count true = 0) :
    bs = List.replicate bs.length false :=
  List.eq_replicate_iff.mpr ⟨rfl, fun b hb => by
    cases b
    · rfl
    · exact absurd (List.count_pos_iff.mpr hb) (by omega)⟩

theorem count_succ_split (bs : List Bool) (n : Nat) (h : bs.count true = n + 1) :
    ∃ a rest, bs = List.replicate a false ++ true :: rest ∧ rest.count true = n := by
  induction bs with
  | nil => simp at h
  | cons b bs ih =>
    cases b with
    | true =>
      refine ⟨0, bs, by simp, ?_⟩
      simpa using h
    | false =>
      have h' : bs.count true = n + 1 := by simpa using h
      obtain ⟨a, rest, h1, h2⟩ := ih h'
      refine ⟨a + 1, rest, ?_, h2⟩
      rw [List.replicate_succ, List.cons_append, ← h1]

theorem feedBits_one (bs : List Bool) (h : bs.count true = 1) :
    ∃ k, 1 ≤ k ∧ k ≤ bs.length ∧ feedBits 0 bs = bitStepN k 1 := by
  obtain ⟨a, rest, h1, h2⟩ := count_succ_split bs 0 h
  refine ⟨rest.length + 1, by omega, ?_, ?_⟩
  · rw [h1]; simp <;> omega
  · rw [h1, feedBits_zero_replicate_append, feedBits_cons, count_zero_eq rest h2,
      feedBits_replicate_false]
    simp [feedBit, bitVal, bitStepN]

theorem feedBits_two (bs : List Bool) (h : bs.count true = 2) :
    ∃ j k, 1 ≤ j ∧ 1 ≤ k ∧ j + k ≤ bs.length ∧
      feedBits 0 bs = bitStepN k (bitStepN j 1 ^^^ 1) := by
  obtain ⟨a, rest, h1, h2⟩ := count_succ_split bs 1 h
  obtain ⟨b, rest', h3, h4⟩ := count_succ_split rest 0 h2
  refine ⟨b + 1, rest'.length + 1, by omega, by omega, ?_, ?_⟩
  · rw [h1, h3]; simp <;> omega
  · rw [h1, feedBits_zero_replicate_append, feedBits_cons, h3, feedBits_append,
      feedBits_replicate_false, feedBits_cons, count_zero_eq rest' h4, feedBits_replicate_false]
    simp [feedBit, bitVal, bitStepN]

/-! ### the order of the shift map

`bitStep` is multiplication by `x` modulo `x^16 + x^15 + x^2 + 1 = (x + 1)(x^15 + x + 1)` (bit 15 of a word is
the coefficient of `x^0`).  `bitStepN n 1 = 1` first happens at `n = 32767 = 7 * 31 * 151`, the order of `x`.
The exponents at which it happens are closed under `gcd`, so it is enough to evaluate `bitStepN n 1` at 32767
and at its three maximal proper divisors; these are evaluated by repeated squaring. -/

/-- `feedBits` with a set bit contributing `c` instead of `1` -/
def feedBitsBy (c r : Nat) (bits : List Bool) : Nat :=
  bits.foldl (fun r b => bitStep (r ^^^ if b then c else 0)) r

/-- shifting is linear and commutes with itself, so it can be applied to every ingredient of `feedBits` -/
theorem feedBitsBy_shift (n : Nat) (bits : List Bool) : ∀ r,
    feedBitsBy (bitStepN n 1) (bitStepN n r) bits = bitStepN n (feedBits r bits) := by
  induction bits with
  | nil => intro r; rfl
  | cons b bits ih =>
    intro r
    have hb : (if b then bitStepN n 1 else 0) = bitStepN n (bitVal b) := by
      cases b <;> simp [bitVal, bitStepN_zero]
    have hc : ∀ x, bitStepN n (bitStep x) = bitStep (bitStepN n x) := fun x => by
      have := bitStepN_add 1 n x
      rw [Nat.add_comm, bitStepN_add] at this
      exact this.symm
    rw [feedBits_cons, ← ih, feedBit, hc, bitStepN_lin, ← hb]
    rfl

/-- the product of two shifts of `1` is a shift of `1`; the `16` is there because `1` stands for `x^15` -/
theorem feedBitsBy_shifts (m n : Nat) :
    feedBitsBy (bitStepN n 1) 0 ((List.range 16).map fun j => (bitStepN m 1).testBit j) =
      bitStepN (m + 16 + n) 1 := by
  have h := feedBitsBy_shift n ((List.range 16).map fun j => (bitStepN m 1).testBit j) 0
  rw [bitStepN_zero] at h
  rw [h, feedBits_val, List.length_map, List.length_range, List.range_eq_range', val_testBits, Nat.pow_zero,
    Nat.div_one, Nat.zero_xor, Nat.mod_eq_of_lt (bitStepN_lt m 1 (by decide)), ← bitStepN_add, ← bitStepN_add,
    Nat.add_assoc]

/-- `bitStepN n 1` by repeated squaring; the fuel only bounds the recursion (without fuel it steps one by
    one), so the equation below holds for any amount of it -/
def fastShift : Nat → Nat → Nat
  | 0, n => bitStepN n 1
  | fuel+1, n =>
    if n < 16 then bitStepN n 1
    else
      let h := fastShift fuel ((n - 16) / 2)
      bitStepN ((n - 16) % 2) (feedBitsBy h 0 ((List.range 16).map fun j => h.testBit j))

theorem fastShift_eq (fuel : Nat) : ∀ n, fastShift fuel n = bitStepN n 1 := by
  induction fuel with
  | zero => intro n; rfl
  | succ fuel ih =>
    intro n
    simp only [fastShift]
    split
    · rfl
    · rw [ih, feedBitsBy_shifts, ← bitStepN_add]
      congr 1; omega

theorem shift_mul (m : Nat) (h : bitStepN m 1 = 1) (k : Nat) : bitStepN (m * k) 1 = 1 := by
  induction k with
  | zero => rfl
  | succ k ih => rw [Nat.mul_succ, bitStepN_add, ih, h]

theorem shift_gcd (a b : Nat) : bitStepN a 1 = 1 → bitStepN b 1 = 1 → bitStepN (Nat.gcd a b) 1 = 1 := by
  induction a, b using Nat.gcd.induction with
  | H0 n => intro _ hn; rwa [Nat.gcd_zero_left]
  | H1 m n _ ih =>
    intro hm hn
    rw [Nat.gcd_rec]
    refine ih ?_ hm
    rw [← Nat.div_add_mod n m, bitStepN_add, shift_mul m hm] at hn
    exact hn

/-- of two factors of 32767 one is below its square root, where the divisors are found by search -/
theorem proper_divisor (g : Nat) (hg : g ∣ 32767) (hlt : g < 32767) :
    g ∣ 4681 ∨ g ∣ 1057 ∨ g ∣ 217 := by
  obtain ⟨q, hq⟩ := hg
  have small_divisors : ∀ d, d ≤ 181 → 32767 % d = 0 → d = 1 ∨ d = 7 ∨ d = 31 ∨ d = 151 := by
    decide +kernel
  have hsmall : g ≤ 181 ∨ q ≤ 181 := by
    false_or_by_contra
    rename_i h
    have := Nat.mul_le_mul (Nat.lt_of_not_le fun hh => h (Or.inl hh)) (Nat.lt_of_not_le fun hh => h (Or.inr hh))
    omega
  rcases hsmall with h | h
  · rcases small_divisors g h (by rw [hq, Nat.mul_mod_right]) with rfl | rfl | rfl | rfl <;> decide
  · rcases small_divisors q h (by rw [hq, Nat.mul_mod_left]) with rfl | rfl | rfl | rfl
    · omega
    · exact Or.inl ⟨1, by omega⟩
    · exact Or.inr (Or.inl ⟨1, by omega⟩)
    · exact Or.inr (Or.inr ⟨1, by omega⟩)

theorem shift_ne_one (n : Nat) (h1 : 1 ≤ n) (h2 : n < 32767) : bitStepN n 1 ≠ 1 := by
  intro h
  obtain ⟨hp, h4681, h1057, h217⟩ : bitStepN 32767 1 = 1 ∧ bitStepN 4681 1 ≠ 1 ∧ bitStepN 1057 1 ≠ 1 ∧
      bitStepN 217 1 ≠ 1 := by
    simp only [← fastShift_eq 11]
    decide +kernel
  have hg := shift_gcd n 32767 h hp
  have hle := Nat.gcd_le_left 32767 h1
  rcases proper_divisor _ (Nat.gcd_dvd_right n 32767) (by omega) with ⟨k, hk⟩ | ⟨k, hk⟩ | ⟨k, hk⟩
  · exact h4681 (hk ▸ shift_mul _ hg k)
  · exact h1057 (hk ▸ shift_mul _ hg k)
  · exact h217 (hk ▸ shift_mul _ hg k)

/-- the single-bit words are the last 16 shifts of `1` before it returns: `2^j` is `bitStepN (32767 - j) 1` -/
theorem shift_ne_two_pow (k j : Nat) (h1 : 1 ≤ k) (h2 : k + j < 32767) : bitStepN k 1 ≠ 2^j := by
  intro h
  refine shift_ne_one (k + j) (by omega) h2 ?_
  rw [bitStepN_add, h, ← Nat.one_mul (2^j), bitStepN_mul_two_pow]

theorem val_single (c : Nat) : ∀ a, val (List.replicate a false ++ true :: List.replicate c false) = 2^a := by
  have h0 : ∀ n, val (List.replicate n false) = 0 := by
    intro n
    induction n with
    | zero => rfl
    | succ n ih => simp [List.replicate_succ, val, ih, bitVal]
  intro a
  induction a with
  | zero => simp [val, h0, bitVal]
  | succ a ih => simp [List.replicate_succ, val, ih, bitVal, Nat.pow_succ, Nat.mul_comm]

theorem byte_weight_zero (b : Nat) (hb : b < 256) (h : (bits8 b).count true = 0) : b = 0 := by
  have hv := val_bits8 b hb
  rw [count_zero_eq _ h, length_bits8] at hv
  exact hv.symm

theorem byte_weight_one (b : Nat) (hb : b < 256) (h : (bits8 b).count true = 1) : ∃ j, j < 8 ∧ b = 2^j := by
  obtain ⟨a, rest, h1, h2⟩ := count_succ_split _ 0 h
  have hl := length_bits8 b
  have hv := val_bits8 b hb
  rw [h1, count_zero_eq rest h2] at hv
  rw [h1] at hl
  simp only [List.length_append, List.length_replicate, List.length_cons] at hl
  exact ⟨a, by omega, by rw [← hv, val_single]⟩

theorem weight_pair (a b : Nat) : weight [a, b] = (bits8 a).count true + (bits8 b).count true := by
  simp [weight, bitsOf]

theorem weight_eq_zero_word2 (a b : Nat) (ha : a < 256) (hb : b < 256) (h : weight [a, b] = 0) :
    word2 [a, b] = 0 := by
  rw [weight_pair] at h
  have h1 := byte_weight_zero a ha (by omega)
  have h2 := byte_weight_zero b hb (by omega)
  subst h1; subst h2; rfl

theorem weight_eq_one_word2 (a b : Nat) (ha : a < 256) (hb : b < 256) (h : weight [a, b] = 1) :
    ∃ j, j < 16 ∧ word2 [a, b] = 2^j := by
  rw [weight_pair] at h
  show ∃ j, j < 16 ∧ a * 256 + b = 2^j
  by_cases h0 : (bits8 a).count true = 0
  · obtain ⟨j, hj, hbj⟩ := byte_weight_one b hb (by omega)
    exact ⟨j, by omega, by rw [byte_weight_zero a ha h0, hbj, Nat.zero_mul, Nat.zero_add]⟩
  · obtain ⟨j, hj, haj⟩ := byte_weight_one a ha (by omega)
    exact ⟨j + 8, by omega, by rw [byte_weight_zero b hb (by omega), haj, Nat.pow_add, Nat.add_zero, show (2 : Nat)^8 = 256 from rfl]⟩

theorem pair_of_length_two (ke : List Nat) (h : ke.length = 2) : ∃ a b, ke = [a, b] := by
  match ke, h with
  | [a, b], _ => exact ⟨a, b, rfl⟩

theorem reg0_lt (e : List Nat) (he : Bytes e) : reg0 e < 65536 :=
  foldl_stepBitwise_lt e he 0 (by decide)

theorem undetected_iff (d e ke : List Nat) (hk : AllBytes ke) (hlen : e.length = d.length) (hk2 : ke.length = 2) :
    checkBytes (xorL d e) = xorL (checkBytes d) ke ↔ reg0 e = word2 ke := by
  obtain ⟨a, b, rfl⟩ := pair_of_length_two ke hk2
  have hb : b < 256 := hk b (by simp)
  have hdam := crc_damage d e hlen.symm
  have hdiv : (crc16Modbus d ^^^ reg0 e) / 256 = crc16Modbus d / 256 ^^^ reg0 e / 256 :=
    Nat.xor_div_two_pow (n := 8)
  have hmod : (crc16Modbus d ^^^ reg0 e) % 256 = crc16Modbus d % 256 ^^^ reg0 e % 256 :=
    Nat.xor_mod_two_pow (n := 8)
  have hcb : checkBytes (xorL d e) =
      [crc16Modbus d / 256 ^^^ reg0 e / 256, crc16Modbus d % 256 ^^^ reg0 e % 256] := by
    unfold checkBytes
    simp only [hdam]
    rw [← hdiv, ← hmod]; rfl
  have hx : xorL (checkBytes d) [a, b] = [crc16Modbus d / 256 ^^^ a, crc16Modbus d % 256 ^^^ b] := rfl
  have hw : word2 [a, b] = a * 256 + b := rfl
  rw [hcb, hx, hw]
  constructor
  · intro h
    simp only [List.cons.injEq, and_true] at h
    rw [← Nat.div_add_mod (reg0 e) 256, xor_left_cancel h.1, xor_left_cancel h.2, Nat.mul_comm]
  · intro h
    rw [h, Nat.mul_add_mod_self_right, Nat.mod_eq_of_lt hb, Nat.add_comm, Nat.add_mul_div_right _ _ (by decide),
      Nat.div_eq_of_lt hb, Nat.zero_add]

/-- the damaged frame before `validate`: accepted exactly when the error pattern's register is the error on the
    check value -/
theorem validate_damaged (d e ke : List Nat) (hd : AllBytes d) (he : AllBytes e) (hk : AllBytes ke)
    (hlen : e.length = d.length) (hk2 : ke.length = 2) :
    crcValidate (xorL d e) (xorL (checkBytes d) ke) = .result (decide (reg0 e = word2 ke)) := by
  obtain ⟨a, b, rfl⟩ := pair_of_length_two ke hk2
  rw [validate_iff _ _ (xorL_bytes d e hd he) rfl]
  exact congrArg _ (decide_eq_decide.mpr (eq_comm.trans (undetected_iff d e _ hk hlen hk2)))

theorem detects_errors_confined_to_check_bytes (e ke : List Nat) (he : AllBytes e) (hk2 : ke.length = 2)
    (h0 : weight e = 0) (hne : weight ke ≠ 0) : reg0 e ≠ word2 ke := by
  intro heq
  obtain ⟨a, b, rfl⟩ := pair_of_length_two ke hk2
  rw [reg0_eq_feedBits e he, count_zero_eq _ h0, feedBits_replicate_false, bitStepN_zero] at heq
  obtain ⟨rfl, rfl⟩ : a = 0 ∧ b = 0 := by
    have : 0 = a * 256 + b := heq
    omega
  exact hne (by decide)

theorem detects_single_bit (e ke : List Nat) (he : AllBytes e) (hk : AllBytes ke) (hk2 : ke.length = 2)
    (hw : weight e + weight ke = 1) : reg0 e ≠ word2 ke := by
  obtain ⟨h0, hk1⟩ | ⟨h1, hk0⟩ : weight e = 0 ∧ weight ke ≠ 0 ∨ weight e = 1 ∧ weight ke = 0 := by omega
  · exact detects_errors_confined_to_check_bytes e ke he hk2 h0 hk1
  · obtain ⟨a, b, rfl⟩ := pair_of_length_two ke hk2
    obtain ⟨k, _, _, hk'⟩ := feedBits_one (bitsOf e) h1
    rw [weight_eq_zero_word2 a b (hk a (by simp)) (hk b (by simp)) hk0, reg0_eq_feedBits e he, hk']
    exact fun hz => Nat.one_ne_zero (bitStepN_eq_zero k 1 (by decide) hz)

theorem detects_double_bit (e ke : List Nat) (he : AllBytes e) (hk : AllBytes ke) (hk2 : ke.length = 2)
    (hw : weight e + weight ke = 2) (hlen : e.length ≤ 4093) : reg0 e ≠ word2 ke := by
  obtain ⟨h0, hk0⟩ | ⟨h1, hk1⟩ | ⟨h2, hk0⟩ : weight e = 0 ∧ weight ke ≠ 0 ∨
      weight e = 1 ∧ weight ke = 1 ∨ weight e = 2 ∧ weight ke = 0 := by omega
  · exact detects_errors_confined_to_check_bytes e ke he hk2 h0 hk0
  all_goals
    obtain ⟨a, b, rfl⟩ := pair_of_length_two ke hk2
    have ha : a < 256 := hk a (by simp)
    have hb : b < 256 := hk b (by simp)
    have hbits := length_bitsOf e
    rw [reg0_eq_feedBits e he]
  · -- one bit in the covered bytes, one in the check bytes
    obtain ⟨k, hk1', hk2', hk'⟩ := feedBits_one (bitsOf e) h1
    obtain ⟨j, hj, hp⟩ := weight_eq_one_word2 a b ha hb hk1
    rw [hk', hp]
    exact shift_ne_two_pow k j hk1' (by omega)
  · -- both bits in the covered bytes
    obtain ⟨j, k, hj1, hk1, hjk, hfe⟩ := feedBits_two (bitsOf e) h2
    rw [weight_eq_zero_word2 a b ha hb hk0, hfe]
    intro hz
    have hlt : bitStepN j 1 ^^^ 1 < 65536 :=
      Nat.xor_lt_two_pow (n := 16) (bitStepN_lt j 1 (by decide)) (by decide)
    exact shift_ne_one j hj1 (by omega) (xor_eq_zero (bitStepN_eq_zero k _ hlt hz))

/-- Behind the zeros before the first set bit, everything set lies in that bit's 16 positions, so the register is
    a non-zero 16-bit value shifted further, and a shifted 16-bit word is zero only if the word is
    (`bitStepN_eq_zero`). -/
theorem feedBits_burst_ne_zero (bits : List Bool) (hb : Burst16 bits) (hw : bits.count true ≠ 0) :
    feedBits 0 bits ≠ 0 := by
  obtain ⟨s, hs⟩ := hb
  obtain ⟨a, rest, h1, _⟩ := count_succ_split bits (bits.count true - 1) (by omega)
  have hbit : ∀ k, bits.getD (a + k) false = (true :: rest)[k]?.getD false := by
    intro k
    rw [h1, List.getD_eq_getElem?_getD, List.getElem?_append_right (by simp), List.length_replicate,
      Nat.add_sub_cancel_left]
  have hsa := (hs a (by simpa using hbit 0)).1
  have hdrop : (rest.drop 15).count true = 0 := by
    refine List.count_eq_zero.mpr fun hmem => ?_
    obtain ⟨i, hi⟩ := List.getElem?_of_mem hmem
    rw [List.getElem?_drop] at hi
    have := (hs (a + (15 + i + 1)) (by rw [hbit, List.getElem?_cons_succ, hi]; rfl)).2
    omega
  have hsplit : bits = List.replicate a false ++
      ((true :: rest.take 15) ++ List.replicate (rest.drop 15).length false) := by
    rw [← count_zero_eq _ hdrop, List.cons_append, List.take_append_drop]; exact h1
  rw [hsplit, feedBits_zero_replicate_append, feedBits_append, feedBits_replicate_false,
    feedBits_val, Nat.zero_xor]
  intro hz
  have hlen : (true :: rest.take 15).length ≤ 16 := by simp; omega
  have hv' : val (true :: rest.take 15) < 65536 :=
    Nat.lt_of_lt_of_le (val_lt _) (Nat.pow_le_pow_right (by decide) hlen)
  exact val_true_ne_zero _ (bitStepN_eq_zero _ _ hv' (bitStepN_eq_zero _ _ (bitStepN_lt _ _ hv') hz))

end PyAirtouch.Lemmas.CrcDetect
