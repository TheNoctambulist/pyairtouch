import PyAirtouch.Model.At5.C032
import PyAirtouch.Lemmas.At5C033
/-! Round trip and length lemmas for the AirTouch 5 AC timer control codec (sub-message 0x32);
everything is inherited from the AC timer status codec. -/
namespace PyAirtouch.Lemmas.At5C032
open PyAirtouch.Model PyAirtouch.Model.At5 PyAirtouch.Model.At5.C032

theorem encodeBytes_length (m : Msg) :
    (encodeBytes m).length = nonRepeatSize m + repeatSize m * repeatCount m :=
  At5C033.encodeBytes_length m.toStatus

theorem encode_length (m : Msg) (bs : Bytes) (h : encode m = .ok bs) :
    bs.length = nonRepeatSize m + repeatSize m * repeatCount m :=
  At5C033.encode_length m.toStatus bs h

theorem encode_ok (m : Msg) (h : WF m) : encode m = .ok (encodeBytes m) :=
  At5C033.encode_ok m.toStatus h

theorem decode_encode (m : Msg) (h : WF m) (rest : Bytes) :
    decode (encodeBytes m ++ rest) (nonRepeatSize m) (repeatSize m) (repeatCount m) = .ok (m, rest) := by
  have h33 := At5C033.decode_encode m.toStatus h rest
  simp only [decode, encodeBytes, nonRepeatSize, repeatSize, repeatCount, h33]
  rfl

theorem wfBool_iff (m : Msg) : wfBool m = true ↔ WF m := At5C033.wfBool_iff m.toStatus

/-- the control decoder never yields the request form: an empty header is a `DecodeError` -/
theorem decode_empty_header (buffer : Bytes) (nonRepeat : Nat) :
    decode buffer nonRepeat 0 0 = .error .decodeError := by
  simp [decode, C033.decode]

end PyAirtouch.Lemmas.At5C032
