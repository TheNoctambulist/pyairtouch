import PyAirtouch.Model.Session
/-!
# The session model: an object that is re-used after `shutdown()` against a fresh one

Seen from a fresh object in state `s`, the re-used object is in state `shift k old s`: `k` sessions ahead, its own
handlers renumbered accordingly, and the handlers `old` of earlier sessions still suspended in front of them.  The guard
of /repo ced1c59 compares session numbers for equality only, so every op commutes with the shift and gives the same
output - except the release of an old handler, which the guard makes inert (`C15S_stale_release_inert` in
`Props/C15Session`).  The predicates and functions in which `Props/C15Session` states its theorems are declared here, in its
namespace, with the facts about them that are not the property: `Sim k old s1 s2` says `s1 = shift k old s2`.
-/
namespace PyAirtouch.Lemmas.Session
open PyAirtouch.Model.Session

def shift (k : Nat) (old : List Handler) (s : St) : St :=
  { phase := s.phase, session := s.session + k,
    held := old ++ s.held.map fun h => { h with session := h.session + k } }

/-- the guard reads the phase and compares session numbers for equality only -/
theorem guardNew_shift (k : Nat) (s : St) (hl : List Handler) (h : Handler) :
    guardNew ⟨s.phase, s.session + k, hl⟩ ⟨h.step, h.session + k⟩ = guardNew s h := by
  simp only [guardNew]
  congr 1
  rw [Bool.eq_iff_iff, beq_iff_eq, beq_iff_eq]
  omega

theorem step_shift (k : Nat) (old : List Handler) (s : St) (op : Op) (hop : op ≠ .release ∨ old = []) :
    step guardNew (shift k old s) op = (shift k old (step guardNew s op).1, (step guardNew s op).2) := by
  cases op with
  | init => rfl
  | shutdown => simp [step, shift, Nat.add_right_comm]
  | frame i => by_cases c : i < 6 ∧ s.phase = i + 2 <;> simp [step, quiet, shift, c]
  | hold i => by_cases c : 3 ≤ i ∧ i < 6 ∧ (s.phase = i + 2 ∨ s.phase = 8) <;> simp [step, quiet, shift, c]
  | release =>
    obtain rfl : old = [] := hop.resolve_left fun h => h rfl
    cases hh : s.held with
    | nil => simp [step, quiet, shift, hh]
    | cons h rest =>
      by_cases c : h.step < 8 ∧ guardNew s h = true <;> simp [step, shift, hh, c, guardNew_shift]

theorem step_session_mono (g) (s : St) (op : Op) : s.session ≤ (step g s op).1.session := by
  cases op <;> simp only [step, quiet] <;> (try split) <;> (try split) <;> simp

theorem step_held_sub (g) (s : St) (op : Op) :
    ∀ h ∈ (step g s op).1.held, h ∈ s.held ∨ h.session = (step g s op).1.session := by
  intro h hh
  cases op with
  | init => left; simpa [step] using hh
  | shutdown => left; simpa [step] using hh
  | frame i => simp only [step, quiet] at hh ⊢; split at hh <;> (left; simpa using hh)
  | hold i =>
    simp only [step, quiet] at hh ⊢
    split at hh
    · simp only [List.mem_append, List.mem_singleton] at hh
      rcases hh with hh | hh
      · left; exact hh
      · right; subst hh; split <;> simp
    · left; simpa using hh
  | release =>
    simp only [step, quiet] at hh ⊢
    split at hh
    · left; simpa using hh
    · rename_i h0 rest heq
      split at hh <;> (left; rw [heq]; exact List.mem_cons_of_mem _ (by simpa using hh))

theorem run_length (g) (s : St) (ops : List Op) : (run g s ops).2.length = ops.length := by
  induction ops generalizing s with
  | nil => simp [run]
  | cons op ops ih => simp [run, ih]

end PyAirtouch.Lemmas.Session

namespace PyAirtouch.Props.C15Session
open PyAirtouch.Model.Session PyAirtouch.Lemmas.Session

def Inv (s : St) : Prop := ∀ h ∈ s.held, h.session ≤ s.session
def Stale (s : St) (h : Handler) : Prop := h.session < s.session

theorem step_inv (g) (s : St) (op : Op) (hi : Inv s) : Inv (step g s op).1 := by
  intro h hh
  rcases step_held_sub g s op h hh with h1 | h1
  · exact Nat.le_trans (hi h h1) (step_session_mono g s op)
  · omega

theorem run_inv (g) (s : St) (ops : List Op) (hi : Inv s) : Inv (run g s ops).1 := by
  induction ops generalizing s with
  | nil => simpa [run]
  | cons op ops ih => simpa [run] using ih _ (step_inv g s op hi)

theorem run_stale (g) (k : Nat) (s : St) (ops : List Op) (hk : k ≤ s.session) :
    ∀ h ∈ (run g s ops).1.held, h.session < k → h ∈ s.held ∧ Stale (run g s ops).1 h := by
  induction ops generalizing s with
  | nil => intro h hh hlt; simp only [run] at hh ⊢; exact ⟨hh, by simp only [Stale]; omega⟩
  | cons op ops ih =>
    intro h hh hlt
    simp only [run] at hh ⊢
    have hk' : k ≤ (step g s op).1.session := Nat.le_trans hk (step_session_mono g s op)
    obtain ⟨h1, h2⟩ := ih _ hk' h hh hlt
    refine ⟨?_, h2⟩
    rcases step_held_sub g s op h h1 with h3 | h3
    · exact h3
    · omega

/-- the ops a fresh object is compared on: the first `n` releases (those of the old session's handlers) taken out -/
def dropReleases : Nat → List Op → List Op
  | _, [] => []
  | 0, ops => ops
  | n + 1, .release :: ops => dropReleases n ops
  | n + 1, op :: ops => op :: dropReleases (n + 1) ops

/-- the outputs with those of the first `n` releases taken out -/
def dropOuts : Nat → List Op → List Out → List Out
  | _, [], _ => []
  | _, _, [] => []
  | 0, _, outs => outs
  | n + 1, .release :: ops, _ :: outs => dropOuts n ops outs
  | n + 1, _ :: ops, o :: outs => o :: dropOuts (n + 1) ops outs

/-- the outputs of the first `n` releases -/
def releaseOuts : Nat → List Op → List Out → List (Nat × Out)
  | _, [], _ => []
  | _, _, [] => []
  | 0, _, _ => []
  | n + 1, .release :: ops, o :: outs => (0, o) :: releaseOuts n ops outs
  | n + 1, _ :: ops, _ :: outs => releaseOuts (n + 1) ops outs

theorem dropReleases_zero (ops : List Op) : dropReleases 0 ops = ops := by cases ops <;> simp [dropReleases]
theorem releaseOuts_zero (ops : List Op) (outs : List Out) : releaseOuts 0 ops outs = [] := by
  cases ops <;> cases outs <;> simp [releaseOuts]
theorem dropOuts_zero (ops : List Op) (outs : List Out) (h : outs.length = ops.length) : dropOuts 0 ops outs = outs := by
  cases ops <;> cases outs <;> simp_all [dropOuts]

/-- `s1` (the re-used object, `k` sessions ahead, `old` stale handlers in front) simulates `s2` (the fresh object);
    `kpos` follows from `old_stale` -/
structure Sim (k : Nat) (old : List Handler) (s1 s2 : St) : Prop where
  phase : s1.phase = s2.phase
  session : s1.session = s2.session + k
  old_stale : ∀ h ∈ old, h.session < k
  kpos : old ≠ [] → 0 < k
  held : s1.held = old ++ s2.held.map (fun h => { h with session := h.session + k })

theorem Sim.eq_shift {k : Nat} {old : List Handler} {s1 s2 : St} (hs : Sim k old s1 s2) : s1 = shift k old s2 := by
  obtain ⟨hp, hse, -, -, hh⟩ := hs
  cases s1; cases hp; cases hse; cases hh; rfl

end PyAirtouch.Props.C15Session
