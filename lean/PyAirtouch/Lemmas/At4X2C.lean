import PyAirtouch.Model.At4.X2C
import PyAirtouch.Lemmas.BitField
/-!
Round trip and length lemmas for the AirTouch 4 AC control codec (0x2C).

The encoder masks every field, so it factors through `mask2C` (`encodeBytes_mask`, `wf_mask2C`), and the bytes of a
well-formed message are three packed pairs of fields (`encodeBytes_fields`).  The model's decoder (here) and the vendor
reader (`Lemmas/SpecCmd.lean`) are both read off that layout: `encodeBytes_fields` plays the part that `recBytes` with
`encRec_ok` plays in the AirTouch 5 codec files.

`maskSc` and `mask2C` are declared here under the namespace `SpecCmd`: the C04 statements name them `SpecCmd.mask2C`, and the
masked round trip below needs them before `Lemmas/SpecCmd.lean` exists.
-/
namespace PyAirtouch.Lemmas.SpecCmd
open PyAirtouch.Model.At4

/-- what the encoder's mask (`& 0x3F`) makes of an out-of-domain set-point -/
def maskSc : X2C.AcSetPointControl → X2C.AcSetPointControl
  | .value sp => .value (sp % 64)
  | c => c

/-- what the encoder's masks (`& 0x3F`) make of out-of-domain numbers -/
def mask2C (m : X2C.Msg) : X2C.Msg :=
  { m with ac_number := m.ac_number % 64, set_point_control := maskSc m.set_point_control }

end PyAirtouch.Lemmas.SpecCmd

namespace PyAirtouch.Lemmas.At4X2C
open PyAirtouch.Model PyAirtouch.Model.At4.X2C PyAirtouch.Gen.At4.X2CAcCtrl PyAirtouch.Lemmas.BitField
open PyAirtouch.Lemmas.SpecCmd (maskSc mask2C)

theorem encB1_lt (m : Msg) : encB1 m < 256 := by
  rcases m with ⟨ac, pw, md, fs, sc⟩
  simp only [encB1, encAcNumber]
  have : encPower pw ≤ 192 := by cases pw <;> decide
  omega

theorem encB2_lt (m : Msg) : encB2 m < 256 := by
  rcases m with ⟨ac, pw, md, fs, sc⟩
  simp only [encB2]
  cases md <;> cases fs <;> decide

theorem encSetPointControl_lt (c : AcSetPointControl) : encSetPointControl c < 256 := by
  cases c with
  | incDec v => cases v <;> decide
  | value sp => simp only [encSetPointControl, SET_POINT_CONTROL_VALUE]; omega
  | none => decide

/-- every packed byte is masked: the encoder never raises, whatever the field values -/
theorem encode_ok (m : Msg) : encode m = .ok (encodeBytes m) := by
  simp [encode, encB1_lt, encB2_lt, encSetPointControl_lt]

theorem encode_length (m : Msg) (bs : Bytes) (h : encode m = .ok bs) : bs.length = size m := by
  rw [encode_ok] at h
  cases h
  rfl

theorem mask2C_of_wf (m : Msg) (h : WF m) : mask2C m = m := by
  rcases m with ⟨ac, pw, md, fs, sc⟩
  obtain ⟨h1, h2⟩ := h
  simp only at h1 h2
  cases sc with
  | value sp =>
    simp only [WFSetPointControl] at h2
    simp only [mask2C, maskSc, Nat.mod_eq_of_lt h1, Nat.mod_eq_of_lt h2]
  | incDec v => simp only [mask2C, maskSc, Nat.mod_eq_of_lt h1]
  | none => simp only [mask2C, maskSc, Nat.mod_eq_of_lt h1]

theorem wf_mask2C (m : Msg) : WF (mask2C m) := by
  refine ⟨Nat.mod_lt _ (by decide), ?_⟩
  show WFSetPointControl (maskSc m.set_point_control)
  cases m.set_point_control <;> simp only [maskSc, WFSetPointControl]
  exact Nat.mod_lt _ (by decide)

theorem encodeBytes_mask (m : Msg) : encodeBytes (mask2C m) = encodeBytes m := by
  have h3 : encSetPointControl (maskSc m.set_point_control) = encSetPointControl m.set_point_control := by
    cases m.set_point_control <;> simp only [maskSc, encSetPointControl, Nat.mod_mod]
  simp only [encodeBytes, encB1, encB2, encAcNumber, mask2C, Nat.mod_mod, h3]

/-- Byte3 Bit8-7: the set-point control code -/
def scCode : AcSetPointControl → Nat
  | .incDec v => v.toNat
  | .value _ => SET_POINT_CONTROL_VALUE
  | .none => SET_POINT_CONTROL_UNCHANGED

/-- Byte3 Bit6-1: the set-point when one is set, otherwise 0x3F -/
def scValue : AcSetPointControl → Nat
  | .value sp => sp
  | _ => SET_POINT_INVALID

theorem encodeBytes_fields (m : Msg) (h : WF m) :
    encodeBytes m = [m.power.toNat * 64 + m.ac_number, m.mode.toNat % 16 * 16 + m.fan_speed.toNat % 16,
      scCode m.set_point_control * 64 + scValue m.set_point_control, 0] ∧
    m.power.toNat < 4 ∧ m.ac_number < 64 ∧ scCode m.set_point_control < 4 ∧ scValue m.set_point_control < 64 := by
  obtain ⟨hac, hsc⟩ := h
  rcases m with ⟨ac, pw, md, fs, sc⟩
  simp only at hac hsc
  have hp : encPower pw = pw.toNat * 64 ∧ pw.toNat < 4 := by cases pw <;> decide
  -- `UNCHANGED` (0xFF) is masked to the field's all-ones value
  have hm : encMode md = md.toNat % 16 * 16 := by cases md <;> rfl
  have h3 : encSetPointControl sc = scCode sc * 64 + scValue sc ∧ scCode sc < 4 ∧ scValue sc < 64 := by
    cases sc with
    | incDec v => cases v <;> decide
    | none => decide
    | value sp =>
      have hsp : sp < 64 := hsc
      simp only [encSetPointControl, scCode, scValue, SET_POINT_CONTROL_VALUE]
      omega
  simp only [encodeBytes, encB1, encB2, encAcNumber, encFanSpeed, hp.1, hm, h3.1, Nat.mod_eq_of_lt hac]
  exact ⟨trivial, hp.2, hac, h3.2⟩

theorem decode_encodeBytes (m : Msg) (h : WF m) (rest : Bytes) (msgLen : Nat) :
    decode (encodeBytes m ++ rest) msgLen = .ok (m, rest) := by
  rcases m with ⟨ac, pw, md, fs, sc⟩
  obtain ⟨e, h1, h2, h3, h4⟩ := encodeBytes_fields _ h
  simp only at e h1 h2 h3 h4
  have hpw : AcPowerControl.ofNat? pw.toNat = some pw := by cases pw <;> rfl
  have hmd : AcModeControl.ofNat? (md.toNat % 16) = some md := by cases md <;> rfl
  have hfs : AcFanSpeedControl.ofNat? (fs.toNat % 16) = some fs := by cases fs <;> rfl
  have hsc : decSetPointControl (scCode sc * 64 + scValue sc) = sc := by
    simp only [decSetPointControl, pack_div_mod h4 h3, pack_mod h4]
    rcases sc with v | sp | _
    · cases v <;> rfl
    all_goals rfl
  have h16 (x : Nat) : x % 16 < 16 := Nat.mod_lt _ (by decide)
  simp only [e, List.cons_append, List.nil_append, decode, pack_div_mod h2 h1, pack_mod h2,
    pack_div_mod (h16 _) (h16 _), pack_mod (h16 _), hpw, hmd, hfs, hsc]

theorem decode_encode (m : Msg) (h : WF m) (rest : Bytes) :
    ∃ bs, encode m = .ok bs ∧ decode (bs ++ rest) (size m) = .ok (m, rest) :=
  ⟨encodeBytes m, encode_ok m, decode_encodeBytes m h rest _⟩

/-- out-of-domain numbers are masked by the encoder: the message read back is the masked one -/
theorem decode_encode_masked (m : Msg) (rest : Bytes) (msgLen : Nat) :
    ∃ m', decode (encodeBytes m ++ rest) msgLen = .ok (m', rest) ∧ WF m' ∧
      m'.power = m.power ∧ m'.mode = m.mode ∧ m'.fan_speed = m.fan_speed ∧ m'.ac_number = m.ac_number % 64 :=
  ⟨mask2C m, by rw [← encodeBytes_mask]; exact decode_encodeBytes _ (wf_mask2C m) rest msgLen, wf_mask2C m, rfl, rfl,
    rfl, rfl⟩

theorem wfSetPointControlBool_iff (c : AcSetPointControl) :
    wfSetPointControlBool c = true ↔ WFSetPointControl c := by
  cases c <;> simp [wfSetPointControlBool, WFSetPointControl]

theorem wfBool_iff (m : Msg) : wfBool m = true ↔ WF m := by
  simp [wfBool, WF, wfSetPointControlBool_iff]

end PyAirtouch.Lemmas.At4X2C
