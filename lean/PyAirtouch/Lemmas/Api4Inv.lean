import PyAirtouch.Lemmas.Api4Handler
/-!
# The heap invariant is preserved by every step; the part of the state the clock leaves alone (`Core`)
-/
namespace PyAirtouch.Lemmas.Api4
open PyAirtouch.Model PyAirtouch.Model.Api4 PyAirtouch.Model.At4
open PyAirtouch.Model.TimerCommon (AcTimerState AcTimerStatusData)
open PyAirtouch.Lemmas.Dict (lookup_dictInsert)

/-- the state without the clock, the timers (poll tasks, pending `init()` calls, heartbeat) and the constructor
    arguments other than the id -/
structure Core where
  st : AState
  version : FF30.ConsoleVersionMessage
  zoneObjs : List ZoneObj
  acObjs : List AcObj
  zoneDict : List (Nat × Nat)
  acDict : List (Nat × Nat)
  subs : List Sub
  initialised : Bool
  sockOpen : Bool
  sockConnected : Bool
  subscribed : Bool
  airtouchId : Bytes

def core (s : State) : Core :=
  { st := s.st, version := s.version, zoneObjs := s.zoneObjs, acObjs := s.acObjs, zoneDict := s.zoneDict,
    acDict := s.acDict, subs := s.subs, initialised := s.initialised, sockOpen := s.sockOpen,
    sockConnected := s.sockConnected, subscribed := s.subscribed, airtouchId := s.airtouchId }

theorem core_firePolls (s : State) : core (firePolls s).1 = core s := rfl
theorem core_fireInitWaits (s : State) : core (fireInitWaits s).1 = core s := rfl

theorem core_tick (s : State) : core (tick s).1 = core s := by
  unfold tick
  simp only [fireHbTimeout_eq, fireBeat_eq]
  rfl

theorem core_advance (n : Nat) (s : State) : core (advance n s).1 = core s := by
  induction n generalizing s with
  | zero => rfl
  | succ n ih => simp only [advance, ih, core_tick]

theorem Inv_of_core {s s' : State} (h : core s' = core s) (hi : Inv s) : Inv s' := by
  have h1 : s'.acDict = s.acDict := congrArg Core.acDict h
  have h2 : s'.acObjs = s.acObjs := congrArg Core.acObjs h
  have h3 : s'.zoneDict = s.zoneDict := congrArg Core.zoneDict h
  have h4 : s'.zoneObjs = s.zoneObjs := congrArg Core.zoneObjs h
  exact ⟨by rw [h1, h2]; exact hi.acKey, by rw [h3, h4]; exact hi.zoneKey⟩

theorem Inv_initial : Inv State.initial := ⟨by intro k i h; simp [State.initial] at h, by intro k i h; simp [State.initial] at h⟩

theorem Inv_addZone {s : State} (h : Inv s) (p : Nat × Bytes) : Inv (addZone s p) :=
  ⟨h.acKey, ObjTable.keyed_alloc h.zoneKey (rfl : ZoneNum (mkZone p.1 p.2) p.1)⟩

theorem Inv_processGroupNames {s : State} (h : Inv s) (l : List (Nat × Bytes)) : Inv (processGroupNames s l) := by
  unfold processGroupNames
  induction l generalizing s with
  | nil => exact h
  | cons p ps ih => exact ih (Inv_addZone h p)

theorem mkAc_supported {ab : FF11.AcAbility} {zs : List Nat} {a : AcObj} (h : mkAc ab zs = some a) :
    supportedOf Gen.Api4.API_MODE_CONTROL_MAPPING ab.ac_mode_support = some a.supportedModes ∧
    supportedOf Gen.Api4.API_FAN_SPEED_CONTROL_MAPPING ab.fan_speed_support = some a.supportedFanSpeeds := by
  unfold mkAc at h
  cases h1 : supportedOf Gen.Api4.API_MODE_CONTROL_MAPPING ab.ac_mode_support with
  | none => simp [h1] at h
  | some ms =>
    cases h2 : supportedOf Gen.Api4.API_FAN_SPEED_CONTROL_MAPPING ab.fan_speed_support with
    | none => simp [h1, h2] at h
    | some fs => simp [h1, h2] at h; subst h; exact ⟨rfl, rfl⟩

/-- what `At4AirConditioner.__init__` fixes: the number in both records, the zone list, the ability record, no
    subscribers -/
theorem mkAc_number {ab : FF11.AcAbility} {zs : List Nat} {a : AcObj} (h : mkAc ab zs = some a) :
    a.status.ac_number = ab.ac_number ∧ a.timer.ac_number = ab.ac_number ∧ a.zones = zs ∧ a.subs = [] ∧
    a.stateSubs = [] ∧ a.ability = ab := by
  unfold mkAc at h
  cases h1 : supportedOf Gen.Api4.API_MODE_CONTROL_MAPPING ab.ac_mode_support with
  | none => simp [h1] at h
  | some ms =>
    cases h2 : supportedOf Gen.Api4.API_FAN_SPEED_CONTROL_MAPPING ab.fan_speed_support with
    | none => simp [h1, h2] at h
    | some fs =>
      simp [h1, h2] at h
      subst h
      exact ⟨rfl, rfl, rfl, rfl, rfl, rfl⟩

theorem Inv_addAc {s s' : State} (h : Inv s) {single : Bool} {ab : FF11.AcAbility} (hs : addAc s single ab = some s') :
    Inv s' := by
  obtain ⟨zs, a, _, ha, rfl⟩ := addAc_eq_some hs
  obtain ⟨hn1, hn2, _⟩ := mkAc_number ha
  exact ⟨ObjTable.keyed_alloc h.acKey (⟨hn1, hn2⟩ : AcNum a ab.ac_number), h.zoneKey⟩

theorem Inv_processAbility {s : State} (h : Inv s) (single : Bool) (l : List FF11.AcAbility) :
    Inv (processAbility s single l).1 := by
  induction l generalizing s with
  | nil => exact h
  | cons ab rest ih =>
    simp only [processAbility]
    cases ha : addAc s single ab with
    | none => exact h
    | some s' => exact ih (Inv_addAc h ha)

theorem Inv_absorb {s : State} (h : Inv s) (m : RMsg) : Inv (absorb s m).1 := by
  rcases absorb_kinds s m with e | ⟨_, e⟩ | ⟨_, _, _, _, K, l, t, _, ht, e⟩ <;> rw [e]
  · exact h
  · rw [updateVersion_frame]; exact ⟨h.acKey, h.zoneKey⟩
  · exact K.inv_fold (by rcases ht with rfl | rfl <;> exact ⟨h.acKey, h.zoneKey⟩) l

theorem Inv_store {s : State} (h : Inv s) (m : RMsg) : Inv (store s m).1 := by
  rcases store_kinds s m with ⟨_, e, rfl | ⟨_, rfl⟩ | ⟨_, rfl⟩ | ⟨_, _, rfl⟩⟩ | ⟨_, _, _, _, K, l, _, e⟩ <;> rw [e]
  · exact h
  · exact ⟨h.acKey, h.zoneKey⟩
  · exact Inv_processGroupNames h _
  · exact Inv_processAbility h _ _
  · exact K.inv_fold h l

theorem Inv_recv {s : State} (h : Inv s) (m : RMsg) : Inv (recv s m).1 := by
  unfold recv
  apply Inv_hbOnMessage
  split
  · rcases onMessage_cases s m with ⟨_, e⟩ | ⟨_, _, e⟩ | ⟨_, _, _, e⟩ | ⟨_, _, _, e⟩ <;> rw [e]
    · exact Inv_absorb h m
    · rw [enterConnected_frame]; exact ⟨(Inv_store h m).acKey, (Inv_store h m).zoneKey⟩
    · exact Inv_store h m
    · exact ⟨(Inv_store h m).acKey, (Inv_store h m).zoneKey⟩
  · exact h

theorem Inv_subUnsub {s : State} (h : Inv s) (t : Target) (f : List Sub → List Sub) : Inv (subUnsub s t f).1 := by
  unfold subUnsub
  cases t with
  | airtouch => exact ⟨h.acKey, h.zoneKey⟩
  | ac i general =>
    simp only
    cases hf : s.findAc i with
    | none => exact h
    | some a =>
      have hn : AcNum a i := h.findAc_number hf
      exact acTable.inv_set h (by split <;> exact hn)
  | zone i =>
    simp only
    cases hz : s.findZone i with
    | none => exact h
    | some zi =>
      simp only
      cases hzo : s.zoneObjs[zi]? with
      | none => exact h
      | some z => exact ⟨h.acKey, ObjTable.keyed_set h.zoneKey hzo fun _ hk => hk⟩

theorem Inv_apiStep {s : State} (h : Inv s) (op : Op) : Inv (apiStep s op).1 := by
  cases op with
  | init => simp only [apiStep, doInit]; split <;> exact ⟨h.acKey, h.zoneKey⟩
  | shutdown =>
    exact ⟨by intro k i hk; simp [apiStep, doShutdown] at hk, by intro k i hk; simp [apiStep, doShutdown] at hk⟩
  | conn up => simp only [apiStep]; rw [onConn_eq]; exact ⟨h.acKey, h.zoneKey⟩
  | msg mid payload =>
    simp only [apiStep]
    split
    · exact Inv_recv h _
    · exact h
  | recv m => exact Inv_recv h m
  | call c => exact h
  | callBad c => exact h
  | sub t sid r => exact Inv_subUnsub h t _
  | unsub t sid => exact Inv_subUnsub h t _
  | adv n => exact Inv_of_core (core_advance n s) h
  | view => simp only [apiStep]; split <;> exact h

theorem Inv_run {s : State} (h : Inv s) (ops : List Op) : Inv (run s ops).1 :=
  run4_eq s ops ▸ FoldW.foldW_inv ops s h fun _ op _ h => Inv_apiStep h op

end PyAirtouch.Lemmas.Api4
