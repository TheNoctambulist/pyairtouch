import PyAirtouch.Lemmas.Api4Handler
import PyAirtouch.Lemmas.Heartbeat
/-!
# The control machine of the AirTouch 4 API object

`ctl s` is the state without the object model, the console version, the subscriber sets and the constructor arguments:
handshake state, initialised event, tasks, heartbeat manager, socket flags, clock.  On this part every op is a short run
of eight atomic moves (`CStep`: `init`, `shutdown`, a connection change, an answer that advances the handshake, the answer
that completes it, a group status that re-arms the polls, a heartbeat response - these four labelled with the message -,
one tick), each with an explicit successor and the guard under which the handlers make it (`moves_apiStep`).  So a
predicate of the control part is preserved by every op as soon as it is preserved by the eight moves (`ctl_inv`).
State such a predicate as a structure over `Ctl` and use it as `P (ctl s)`; its fields project to the state's by `rfl`.
The successors (`Ctl.tick`, `Ctl.entered`, `Ctl.rearmed`, the record updates in `CStep`) are meant to be unfolded (`show`,
`dsimp only`).  The run forgets in which order and how often the moves occur; what needs that (a delivered message, a
tick as functions of the state before) is stated as an equation (`ctl_recv`, `ctl_tick`).  Nothing here speaks of the
object model: the heap invariant `Inv` and `EmptyUpTo` are proved by the split over `Op`.

What a move does to the heartbeat manager is in turn always "set the clock, then a run of the heartbeat model with labels
of the move" (`CStep.hb_drives`, in terms of `Heartbeat.Drives`), so what those labels keep is kept by the move
(`Drives.inv`, or `Drives.inv_apply` for what is known of `hbApply`).
-/
namespace PyAirtouch.Lemmas.Api4
open PyAirtouch.Model PyAirtouch.Model.Api4 PyAirtouch.Model.At4 PyAirtouch.Gen
open PyAirtouch.Model.Heartbeat (HB Label)
open PyAirtouch.Lemmas.Heartbeat (Drives)

/-! ## what the handlers do to the heartbeat manager -/

/-- `start()` on an idle heartbeat: both loops take their first step (`hbStart`) -/
def startedHB (h : HB) : HB := hbApply (hbApply h .start) .hlBeat

/-- `HeartbeatManager.start()` at time `n` -/
def startHB (n : Nat) (h : HB) : HB := if hbIdle h then startedHB { h with now := n } else h

theorem hbStart_hb (s : State) : (hbStart s).1.hb = startHB s.now s.hb := by
  unfold hbStart startHB startedHB
  split <;> rfl

/-- a heartbeat response is delivered and the timeout loop consumes it (`hbOnMessage`) -/
def respondedHB (h : HB) : HB := hbApply (hbApply h .response) .tlWake

theorem timeoutHB_drives (c : Bool) (t : Nat) (h : HB) :
    Drives (fun l => l = .tlFire ∨ l = .tlResetDone) h (timeoutHB c t h) := by
  unfold timeoutHB
  split
  · split
    · split
      · exact (Drives.apply _ .tlFire (.inl rfl)).trans (.apply _ .tlResetDone (.inr rfl))
      · exact .apply _ .tlFire (.inl rfl)
    · exact .refl
  · exact .refl

theorem beatHB_drives (t : Nat) (h : HB) : Drives (· = .hlBeat) h (beatHB t h) := by
  unfold beatHB
  split
  · split
    · exact .apply _ .hlBeat rfl
    · exact .refl
  · exact .refl

/-- the labels of the manager's two loops under the clock -/
def timerLabel (l : Label) : Prop := l = .tlFire ∨ l = .tlResetDone ∨ l = .hlBeat

theorem timerLabel_clock (l : Label) (h : timerLabel l) : (∀ t, l ≠ .advance t) ∧ ∀ up, l ≠ .conn up := by
  rcases h with rfl | rfl | rfl <;> exact ⟨nofun, nofun⟩

theorem tickHB_drives (c : Bool) (t : Nat) (h : HB) : Drives timerLabel { h with now := t } (tickHB c t h) :=
  ((timeoutHB_drives c t _).mono fun _ hl => hl.elim .inl (.inr ∘ .inl)).trans
    ((beatHB_drives t _).mono fun _ hl => .inr (.inr hl))

theorem startHB_drives (n : Nat) (h : HB) :
    startHB n h = h ∨ Drives (fun l => l = .start ∨ l = .hlBeat) { h with now := n } (startHB n h) := by
  unfold startHB
  split
  · exact .inr ((Drives.apply _ .start (.inl rfl)).trans (.apply _ .hlBeat (.inr rfl)))
  · exact .inl rfl

theorem respondedHB_drives (h : HB) : Drives (fun l => l = .response ∨ l = .tlWake) h (respondedHB h) :=
  (Drives.apply _ .response (.inl rfl)).trans (.apply _ .tlWake (.inr rfl))

/-! ## the control part and the message handler on it -/

structure Ctl where
  st : AState
  initialised : Bool
  initWaits : List Nat
  pollCur : Option Nat
  pollOrphans : List Nat
  hb : HB
  sockOpen : Bool
  sockConnected : Bool
  subscribed : Bool
  now : Nat

def ctl (s : State) : Ctl :=
  { st := s.st, initialised := s.initialised, initWaits := s.initWaits, pollCur := s.pollCur,
    pollOrphans := s.pollOrphans, hb := s.hb, sockOpen := s.sockOpen, sockConnected := s.sockConnected,
    subscribed := s.subscribed, now := s.now }

/-- `enterConnected`: the current poll task is orphaned and a new one started, every waiting `init()` released, the
    heartbeat manager started -/
def Ctl.entered (c : Ctl) : Ctl :=
  { c with st := .CONNECTED, pollOrphans := c.pollOrphans ++ c.pollCur.toList
           pollCur := some (c.now + Api4.GROUP_STATUS_TIMEOUT), initialised := true, initWaits := []
           hb := startHB c.now c.hb }

/-- `rearmPolls` -/
def Ctl.rearmed (c : Ctl) : Ctl :=
  { c with pollCur := c.pollCur.map (fun _ => c.now + Api4.GROUP_STATUS_TIMEOUT)
           pollOrphans := c.pollOrphans.map (fun _ => c.now + Api4.GROUP_STATUS_TIMEOUT) }

/-- the message is the group status that completes the handshake -/
def completes (s : State) (m : RMsg) : Bool :=
  s.st == .INIT_GROUP_STATUS && (match m with | .groupStatus (.status _) => true | _ => false)

theorem completes_iff (s : State) (m : RMsg) :
    completes s m = true ↔ s.st = .INIT_GROUP_STATUS ∧ ∃ l, m = .groupStatus (.status l) := by
  unfold completes
  split <;> simp_all

/-- the message is a group status arriving in state `CONNECTED` -/
def rearms (s : State) (m : RMsg) : Bool :=
  s.st == .CONNECTED && (match m with | .groupStatus (.status _) => true | _ => false)

theorem rearms_iff (s : State) (m : RMsg) :
    rearms s m = true ↔ s.st = .CONNECTED ∧ ∃ l, m = .groupStatus (.status l) := by
  unfold rearms
  split <;> simp_all

theorem completes_answer {s : State} {m : RMsg} (h : completes s m = true) :
    answerKind s.st m = true ∧ s.st = .INIT_GROUP_STATUS := by
  obtain ⟨hst, l, rfl⟩ := (completes_iff s m).1 h
  exact ⟨by rw [hst]; rfl, hst⟩

theorem ctl_enterConnected (s : State) : ctl (enterConnected s).1 = (ctl s).entered := by
  unfold enterConnected
  simp only
  rw [hbStart_frame]
  simp only [ctl, hbStart_hb]
  rfl

theorem ctl_fold {ρ ω β : Type} [DecidableEq β] (K : Kind ρ ω β) (s : State) (l : List ρ) :
    ctl (foldEv K.update s l).1 = ctl s := by
  rw [K.fold_objs]; rfl

theorem ctl_absorb (s : State) (m : RMsg) :
    ctl (absorb s m).1 = if rearms s m then (ctl s).rearmed else ctl s := by
  by_cases hr : rearms s m = true
  · obtain ⟨hst, l, rfl⟩ := (rearms_iff s _).1 hr
    rw [if_pos hr]
    simp only [absorb, hst, if_true]
    exact ctl_fold groupK _ l
  · rw [if_neg hr]
    have hn : ∀ l, m = .groupStatus (.status l) → s.st ≠ .CONNECTED := fun l e h => hr ((rearms_iff s m).2 ⟨h, l, e⟩)
    unfold absorb
    split
    all_goals first
      | rfl
      | (split
         · first
           | (rw [updateVersion_frame]; rfl)
           | exact ctl_fold _ _ _
           | exact absurd ‹_› (hn _ rfl)
         · rfl)
      | (rw [errInfoK.update_objs]; rfl)

theorem ctl_store (s : State) (m : RMsg) : ctl (store s m).1 = ctl s := by
  rw [store_frame]; rfl

theorem ctl_onMessage (s : State) (m : RMsg) :
    ctl (onMessage s m).1 =
      { (if completes s m then (ctl s).entered else if rearms s m then (ctl s).rearmed else ctl s) with
        st := (onMessage s m).1.st } := by
  have nc : s.st ≠ .INIT_GROUP_STATUS → completes s m = false := fun h =>
    Bool.eq_false_iff.2 fun k => h (completes_answer k).2
  have nr : answerKind s.st m = true → rearms s m = false := fun h =>
    Bool.eq_false_iff.2 fun k => by rw [((rearms_iff s m).1 k).1, answerKind_connected] at h; cases h
  have self : ∀ t : State, ctl t = { ctl t with st := t.st } := fun _ => rfl
  rcases onMessage_cases s m with ⟨h, e⟩ | ⟨h, hs, e⟩ | ⟨h, hs, _, e⟩ | ⟨h, hs, _, e⟩ <;> rw [e]
  · have : completes s m = false := Bool.eq_false_iff.2 fun k => by rw [(completes_answer k).1] at h; cases h
    rw [this, self (absorb s m).1, ctl_absorb]; rfl
  · obtain ⟨l, rfl⟩ := answerKind_final hs h
    rw [(completes_iff s _).2 ⟨hs, l, rfl⟩, self (enterConnected _).1, ctl_enterConnected, ctl_store]; rfl
  · rw [nc (by rw [hs]; nofun), nr h, self (store s m).1, ctl_store]; rfl
  · rw [nc hs, nr h]
    show { ctl (store s m).1 with st := nextState s.st } = _
    rw [ctl_store]; rfl

theorem completes_not_response {s : State} {m : RMsg} (h : completes s m = true) : isHeartbeatResponse m = false := by
  obtain ⟨_, l, rfl⟩ := (completes_iff s m).mp h
  rfl

/-- the embedded heartbeat after `recv m` -/
def recvHB (s : State) (m : RMsg) : HB :=
  if s.subscribed && completes s m then startHB s.now s.hb
  else if isHeartbeatResponse m then respondedHB { s.hb with now := s.now } else s.hb

/-- a delivered message on the control part: the handler (if the callbacks are registered), then the heartbeat
    manager's own subscriber -/
theorem ctl_recv (s : State) (m : RMsg) :
    ctl (recv s m).1 =
      { (if s.subscribed && completes s m then (ctl s).entered
         else if s.subscribed && rearms s m then (ctl s).rearmed else ctl s) with
        st := (recv s m).1.st, hb := recvHB s m } := by
  have hb : ∀ t : State, ctl (hbOnMessage t m) =
      { ctl t with hb := if isHeartbeatResponse m then respondedHB { t.hb with now := t.now } else t.hb } := fun t => by
    unfold hbOnMessage; split <;> rfl
  have self : ∀ t : State, ctl t = { ctl t with st := t.st } := fun _ => rfl
  unfold recv recvHB
  simp only
  rw [self (hbOnMessage _ m), hb]
  cases hsub : s.subscribed with
  | false => simp only [Bool.false_eq_true, ↓reduceIte, Bool.false_and]
  | true =>
    simp only [↓reduceIte, Bool.true_and]
    have e := ctl_onMessage s m
    have e1 : (onMessage s m).1.hb = _ := congrArg Ctl.hb e
    have e2 : (onMessage s m).1.now = _ := congrArg Ctl.now e
    rw [e, e1, e2]
    cases hc : completes s m with
    | true => rw [completes_not_response hc]; rfl
    | false => cases rearms s m <;> rfl

structure SockKept (s t : State) : Prop where
  subscribed : t.subscribed = s.subscribed
  sockOpen : t.sockOpen = s.sockOpen
  sockConnected : t.sockConnected = s.sockConnected
  now : t.now = s.now

theorem recv_sock (s : State) (m : RMsg) : SockKept s (recv s m).1 := by
  have e := ctl_recv s m
  refine ⟨(congrArg Ctl.subscribed e).trans ?_, (congrArg Ctl.sockOpen e).trans ?_,
    (congrArg Ctl.sockConnected e).trans ?_, (congrArg Ctl.now e).trans ?_⟩ <;>
    (dsimp only; split) <;> first | rfl | (split <;> rfl)

theorem recv_subscribed (s : State) (m : RMsg) : (recv s m).1.subscribed = s.subscribed := (recv_sock s m).subscribed

theorem recv_completes_polls {s : State} {m : RMsg} (hsub : s.subscribed = true) (hc : completes s m = true) :
    (recv s m).1.pollOrphans = s.pollOrphans ++ s.pollCur.toList ∧
    (recv s m).1.pollCur = some (s.now + Api4.GROUP_STATUS_TIMEOUT) := by
  have e := ctl_recv s m
  rw [hsub, hc] at e
  exact ⟨congrArg Ctl.pollOrphans e, congrArg Ctl.pollCur e⟩

theorem recv_final_events (s : State) (hsub : s.subscribed = true) (l : List X2B.GroupStatusData)
    (hs : s.st = .INIT_GROUP_STATUS) :
    (recv s (.groupStatus (.status l))).2 =
      (store s (.groupStatus (.status l))).2 ++ [Ev.hbStart] ++ s.initWaits.map (fun _ => Ev.result "init True") ++
        (if hbIdle s.hb && s.sockConnected then [Ev.send .connected hbMessage] else []) := by
  have e : ctl (foldEv groupK.update s l).1 = ctl s := ctl_store s (.groupStatus (.status l))
  have e1 : (foldEv groupK.update s l).1.hb = s.hb := congrArg Ctl.hb e
  have e3 : (foldEv groupK.update s l).1.sockConnected = s.sockConnected := congrArg Ctl.sockConnected e
  have e4 : (foldEv groupK.update s l).1.initWaits = s.initWaits := congrArg Ctl.initWaits e
  simp only [recv, hsub, ↓reduceIte, onMessage, hs, enterConnected, hbStart_events, updateGroupStatus_eq, e1, e3, e4,
    List.append_nil, List.append_assoc, store]

theorem recv_rearms_polls {s : State} {m : RMsg} (hsub : s.subscribed = true) (hr : rearms s m = true) :
    (recv s m).1.pollCur = s.pollCur.map (fun _ => s.now + Api4.GROUP_STATUS_TIMEOUT) ∧
    (recv s m).1.pollOrphans = s.pollOrphans.map (fun _ => s.now + Api4.GROUP_STATUS_TIMEOUT) := by
  have e := ctl_recv s m
  have hc : completes s m = false := Bool.eq_false_iff.2 fun k => by
    have h1 := ((rearms_iff s m).1 hr).1
    rw [(completes_answer k).2] at h1; cases h1
  rw [hsub, hr, hc] at e
  exact ⟨congrArg Ctl.pollCur e, congrArg Ctl.pollOrphans e⟩

theorem recv_hb (s : State) (m : RMsg) : (recv s m).1.hb = recvHB s m := congrArg Ctl.hb (ctl_recv s m)

theorem startHB_idle {n : Nat} {h : HB} (hi : hbIdle h = true) : startHB n h = startedHB { h with now := n } := by
  rw [startHB, if_pos hi]

theorem startHB_running {n : Nat} {h : HB} (hi : hbIdle h = false) : startHB n h = h := by
  rw [startHB, if_neg (by rw [hi]; nofun)]

theorem recvHB_completes {s : State} {m : RMsg} (hsub : s.subscribed = true) (hc : completes s m = true) :
    recvHB s m = startHB s.now s.hb := by
  rw [recvHB, hsub, hc]; rfl

theorem recvHB_response {s : State} {m : RMsg} (h : isHeartbeatResponse m = true) :
    recvHB s m = respondedHB { s.hb with now := s.now } := by
  have hc : completes s m = false := Bool.eq_false_iff.2 fun hx => by rw [completes_not_response hx] at h; cases h
  rw [recvHB, hc, h, Bool.and_false]; rfl

/-! ## the moves -/

/-- the message an op delivers to the API object -/
def opMsg : Op → Option RMsg
  | .recv m => some m
  | .msg mid payload =>
    match decodeTop mid payload with
    | .ok m => some m
    | .error _ => none
  | _ => none

theorem apiStep_of_opMsg {s : State} {op : Op} {m : RMsg} (h : opMsg op = some m) : apiStep s op = recv s m := by
  cases op with
  | recv m' => cases h; rfl
  | msg mid payload =>
    simp only [opMsg] at h
    simp only [apiStep]
    cases hd : decodeTop mid payload <;> rw [hd] at h <;> cases h
    rfl
  | _ => cases h

inductive CLabel
  | init | shutdown | conn (up : Bool) | answer (m : RMsg) | complete (m : RMsg) | rearm (m : RMsg)
  | response (m : RMsg) | tick

/-- the op a move can be part of -/
def CLabel.of : CLabel → Op → Prop
  | .init, op => op = .init
  | .shutdown, op => op = .shutdown
  | .conn up, op => op = .conn up
  | .answer m, op | .complete m, op | .rearm m, op | .response m, op => opMsg op = some m
  | .tick, op => ∃ n, op = .adv n

/-- one tick: the clock moves, the heartbeat's timers, every poll task and every waiting `init()` look at it -/
def Ctl.tick (c : Ctl) : Ctl :=
  { c with now := c.now + 1, hb := tickHB c.sockConnected (c.now + 1) c.hb
           pollCur := (c.pollCur.map (firePoll c.sockConnected c.sockOpen (c.now + 1))).bind (·.1)
           pollOrphans := (c.pollOrphans.map (firePoll c.sockConnected c.sockOpen (c.now + 1))).filterMap (·.1)
           initWaits := c.initWaits.filter (fun d => !decide (d ≤ c.now + 1)) }

inductive CStep : CLabel → Ctl → Ctl → Prop
  | init (c : Ctl) : CStep .init c
      { c with st := .CONNECTING, subscribed := true, sockOpen := true
               initWaits := if c.initialised then c.initWaits else c.initWaits ++ [c.now + Api4.INIT_TIMEOUT] }
  | shutdown (c : Ctl) : CStep .shutdown c
      { c with st := .CLOSED, initialised := false, pollCur := none, sockOpen := false, sockConnected := false
               hb := hbApply (hbApply { c.hb with now := c.now } .stop) (.conn false) }
  | conn (c : Ctl) (up : Bool) : CStep (.conn up) c
      { c with sockConnected := up, hb := hbApply { c.hb with now := c.now } (.conn up)
               st := (connStep c.subscribed c.st c.sockOpen up).1 }
  | answer (c : Ctl) (m : RMsg) (hsub : c.subscribed = true) (hk : answerKind c.st m = true)
      (hne : c.st ≠ .INIT_GROUP_STATUS) : CStep (.answer m) c { c with st := nextState c.st }
  | complete (c : Ctl) (m : RMsg) (hsub : c.subscribed = true) (hst : c.st = .INIT_GROUP_STATUS)
      (hm : ∃ l, m = .groupStatus (.status l)) : CStep (.complete m) c c.entered
  | rearm (c : Ctl) (m : RMsg) (hsub : c.subscribed = true) (hst : c.st = .CONNECTED)
      (hm : ∃ l, m = .groupStatus (.status l)) : CStep (.rearm m) c c.rearmed
  | response (c : Ctl) (m : RMsg) (hr : isHeartbeatResponse m = true) :
      CStep (.response m) c { c with hb := respondedHB { c.hb with now := c.now } }
  | tick (c : Ctl) : CStep .tick c c.tick

/-- the labels by which a move drives the heartbeat manager -/
def CLabel.hbLabel : CLabel → Label → Prop
  | .shutdown, l => l = .stop ∨ l = .conn false
  | .conn up, l => l = .conn up
  | .complete _, l => l = .start ∨ l = .hlBeat
  | .response _, l => l = .response ∨ l = .tlWake
  | .tick, l => timerLabel l
  | _, _ => False

theorem CLabel.hbLabel_ne_stop {l : CLabel} (hl : l ≠ .shutdown) (l' : Label) (h : l.hbLabel l') : l' ≠ .stop := by
  rintro rfl
  cases l <;> simp [CLabel.hbLabel, timerLabel] at h
  exact hl rfl

/-- the clock set is the one the move ends with: `c.now + 1` for a tick, `c.now` otherwise -/
theorem CStep.hb_drives {l : CLabel} {c c' : Ctl} (h : CStep l c c') :
    c'.hb = c.hb ∨ Drives l.hbLabel { c.hb with now := c'.now } c'.hb := by
  cases h with
  | init | answer | rearm => exact .inl rfl
  | shutdown => exact .inr ((Drives.apply _ .stop (.inl rfl)).trans (.apply _ (.conn false) (.inr rfl)))
  | conn _ up => exact .inr (.apply _ (.conn up) rfl)
  | complete => exact startHB_drives c.now c.hb
  | response => exact .inr (respondedHB_drives _)
  | tick => exact .inr (tickHB_drives _ _ _)

/-- a run of moves, each of them one the op can make -/
inductive CRun (op : Op) : Ctl → Ctl → Prop
  | nil (c : Ctl) : CRun op c c
  | cons {l : CLabel} {a b c : Ctl} (hl : l.of op) (h : CStep l a b) (t : CRun op b c) : CRun op a c

theorem CRun.one {op : Op} {l : CLabel} {a b : Ctl} (hl : l.of op) (h : CStep l a b) : CRun op a b :=
  .cons hl h (.nil b)

theorem CRun.trans {op : Op} {a b c : Ctl} (h1 : CRun op a b) (h2 : CRun op b c) : CRun op a c := by
  induction h1 with
  | nil => exact h2
  | cons hl h _ ih => exact .cons hl h (ih h2)

theorem CRun.of_eq {op : Op} {a b : Ctl} (h : b = a) : CRun op a b := by subst h; exact .nil _

/-! ## every op is a run of moves -/

theorem ctl_tick (s : State) : ctl (tick s).1 = (ctl s).tick := by
  unfold tick
  simp only [fireHbTimeout_eq, fireBeat_eq]
  rfl

theorem tick_hb (s : State) : (tick s).1.hb = tickHB s.sockConnected (s.now + 1) s.hb := congrArg Ctl.hb (ctl_tick s)
theorem tick_now (s : State) : (tick s).1.now = s.now + 1 := congrArg Ctl.now (ctl_tick s)
theorem tick_sockConnected (s : State) : (tick s).1.sockConnected = s.sockConnected :=
  congrArg Ctl.sockConnected (ctl_tick s)
theorem tick_sockOpen (s : State) : (tick s).1.sockOpen = s.sockOpen := congrArg Ctl.sockOpen (ctl_tick s)

theorem nextState_of_answer {st : AState} {m : RMsg} (h : answerKind st m = true) (hs : st ≠ .INIT_GROUP_STATUS) :
    st ≠ .CLOSED ∧ nextState st ≠ .CLOSED ∧ nextState st ≠ .CONNECTED := by
  unfold answerKind at h
  split at h <;> first | decide | exact absurd rfl hs | cases h

theorem moves_recv (op : Op) (m : RMsg) (hm : opMsg op = some m) (s : State) : CRun op (ctl s) (ctl (recv s m).1) := by
  have hb : ∀ t : State, CRun op (ctl t) (ctl (hbOnMessage t m)) := fun t => by
    unfold hbOnMessage
    split
    · next hr => exact .one (l := .response m) hm (.response (ctl t) m hr)
    · exact .nil _
  cases hsub : s.subscribed with
  | false =>
    have e : recv s m = (hbOnMessage s m, []) := by simp only [recv, hsub, Bool.false_eq_true, ↓reduceIte, List.append_nil]
    rw [e]; exact hb s
  | true =>
  rcases recv_cases s m with ⟨h, _⟩ | ⟨hk, e⟩ | ⟨_, hk, hs, e⟩ | ⟨_, _, _, _, e⟩ | ⟨_, hk, hs, _, e⟩
  · rw [hsub] at h; cases h
  all_goals rw [e]
  · refine CRun.trans ?_ (hb _)
    rw [ctl_absorb]
    split
    · next hr =>
      exact .one (l := .rearm m) hm (.rearm (ctl s) m hsub ((rearms_iff s m).1 hr).1 ((rearms_iff s m).1 hr).2)
    · exact .nil _
  · refine CRun.trans (.one (l := .complete m) hm (.complete (ctl s) m hsub hs (answerKind_final hs hk)))
      (CRun.trans (CRun.of_eq ?_) (hb _))
    rw [ctl_enterConnected, ctl_store]
  · exact CRun.trans (CRun.of_eq (ctl_store s m)) (hb _)
  · refine CRun.trans (.one (l := .answer m) hm (.answer (ctl s) m hsub hk hs)) (CRun.trans (CRun.of_eq ?_) (hb _))
    show { ctl (store s m).1 with st := nextState s.st } = _
    rw [ctl_store]; rfl

theorem moves_advance (k n : Nat) (s : State) : CRun (.adv k) (ctl s) (ctl (advance n s).1) := by
  induction n generalizing s with
  | zero => exact .nil _
  | succ n ih => exact .cons (l := .tick) ⟨k, rfl⟩ (ctl_tick s ▸ CStep.tick (ctl s)) (ih (tick s).1)

theorem moves_apiStep (s : State) (op : Op) : CRun op (ctl s) (ctl (apiStep s op).1) := by
  cases op with
  | init =>
    refine .one (l := .init) rfl ?_
    have h := CStep.init (ctl s)
    simp only [apiStep, doInit]
    cases hi : s.initialised <;> rw [show (ctl s).initialised = _ from hi] at h <;> exact h
  | shutdown => exact .one (l := .shutdown) rfl (.shutdown (ctl s))
  | conn up =>
    refine .one (l := .conn up) rfl ?_
    simp only [apiStep]; rw [onConn_eq]
    exact .conn (ctl s) up
  | msg mid payload =>
    cases hd : decodeTop mid payload with
    | ok m => simp only [apiStep, hd]; exact moves_recv _ m (by simp only [opMsg, hd]) s
    | error e => simp only [apiStep, hd]; exact .nil _
  | recv m => exact moves_recv _ m rfl s
  | call c | callBad c => exact .nil _
  | sub t sid r | unsub t sid => simp only [apiStep]; rw [subUnsub_frame]; exact .nil _
  | adv n => exact moves_advance n n s
  | view => simp only [apiStep]; split <;> exact .nil _

theorem CRun.inv {P : Ctl → Prop} {op : Op} {a b : Ctl} (h : CRun op a b)
    (step : ∀ l c c', CLabel.of l op → CStep l c c' → P c → P c') : P a → P b := by
  induction h with
  | nil => exact id
  | cons hl h _ ih => exact fun pa => ih (step _ _ _ hl h pa)

theorem ctl_inv {P : Ctl → Prop} (s : State) (op : Op)
    (step : ∀ l c c', CLabel.of l op → CStep l c c' → P c → P c') : P (ctl s) → P (ctl (apiStep s op).1) :=
  (moves_apiStep s op).inv step

end PyAirtouch.Lemmas.Api4
