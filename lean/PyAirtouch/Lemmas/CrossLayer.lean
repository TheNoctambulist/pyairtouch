import PyAirtouch.Lemmas.Frame
import PyAirtouch.Lemmas.Registry4
import PyAirtouch.Lemmas.Registry5
import PyAirtouch.Lemmas.Api4Basic
import PyAirtouch.Model.ApiCmd5
/-!
# Bytes on the wire → receive path → registry decoders → API ops

`Wire` is a frame as it travels (header and payload bytes; `Wire.bytes` as the send-path model `Frame.frame` computes
them); `Sent` pairs it with the message the registry's decoder makes of its payload.  Good frames come from the
registry's encoder applied to a sendable message, under any addresses and packet id (`wireOf`; `consoleWire` carries
the header `Api4.harnessHeader` builds), or have a type the registry does not know (`unknownSent`).  A concatenation
of good frames, cut into segments in any way, is delivered frame by frame, in order, and each delivery is one op of
the API model.
-/
namespace PyAirtouch.Lemmas.CrossLayer
open PyAirtouch.Model PyAirtouch.Model.Frame PyAirtouch.Lemmas.Frame PyAirtouch.Lemmas.Hdr

section Generic
variable {H M W : Type}

/-- `fr` is a complete frame: whatever follows it, the receive path delivers `(h, m)` and leaves what follows -/
def IsFrame (p : Proto H M) (h : H) (m : M) (fr : Bytes) : Prop :=
  ∀ rest, parseOne p (fr ++ rest) = .deliver h m rest

theorem parses_frames (p : Proto H M) (hpos : 0 < p.headerLength) (hdr : W → H) (msg : W → M) (bytes : W → Bytes)
    (xs : List W) (hx : ∀ x ∈ xs, IsFrame p (hdr x) (msg x) (bytes x)) :
    Parses p (xs.map bytes).flatten (xs.map fun x => (hdr x, msg x)) ⟨[], false⟩ := by
  induction xs with
  | nil => exact .needMore (if_pos hpos)
  | cons x xs ih =>
    exact .deliver (hx x List.mem_cons_self _) (ih fun y hy => hx y (List.mem_cons_of_mem _ hy))

/-- **any segmentation** of a concatenation of complete frames: each frame is delivered, once, in order, nothing else
    is, and the receiver ends with an empty buffer, alive -/
theorem feedAll_frames (p : Proto H M) (hpos : 0 < p.headerLength) (hdr : W → H) (msg : W → M) (bytes : W → Bytes)
    (xs : List W) (hx : ∀ x ∈ xs, IsFrame p (hdr x) (msg x) (bytes x)) (segs : List Bytes)
    (hsegs : segs.flatten = (xs.map bytes).flatten) :
    feedAll p ⟨[], false⟩ segs = (xs.map fun x => (hdr x, msg x), ⟨[], false⟩) := by
  rw [feedAll_eq_feed_flatten p hpos, hsegs]
  exact Parses.feed (parses_frames p hpos hdr msg bytes xs hx)

/-- the bytes of the frame with header `h` and payload `pl`, by the send-path model (`At4.Wire.bytes_eq_wireBytes`,
    `At5.Wire.bytes_eq_wireBytes`) -/
def wireBytes (enc : H → Except EncErr (Bytes × Bytes)) (h : H) (pl : Bytes) : Bytes :=
  match enc h with
  | .ok (hb, ck) => (frame hb ck pl).getD []
  | .error _ => []

section WireBytes
variable {enc : H → Except EncErr (Bytes × Bytes)} {p : Proto H M} (hp : Stack.HdrOK p enc) {h : H} {hb ck pl : Bytes}
include hp

theorem wireBytes_eq (he : enc h = .ok (hb, ck)) (hpl : AllBytes pl) :
    wireBytes enc h pl = hb ++ pl ++ PyAirtouch.Spec.checkBytes (ck ++ pl) := by
  simp only [wireBytes, he, frame_eq_some hb ck pl (hp.ck_bytes he) hpl, Option.getD_some]

theorem wireBytes_isFrame (he : enc h = .ok (hb, ck)) (hlen : p.msgLen h = pl.length) (hpl : AllBytes pl) {m : M}
    (hdec : p.decodeMsg h pl = .ok (m, [])) : IsFrame p h m (wireBytes enc h pl) := fun rest => by
  rw [wireBytes_eq hp he hpl]
  exact hp.frame_roundtrip rest he hlen hdec hpl (frame_eq_some hb ck pl (hp.ck_bytes he) hpl)

end WireBytes

/-- the finest segmentation: one byte per segment -/
theorem flatten_singletons (l : Bytes) : (l.map fun b => [b]).flatten = l := by
  induction l with
  | nil => rfl
  | cons b l ih => simp only [List.map_cons, List.flatten_cons, ih]; rfl

end Generic

namespace At4
open PyAirtouch.Model.At4 PyAirtouch.Model.At4.Registry PyAirtouch.Model.Api4
open PyAirtouch.Lemmas.Registry4 PyAirtouch.Lemmas.Api4

/-- a frame as it travels: header and payload bytes -/
structure Wire where
  hdr : Hdr
  payload : Bytes

/-- the header fields fit their struct fields, the announced length is the payload's, the payload is bytes -/
def Wire.WF (w : Wire) : Prop :=
  At4.Hdr.WF w.hdr ∧ w.hdr.message_length = w.payload.length ∧ AllBytes w.payload

/-- the bytes on the wire, by the send-path model: header bytes, payload, CRC over checksum data and payload -/
def Wire.bytes (w : Wire) : Bytes :=
  match At4.Hdr.encode w.hdr with
  | .ok (hb, ck) => (Frame.frame hb ck w.payload).getD []
  | .error _ => []

theorem Wire.bytes_eq_wireBytes (w : Wire) : w.bytes = wireBytes At4.Hdr.encode w.hdr w.payload := rfl

/-- the receive path without the registry: payloads are handed on undecoded -/
def rawProto : Frame.Proto Hdr Bytes :=
  { headerLength := At4.Hdr.headerLength, decodeHdr := At4.Hdr.decode, msgLen := fun h => h.message_length,
    decodeMsg := fun _ bs => .ok (bs, []) }

theorem Wire.bytes_eq (w : Wire) (hw : w.WF) :
    w.bytes = [0x55, 0x55, w.hdr.to_address, w.hdr.from_address, w.hdr.packet_id, w.hdr.message_id,
        w.hdr.message_length / 256 % 256, w.hdr.message_length % 256] ++ w.payload ++
      PyAirtouch.Spec.checkBytes ([w.hdr.to_address, w.hdr.from_address, w.hdr.packet_id, w.hdr.message_id,
        w.hdr.message_length / 256 % 256, w.hdr.message_length % 256] ++ w.payload) := by
  obtain ⟨⟨hb, ck⟩, he⟩ := (at4_encode_ok_iff _).mpr hw.1
  obtain ⟨-, hck, hhb⟩ := at4_encode_eq _ hb ck he
  rw [w.bytes_eq_wireBytes, wireBytes_eq (enc := At4.Hdr.encode) stack_ok.hdr he hw.2.2, hhb, hck]
  rfl

/-- eight header bytes, the payload, two check bytes -/
theorem Wire.length_bytes (w : Wire) (hw : w.WF) : w.bytes.length = w.payload.length + 10 := by
  rw [Wire.bytes_eq w hw, List.length_append, List.length_append]
  show 8 + w.payload.length + 2 = _
  omega

theorem wire_isFrame {M : Type} (p : Frame.Proto Hdr M) (hpl : p.headerLength = At4.Hdr.headerLength)
    (hpd : p.decodeHdr = At4.Hdr.decode) (hpm : p.msgLen = fun h => h.message_length)
    (w : Wire) (hw : w.WF) (m : M) (hdec : p.decodeMsg w.hdr w.payload = .ok (m, [])) :
    IsFrame p w.hdr m w.bytes := by
  obtain ⟨⟨hb, ck⟩, he⟩ := (at4_encode_ok_iff _).mpr hw.1
  rw [w.bytes_eq_wireBytes]
  exact wireBytes_isFrame (Hdr.at4_hdrOK p hpl hpd) he (hpm ▸ hw.2.1) hw.2.2 hdec

/-- a frame and what the registry's decoder makes of its payload -/
abbrev Sent := Wire × Msg

def Sent.Good (x : Sent) : Prop := x.1.WF ∧ decodeMsg x.1.hdr x.1.payload = .ok (x.2, [])

/-- the byte stream of a list of frames -/
def wireStream (xs : List Sent) : Bytes := (xs.map (·.1.bytes)).flatten

theorem wireStream_append (a b : List Sent) : wireStream (a ++ b) = wireStream a ++ wireStream b := by
  simp [wireStream]

theorem wireStream_length (xs : List Sent) (hx : ∀ x ∈ xs, x.1.WF) :
    (wireStream xs).length = (xs.map fun x => x.1.payload.length + 10).sum := by
  rw [wireStream, List.length_flatten, List.map_map]
  exact congrArg List.sum (List.map_congr_left fun x hxm => Wire.length_bytes x.1 (hx x hxm))

theorem stream_delivers_raw (xs : List Sent) (hx : ∀ x ∈ xs, x.Good) (segs : List Bytes)
    (hsegs : segs.flatten = wireStream xs) :
    feedAll rawProto ⟨[], false⟩ segs = (xs.map (fun x => (x.1.hdr, x.1.payload)), ⟨[], false⟩) :=
  feedAll_frames rawProto (by decide) (fun x : Sent => x.1.hdr) (fun x => x.1.payload) (fun x => x.1.bytes) xs
    (fun x hxm => wire_isFrame rawProto rfl rfl rfl x.1 (hx x hxm).1 x.1.payload rfl) segs hsegs

/-- what the registry's encoder writes (`[]` when it raises) -/
def payloadOf (m : Msg) : Bytes :=
  match encodeMsg m with
  | .ok bs => bs
  | .error _ => []

/-- a message the send path accepts: well formed, and its payload fits the 16-bit length field -/
def Sendable (m : Msg) : Prop := WFMsg m ∧ (payloadOf m).length < 65536

/-- the frame of `m` with addresses `t`, `f` and packet id `pid` -/
def wireOf (t f pid : Nat) (m : Msg) : Wire :=
  ⟨⟨t, f, pid, m.messageId, (payloadOf m).length⟩, payloadOf m⟩

/-- run-time test of `Sendable` -/
theorem sendable_of_bool (m : Msg) (h : (wfMsgBool m && decide ((payloadOf m).length < 65536)) = true) :
    Sendable m := by
  simp only [Bool.and_eq_true, decide_eq_true_eq] at h
  exact ⟨(wfMsgBool_iff _).mp h.1, h.2⟩

theorem encodeMsg_payloadOf (m : Msg) (hwf : WFMsg m) : encodeMsg m = .ok (payloadOf m) := by
  obtain ⟨bs, h⟩ := encodeMsg_ok m hwf
  simp only [payloadOf, h]

theorem wireOf_good (t f pid : Nat) (ht : t < 256) (hf : f < 256) (hpid : pid < 256) (m : Msg) (hm : Sendable m) :
    Sent.Good (wireOf t f pid m, m) := by
  obtain ⟨-, hdec, hb⟩ := Records.ok_of_exists (msg_ok m hm.1) (encodeMsg_payloadOf m hm.1)
  exact ⟨⟨⟨ht, hf, hpid, messageId_lt m hm.1, hm.2⟩, rfl, hb⟩, hdec t f pid⟩

/-- the client's own send path is the case `t = 0x80 / 0x90`, `f = 0xB0`: `Wire.bytes` is what `send(m)` hands to
    the stream writer -/
theorem frameOf_wireOf (pid : Nat) (hpid : pid < 256) (m : Msg) (hm : Sendable m) :
    frameOf pid m = .ok (wireOf (mkHeader pid m 0).to_address Gen.At4.Hdr.ADDRESS_CLIENT pid m).bytes := by
  have ht : (mkHeader pid m 0).to_address < 256 := by
    simp only [mkHeader]; split <;> decide
  have hg := (wireOf_good _ Gen.At4.Hdr.ADDRESS_CLIENT pid ht (by decide) hpid m hm).1
  obtain ⟨⟨hb, ck⟩, he⟩ := (at4_encode_ok_iff _).mpr hg.1
  have he' : stack.encodeHdr (stack.mkHeader pid m (payloadOf m).length) = .ok (hb, ck) := he
  exact (frameOf_eq pid m).trans ((stack_ok.frameOf_iff hm.1 pid _).mpr
    ⟨payloadOf m, hb, ck, encodeMsg_payloadOf m hm.1, he', (Wire.bytes_eq_wireBytes _).trans (wireBytes_eq stack_ok.hdr he hg.2.2)⟩)

/-- the `from_address` of a console frame: 0x90 for the extended message type, else 0x80 (`Api4.harnessHeader`) -/
def consoleFrom (mid : Nat) : Nat := if mid = 0x1F then 0x90 else 0x80

/-- a console frame: to the client (0xB0), packet id `pid` -/
def consoleWire (pid : Nat) (m : Msg) : Wire := wireOf 0xB0 (consoleFrom m.messageId) pid m

def consoleSent (pid : Nat) (m : Msg) : Sent := (consoleWire pid m, m)

theorem consoleFrom_lt (mid : Nat) : consoleFrom mid < 256 := by unfold consoleFrom; split <;> decide

theorem consoleSent_good (pid : Nat) (hpid : pid < 256) (m : Msg) (hm : Sendable m) : (consoleSent pid m).Good :=
  wireOf_good _ _ pid (by decide) (consoleFrom_lt _) hpid m hm

theorem consoleWire_hdr (pid : Nat) (m : Msg) :
    (consoleWire pid m).hdr = { harnessHeader m.messageId (payloadOf m).length with packet_id := pid } := rfl

/-- a frame of a type the registry has no decoder for -/
def unknownSent (t f pid id : Nat) (raw : Bytes) : Sent := (⟨⟨t, f, pid, id, raw.length⟩, raw⟩, .unsupported id raw)

theorem unknownSent_good (t f pid id : Nat) (raw : Bytes) (ht : t < 256) (hf : f < 256) (hpid : pid < 256)
    (hid : id < 256) (hunk : id ∉ Gen.At4.Registry.decoderIds) (hlen : raw.length < 65536) (hraw : AllBytes raw) :
    (unknownSent t f pid id raw).Good :=
  ⟨⟨⟨ht, hf, hpid, hid, hlen⟩, rfl, hraw⟩, decodeMsg_unknown id hunk t f pid raw⟩

/-- the decoders read the header's message id and length only -/
theorem decodeMsg_hdr_irrel (h h' : Hdr) (b : Bytes) (hid : h.message_id = h'.message_id)
    (hlen : h.message_length = h'.message_length) : decodeMsg h b = decodeMsg h' b := by
  unfold decodeMsg decodeExt
  rw [hid, hlen]

/-- the API op for a delivered `(header, message)`: the AirTouch 4 API does not look at the header -/
def recvOp (d : Hdr × Msg) : Op := .recv d.2

/-- the driver's op for a delivered `(header, payload bytes)`: `msg <message id> <payload>` -/
def msgOp (d : Hdr × Bytes) : Op := .msg d.1.message_id d.2

theorem apiStep_msg_eq_recv (s : State) (x : Sent) (hx : x.Good) :
    apiStep s (msgOp (x.1.hdr, x.1.payload)) = apiStep s (recvOp (x.1.hdr, x.2)) := by
  have h : decodeTop x.1.hdr.message_id x.1.payload = .ok x.2 := by
    unfold decodeTop
    rw [decodeMsg_hdr_irrel (harnessHeader x.1.hdr.message_id x.1.payload.length) x.1.hdr x.1.payload rfl
      hx.1.2.1.symm, hx.2]
    rfl
  simp only [msgOp, recvOp, apiStep, h]

theorem run_msg_eq_recv (xs : List Sent) (hx : ∀ x ∈ xs, x.Good) (s : State) :
    run s (xs.map fun x => msgOp (x.1.hdr, x.1.payload)) = run s (xs.map fun x => recvOp (x.1.hdr, x.2)) := by
  induction xs generalizing s with
  | nil => rfl
  | cons x xs ih =>
    simp only [List.map_cons, run]
    rw [apiStep_msg_eq_recv s x (hx x List.mem_cons_self),
      ih (fun y hy => hx y (List.mem_cons_of_mem _ hy))]

theorem run_pre_msg_eq_recv (pre : List Op) (xs : List Sent) (hx : ∀ x ∈ xs, x.Good) (s : State) :
    run s (pre ++ xs.map fun x => msgOp (x.1.hdr, x.1.payload)) =
      run s (pre ++ xs.map fun x => recvOp (x.1.hdr, x.2)) := by
  rw [run_append, run_append, run_msg_eq_recv xs hx]

end At4

namespace At5
open PyAirtouch.Model.At5 PyAirtouch.Model.At5.Registry PyAirtouch.Model.Api5
open PyAirtouch.Lemmas.Registry5

/-- a frame as it travels: header and payload bytes -/
structure Wire where
  hdr : Hdr
  payload : Bytes

/-- the header fields fit their struct fields (both outer length fields included), the announced length is the
    payload's, the payload is bytes -/
def Wire.WF (w : Wire) : Prop :=
  At5.Hdr.WF w.hdr ∧ w.hdr.message_length = w.payload.length ∧ AllBytes w.payload

/-- the bytes on the wire, by the send-path model: header bytes, payload, CRC over checksum data and payload -/
def Wire.bytes (w : Wire) : Bytes :=
  match At5.Hdr.encode w.hdr with
  | .ok (hb, ck) => (Frame.frame hb ck w.payload).getD []
  | .error _ => []

theorem Wire.bytes_eq_wireBytes (w : Wire) : w.bytes = wireBytes At5.Hdr.encode w.hdr w.payload := rfl

/-- the receive path without the registry: payloads are handed on undecoded -/
def rawProto : Frame.Proto Hdr Bytes :=
  { headerLength := At5.Hdr.headerLength, decodeHdr := At5.Hdr.decode, msgLen := fun h => h.message_length,
    decodeMsg := fun _ bs => .ok (bs, []) }

theorem Wire.bytes_eq (w : Wire) (hw : w.WF) :
    w.bytes = [0x55, 0x55, 0x55, 0xAB, 0, 0] ++ be16Bytes (10 + w.hdr.message_length + 2) ++
        be16Bytes (10 + w.hdr.message_length + 2) ++ [0x55, 0x55, 0x55, 0xAA] ++
        [w.hdr.to_address, w.hdr.from_address, w.hdr.packet_id, w.hdr.message_id,
          w.hdr.message_length / 256 % 256, w.hdr.message_length % 256] ++ w.payload ++
      PyAirtouch.Spec.checkBytes ([w.hdr.to_address, w.hdr.from_address, w.hdr.packet_id, w.hdr.message_id,
        w.hdr.message_length / 256 % 256, w.hdr.message_length % 256] ++ w.payload) := by
  obtain ⟨⟨hb, ck⟩, he⟩ := (at5_encode_ok_iff _).mpr hw.1
  obtain ⟨-, hck, hhb⟩ := at5_encode_eq _ hb ck he
  rw [w.bytes_eq_wireBytes, wireBytes_eq (enc := At5.Hdr.encode) stack_ok.hdr he hw.2.2, hhb, hck]

/-- twenty header bytes, the payload, two check bytes -/
theorem Wire.length_bytes (w : Wire) (hw : w.WF) : w.bytes.length = w.payload.length + 22 := by
  rw [Wire.bytes_eq w hw]
  simp only [List.length_append]
  show 6 + 2 + 2 + 4 + 6 + w.payload.length + 2 = _
  omega

theorem wire_isFrame {M : Type} (p : Frame.Proto Hdr M) (hpl : p.headerLength = At5.Hdr.headerLength)
    (hpd : p.decodeHdr = At5.Hdr.decode) (hpm : p.msgLen = fun h => h.message_length)
    (w : Wire) (hw : w.WF) (m : M) (hdec : p.decodeMsg w.hdr w.payload = .ok (m, [])) :
    IsFrame p w.hdr m w.bytes := by
  obtain ⟨⟨hb, ck⟩, he⟩ := (at5_encode_ok_iff _).mpr hw.1
  rw [w.bytes_eq_wireBytes]
  exact wireBytes_isFrame (Hdr.at5_hdrOK p hpl hpd) he (hpm ▸ hw.2.1) hw.2.2 hdec

/-- a frame and what the registry's decoder makes of its payload -/
abbrev Sent := Wire × Msg

def Sent.Good (x : Sent) : Prop := x.1.WF ∧ decodeMsg x.1.hdr x.1.payload = .ok (x.2, [])

/-- the byte stream of a list of frames -/
def wireStream (xs : List Sent) : Bytes := (xs.map (·.1.bytes)).flatten

theorem wireStream_append (a b : List Sent) : wireStream (a ++ b) = wireStream a ++ wireStream b := by
  simp [wireStream]

theorem wireStream_length (xs : List Sent) (hx : ∀ x ∈ xs, x.1.WF) :
    (wireStream xs).length = (xs.map fun x => x.1.payload.length + 22).sum := by
  rw [wireStream, List.length_flatten, List.map_map]
  exact congrArg List.sum (List.map_congr_left fun x hxm => Wire.length_bytes x.1 (hx x hxm))

theorem stream_delivers_raw (xs : List Sent) (hx : ∀ x ∈ xs, x.Good) (segs : List Bytes)
    (hsegs : segs.flatten = wireStream xs) :
    feedAll rawProto ⟨[], false⟩ segs = (xs.map (fun x => (x.1.hdr, x.1.payload)), ⟨[], false⟩) :=
  feedAll_frames rawProto (by decide) (fun x : Sent => x.1.hdr) (fun x => x.1.payload) (fun x => x.1.bytes) xs
    (fun x hxm => wire_isFrame rawProto rfl rfl rfl x.1 (hx x hxm).1 x.1.payload rfl) segs hsegs

/-- what the registry's encoder writes (`[]` when it raises) -/
def payloadOf (m : Msg) : Bytes :=
  match encodeMsg m with
  | .ok bs => bs
  | .error _ => []

/-- a message the send path accepts: well formed, and its payload fits the 16-bit length fields (the outer ones carry
    `10 + length + 2`) -/
def Sendable (m : Msg) : Prop := WFMsg m ∧ At5.Hdr.dataLength (payloadOf m).length < 65536

/-- the frame of `m` with addresses `t`, `f` and packet id `pid` -/
def wireOf (t f pid : Nat) (m : Msg) : Wire :=
  ⟨⟨t, f, pid, m.messageId, (payloadOf m).length⟩, payloadOf m⟩

/-- run-time test of `Sendable` -/
theorem sendable_of_bool (m : Msg)
    (h : (wfMsgBool m && decide (At5.Hdr.dataLength (payloadOf m).length < 65536)) = true) : Sendable m := by
  simp only [Bool.and_eq_true, decide_eq_true_eq] at h
  exact ⟨(wfMsgBool_iff _).mp h.1, h.2⟩

theorem encodeMsg_payloadOf (m : Msg) (hwf : WFMsg m) : encodeMsg m = .ok (payloadOf m) := by
  obtain ⟨bs, h⟩ := encodeMsg_ok m hwf
  simp only [payloadOf, h]

theorem wireOf_good (t f pid : Nat) (ht : t < 256) (hf : f < 256) (hpid : pid < 256) (m : Msg) (hm : Sendable m) :
    Sent.Good (wireOf t f pid m, m) := by
  obtain ⟨-, hdec, hb⟩ := Records.ok_of_exists (msg_ok m hm.1) (encodeMsg_payloadOf m hm.1)
  have hlen : (payloadOf m).length < 65536 := by
    have := hm.2
    simp only [At5.Hdr.dataLength] at this
    omega
  exact ⟨⟨⟨ht, hf, hpid, messageId_lt m hm.1, hlen, hm.2⟩, rfl, hb⟩, hdec t f pid⟩

/-- `Wire.bytes` is what `_write(header, message)` hands to the stream writer -/
theorem writeFrame_wireOf (t f pid : Nat) (ht : t < 256) (hf : f < 256) (hpid : pid < 256) (m : Msg)
    (hm : Sendable m) : writeFrame (wireOf t f pid m).hdr m = .ok (wireOf t f pid m).bytes := by
  have hg := (wireOf_good t f pid ht hf hpid m hm).1
  obtain ⟨⟨hb, ck⟩, he⟩ := (at5_encode_ok_iff _).mpr hg.1
  have hfr := frame_eq_some hb ck (payloadOf m) (stack_ok.hdr.ck_bytes he) hg.2.2
  have he' : At5.Hdr.encode ⟨t, f, pid, m.messageId, (payloadOf m).length⟩ = .ok (hb, ck) := he
  simp only [writeFrame, wireOf, Wire.bytes, he', encodeMsg_payloadOf m hm.1, hfr, bind, Except.bind, pure,
    Except.pure, Option.getD_some]

/-- the `from_address` of a console frame: 0x90 for the extended message type, else 0x80 (`ApiCmd5.parseMsg`) -/
def consoleFrom (mid : Nat) : Nat := if mid ≠ 0x1F then 0x80 else 0x90

/-- a console frame: to the client (0xB0), packet id `pid` -/
def consoleWire (pid : Nat) (m : Msg) : Wire := wireOf 0xB0 (consoleFrom m.messageId) pid m

def consoleSent (pid : Nat) (m : Msg) : Sent := (consoleWire pid m, m)

theorem consoleFrom_lt (mid : Nat) : consoleFrom mid < 256 := by unfold consoleFrom; split <;> decide

theorem consoleSent_good (pid : Nat) (hpid : pid < 256) (m : Msg) (hm : Sendable m) : (consoleSent pid m).Good :=
  wireOf_good _ _ pid (by decide) (consoleFrom_lt _) hpid m hm

/-- a frame of a type the registry has no decoder for -/
def unknownSent (t f pid id : Nat) (raw : Bytes) : Sent := (⟨⟨t, f, pid, id, raw.length⟩, raw⟩, .unsupported id raw)

theorem unknownSent_good (t f pid id : Nat) (raw : Bytes) (ht : t < 256) (hf : f < 256) (hpid : pid < 256)
    (hid : id < 256) (hunk : id ∉ Gen.At5.Registry.decoderIds) (hlen : At5.Hdr.dataLength raw.length < 65536)
    (hraw : AllBytes raw) : (unknownSent t f pid id raw).Good := by
  have hl : raw.length < 65536 := by
    simp only [At5.Hdr.dataLength] at hlen
    omega
  exact ⟨⟨⟨ht, hf, hpid, hid, hl, hlen⟩, rfl, hraw⟩, decodeMsg_unknown id hunk t f pid raw⟩

/-- the decoders read the header's message id and length only -/
theorem decodeMsg_hdr_irrel (h h' : Hdr) (b : Bytes) (hid : h.message_id = h'.message_id)
    (hlen : h.message_length = h'.message_length) : decodeMsg h b = decodeMsg h' b := by
  unfold decodeMsg decodeExt
  rw [hid, hlen]

/-- the API op for a delivered `(header, message)`: the header's `to_address` goes with the message (the zero-zone
    echo rule reads it) -/
def frameOp (d : Hdr × Msg) : Op := .msg d.1.to_address d.2

/-- the driver's op for a delivered `(header, payload bytes)`: `msg <message id> <payload> <to_address>`, parsed by
    `ApiCmd5.parseMsg` -/
def payloadOp (d : Hdr × Bytes) : Op := ApiCmd5.parseMsg d.1.message_id d.2 d.1.to_address

theorem parseMsg_good (x : Sent) (hx : x.Good) :
    payloadOp (x.1.hdr, x.1.payload) = frameOp (x.1.hdr, x.2) := by
  -- the header `ApiCmd5.parseMsg` builds for the decoder (it has the payload and two numbers only): the frame's but
  -- for `from_address` and `packet_id`, which the decoders do not read
  have h := decodeMsg_hdr_irrel
    { to_address := x.1.hdr.to_address, from_address := if x.1.hdr.message_id ≠ 0x1F then 0x80 else 0x90,
      packet_id := 1, message_id := x.1.hdr.message_id, message_length := x.1.payload.length }
    x.1.hdr x.1.payload rfl hx.1.2.1.symm
  simp only [payloadOp, frameOp, ApiCmd5.parseMsg]
  rw [h, hx.2]
  simp

theorem map_payloadOp (xs : List Sent) (hx : ∀ x ∈ xs, x.Good) :
    (xs.map fun x => payloadOp (x.1.hdr, x.1.payload)) = xs.map fun x => frameOp (x.1.hdr, x.2) :=
  List.map_congr_left fun x hxm => parseMsg_good x (hx x hxm)

end At5

end PyAirtouch.Lemmas.CrossLayer

