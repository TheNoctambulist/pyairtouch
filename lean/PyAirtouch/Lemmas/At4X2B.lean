import PyAirtouch.Model.At4.X2B
import PyAirtouch.Lemmas.BitField
import PyAirtouch.Lemmas.Records
/-! Round trip and length lemmas for the AirTouch 4 group status codec (0x2B). -/
namespace PyAirtouch.Lemmas.At4X2B
open PyAirtouch.Model PyAirtouch.Model.At4.X2B PyAirtouch.Gen.At4.X2BGroupStatus PyAirtouch.Lemmas.BitField
  PyAirtouch.Lemmas.Records

theorem encRec_length (g : GroupStatusData) : (encRec g).length = recSize := by
  simp [encRec, be16Bytes, recSize, STRUCT_size]

theorem encode_length (m : Msg) : (encode m).length = size m := by
  cases m with
  | request => rfl
  | status gs => exact flatMap_length encRec recSize encRec_length gs

theorem encSetPoint_lt (sp : Option Nat) : encSetPoint sp < 64 := by
  cases sp with
  | none => decide
  | some v => exact Nat.mod_lt _ (by decide)

/-- the temperature word holds a code `r` in bits 5-15 and the spill flag in bit 4; the code 2040 (high byte
    0xff) and no other well-formed one means "no temperature" -/
theorem word_fields {r f w : Nat} (hw : w = r * 32 + f * 16) (hr : r ≤ 2040) (hf : f < 2) :
    w < 65536 ∧ w / 16 % 2 = f ∧ w / 32 * 32 / 32 = r ∧ (w / 256 * 256 = 65280 ↔ r = 2040) := by
  omega

/-- what `encTemp` writes is a code `r` shifted past the five flag bits: 2040 (0xFF00) for "none", `t + 500`
    (below 2040 for every admitted temperature) otherwise -/
theorem encTemp_eq (temp : Option Int) (ht : ∀ t, temp = some t → -500 ≤ t ∧ t ≤ 1539) :
    ∃ r, encTemp temp = r * 32 ∧ r ≤ 2040 ∧ (r = 2040 ↔ temp = none) ∧
      ∀ t, temp = some t → t = r - 500 := by
  cases temp with
  | none => exact ⟨2040, rfl, by omega, by simp, by simp⟩
  | some t =>
    obtain ⟨h1, h2⟩ := ht t rfl
    refine ⟨(t + 500).toNat, ?_, by omega, by simp; omega, fun t' h => by cases h; omega⟩
    simp only [encTemp, encodeTemperature]
    omega

theorem tempWord_fields (sensor spill : Bool) (temp : Option Int) (hns : sensor = false → temp = none)
    (ht : ∀ t, temp = some t → -500 ≤ t ∧ t ≤ 1539) :
    encTemp temp + boolToBit spill 4 < 65536 ∧ bitToBool (encTemp temp + boolToBit spill 4) 4 = spill ∧
    decTemp sensor (encTemp temp + boolToBit spill 4) = temp := by
  obtain ⟨r, hr, hr1, hr2, hr3⟩ := encTemp_eq temp ht
  obtain ⟨h1, h2, h3, h4⟩ := word_fields (w := encTemp temp + boolToBit spill 4) (by rw [hr, boolToBit_eq])
    hr1 spill.toNat_lt
  refine ⟨h1, bitToBool_of_toNat (k := 4) h2, ?_⟩
  simp only [decTemp, h3, h4, TEMP_UNAVAILABLE, hr2]
  cases temp with
  | none => simp
  | some t =>
    have hsens : sensor = true := by
      cases sensor with
      | true => rfl
      | false => exact absurd (hns rfl) (by simp)
    simp [hsens, hr3 t rfl]

theorem decRec_encRec (g : GroupStatusData) (h : WFRec g) (rest : Bytes) :
    decRec (encRec g ++ rest) = .ok (g, rest) := by
  obtain ⟨hg, hd, hs, hns, ht⟩ := h
  rcases g with ⟨gn, ps, cm, spill, turbo, sensor, bat, temp, damper, sp⟩
  simp only at hg hd hs hns ht
  have hps : ps.toNat < 4 := by cases ps <;> decide
  have hcm : cm.toNat < 2 := by cases cm <;> decide
  have hbat : bat.toNat < 2 := by cases bat <;> decide
  have hps' : GroupPowerState.ofNat? ps.toNat = some ps := by cases ps <;> rfl
  have hcm' : GroupControlMethod.ofNat? cm.toNat = some cm := by cases cm <;> rfl
  have hbat' : SensorBatteryStatus.ofNat? bat.toNat = some bat := by cases bat <;> rfl
  obtain ⟨f5, f6, f7⟩ := flags_field6 hbat turbo.toNat_lt (encSetPoint_lt sp)
  obtain ⟨hw, hspill, htemp⟩ := tempWord_fields sensor spill temp (fun h => (hns h).2) ht
  -- without a sensor there is no set-point; with one, it is below 64
  have hset : (if sensor = true then some (encSetPoint sp) else none) = sp := by
    cases sensor with
    | false => simp [(hns rfl).1]
    | true =>
      obtain ⟨v, rfl, hv⟩ := hs rfl
      simp only [encSetPoint, ↓reduceIte, Nat.mod_eq_of_lt hv]
  -- byte 1 by `pack_* hg`, byte 2 by `pack_* hd`, byte 3 by `f5`-`f7`, byte 4 by `bitToBool_boolToBit`, the word by
  -- `be16_be16Bytes hw`, `hspill` and `htemp`
  simp only [encRec, be16Bytes, List.cons_append, List.nil_append, decRec, be16_be16Bytes hw, boolToBit_eq turbo,
    Nat.reducePow, Nat.mod_eq_of_lt hg, pack_div_mod hg hps, pack_mod hg, Nat.mod_eq_of_lt hd, pack_div_mod hd hcm,
    pack_mod hd, f5, bitToBool_of_toNat (k := 6) f6, f7, hps', hcm', hbat', bitToBool_boolToBit, hspill, hset, htemp]

theorem decode_encode (m : Msg) (h : WF m) (rest : Bytes) :
    decode (encode m ++ rest) (size m) = .ok (m, rest) := by
  cases m with
  | request => simp [decode, encode, size]
  | status gs =>
    obtain ⟨hne, hwf⟩ := h
    have hlen : gs.length ≠ 0 := by simpa using hne
    have hsz : recSize * gs.length ≠ 0 := by simp only [recSize, STRUCT_size]; omega
    simp only [decode, encode, size, hsz, ↓reduceIte, Nat.mul_mod_right, ne_eq, not_true_eq_false]
    have hdiv : recSize * gs.length / recSize = gs.length := by simp [recSize, STRUCT_size]
    rw [hdiv, decRecs_flatMap (decRecs := decRecs) (fun _ => rfl) (fun _ _ => rfl) decRec_encRec gs hwf]
    rfl

theorem wfRecBool_iff (g : GroupStatusData) : wfRecBool g = true ↔ WFRec g := by
  rcases g with ⟨gn, ps, cm, spill, turbo, sensor, bat, temp, damper, sp⟩
  cases sensor <;> cases sp <;> cases temp <;> simp [wfRecBool, WFRec, and_assoc]

theorem wfBool_iff (m : Msg) : wfBool m = true ↔ WF m := by
  cases m with
  | request => simp [wfBool, WF]
  | status gs =>
    simp only [wfBool, WF, Bool.and_eq_true, Bool.not_eq_true', List.all_eq_true, wfRecBool_iff]
    cases gs <;> simp

end PyAirtouch.Lemmas.At4X2B
