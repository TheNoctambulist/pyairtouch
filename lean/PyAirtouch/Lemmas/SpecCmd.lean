import PyAirtouch.Lemmas.Registry4
import PyAirtouch.Lemmas.Registry5
import PyAirtouch.Lemmas.SpecBits
import PyAirtouch.Lemmas.SpecSub
import PyAirtouch.Lemmas.Records
/-!
# C04: what the control encoders write, read according to the vendor documents

Encoder direction for the four *control* messages (AirTouch 4: 0x2A group control, 0x2C AC control; AirTouch 5:
0xC0/0x20 zone control, 0xC0/0x22 AC control).

For every kind `meaning<Kind>` maps the model message (Python field and enum member names) into the record type of the
vendor reader.  It is written from the *names* of the members (`TURN_ON ↦ on`, `UNCHANGED ↦ keep`, …), not from their
numeric codes: it is the statement of what each member is supposed to mean.  Raw pass-through fields of the Spec
records that carry no meaning (`value`, `reserved`, `setpointValue`, `valueRaw`, the retained code of `keep n`) are
filled with what the vendor document prescribes ("Keep 0", "Set to 0x3f when …") or, where it prescribes nothing,
with what its own examples transmit; this is said at each definition.  The clauses of C04 then say that the vendor
reader applied to the encoder's bytes returns exactly `meaning m` (and that the meaning passes the vendor's own
validity conditions, `wellFormed_*`).  Where the encoder accepts more than the document describes, the gap is a named
object: `mask2C` (what `& 0x3F` makes of out-of-domain AirTouch 4 numbers; defined in `Lemmas/At4X2C.lean`),
`DocRange020` (the document's ranges that the AirTouch 5 zone encoder does not check).  The frame clause (to 0x80 /
0x90, from 0xB0, length, check bytes; byte level, field by field, and in the vendor frame reader's words; AirTouch 5
behind the undocumented `outerWrapper`) and the end-to-end theorems `wire_*` come last.
-/
namespace PyAirtouch.Lemmas.SpecCmd
open PyAirtouch.Model PyAirtouch.Lemmas.SpecBits

/-! ## `WF` is decidable

Through the run-time tests `wfBool`, so that closed instances can be checked by `decide`.  The instances are global: every
importer gets them. -/

instance (m : At4.X2A.Msg) : Decidable (At4.X2A.WF m) := decidable_of_iff _ (At4X2A.wfBool_iff m)
instance (m : At4.X2C.Msg) : Decidable (At4.X2C.WF m) := decidable_of_iff _ (At4X2C.wfBool_iff m)
instance (m : At5.C020.Msg) : Decidable (At5.C020.WF m) := decidable_of_iff _ (At5C020.wfBool_iff m)
instance (m : At5.C022.Msg) : Decidable (At5.C022.WF m) := decidable_of_iff _ (At5C022.wfBool_iff m)
instance (m : At4.Registry.Msg) : Decidable (At4.Registry.WFMsg m) := decidable_of_iff _ (Registry4.wfMsgBool_iff m)
instance (m : At5.Registry.Msg) : Decidable (At5.Registry.WFMsg m) := decidable_of_iff _ (Registry5.wfMsgBool_iff m)

theorem allBytes4_four (a b c d : Nat) (ha : a < 256) (hb : b < 256) (hc : c < 256) (hd : d < 256) :
    Spec.At4.allBytes [a, b, c, d] = true := by
  simp [Spec.At4.allBytes, ha, hb, hc, hd]

section G2A
open PyAirtouch.Model.At4 PyAirtouch.Gen.At4.X2AGroupCtrl

/-- `GroupPowerControl`: TOGGLE = "Change to next state", TURN_OFF, TURN_ON, TURBO, UNCHANGED = "Keep power state" -/
def meaningGroupPower : GroupPowerControl → Spec.At4.GroupPowerCmd
  | .TOGGLE => .next
  | .TURN_OFF => .off
  | .TURN_ON => .on
  | .TURBO => .turbo
  | .UNCHANGED => .keep

/-- `GroupControlMethod`: CHANGE, DAMPER = percentage control, TEMPERATURE, UNCHANGED = keep -/
def meaningGroupMethod : GroupControlMethod → Spec.At4.GroupControlMethodCmd
  | .CHANGE => .change
  | .DAMPER => .percentage
  | .TEMPERATURE => .temperature
  | .UNCHANGED => .keep

/-- `GroupSetting`: `GroupIncreaseDecrease` members, `GroupDamperControl(open_percentage)`,
    `GroupSetPointControl(set_point)` (whole °C, the Spec side is in tenths), `None` = keep -/
def meaningGroupSetting : X2A.GroupSetting → Spec.At4.GroupSettingCmd
  | .incDec .DECREASE => .decrease
  | .incDec .INCREASE => .increase
  | .damper p => .setOpenPercentage p
  | .setPoint sp => .setTargetSetpoint ((sp : Int) * 10)
  | .none => .keep

/-- Byte3 as transmitted: the percentage / the set-point when the setting carries one; the document gives no value
    for the other settings ("Valid when bit8-6 of byte2 are 100 or 101"), its examples transmit 0x00 -/
def meaningGroupValueRaw : X2A.GroupSetting → Nat
  | .damper p => p
  | .setPoint sp => sp
  | _ => 0

/-- the intended reading of a `GroupControlMessage` (Byte4: "Keep 0") -/
def meaning2A (m : X2A.Msg) : Spec.At4.GroupControl :=
  { group := m.group_number
    setting := meaningGroupSetting m.setting
    controlMethod := meaningGroupMethod m.control_method
    power := meaningGroupPower m.power
    value := meaningGroupValueRaw m.setting
    reserved := 0 }

theorem encB2_fields_2A (pw : GroupPowerControl) (cm : GroupControlMethod) (st : X2A.GroupSetting) :
    ((X2A.encSetting st).1 + X2A.encMethod cm + pw.toNat) / 32 % 8 = (X2A.encSetting st).1 / 32 ∧
    ((X2A.encSetting st).1 + X2A.encMethod cm + pw.toNat) / 8 % 4 = cm.toNat ∧
    ((X2A.encSetting st).1 + X2A.encMethod cm + pw.toNat) % 8 = pw.toNat := by
  obtain ⟨k, hk, hk8, -⟩ := At4X2A.encSetting_code st
  obtain ⟨hq, he1, he2⟩ := At4X2A.enum_facts pw cm
  rw [hk, he1, Nat.mul_div_cancel _ (by decide : 0 < 32)]
  exact (BitField.fields_3_2_3 hk8 he2 hq).2

theorem readGroupPower_meaning (pw : GroupPowerControl) :
    Spec.At4.readGroupPowerCmd pw.toNat = meaningGroupPower pw := by cases pw <;> rfl

theorem readGroupMethod_meaning (cm : GroupControlMethod) :
    Spec.At4.readGroupControlMethodCmd cm.toNat = meaningGroupMethod cm := by cases cm <;> rfl

theorem readGroupSetting_meaning (st : X2A.GroupSetting) :
    Spec.At4.readGroupSettingCmd ((X2A.encSetting st).1 / 32) (X2A.encSetting st).2 = meaningGroupSetting st := by
  cases st with
  | incDec v => cases v <;> rfl
  | damper p => simp [X2A.encSetting, SET_PERCENTAGE, Spec.At4.readGroupSettingCmd, meaningGroupSetting]
  | setPoint sp =>
    simp [X2A.encSetting, SET_SETPOINT, Spec.At4.readGroupSettingCmd, meaningGroupSetting, Spec.At4.degToTenths]
  | none => rfl

theorem encSetting_value_raw (st : X2A.GroupSetting) : (X2A.encSetting st).2 = meaningGroupValueRaw st := by
  cases st <;> rfl

/-- No `WF` hypothesis, unlike the primed forms of the other three kinds: the 0x2A encoder returns bytes exactly for the
    well-formed messages (`At4X2A.encode_ok_iff`). -/
theorem encode_reads_2A' (m : X2A.Msg) (bs : Bytes) (h : X2A.encode m = .ok bs) :
    Spec.At4.readGroupControl bs = some (meaning2A m) := by
  unfold X2A.encode at h
  split at h
  · rename_i hc
    obtain ⟨hg, hb2, hv⟩ := hc
    cases h
    rcases m with ⟨gn, pw, cm, st⟩
    obtain ⟨f1, f2, f3⟩ := encB2_fields_2A pw cm st
    simp only [X2A.encB2] at hb2
    simp only at hg hv
    have hall := allBytes4_four _ _ _ _ hg hb2 hv (by decide : 0 < 256)
    simp only [X2A.encodeBytes, X2A.encB2, Spec.At4.readGroupControl, hall, Bool.not_true, Bool.false_eq_true,
      ↓reduceIte, bits4_eq, Nat.reduceLeDiff, Nat.reducePow, Nat.reduceSub, Nat.div_one, f1, f2, f3,
      readGroupPower_meaning,
      readGroupMethod_meaning, readGroupSetting_meaning, meaning2A]
    rw [encSetting_value_raw]
  · cases h

theorem encode_reads_2A (m : X2A.Msg) (hwf : X2A.WF m) :
    ∃ bs, X2A.encode m = .ok bs ∧ bs.length = 4 ∧ Spec.At4.readGroupControl bs = some (meaning2A m) :=
  ⟨_, At4X2A.encode_ok m hwf, rfl, encode_reads_2A' m _ (At4X2A.encode_ok m hwf)⟩

theorem addresses_2A (m : X2A.Msg) (bs : Bytes) (h : X2A.encode m = .ok bs) :
    (Spec.At4.readGroupControl bs).map (·.group) = some m.group_number := by
  rw [encode_reads_2A' m bs h]; rfl

theorem changedAttrs_meaning2A (m : X2A.Msg) :
    (meaning2A m).changedAttrs =
      (if m.setting = .none then [] else ["setting"]) ++
      (if m.control_method = .UNCHANGED then [] else ["control_method"]) ++
      (if m.power = .UNCHANGED then [] else ["power"]) := by
  rcases m with ⟨gn, pw, cm, st⟩
  show _ ++ _ ++ _ = _
  congr 1
  · congr 1
    · rcases st with v | p | sp | _
      · cases v <;> rfl
      all_goals rfl
    · cases cm <;> rfl
  · cases pw <;> rfl

theorem changes_exactly_2A (m : X2A.Msg) (bs : Bytes) (h : X2A.encode m = .ok bs) :
    (Spec.At4.readGroupControl bs).map Spec.At4.GroupControl.changedAttrs = some (
      (if m.setting = .none then [] else ["setting"]) ++
      (if m.control_method = .UNCHANGED then [] else ["control_method"]) ++
      (if m.power = .UNCHANGED then [] else ["power"])) := by
  rw [encode_reads_2A' m bs h, Option.map_some, changedAttrs_meaning2A]

theorem value_exact_2A (gn : Nat) (pw : GroupPowerControl) (cm : GroupControlMethod) (v : Nat) (bs : Bytes) :
    (X2A.encode ⟨gn, pw, cm, .setPoint v⟩ = .ok bs →
      (Spec.At4.readGroupControl bs).map (·.setting) = some (.setTargetSetpoint ((v : Int) * 10))) ∧
    (X2A.encode ⟨gn, pw, cm, .damper v⟩ = .ok bs →
      (Spec.At4.readGroupControl bs).map (·.setting) = some (.setOpenPercentage v)) := by
  constructor <;> intro h <;> rw [encode_reads_2A' _ bs h] <;> rfl

theorem value_boundary_2A (gn : Nat) (pw : GroupPowerControl) (cm : GroupControlMethod) (v : Nat) (hv : 256 ≤ v) :
    X2A.encode ⟨gn, pw, cm, .setPoint v⟩ = .error .structError ∧
    X2A.encode ⟨gn, pw, cm, .damper v⟩ = .error .structError := by
  constructor <;> apply At4X2A.encode_error <;> simp only [X2A.WF, X2A.WFSetting] <;> omega

theorem wellFormed_2A (m : X2A.Msg) (hg : m.group_number ≤ 15) : (meaning2A m).wellFormed = true := by
  rcases m with ⟨gn, pw, cm, st⟩
  simp only [Spec.At4.GroupControl.wellFormed, meaning2A, Bool.and_eq_true, beq_self_eq_true]
  refine ⟨⟨⟨decide_eq_true hg, trivial⟩, ?_⟩, ?_⟩
  · rcases st with v | p | sp | _
    · cases v <;> rfl
    all_goals rfl
  · cases pw <;> rfl

end G2A

section G2C
open PyAirtouch.Model.At4 PyAirtouch.Gen.At4.X2CAcCtrl

/-- `AcPowerControl`: TOGGLE = "Change on/off state", TURN_OFF, TURN_ON, UNCHANGED = "Keep power state" -/
def meaningAcPower4 : AcPowerControl → Spec.At4.AcPowerCmd
  | .TOGGLE => .toggle
  | .TURN_OFF => .off
  | .TURN_ON => .on
  | .UNCHANGED => .keep

/-- `AcModeControl`; UNCHANGED = "Keep mode setting".  The Spec's `keep` retains the transmitted code ("Other": all
    such codes mean the same); the document's examples transmit `1111` -/
def meaningAcMode4 : AcModeControl → Spec.At4.AcModeCmd
  | .AUTO => .set .auto
  | .HEAT => .set .heat
  | .DRY => .set .dry
  | .FAN => .set .fan
  | .COOL => .set .cool
  | .UNCHANGED => .keep 15

/-- `AcFanSpeedControl`; UNCHANGED = "Keep fan speed setting" (retained code `1111` as in the document's examples) -/
def meaningAcFan4 : AcFanSpeedControl → Spec.At4.AcFanCmd
  | .AUTO => .set .auto
  | .QUIET => .set .quiet
  | .LOW => .set .low
  | .MEDIUM => .set .medium
  | .HIGH => .set .high
  | .POWERFUL => .set .powerful
  | .TURBO => .set .turbo
  | .UNCHANGED => .keep 15

/-- `AcSetPointControl`: `AcIncreaseDecrease` members, `AcSetPointValue(set_point)` (whole °C, the Spec side is in
    tenths), `None` = "Keep current setpoint" -/
def meaningAcSetpoint4 : X2C.AcSetPointControl → Spec.At4.AcSetpointCmd
  | .incDec .INCREASE => .increase
  | .incDec .DECREASE => .decrease
  | .value sp => .set ((sp : Int) * 10)
  | .none => .keep

/-- Byte3 Bit6-1 as transmitted: the set-point when one is set, otherwise "Set to 0x3f when bit8-7 in byte3 are
    not 01" -/
def meaningAcSetpointRaw4 : X2C.AcSetPointControl → Nat
  | .value sp => sp
  | _ => 0x3f

/-- the intended reading of an AirTouch 4 `AcControlMessage` (Byte4: "Keep 0") -/
def meaning2C (m : X2C.Msg) : Spec.At4.AcControl :=
  { ac := m.ac_number
    power := meaningAcPower4 m.power
    mode := meaningAcMode4 m.mode
    fanSpeed := meaningAcFan4 m.fan_speed
    setpoint := meaningAcSetpoint4 m.set_point_control
    setpointValue := meaningAcSetpointRaw4 m.set_point_control
    reserved := 0 }

theorem read_encodeBytes_2C_wf (m : X2C.Msg) (h : X2C.WF m) :
    Spec.At4.readAcControl (X2C.encodeBytes m) = some (meaning2C m) := by
  rcases m with ⟨ac, pw, md, fs, sc⟩
  obtain ⟨e, h1, h2, h3, h4⟩ := At4X2C.encodeBytes_fields _ h
  simp only at e h1 h2 h3 h4
  have h16 (x : Nat) : x % 16 < 16 := Nat.mod_lt _ (by decide)
  have hall := allBytes4_four _ _ _ _ (show pw.toNat * 64 + ac < 256 by omega)
    (show md.toNat % 16 * 16 + fs.toNat % 16 < 256 by have := h16 md.toNat; have := h16 fs.toNat; omega)
    (show At4X2C.scCode sc * 64 + At4X2C.scValue sc < 256 by omega) (by decide : 0 < 256)
  have hpw : Spec.At4.readAcPowerCmd pw.toNat = meaningAcPower4 pw := by cases pw <;> rfl
  have hmd : Spec.At4.readAcModeCmd (md.toNat % 16) = meaningAcMode4 md := by cases md <;> rfl
  have hfs : Spec.At4.readAcFanCmd (fs.toNat % 16) = meaningAcFan4 fs := by cases fs <;> rfl
  have hsc : At4X2C.scValue sc = meaningAcSetpointRaw4 sc ∧
      Spec.At4.readAcSetpointCmd (At4X2C.scCode sc) (At4X2C.scValue sc) = meaningAcSetpoint4 sc := by
    rcases sc with v | sp | _
    · cases v <;> exact ⟨rfl, rfl⟩
    · exact ⟨rfl, by simp [Spec.At4.readAcSetpointCmd, At4X2C.scCode, At4X2C.scValue, SET_POINT_CONTROL_VALUE,
        meaningAcSetpoint4, Spec.At4.degToTenths]⟩
    · exact ⟨rfl, rfl⟩
  simp only [e, Spec.At4.readAcControl, hall, Bool.not_true, Bool.false_eq_true, ↓reduceIte, bits4_eq,
    Nat.reduceLeDiff, Nat.reducePow, Nat.reduceSub, Nat.div_one, BitField.pack_div_mod h2 h1, BitField.pack_mod h2,
    BitField.pack_div_mod (h16 _) (h16 _), BitField.pack_mod (h16 _), BitField.pack_div_mod h4 h3, BitField.pack_mod h4,
    meaning2C, hpw, hmd, hfs, hsc.2]
  rw [hsc.1]

theorem read_encodeBytes_2C (m : X2C.Msg) :
    Spec.At4.readAcControl (X2C.encodeBytes m) = some (meaning2C (mask2C m)) := by
  rw [← At4X2C.encodeBytes_mask]
  exact read_encodeBytes_2C_wf _ (At4X2C.wf_mask2C m)

theorem encode_reads_2C (m : X2C.Msg) (hwf : X2C.WF m) :
    ∃ bs, X2C.encode m = .ok bs ∧ bs.length = 4 ∧ Spec.At4.readAcControl bs = some (meaning2C m) := by
  refine ⟨_, At4X2C.encode_ok m, rfl, ?_⟩
  rw [read_encodeBytes_2C, At4X2C.mask2C_of_wf m hwf]

theorem encode_reads_2C' (m : X2C.Msg) (hwf : X2C.WF m) (bs : Bytes) (h : X2C.encode m = .ok bs) :
    Spec.At4.readAcControl bs = some (meaning2C m) :=
  (Records.ok_of_exists (encode_reads_2C m hwf) h).2

/-- `WF` (AC number below 64) is needed: AC number 64 is transmitted as AC 0 -/
theorem encode_reads_2C_needs_wf :
    X2C.encode ⟨64, .TURN_ON, .UNCHANGED, .UNCHANGED, .none⟩ = .ok [0xC0, 0xFF, 0x3F, 0x00] ∧
    (Spec.At4.readAcControl [0xC0, 0xFF, 0x3F, 0x00]).map (·.ac) = some 0 := by
  constructor <;> decide

theorem addresses_2C (m : X2C.Msg) (hwf : X2C.WF m) (bs : Bytes) (h : X2C.encode m = .ok bs) :
    (Spec.At4.readAcControl bs).map (·.ac) = some m.ac_number := by
  rw [encode_reads_2C' m hwf bs h]; rfl

theorem changedAttrs_meaning2C (m : X2C.Msg) :
    (meaning2C m).changedAttrs =
      (if m.power = .UNCHANGED then [] else ["power"]) ++
      (if m.mode = .UNCHANGED then [] else ["mode"]) ++
      (if m.fan_speed = .UNCHANGED then [] else ["fan_speed"]) ++
      (if m.set_point_control = .none then [] else ["setpoint"]) := by
  rcases m with ⟨ac, pw, md, fs, sc⟩
  show _ ++ _ ++ _ ++ _ = _
  congr 1
  · congr 1
    · congr 1
      · cases pw <;> rfl
      · cases md <;> rfl
    · cases fs <;> rfl
  · rcases sc with v | sp | _
    · cases v <;> rfl
    all_goals rfl

theorem changes_exactly_2C (m : X2C.Msg) (hwf : X2C.WF m) (bs : Bytes) (h : X2C.encode m = .ok bs) :
    (Spec.At4.readAcControl bs).map Spec.At4.AcControl.changedAttrs = some (
      (if m.power = .UNCHANGED then [] else ["power"]) ++
      (if m.mode = .UNCHANGED then [] else ["mode"]) ++
      (if m.fan_speed = .UNCHANGED then [] else ["fan_speed"]) ++
      (if m.set_point_control = .none then [] else ["setpoint"])) := by
  rw [encode_reads_2C' m hwf bs h, Option.map_some, changedAttrs_meaning2C]

theorem value_exact_2C (ac : Nat) (pw : AcPowerControl) (md : AcModeControl) (fs : AcFanSpeedControl) (sp : Nat)
    (hac : ac < 64) (hsp : sp < 64) (bs : Bytes) (h : X2C.encode ⟨ac, pw, md, fs, .value sp⟩ = .ok bs) :
    (Spec.At4.readAcControl bs).map (·.setpoint) = some (.set ((sp : Int) * 10)) ∧
    (Spec.At4.readAcControl bs).map (·.setpointValue) = some sp := by
  have hwf : X2C.WF ⟨ac, pw, md, fs, .value sp⟩ := ⟨hac, hsp⟩
  rw [encode_reads_2C' _ hwf bs h]; exact ⟨rfl, rfl⟩

/-- refuted: "beyond the 6-bit set-point field the encoder refuses".  It does not refuse a set-point of 64 °C
    (outside `WF`), it masks it, and the vendor reading of what is transmitted is "set 0 °C" -/
theorem value_boundary_2C_refuted :
    X2C.encode ⟨0, .UNCHANGED, .UNCHANGED, .UNCHANGED, .value 64⟩ = .ok [0x00, 0xFF, 0x40, 0x00] ∧
    (Spec.At4.readAcControl [0x00, 0xFF, 0x40, 0x00]).map (·.setpoint) = some (.set 0) ∧
    ¬ X2C.WF ⟨0, .UNCHANGED, .UNCHANGED, .UNCHANGED, .value 64⟩ := by
  refine ⟨by decide, by decide, ?_⟩
  simp [X2C.WF, X2C.WFSetPointControl]

theorem value_boundary_2C (ac : Nat) (pw : AcPowerControl) (md : AcModeControl) (fs : AcFanSpeedControl) (sp : Nat) :
    ∃ bs, X2C.encode ⟨ac, pw, md, fs, .value sp⟩ = .ok bs ∧
      (Spec.At4.readAcControl bs).map (·.setpoint) = some (.set (((sp % 64 : Nat) : Int) * 10)) ∧
      (Spec.At4.readAcControl bs).map (·.ac) = some (ac % 64) := by
  refine ⟨_, At4X2C.encode_ok _, ?_, ?_⟩ <;> rw [read_encodeBytes_2C] <;> rfl

theorem wellFormed_2C (m : X2C.Msg) (hac : m.ac_number ≤ 3) : (meaning2C m).wellFormed = true := by
  rcases m with ⟨ac, pw, md, fs, sc⟩
  simp only at hac
  rcases sc with v | sp | _
  · cases v <;> simp [Spec.At4.AcControl.wellFormed, meaning2C, meaningAcSetpoint4, meaningAcSetpointRaw4, hac]
  · simp [Spec.At4.AcControl.wellFormed, meaning2C, meaningAcSetpoint4, hac]
  · simp [Spec.At4.AcControl.wellFormed, meaning2C, meaningAcSetpoint4, meaningAcSetpointRaw4, hac]

end G2C

/-! ## AirTouch 5: the 0xC0 sub-header and the repeat data, as the vendor reader sees them -/

section G5
open PyAirtouch.Model.At5 PyAirtouch.Model.At5.Registry PyAirtouch.Model.At5.Utils

theorem readSubMessage_cs (id nr rl rc : Nat) (body : Bytes) (hnr : nr < 65536) (hrl : rl < 65536)
    (hrc : rc < 65536) :
    Spec.At5.readSubMessage (csSubHeaderBytes id nr rl rc ++ body) =
      if body.length = nr + rl * rc then
        some { hdr := { subType := id, reserved := 0, normalLen := nr, eachLen := rl, count := rc }
               normal := body.take nr
               records := Spec.At5.splitRecords rl rc (body.drop nr) }
      else none := by
  have hi {n : Nat} (h : n < 65536) : n / 256 % 256 = n / 256 :=
    Nat.mod_eq_of_lt (Nat.div_lt_of_lt_mul (show n < 256 * 256 from h))
  rw [← SpecAgree5.readSubMessage_subHeader]
  simp only [csSubHeaderBytes, be16Bytes, SpecAgree5.subHeader, List.cons_append, List.nil_append, hi hnr, hi hrl,
    hi hrc]

theorem controlRecords_read {α β : Type} (s : CsSub) (k : Nat) (rd : List Nat → Option β) (rb : α → Bytes)
    (f : α → β) (xs : List α) (hdims : s.dims = .ok (0, k, xs.length)) (henc : s.encode = .ok (xs.flatMap rb))
    (hid : s.messageId < 256) (hk : k < 65536) (hcount : xs.length < 65536) (hlen : ∀ x, (rb x).length = k)
    (hrd : ∀ x ∈ xs, rd (rb x) = some (f x)) :
    ∃ bs recs, encodeMsg (.controlStatus s) = .ok bs ∧ bs.length = 8 + k * xs.length ∧
      Spec.At5.readSubMessage bs = some ⟨⟨s.messageId, 0, 0, k, xs.length⟩, [], recs⟩ ∧
      Spec.At5.readAll rd recs = some (xs.map f) := by
  have hl := Records.flatMap_length rb k hlen xs
  refine ⟨csSubHeaderBytes s.messageId 0 k xs.length ++ xs.flatMap rb, _, ?_, ?_, ?_,
    SpecAgree5.readAll_flatMap k rd rb f hlen xs hrd⟩
  · simp only [encodeMsg, encodeCs, hdims, henc, bind, Except.bind, pure, Except.pure,
      if_pos (⟨hid, by decide, hk, hcount⟩ : s.messageId < 256 ∧ 0 < 65536 ∧ k < 65536 ∧ xs.length < 65536)]
  · rw [List.length_append, hl]; rfl
  · rw [readSubMessage_cs _ 0 k _ _ (by decide) hk hcount, if_pos (by rw [hl, Nat.zero_add])]; rfl

section C020
open PyAirtouch.Gen.At5.XC020ZoneCtrl

/-- `ZonePowerControl`: TOGGLE = "Change on/off state", TURN_OFF, TURN_ON, TURBO, UNCHANGED = "Keep power state" -/
def meaningZonePower : ZonePowerControl → Spec.At5.ZonePowerCmd
  | .TOGGLE => .change
  | .TURN_OFF => .off
  | .TURN_ON => .on
  | .TURBO => .turbo
  | .UNCHANGED => .keep

/-- the zone setting value field: `ZoneIncreaseDecrease` members, `ZoneDamperControl` = "Set open percentage",
    `ZoneSetPointControl` = "Set target setpoint", `None` = "Keep setting value" -/
def meaningZoneSetting : Option C020.ZoneSetting → Spec.At5.ZoneSettingCmd
  | some (.incDec .DECREASE) => .decrease
  | some (.incDec .INCREASE) => .increase
  | some (.damper _) => .setPercentage
  | some (.setPoint _) => .setSetpoint
  | none => .keep

/-- the value to set: `open_percentage` in percent, `set_point` in tenths of a degree -/
def meaningZoneValue : Option C020.ZoneSetting → Spec.At5.ZoneValue
  | some (.damper p) => .percentage p
  | some (.setPoint sp) => .setpoint sp
  | _ => .keep

/-- Byte3 as transmitted: the percentage; "(setpoint * 10) - 100"; where no value is carried the document's example
    transmits 0xFF -/
def meaningZoneValueRaw : Option C020.ZoneSetting → Nat
  | some (.damper p) => p
  | some (.setPoint sp) => (sp - 100).toNat
  | _ => 0xFF

/-- the intended reading of one `ZoneControlData`.  The message type has no control-type field: the control type is
    always kept.  Byte1 Bit8-7 and Byte4 are "Keep 0". -/
def meaningZoneRec (z : C020.ZoneControlData) : Spec.At5.ZoneControl :=
  { zone := z.zone_number
    setting := meaningZoneSetting z.zone_setting
    controlType := .keep
    power := meaningZonePower z.zone_power
    value := meaningZoneValue z.zone_setting
    valueRaw := meaningZoneValueRaw z.zone_setting
    reservedZero := true }

def meaningC020 (m : C020.Msg) : List Spec.At5.ZoneControl := m.zone_control.map meaningZoneRec

/-- the ranges the vendor document gives and the model's `WF` (= what the encoder accepts) does not: zone index in six
    bits (Byte1 Bit6-1), "When set percentage: 0-100", "When set temperature: 0-250" (set-point up to 35.0 °C) -/
def DocRange020 (z : C020.ZoneControlData) : Prop :=
  z.zone_number < 64 ∧
  match z.zone_setting with
  | some (.damper p) => p ≤ 100
  | some (.setPoint sp) => sp ≤ 350
  | _ => True

instance (z : C020.ZoneControlData) : Decidable (DocRange020 z) := by
  unfold DocRange020
  rcases z.zone_setting with _ | (_ | _ | _) <;> infer_instance

theorem readZonePower_meaning (pw : ZonePowerControl) :
    Spec.At5.ZonePowerCmd.ofCode pw.toNat = meaningZonePower pw := by cases pw <;> rfl

theorem readZoneSetting_encSetting (st : Option C020.ZoneSetting)
    (hd : match st with
      | some (.damper p) => p ≤ 100
      | some (.setPoint sp) => sp ≤ 350
      | _ => True)
    (hs : C020.WFSetting st) :
    Spec.At5.ZoneSettingCmd.ofCode (C020.encSetting st).1 = meaningZoneSetting st ∧
      (C020.encSetting st).2.toNat = meaningZoneValueRaw st ∧
      Spec.At5.zoneValueOf (meaningZoneSetting st) (meaningZoneValueRaw st) = meaningZoneValue st := by
  rcases st with _ | (v | p | sp)
  · exact ⟨rfl, rfl, rfl⟩
  · cases v <;> exact ⟨rfl, rfl, rfl⟩
  · exact ⟨rfl, rfl, if_pos (show p ≤ 100 from hd)⟩
  · have h100 : 100 ≤ sp := hs.1
    have h350 : sp ≤ 350 := hd
    have hraw : (sp - 100).toNat ≤ 250 := by omega
    have hback : Spec.At5.setpointTenths (sp - 100).toNat = sp := by unfold Spec.At5.setpointTenths; omega
    exact ⟨rfl, rfl, (if_pos hraw).trans (congrArg _ hback)⟩

theorem readZoneControlRecord_recBytes (z : C020.ZoneControlData) (hwf : C020.WFRec z) (hdoc : DocRange020 z) :
    Spec.At5.readZoneControlRecord (At5C020.recBytes z) = some (meaningZoneRec z) := by
  rcases z with ⟨zn, pw, st⟩
  obtain ⟨hz64, hd⟩ := hdoc
  have hz64 : zn < 64 := hz64
  obtain ⟨s1, s2, s3⟩ := readZoneSetting_encSetting st hd hwf.2
  obtain ⟨k1, k2, k3⟩ := At5C020.byte2_fields (At5C020.setting_facts st hwf.2).1
    (show pw.toNat < 8 by cases pw <;> decide)
  have h87 : zn / 64 % 4 = 0 := by omega
  have h61 : zn % 64 = zn := by omega
  simp only [At5C020.recBytes, Spec.At5.readZoneControlRecord, bits5_eq, Nat.reducePow, Nat.reduceSub,
    Nat.div_one, k1, k2, k3, h87, h61, s1, s2, s3, readZonePower_meaning, meaningZoneRec]
  rfl

theorem encode_reads_C020 (m : C020.Msg) (hwf : C020.WF m) (hdoc : ∀ z ∈ m.zone_control, DocRange020 z)
    (hcount : m.zone_control.length < 65536) :
    ∃ bs, encodeMsg (.controlStatus (.zoneCtrl m)) = .ok bs ∧ bs.length = 8 + 4 * m.zone_control.length ∧
      Spec.At5.readZoneControl bs = some (meaningC020 m) ∧
      Spec.At5.readControlStatus bs = some (.zoneControl (meaningC020 m)) := by
  obtain ⟨bs, recs, hbs, hl, hsub, hrecs⟩ := controlRecords_read (.zoneCtrl m) 4 Spec.At5.readZoneControlRecord
    At5C020.recBytes meaningZoneRec m.zone_control rfl (At5C020.encRecs_ok _ hwf) (by decide : 0x20 < 256) (by decide) hcount
    (fun _ => rfl) (fun z hz => readZoneControlRecord_recBytes z (hwf z hz) (hdoc z hz))
  have hread : Spec.At5.readZoneControl bs = some (meaningC020 m) := by
    simp only [Spec.At5.readZoneControl, hsub, CsSub.messageId, MESSAGE_ID, Spec.At5.subTypeZoneControl, hrecs,
      meaningC020, and_self, ↓reduceIte]
  exact ⟨bs, hbs, hl, hread, by simp only [Spec.At5.readControlStatus, hsub, CsSub.messageId, MESSAGE_ID,
    Spec.At5.subTypeZoneControl, ↓reduceIte, hread, Option.map_some]⟩

theorem encode_reads_C020' (m : C020.Msg) (hwf : C020.WF m) (hdoc : ∀ z ∈ m.zone_control, DocRange020 z)
    (hcount : m.zone_control.length < 65536) (bs : Bytes)
    (h : encodeMsg (.controlStatus (.zoneCtrl m)) = .ok bs) :
    Spec.At5.readZoneControl bs = some (meaningC020 m) :=
  (Records.ok_of_exists (encode_reads_C020 m hwf hdoc hcount) h).2.1

theorem addresses_C020 (m : C020.Msg) (hwf : C020.WF m) (hdoc : ∀ z ∈ m.zone_control, DocRange020 z)
    (hcount : m.zone_control.length < 65536) (bs : Bytes)
    (h : encodeMsg (.controlStatus (.zoneCtrl m)) = .ok bs) :
    (Spec.At5.readZoneControl bs).map (·.map (·.zone)) = some (m.zone_control.map (·.zone_number)) := by
  rw [encode_reads_C020' m hwf hdoc hcount bs h]
  simp [meaningC020, meaningZoneRec, Function.comp_def]

theorem changes_meaningZoneRec (z : C020.ZoneControlData) :
    (meaningZoneRec z).changes =
      (if z.zone_setting = none then [] else ["value"]) ++
      (if z.zone_power = .UNCHANGED then [] else ["power"]) := by
  rcases z with ⟨zn, pw, st⟩
  show _ ++ [] ++ _ = _
  rw [List.append_nil]
  congr 1
  · rcases st with _ | (v | p | sp)
    · rfl
    · cases v <;> rfl
    all_goals rfl
  · cases pw <;> rfl

theorem changes_exactly_C020 (m : C020.Msg) (hwf : C020.WF m) (hdoc : ∀ z ∈ m.zone_control, DocRange020 z)
    (hcount : m.zone_control.length < 65536) (bs : Bytes)
    (h : encodeMsg (.controlStatus (.zoneCtrl m)) = .ok bs) :
    (Spec.At5.readZoneControl bs).map (·.map (·.changes)) = some (m.zone_control.map fun z =>
      (if z.zone_setting = none then [] else ["value"]) ++
      (if z.zone_power = .UNCHANGED then [] else ["power"])) := by
  rw [encode_reads_C020' m hwf hdoc hcount bs h]
  simp [meaningC020, Function.comp_def, changes_meaningZoneRec]

theorem value_exact_C020 (zn : Nat) (pw : ZonePowerControl) (hzn : zn < 64) (bs : Bytes) :
    (∀ sp : Int, 100 ≤ sp → sp ≤ 350 →
      encodeMsg (.controlStatus (.zoneCtrl ⟨[⟨zn, pw, some (.setPoint sp)⟩]⟩)) = .ok bs →
      (Spec.At5.readZoneControl bs).map (·.map (·.value)) = some [.setpoint sp]) ∧
    (∀ p : Nat, p ≤ 100 →
      encodeMsg (.controlStatus (.zoneCtrl ⟨[⟨zn, pw, some (.damper p)⟩]⟩)) = .ok bs →
      (Spec.At5.readZoneControl bs).map (·.map (·.value)) = some [.percentage p]) := by
  constructor
  · intro sp h1 h2 h
    have hwf : C020.WF ⟨[⟨zn, pw, some (.setPoint sp)⟩]⟩ :=
      List.forall_mem_singleton.mpr ⟨show zn < 256 by omega, h1, show sp ≤ 355 by omega⟩
    rw [encode_reads_C020' _ hwf (List.forall_mem_singleton.mpr ⟨hzn, h2⟩) (show 1 < 65536 by decide) bs h]
    rfl
  · intro p h1 h
    have hwf : C020.WF ⟨[⟨zn, pw, some (.damper p)⟩]⟩ :=
      List.forall_mem_singleton.mpr ⟨show zn < 256 by omega, show p < 256 by omega⟩
    rw [encode_reads_C020' _ hwf (List.forall_mem_singleton.mpr ⟨hzn, h1⟩) (show 1 < 65536 by decide) bs h]
    rfl

/-- `DocRange020` is needed (1): a well-formed message for zone 64 is transmitted with Byte1 = 0x40, which the
    vendor reads as zone 0 with a reserved bit set -/
theorem encode_reads_C020_needs_zone_lt_64 :
    C020.WF ⟨[⟨64, .TURN_ON, none⟩]⟩ ∧
    encodeMsg (.controlStatus (.zoneCtrl ⟨[⟨64, .TURN_ON, none⟩]⟩)) =
      .ok [0x20, 0, 0, 0, 0, 4, 0, 1, 0x40, 0x03, 0xFF, 0x00] ∧
    (Spec.At5.readZoneControl [0x20, 0, 0, 0, 0, 4, 0, 1, 0x40, 0x03, 0xFF, 0x00]).map
      (·.map fun c => (c.zone, c.reservedZero)) = some [(0, false)] := by
  exact ⟨List.forall_mem_singleton.mpr ⟨by decide, trivial⟩, by decide, by decide⟩

/-- refuted: "every well-formed set-point is read back".  `DocRange020` is needed (2), boundary of the set-point byte:
    35.1 … 35.5 °C are well-formed and encodable (codes 251 … 255) but the document defines the value only for 0-250
    ("Other: Keep setting value"): the vendor reading of the transmitted record changes nothing -/
theorem value_boundary_C020_setpoint_refuted :
    C020.WF ⟨[⟨0, .UNCHANGED, some (.setPoint 351)⟩]⟩ ∧
    encodeMsg (.controlStatus (.zoneCtrl ⟨[⟨0, .UNCHANGED, some (.setPoint 351)⟩]⟩)) =
      .ok [0x20, 0, 0, 0, 0, 4, 0, 1, 0x00, 0xA0, 0xFB, 0x00] ∧
    (Spec.At5.readZoneControl [0x20, 0, 0, 0, 0, 4, 0, 1, 0x00, 0xA0, 0xFB, 0x00]).map
      (·.map fun c => (c.value, c.changes)) = some [(.keep, [])] := by
  exact ⟨List.forall_mem_singleton.mpr ⟨by decide, by decide, by decide⟩, by decide, by decide⟩

/-- refuted: "every well-formed percentage is read back".  `DocRange020` is needed (3), boundary of the percentage:
    101 … 255 are well-formed and encodable but the document defines "0-100" only: the vendor reading of the
    transmitted record changes nothing -/
theorem value_boundary_C020_percentage_refuted :
    C020.WF ⟨[⟨0, .UNCHANGED, some (.damper 101)⟩]⟩ ∧
    encodeMsg (.controlStatus (.zoneCtrl ⟨[⟨0, .UNCHANGED, some (.damper 101)⟩]⟩)) =
      .ok [0x20, 0, 0, 0, 0, 4, 0, 1, 0x00, 0x80, 0x65, 0x00] ∧
    (Spec.At5.readZoneControl [0x20, 0, 0, 0, 0, 4, 0, 1, 0x00, 0x80, 0x65, 0x00]).map
      (·.map fun c => (c.value, c.changes)) = some [(.keep, [])] := by
  exact ⟨List.forall_mem_singleton.mpr ⟨by decide, show (101 : Nat) < 256 by decide⟩, by decide, by decide⟩

theorem value_boundary_C020_unencodable (zn : Nat) (pw : ZonePowerControl) (sp : Int) (h : sp < 100 ∨ 355 < sp) :
    C020.encode ⟨[⟨zn, pw, some (.setPoint sp)⟩]⟩ = .error .structError := by
  have hp : packB (encodeSetPoint sp) = .error .structError := by
    unfold packB encodeSetPoint; rw [if_neg (by omega)]
  have e1 : ∀ v, packB v = .ok v.toNat ∨ packB v = .error .structError := by
    intro v; unfold packB; split <;> simp
  rcases e1 (zn : Int) with a | a <;> rcases e1 ((SET_SETPOINT * 32 + pw.toNat : Nat) : Int) with b | b <;>
    simp only [C020.encode, C020.encRecs, C020.encRec, C020.encSetting, bind, Except.bind, hp, a, b]

end C020

section C022
open PyAirtouch.Gen.At5.XC022AcCtrl

/-- `AcPowerControl`: TOGGLE = "Change on/off status", TURN_OFF, TURN_ON, SET_TO_AWAY, SET_TO_SLEEP,
    UNCHANGED = "Keep power setting" -/
def meaningAcPower5 : AcPowerControl → Spec.At5.AcPowerCmd
  | .TOGGLE => .change
  | .TURN_OFF => .off
  | .TURN_ON => .on
  | .SET_TO_AWAY => .away
  | .SET_TO_SLEEP => .sleep
  | .UNCHANGED => .keep

def meaningAcMode5 : AcModeControl → Spec.At5.AcModeCmd
  | .AUTO => .auto
  | .HEAT => .heat
  | .DRY => .dry
  | .FAN => .fan
  | .COOL => .cool
  | .UNCHANGED => .keep

def meaningAcFan5 : AcFanSpeedControl → Spec.At5.AcFanCmd
  | .AUTO => .auto
  | .QUIET => .quiet
  | .LOW => .low
  | .MEDIUM => .medium
  | .HIGH => .high
  | .POWERFUL => .powerful
  | .TURBO => .turbo
  | .INTELLIGENT_AUTO => .intelligentAuto
  | .UNCHANGED => .keep

/-- `set_point: float | None` (here tenths): `None` = "Keep setpoint value", a value = "Change setpoint" to it -/
def meaningAcSetpoint5 : Option Int → Spec.At5.AcSetpointCmd
  | none => .keep
  | some sp => .set sp

/-- Byte4 as transmitted: "Data to be sent = (setpoint * 10) - 100"; when the set-point is kept the document's
    examples transmit 0xFF -/
def meaningAcSetpointRaw5 : Option Int → Nat
  | none => 0xFF
  | some sp => (sp - 100).toNat

/-- the intended reading of one AirTouch 5 `AcControlData` -/
def meaningAcRec (c : C022.AcControlData) : Spec.At5.AcControl :=
  { ac := c.ac_number
    power := meaningAcPower5 c.power
    mode := meaningAcMode5 c.mode
    fanSpeed := meaningAcFan5 c.fan_speed
    setpoint := meaningAcSetpoint5 c.set_point
    setpointValueRaw := meaningAcSetpointRaw5 c.set_point }

def meaningC022 (m : C022.Msg) : List Spec.At5.AcControl := m.ac_control.map meaningAcRec

theorem encByte1_fields_C022 (ac : Nat) (pw : AcPowerControl) (hac : ac < 16) :
    (ac % 16 + pw.toNat % 16 * 16) % 16 = ac ∧
    Spec.At5.AcPowerCmd.ofCode ((ac % 16 + pw.toNat % 16 * 16) / 16 % 16) = meaningAcPower5 pw := by
  rw [Nat.mod_eq_of_lt hac, BitField.pack_mod' hac, BitField.pack_div_mod' hac (Nat.mod_lt _ (by decide))]
  exact ⟨rfl, by cases pw <;> rfl⟩

theorem encByte2_fields_C022 (md : AcModeControl) (fs : AcFanSpeedControl) :
    Spec.At5.AcModeCmd.ofCode ((md.toNat % 16 * 16 + fs.toNat % 16) / 16 % 16) = meaningAcMode5 md ∧
    Spec.At5.AcFanCmd.ofCode ((md.toNat % 16 * 16 + fs.toNat % 16) % 16) = meaningAcFan5 fs := by
  rw [BitField.pack_div_mod (Nat.mod_lt _ (by decide)) (Nat.mod_lt _ (by decide)),
    BitField.pack_mod (Nat.mod_lt _ (by decide))]
  exact ⟨by cases md <;> rfl, by cases fs <;> rfl⟩

theorem readAcControlRecord_recBytes (c : C022.AcControlData) (hwf : C022.WFRec c) :
    Spec.At5.readAcControlRecord (At5C022.recBytes c) = some (meaningAcRec c) := by
  rcases c with ⟨ac, pw, md, fs, sp⟩
  obtain ⟨hac, hs⟩ := hwf
  simp only at hac hs
  obtain ⟨a2, a3⟩ := encByte1_fields_C022 ac pw hac
  obtain ⟨b2, b3⟩ := encByte2_fields_C022 md fs
  cases sp with
  | none =>
    simp only [At5C022.recBytes, Spec.At5.readAcControlRecord, bits5_eq, Nat.reducePow, Nat.reduceSub, Nat.div_one, a2, a3,
      b2, b3, C022.encSetPoint, meaningAcRec]
    rfl
  | some v =>
    obtain ⟨h1, h2⟩ := hs v rfl
    -- the encoder's `if set_point:` takes the value branch because `WF` gives `100 ≤ v`
    have hv : v ≠ 0 := by omega
    have hback : Spec.At5.setpointTenths (v - 100).toNat = v := by unfold Spec.At5.setpointTenths; omega
    simp only [At5C022.recBytes, Spec.At5.readAcControlRecord, bits5_eq, Nat.reducePow, Nat.reduceSub, Nat.div_one, a2, a3,
      b2, b3, C022.encSetPoint, hv, ↓reduceIte, meaningAcRec, encodeSetPoint, hback, SET_POINT_CHANGE,
      meaningAcSetpoint5, meaningAcSetpointRaw5]

theorem encode_reads_C022 (m : C022.Msg) (hwf : C022.WF m) (hcount : m.ac_control.length < 65536) :
    ∃ bs, encodeMsg (.controlStatus (.acCtrl m)) = .ok bs ∧ bs.length = 8 + 4 * m.ac_control.length ∧
      Spec.At5.readAcControl bs = some (meaningC022 m) ∧
      Spec.At5.readControlStatus bs = some (.acControl (meaningC022 m)) := by
  obtain ⟨bs, recs, hbs, hl, hsub, hrecs⟩ := controlRecords_read (.acCtrl m) 4 Spec.At5.readAcControlRecord
    At5C022.recBytes meaningAcRec m.ac_control rfl (At5C022.encRecs_ok _ hwf) (by decide : 0x22 < 256) (by decide) hcount
    (fun _ => rfl) (fun c hc => readAcControlRecord_recBytes c (hwf c hc))
  have hread : Spec.At5.readAcControl bs = some (meaningC022 m) := by
    simp only [Spec.At5.readAcControl, hsub, CsSub.messageId, MESSAGE_ID, Spec.At5.subTypeAcControl, hrecs,
      meaningC022, and_self, ↓reduceIte]
  exact ⟨bs, hbs, hl, hread, by simp only [Spec.At5.readControlStatus, hsub, CsSub.messageId, MESSAGE_ID,
    Spec.At5.subTypeAcControl, Spec.At5.subTypeZoneControl, Spec.At5.subTypeZoneStatus, Nat.reduceEqDiff,
    ↓reduceIte, hread, Option.map_some]⟩

theorem encode_reads_C022' (m : C022.Msg) (hwf : C022.WF m) (hcount : m.ac_control.length < 65536) (bs : Bytes)
    (h : encodeMsg (.controlStatus (.acCtrl m)) = .ok bs) :
    Spec.At5.readAcControl bs = some (meaningC022 m) :=
  (Records.ok_of_exists (encode_reads_C022 m hwf hcount) h).2.1

/-- `WF` (AC number below 16) is needed: AC number 16 is transmitted as AC 0 -/
theorem encode_reads_C022_needs_wf :
    encodeMsg (.controlStatus (.acCtrl ⟨[⟨16, .TURN_ON, .UNCHANGED, .UNCHANGED, none⟩]⟩)) =
      .ok [0x22, 0, 0, 0, 0, 4, 0, 1, 0x30, 0xFF, 0x00, 0xFF] ∧
    (Spec.At5.readAcControl [0x22, 0, 0, 0, 0, 4, 0, 1, 0x30, 0xFF, 0x00, 0xFF]).map (·.map (·.ac)) = some [0] := by
  constructor <;> decide

theorem addresses_C022 (m : C022.Msg) (hwf : C022.WF m) (hcount : m.ac_control.length < 65536) (bs : Bytes)
    (h : encodeMsg (.controlStatus (.acCtrl m)) = .ok bs) :
    (Spec.At5.readAcControl bs).map (·.map (·.ac)) = some (m.ac_control.map (·.ac_number)) := by
  rw [encode_reads_C022' m hwf hcount bs h]
  simp [meaningC022, meaningAcRec, Function.comp_def]

theorem changes_meaningAcRec (c : C022.AcControlData) :
    (meaningAcRec c).changes =
      (if c.power = .UNCHANGED then [] else ["power"]) ++
      (if c.mode = .UNCHANGED then [] else ["mode"]) ++
      (if c.fan_speed = .UNCHANGED then [] else ["fan_speed"]) ++
      (if c.set_point = none then [] else ["setpoint"]) := by
  rcases c with ⟨ac, pw, md, fs, sp⟩
  show _ ++ _ ++ _ ++ _ = _
  congr 1
  · congr 1
    · congr 1
      · cases pw <;> rfl
      · cases md <;> rfl
    · cases fs <;> rfl
  · cases sp <;> rfl

theorem changes_exactly_C022 (m : C022.Msg) (hwf : C022.WF m) (hcount : m.ac_control.length < 65536) (bs : Bytes)
    (h : encodeMsg (.controlStatus (.acCtrl m)) = .ok bs) :
    (Spec.At5.readAcControl bs).map (·.map (·.changes)) = some (m.ac_control.map fun c =>
      (if c.power = .UNCHANGED then [] else ["power"]) ++
      (if c.mode = .UNCHANGED then [] else ["mode"]) ++
      (if c.fan_speed = .UNCHANGED then [] else ["fan_speed"]) ++
      (if c.set_point = none then [] else ["setpoint"])) := by
  rw [encode_reads_C022' m hwf hcount bs h]
  simp [meaningC022, Function.comp_def, changes_meaningAcRec]

theorem value_exact_C022 (ac : Nat) (pw : AcPowerControl) (md : AcModeControl) (fs : AcFanSpeedControl)
    (sp : Int) (hac : ac < 16) (h1 : 100 ≤ sp) (h2 : sp ≤ 355) (bs : Bytes)
    (h : encodeMsg (.controlStatus (.acCtrl ⟨[⟨ac, pw, md, fs, some sp⟩]⟩)) = .ok bs) :
    (Spec.At5.readAcControl bs).map (·.map (·.setpoint)) = some [.set sp] := by
  have hwf : C022.WF ⟨[⟨ac, pw, md, fs, some sp⟩]⟩ :=
    List.forall_mem_singleton.mpr ⟨hac, fun v hv => Option.some.inj hv ▸ ⟨h1, h2⟩⟩
  rw [encode_reads_C022' _ hwf (show 1 < 65536 by decide) bs h]; rfl

theorem value_boundary_C022_unencodable (ac : Nat) (pw : AcPowerControl) (md : AcModeControl)
    (fs : AcFanSpeedControl) (sp : Int) (h : sp < 100 ∨ 355 < sp) (h0 : sp ≠ 0) :
    C022.encode ⟨[⟨ac, pw, md, fs, some sp⟩]⟩ = .error .structError := by
  have hp : packB (encodeSetPoint sp) = .error .structError := by
    unfold packB encodeSetPoint; rw [if_neg (by omega)]
  simp only [C022.encode, C022.encRecs, C022.encRec, C022.encSetPoint, h0, ↓reduceIte, bind, Except.bind, hp]

/-- refuted: "below 10.0 °C the encoder refuses".  A set-point of exactly 0.0 (outside `WF`) is neither refused nor
    transmitted as a value: the encoder's `if set_point:` treats it as absent and the vendor reading of the record is
    "keep" -/
theorem value_boundary_C022_zero_refuted :
    encodeMsg (.controlStatus (.acCtrl ⟨[⟨0, .UNCHANGED, .UNCHANGED, .UNCHANGED, some 0⟩]⟩)) =
      .ok [0x22, 0, 0, 0, 0, 4, 0, 1, 0x00, 0xFF, 0x00, 0xFF] ∧
    (Spec.At5.readAcControl [0x22, 0, 0, 0, 0, 4, 0, 1, 0x00, 0xFF, 0x00, 0xFF]).map
      (·.map fun c => (c.setpoint, c.changes)) = some [(.keep, [])] ∧
    ¬ C022.WF ⟨[⟨0, .UNCHANGED, .UNCHANGED, .UNCHANGED, some 0⟩]⟩ := by
  refine ⟨by decide, by decide, ?_⟩
  intro h
  have := (h _ (List.mem_singleton.mpr rfl)).2 0 rfl
  omega

end C022

end G5

/-! ## The frame clause

`frameOf pid m` is the model of `send(m)` + `_write` (size → header factory with packet id `pid` → header encoder →
message encoder → CRC); `Frame.frame_eq` states its check bytes as `Spec.checkBytes`. -/

theorem checkBytes_length (bs : List Nat) : (Spec.checkBytes bs).length = 2 := rfl

theorem checkBytes_allBytes (bs : List Nat) (h : ∀ b ∈ bs, b < 256) : AllBytes (Spec.checkBytes bs) := by
  have hlt := Crc.crc16Modbus_lt bs h
  intro b hb
  simp only [Spec.checkBytes, List.mem_cons, List.not_mem_nil, or_false] at hb
  omega

/-- the first address byte both generations' send paths write: 0x90 for the extended type 0x1F, else 0x80 (the
    literals are `Registry.toAddressExtended` / `toAddressNormal`, and 0xB0 below `fromAddress`, of both registries:
    `Registry4/5.toAddress_values`; `frame_bytes_g4/g5` tie them to `mkHeader`).  The statements of `frame_fields_g*`,
    `frame_reads_g*`, `wire_g*` spell the `if` out on purpose: they are read without this file's vocabulary. -/
def toAddr (messageId : Nat) : Nat := if messageId = 0x1F then 0x90 else 0x80

/-- address, packet id, type, length (high byte first): the six bytes between the header and the data, the same in
    AirTouch 4 and in the documented package of AirTouch 5 -/
def innerHeader (pid messageId len : Nat) : Bytes :=
  [toAddr messageId, 0xB0, pid, messageId, len / 256 % 256, len % 256]

theorem frame_layout (pre : Bytes) (k pid id : Nat) (payload : Bytes) (hk : pre.length = k)
    (hl : payload.length < 65536) (fr : Bytes)
    (hfr : fr = pre ++ innerHeader pid id payload.length ++ payload ++
      Spec.checkBytes (innerHeader pid id payload.length ++ payload)) :
    fr.getD k 0 = toAddr id ∧ fr.getD (k + 1) 0 = 0xB0 ∧ fr.getD (k + 2) 0 = pid ∧ fr.getD (k + 3) 0 = id ∧
      be16 (fr.getD (k + 4) 0) (fr.getD (k + 5) 0) = payload.length ∧
      (fr.drop (k + 6)).take payload.length = payload ∧
      fr.length = k + 6 + payload.length + 2 ∧
      fr.drop (k + 6 + payload.length) = Spec.checkBytes ((fr.drop k).take (6 + payload.length)) := by
  subst hk hfr
  have hget : ∀ i (tl : Bytes), (pre ++ innerHeader pid id payload.length ++ payload ++ tl).getD (pre.length + i) 0 =
      (innerHeader pid id payload.length ++ (payload ++ tl)).getD i 0 := by
    intro i tl
    simp only [List.append_assoc, List.getD_eq_getElem?_getD, List.getElem?_append_right (Nat.le_add_right ..),
      Nat.add_sub_cancel_left]
  have hdrop : ∀ (tl : Bytes), (pre ++ innerHeader pid id payload.length ++ payload ++ tl).drop pre.length =
      (innerHeader pid id payload.length ++ payload) ++ tl := by
    intro tl
    rw [List.append_assoc, List.append_assoc, List.drop_left, List.append_assoc]
  have h6 : (innerHeader pid id payload.length ++ payload).length = 6 + payload.length := by
    rw [List.length_append]; rfl
  refine ⟨hget 0 _, hget 1 _, hget 2 _, hget 3 _, ?_, ?_, ?_, ?_⟩
  · rw [hget 4, hget 5]
    exact BitField.be16_be16Bytes hl
  · rw [← List.drop_drop, hdrop, List.append_assoc]
    exact List.take_left ..
  · simp only [List.length_append, checkBytes_length, innerHeader, List.length_cons, List.length_nil]
  · rw [hdrop, ← h6, List.take_left, Nat.add_assoc, ← List.drop_drop, hdrop, h6.symm, List.drop_left]

section Frame4
open PyAirtouch.Model.At4 PyAirtouch.Model.At4.Registry

theorem direction_to (id pid len : Nat) (data crc : List Nat) :
    (⟨toAddr id, 0xB0, pid, id, len, data, crc⟩ : Spec.At4.Frame).direction = .toAirTouch := by
  unfold Spec.At4.Frame.direction toAddr
  split <;> simp [Spec.At4.addrClient, Spec.At4.addrAirTouch, Spec.At4.addrAirTouchExtended]

theorem addressOk_to (id pid len : Nat) (data crc : List Nat) :
    (⟨toAddr id, 0xB0, pid, id, len, data, crc⟩ : Spec.At4.Frame).addressOk = true := by
  simp only [Spec.At4.Frame.addressOk, Spec.At4.Frame.extendedAddr, direction_to]
  unfold toAddr
  by_cases h : id = 0x1F <;> simp [h, Spec.At4.typeExtended, Spec.At4.addrAirTouchExtended]

theorem frame_bytes_g4 (pid : Nat) (m : Msg) (hwf : WFMsg m) (fr : Bytes) (h : frameOf pid m = .ok fr) :
    ∃ payload, encodeMsg m = .ok payload ∧ AllBytes payload ∧ payload.length < 65536 ∧ pid < 256 ∧
      m.messageId < 256 ∧
      fr = [0x55, 0x55] ++ innerHeader pid m.messageId payload.length ++ payload ++
            Spec.checkBytes (innerHeader pid m.messageId payload.length ++ payload) := by
  obtain ⟨payload, hb, ck, hm, he, hfr⟩ := (Registry4.stack_ok.frameOf_iff hwf pid fr).mp h
  have hbytes := Registry4.encodeMsg_bytes m payload hwf hm
  obtain ⟨hwfh, hck, hhb⟩ := Hdr.at4_encode_eq _ hb ck he
  obtain ⟨-, -, hp, hid, hl⟩ := hwfh
  refine ⟨payload, hm, hbytes, hl, hp, hid, ?_⟩
  have hck' : ck = innerHeader pid m.messageId payload.length := by rw [hck]; rfl
  rw [hfr, hhb, hck']

theorem frame_fields_g4 (pid : Nat) (m : Msg) (hwf : WFMsg m) (fr : Bytes) (h : frameOf pid m = .ok fr) :
    ∃ payload, encodeMsg m = .ok payload ∧
      fr.take 2 = [0x55, 0x55] ∧
      fr.getD 2 0 = (if m.messageId = 0x1F then 0x90 else 0x80) ∧
      fr.getD 3 0 = 0xB0 ∧ fr.getD 4 0 = pid ∧ fr.getD 5 0 = m.messageId ∧
      be16 (fr.getD 6 0) (fr.getD 7 0) = payload.length ∧
      (fr.drop 8).take payload.length = payload ∧
      fr.length = 8 + payload.length + 2 ∧
      fr.drop (8 + payload.length) = Spec.checkBytes ((fr.drop 2).take (6 + payload.length)) := by
  obtain ⟨payload, hm, -, hl, -, -, hfr⟩ := frame_bytes_g4 pid m hwf fr h
  obtain ⟨a, b, c, d, e, f, g, i⟩ := frame_layout [0x55, 0x55] 2 pid m.messageId payload rfl hl fr hfr
  exact ⟨payload, hm, by rw [hfr]; rfl, a, b, c, d, e, f, g, i⟩

theorem readFramePrefix_frame (pid id : Nat) (payload crc : Bytes) (hl : payload.length < 65536) (hc : crc.length = 2)
    (hall : Spec.At4.allBytes ([0x55, 0x55] ++ innerHeader pid id payload.length ++ payload ++ crc) = true) :
    Spec.At4.readFramePrefix ([0x55, 0x55] ++ innerHeader pid id payload.length ++ payload ++ crc) =
      some (⟨toAddr id, 0xB0, pid, id, payload.length, payload, crc⟩, []) := by
  have hlen : payload.length / 256 % 256 * 256 + payload.length % 256 = payload.length :=
    BitField.be16_be16Bytes hl
  have hd : (payload ++ crc).drop (2 + payload.length) = [] :=
    List.drop_eq_nil_of_le (by rw [List.length_append, hc]; omega)
  simp only [innerHeader, List.cons_append, List.nil_append] at hall
  simp only [innerHeader, List.cons_append, List.nil_append, Spec.At4.readFramePrefix, hlen, hall,
    Spec.At4.headerByte, List.length_append, hc, Nat.le_refl, and_self, ↓reduceIte, List.take_left',
    List.drop_left', List.take_of_length_le (Nat.le_of_eq hc), Nat.add_comm payload.length 2, hd]

theorem frame_reads_g4 (pid : Nat) (m : Msg) (hwf : WFMsg m) (fr : Bytes) (h : frameOf pid m = .ok fr) :
    ∃ payload f, encodeMsg m = .ok payload ∧ Spec.At4.readFrame fr = some f ∧
      f.addr1 = (if m.messageId = 0x1F then 0x90 else 0x80) ∧ f.addr2 = 0xB0 ∧ f.msgId = pid ∧
      f.msgType = m.messageId ∧ f.dataLen = payload.length ∧ f.data = payload ∧
      Spec.At4.frameOk f = true ∧ f.addressOk = true ∧ f.direction = .toAirTouch := by
  obtain ⟨payload, hm, hbytes, hl, hp, hid, rfl⟩ := frame_bytes_g4 pid m hwf fr h
  have hih : AllBytes (innerHeader pid m.messageId payload.length) := by
    have hto : toAddr m.messageId < 256 := by unfold toAddr; split <;> decide
    intro b hb
    simp only [innerHeader, List.mem_cons, List.not_mem_nil, or_false] at hb
    omega
  have hckd := RegistryCommon.allBytes_append.mpr ⟨hih, hbytes⟩
  have hall : Spec.At4.allBytes ([0x55, 0x55] ++ innerHeader pid m.messageId payload.length ++ payload ++
      Spec.checkBytes (innerHeader pid m.messageId payload.length ++ payload)) = true := by
    have h55 : AllBytes [0x55, 0x55] :=
      RegistryCommon.allBytes_cons.mpr
        ⟨by decide, RegistryCommon.allBytes_cons.mpr ⟨by decide, RegistryCommon.allBytes_nil⟩⟩
    exact (allBytes_iff _).mpr (RegistryCommon.allBytes_append.mpr ⟨RegistryCommon.allBytes_append.mpr
      ⟨RegistryCommon.allBytes_append.mpr ⟨h55, hih⟩, hbytes⟩, checkBytes_allBytes _ hckd⟩)
  have hpre := readFramePrefix_frame pid m.messageId payload _ hl (checkBytes_length _) hall
  refine ⟨payload, _, hm, by rw [Spec.At4.readFrame, hpre], rfl, rfl, rfl, rfl, rfl, rfl, ?_,
    addressOk_to .., direction_to ..⟩
  -- the vendor's `checkedBytes` rebuilds the length bytes as `dataLen / 256`, without the `% 256` the header has
  have e : payload.length / 256 = payload.length / 256 % 256 := by omega
  simp only [Spec.At4.frameOk, Spec.At4.Frame.checkedBytes, beq_iff_eq]
  rw [e]
  rfl

end Frame4

section Wire4
open PyAirtouch.Model.At4 PyAirtouch.Model.At4.Registry

theorem wire_g4 (pid : Nat) (hpid : pid < 256) (m : Msg) (hwf : WFMsg m) (payload : Bytes)
    (hm : encodeMsg m = .ok payload) (hlen : payload.length < 65536) :
    ∃ fr, frameOf pid m = .ok fr ∧ fr.length = 8 + payload.length + 2 ∧
      fr.getD 2 0 = (if m.messageId = 0x1F then 0x90 else 0x80) ∧ fr.getD 3 0 = 0xB0 ∧
      Spec.At4.readWire fr = Spec.At4.readMessageToAirTouch m.messageId payload := by
  obtain ⟨fr, hfr⟩ := Registry4.frameOf_ok m pid hwf hpid (by
    intro n hn
    cases hn.symm.trans (Registry4.size_eq_length m payload hwf hm)
    exact hlen)
  obtain ⟨payload', f, hm', hrf, -, -, -, hty, -, hdata, hok, haddr, hdir⟩ := frame_reads_g4 pid m hwf fr hfr
  obtain ⟨-, h2, h3, -, -, -, -, hl, -⟩ := Records.ok_of_exists (frame_fields_g4 pid m hwf fr hfr) hm
  cases hm'.symm.trans hm
  refine ⟨fr, hfr, hl, h2, h3, ?_⟩
  simp only [Spec.At4.readWire, hrf, Option.bind_some, Spec.At4.readMessage, hok, haddr, hdir, Bool.and_self,
    Bool.not_true, Bool.false_eq_true, ↓reduceIte, hty, hdata]

theorem wire_2A (pid : Nat) (hpid : pid < 256) (m : X2A.Msg) (hwf : X2A.WF m) :
    ∃ fr, frameOf pid (.groupCtrl m) = .ok fr ∧ fr.length = 14 ∧ fr.getD 2 0 = 0x80 ∧ fr.getD 3 0 = 0xB0 ∧
      Spec.At4.readWire fr = some (.groupControl (meaning2A m)) := by
  obtain ⟨payload, hm, hpl, hread⟩ := encode_reads_2A m hwf
  obtain ⟨fr, hfr, hl, h2, h3, hw⟩ := wire_g4 pid hpid (.groupCtrl m) hwf payload hm (by rw [hpl]; decide)
  exact ⟨fr, hfr, by rw [hl, hpl], h2, h3, by rw [hw]; exact congrArg (Option.map _) hread⟩

theorem wire_2C (pid : Nat) (hpid : pid < 256) (m : X2C.Msg) (hwf : X2C.WF m) :
    ∃ fr, frameOf pid (.acCtrl m) = .ok fr ∧ fr.length = 14 ∧ fr.getD 2 0 = 0x80 ∧ fr.getD 3 0 = 0xB0 ∧
      Spec.At4.readWire fr = some (.acControl (meaning2C m)) := by
  obtain ⟨payload, hm, hpl, hread⟩ := encode_reads_2C m hwf
  obtain ⟨fr, hfr, hl, h2, h3, hw⟩ := wire_g4 pid hpid (.acCtrl m) hwf payload hm (by rw [hpl]; decide)
  exact ⟨fr, hfr, by rw [hl, hpl], h2, h3, by rw [hw]; exact congrArg (Option.map _) hread⟩

end Wire4

/-! ### AirTouch 5 frames

The model's (and the implementation's) AirTouch 5 header is 20 bytes: a 10-byte outer wrapper that the vendor document
does not describe (`55 55 55 AB 00 00 | 10+len+2 | 10+len+2`, see the header comment of `Spec/At5Read.lean`)
followed by the documented package `55 55 55 AA | address | id | type | length | data | check`.  The vendor reader is
therefore applied to the frame without its first 10 bytes.  (The "redundant bytes" rule 3.h is implemented by
neither side.) -/

section Frame5
open PyAirtouch.Model.At5 PyAirtouch.Model.At5.Registry

/-- the undocumented outer wrapper in front of the documented package -/
def outerWrapper (len : Nat) : Bytes :=
  [0x55, 0x55, 0x55, 0xAB, 0, 0] ++ be16Bytes (10 + len + 2) ++ be16Bytes (10 + len + 2)

theorem outerWrapper_length (len : Nat) : (outerWrapper len).length = 10 := rfl

theorem frame_bytes_g5 (pid : Nat) (m : Msg) (hwf : WFMsg m) (fr : Bytes) (h : frameOf pid m = .ok fr) :
    ∃ payload, encodeMsg m = .ok payload ∧ AllBytes payload ∧ payload.length < 65536 ∧ pid < 256 ∧
      m.messageId < 256 ∧
      fr = outerWrapper payload.length ++ [0x55, 0x55, 0x55, 0xAA] ++ innerHeader pid m.messageId payload.length ++
            payload ++ Spec.checkBytes (innerHeader pid m.messageId payload.length ++ payload) := by
  obtain ⟨payload, hb, ck, hm, he, hfr⟩ := (Registry5.stack_ok.frameOf_iff hwf pid fr).mp h
  have hbytes := Registry5.encodeMsg_bytes m payload hwf hm
  obtain ⟨hwfh, hck, hhb⟩ := Hdr.at5_encode_eq _ hb ck he
  obtain ⟨-, -, hp, hid, hl, -⟩ := hwfh
  refine ⟨payload, hm, hbytes, hl, hp, hid, ?_⟩
  have hck' : ck = innerHeader pid m.messageId payload.length := by rw [hck]; rfl
  rw [hfr, hhb, hck']
  rfl

/-- Offsets in the whole frame; the documented package starts at 10: 10-13 = its header, 14 = to-address,
    15 = from-address, 16 = id, 17 = type, 18-19 = length, 20 … = data. -/
theorem frame_fields_g5 (pid : Nat) (m : Msg) (hwf : WFMsg m) (fr : Bytes) (h : frameOf pid m = .ok fr) :
    ∃ payload, encodeMsg m = .ok payload ∧
      (fr.drop 10).take 4 = [0x55, 0x55, 0x55, 0xAA] ∧
      fr.getD 14 0 = (if m.messageId = 0x1F then 0x90 else 0x80) ∧
      fr.getD 15 0 = 0xB0 ∧ fr.getD 16 0 = pid ∧ fr.getD 17 0 = m.messageId ∧
      be16 (fr.getD 18 0) (fr.getD 19 0) = payload.length ∧
      (fr.drop 20).take payload.length = payload ∧
      fr.length = 20 + payload.length + 2 ∧
      fr.drop (20 + payload.length) = Spec.checkBytes ((fr.drop 14).take (6 + payload.length)) := by
  obtain ⟨payload, hm, -, hl, -, -, hfr⟩ := frame_bytes_g5 pid m hwf fr h
  obtain ⟨a, b, c, d, e, f, g, i⟩ :=
    frame_layout (outerWrapper payload.length ++ [0x55, 0x55, 0x55, 0xAA]) 14 pid m.messageId payload rfl hl fr hfr
  exact ⟨payload, hm, by rw [hfr]; rfl, a, b, c, d, e, f, g, i⟩

theorem readFrame_package (pid id : Nat) (payload crc : Bytes) (hl : payload.length < 65536) (hc : crc.length = 2) :
    Spec.At5.readFrame ([0x55, 0x55, 0x55, 0xAA] ++ innerHeader pid id payload.length ++ payload ++ crc) =
      some ⟨[toAddr id, 0xB0], pid, id, payload.length, payload, crc⟩ ∧
    Spec.At5.checkedBytes ([0x55, 0x55, 0x55, 0xAA] ++ innerHeader pid id payload.length ++ payload ++ crc) =
      innerHeader pid id payload.length ++ payload := by
  have hlen : payload.length / 256 % 256 * 256 + payload.length % 256 = payload.length :=
    BitField.be16_be16Bytes hl
  constructor
  · simp only [innerHeader, List.cons_append, List.nil_append, Spec.At5.readFrame, Spec.At5.be16, hlen,
      Spec.At5.header, List.length_append, hc, true_and, ↓reduceIte, List.take_left', List.drop_left']
  · have e : [0x55, 0x55, 0x55, 0xAA] ++ innerHeader pid id payload.length ++ payload ++ crc =
        [0x55, 0x55, 0x55, 0xAA] ++ ((innerHeader pid id payload.length ++ payload) ++ crc) := by
      simp only [List.append_assoc]
    rw [Spec.At5.checkedBytes, e, List.drop_left' (l₁ := [0x55, 0x55, 0x55, 0xAA]) (i := 4) rfl, List.take_left']
    simp only [List.length_append, hc, innerHeader, List.length_cons, List.length_nil]
    omega

theorem frame_reads_g5 (pid : Nat) (m : Msg) (hwf : WFMsg m) (fr : Bytes) (h : frameOf pid m = .ok fr) :
    ∃ payload f, encodeMsg m = .ok payload ∧ fr.take 10 = outerWrapper payload.length ∧
      Spec.At5.readFrame (fr.drop 10) = some f ∧
      f.address = [if m.messageId = 0x1F then 0x90 else 0x80, 0xB0] ∧ f.msgId = pid ∧
      f.msgType = m.messageId ∧ f.dataLen = payload.length ∧ f.data = payload ∧
      Spec.At5.frameOk (fr.drop 10) = true := by
  obtain ⟨payload, hm, -, hl, -, -, hfr⟩ := frame_bytes_g5 pid m hwf fr h
  obtain ⟨hrf, hck⟩ := readFrame_package pid m.messageId payload _ hl (checkBytes_length
    (innerHeader pid m.messageId payload.length ++ payload))
  have e : fr = outerWrapper payload.length ++ ([0x55, 0x55, 0x55, 0xAA] ++
      innerHeader pid m.messageId payload.length ++ payload ++
      Spec.checkBytes (innerHeader pid m.messageId payload.length ++ payload)) := by
    rw [hfr]; simp only [List.append_assoc]
  have hdrop := congrArg (List.drop 10) e
  rw [List.drop_left' (outerWrapper_length _)] at hdrop
  refine ⟨payload, _, hm, by rw [e, List.take_left' (outerWrapper_length _)], by rw [hdrop]; exact hrf,
    rfl, rfl, rfl, rfl, rfl, ?_⟩
  simp only [hdrop, Spec.At5.frameOk, hrf, hck, beq_self_eq_true]

end Frame5

section Wire5
open PyAirtouch.Model.At5 PyAirtouch.Model.At5.Registry

/-- `hlen`: the 16-bit length fields of the outer wrapper hold `10 + len + 2`. -/
theorem wire_g5 (pid : Nat) (hpid : pid < 256) (m : Msg) (hwf : WFMsg m) (payload : Bytes)
    (hm : encodeMsg m = .ok payload) (hlen : payload.length + 12 < 65536) :
    ∃ fr f, frameOf pid m = .ok fr ∧ Spec.At5.readFrame (fr.drop 10) = some f ∧
      Spec.At5.frameOk (fr.drop 10) = true ∧ f.address = [if m.messageId = 0x1F then 0x90 else 0x80, 0xB0] ∧
      f.msgId = pid ∧ f.msgType = m.messageId ∧ f.data = payload := by
  obtain ⟨fr, hfr⟩ := Registry5.frameOf_ok m pid hwf hpid (by
    intro n hn
    cases hn.symm.trans (Registry5.size_eq_length m payload hwf hm)
    exact hlen)
  obtain ⟨payload', f, hm', -, hrf, ha, hid, hty, -, hdata, hok⟩ := frame_reads_g5 pid m hwf fr hfr
  cases hm'.symm.trans hm
  exact ⟨fr, f, hfr, hrf, hok, ha, hid, hty, hdata⟩

/-- `hcount`, here and in `wire_C022`: the number of records that fits the 16-bit length fields of the outer wrapper
    (`hlen` of `wire_g5` with 8 bytes of sub-header and 4 per record). -/
theorem wire_C020 (pid : Nat) (hpid : pid < 256) (m : C020.Msg) (hwf : C020.WF m)
    (hdoc : ∀ z ∈ m.zone_control, DocRange020 z) (hcount : 8 + 4 * m.zone_control.length + 12 < 65536) :
    ∃ fr f, frameOf pid (.controlStatus (.zoneCtrl m)) = .ok fr ∧
      Spec.At5.readFrame (fr.drop 10) = some f ∧ Spec.At5.frameOk (fr.drop 10) = true ∧
      f.address = Spec.At5.addrToAirtouch ∧ f.msgId = pid ∧
      Spec.At5.MsgType.ofCode f.msgType = .controlStatus ∧
      Spec.At5.readControlStatus f.data = some (.zoneControl (meaningC020 m)) := by
  have hc : m.zone_control.length < 65536 := by omega
  obtain ⟨bs, hbs, hbl, -, hcs⟩ := encode_reads_C020 m hwf hdoc hc
  obtain ⟨fr, f, hfr, hrf, hok, ha, hid, hty, hdata⟩ :=
    wire_g5 pid hpid (.controlStatus (.zoneCtrl m)) ⟨hwf, hc⟩ bs hbs (by rw [hbl]; exact hcount)
  exact ⟨fr, f, hfr, hrf, hok, ha, hid, by rw [hty]; rfl, by rw [hdata]; exact hcs⟩

theorem wire_C022 (pid : Nat) (hpid : pid < 256) (m : C022.Msg) (hwf : C022.WF m)
    (hcount : 8 + 4 * m.ac_control.length + 12 < 65536) :
    ∃ fr f, frameOf pid (.controlStatus (.acCtrl m)) = .ok fr ∧
      Spec.At5.readFrame (fr.drop 10) = some f ∧ Spec.At5.frameOk (fr.drop 10) = true ∧
      f.address = Spec.At5.addrToAirtouch ∧ f.msgId = pid ∧
      Spec.At5.MsgType.ofCode f.msgType = .controlStatus ∧
      Spec.At5.readControlStatus f.data = some (.acControl (meaningC022 m)) := by
  have hc : m.ac_control.length < 65536 := by omega
  obtain ⟨bs, hbs, hbl, -, hcs⟩ := encode_reads_C022 m hwf hc
  obtain ⟨fr, f, hfr, hrf, hok, ha, hid, hty, hdata⟩ :=
    wire_g5 pid hpid (.controlStatus (.acCtrl m)) ⟨hwf, hc⟩ bs hbs (by rw [hbl]; exact hcount)
  exact ⟨fr, f, hfr, hrf, hok, ha, hid, by rw [hty]; rfl, by rw [hdata]; exact hcs⟩

end Wire5

end PyAirtouch.Lemmas.SpecCmd
