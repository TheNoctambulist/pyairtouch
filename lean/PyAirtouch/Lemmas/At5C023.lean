import PyAirtouch.Model.At5.C023
import PyAirtouch.Lemmas.At5Utils
import PyAirtouch.Lemmas.Records
/-! Round trip and length lemmas for the AirTouch 5 AC status codec (0xC023). -/
namespace PyAirtouch.Lemmas.At5C023
open PyAirtouch.Model PyAirtouch.Model.At5.Utils PyAirtouch.Model.At5.C023 PyAirtouch.Gen.At5.XC023AcStatus
open PyAirtouch.Lemmas.BitField PyAirtouch.Lemmas.At5Utils PyAirtouch.Lemmas.Records

/-- byte 4: the two "unused" bits set, then turbo / bypass / spill / timer -/
def flagByte (a : AcStatusData) : Nat :=
  BYTE4_UNUSED_BITS + boolToBit a.turbo_active 3 + boolToBit a.bypass_active 2
    + boolToBit a.spill_active 1 + boolToBit a.timer_set 0

/-- the 11-bit temperature code -/
def tempCode (a : AcStatusData) : Nat := mask11 (encodeTemperature a.temperature)

/-- what `struct.pack` plus the padding produces for a well-formed record -/
def recBytes (a : AcStatusData) : Bytes :=
  [a.ac_number % 16 + a.power_state.toNat % 16 * 16, a.mode.toNat % 16 * 16 + a.fan_speed.toNat % 16,
   (encodeSetPoint a.set_point).toNat, flagByte a,
   tempCode a / 256 % 256, tempCode a % 256, a.error_code / 256 % 256, a.error_code % 256, 0, 0]

theorem recBytes_length (a : AcStatusData) : (recBytes a).length = encRecSize := rfl

theorem encRec_length (a : AcStatusData) (bs : Bytes) (h : encRec a = .ok bs) : bs.length = encRecSize := by
  simp only [encRec, bind, Except.bind, pure, Except.pure] at h
  split at h
  · cases h
  · split at h
    · cases h
    · rename_i e he
      cases h
      simp only [List.length_append, List.length_cons, List.length_nil, be16Bytes, packH_length he,
        PADDING_BYTES, encRecSize, STRUCT_size, PADDING_BYTES_SIZE]

theorem encode_length (m : Msg) (bs : Bytes) (h : encode m = .ok bs) :
    bs.length = nonRepeatSize m + repeatSize m * repeatCount m := by
  cases m with
  | request => cases h; rfl
  | status acs =>
    simp only [nonRepeatSize, repeatSize, repeatCount, Nat.zero_add]
    exact Records.encRecs_length (encRecs := encRecs) rfl (fun _ _ => rfl) encRec_length acs bs h

theorem encRec_ok (a : AcStatusData) (h : WFRec a) : encRec a = .ok (recBytes a) := by
  obtain ⟨_, h1, h2, _, _, he⟩ := h
  simp only [encRec, packB_encodeSetPoint h1 h2, packH_nat he, bind, Except.bind, pure, Except.pure, recBytes,
    be16Bytes, List.cons_append, List.nil_append, flagByte, tempCode, PADDING_BYTES]

theorem decRec_recBytes (a : AcStatusData) (h : WFRec a) (rest : Bytes) :
    decRec (recBytes a ++ rest) = .ok a := by
  obtain ⟨hn, hs1, hs2, ht1, ht2, he⟩ := h
  rcases a with ⟨n, ps, md, fs, turbo, bypass, spill, timer, sp, temp, err⟩
  simp only at hn hs1 hs2 ht1 ht2 he
  have hps : AcPowerState.ofNat? (ps.toNat % 16) = some ps := by cases ps <;> rfl
  have hmd : AcMode.ofNat? (md.toNat % 16) = some md := by cases md <;> rfl
  have hfs : AcFanSpeed.ofNat? (fs.toNat % 16) = some fs := by cases fs <;> rfl
  have h16 (x : Nat) : x % 16 < 16 := Nat.mod_lt _ (by decide)
  -- byte 4 is `BYTE4_UNUSED_BITS` (192 = 12 * 2 ^ 4) above the four flags as a `packBits`: the high part does not
  -- show in bits 0-3 (`bitToBool_mul_two_pow_add`), and `bitToBool_packBits` reads the flags
  have hflag : 192 + turbo.toNat * 2 ^ 3 + bypass.toNat * 2 ^ 2 + spill.toNat * 2 ^ 1 + timer.toNat * 2 ^ 0
      = 12 * 2 ^ 4 + packBits [timer, spill, bypass, turbo] := by
    simp only [packBits]; omega
  -- byte 1 by `pack_*' hn`, byte 2 by `pack_* (h16 _)`, byte 3 by `decodeSetPoint_encodeSetPoint`, byte 4 as above,
  -- then the temperature word and the error-code word
  simp only [recBytes, flagByte, tempCode, BYTE4_UNUSED_BITS, List.cons_append, List.nil_append, decRec,
    boolToBit_eq, hflag, Nat.mod_eq_of_lt hn, pack_div_mod' hn (h16 _), pack_mod' hn, pack_div_mod (h16 _) (h16 _),
    pack_mod (h16 _), hps, hmd, hfs, bitToBool_mul_two_pow_add 12 _ (by decide : 3 < 4),
    bitToBool_mul_two_pow_add 12 _ (by decide : 2 < 4), bitToBool_mul_two_pow_add 12 _ (by decide : 1 < 4),
    bitToBool_mul_two_pow_add 12 _ (by decide : 0 < 4), bitToBool_packBits, List.getD_cons_succ,
    List.getD_cons_zero, decodeSetPoint_encodeSetPoint hs1, decodeTemperature_word ht1 ht2, be16_be16Bytes he]

theorem encRecs_ok (acs : List AcStatusData) (h : ∀ a ∈ acs, WFRec a) :
    encRecs acs = .ok (acs.flatMap recBytes) :=
  Records.encRecs_ok (encRecs := encRecs) rfl (fun _ _ => rfl) encRec_ok acs h

theorem encode_ok (m : Msg) (h : WF m) : ∃ bs, encode m = .ok bs := by
  cases m with
  | request => exact ⟨[], rfl⟩
  | status acs => exact ⟨_, encRecs_ok acs h⟩

/-- the header announces the padded stride of 10 bytes; the decoder reads the 8 bytes it knows -/
theorem decode_encode (m : Msg) (h : WF m) (rest : Bytes) :
    ∃ bs, encode m = .ok bs ∧
      decode (bs ++ rest) (nonRepeatSize m) (repeatSize m) (repeatCount m) = .ok (m, rest) := by
  cases m with
  | request => exact ⟨[], rfl, by simp [decode, repeatSize, repeatCount]⟩
  | status acs =>
    refine ⟨_, encRecs_ok acs h, ?_⟩
    have h0 : ¬ (acs.length = 0 ∧ encRecSize = 0) := by simp [encRecSize, STRUCT_size, PADDING_BYTES_SIZE]
    have h1 : ¬ (encRecSize < recSize) := by simp [encRecSize, recSize, STRUCT_size, PADDING_BYTES_SIZE]
    simp only [decode, repeatSize, repeatCount, h0, h1, ↓reduceIte]
    simp only [nonRepeatSize, List.drop_zero]
    rw [decRecs_stride_flatMap (decRecs := decRecs _) (fun _ => rfl) (fun _ _ => rfl) recBytes_length
      decRec_recBytes acs h]
    rfl

theorem wfRecBool_iff (a : AcStatusData) : wfRecBool a = true ↔ WFRec a := by
  simp only [wfRecBool, WFRec, Bool.and_eq_true, decide_eq_true_eq, and_assoc]

theorem wfBool_iff (m : Msg) : wfBool m = true ↔ WF m := by
  cases m with
  | request => simp [wfBool, WF]
  | status acs =>
    simp only [wfBool, WF, List.all_eq_true, wfRecBool_iff]

end PyAirtouch.Lemmas.At5C023
