import PyAirtouch.Lemmas.SockBasic
import PyAirtouch.Lemmas.TraceFacts
/-!
# Queue and retry invariants of the socket model

The invariant `AInv` ties the queue and the entries in flight to the trace: every entry was accepted with the
expiry and encodability it carries, and the write attempts made for it so far plus the retries it has left fit the
retries it was accepted with (`Held`; one more attempt is allowed for an entry in flight, whose attempt is already in
the trace while its retry count is not yet lowered).  Every write event of the trace names an accepted message and
is before its expiry (`WriteOk`).  C01's `wireOnlySubmitted`, C02 and, with the simpler `fresh_bound`, C16 follow.
Everything is proved once per abstract step (`AStep`, see `SockBasic.lean`) and transported to the model, with or
without cancelled callers, through `runX_abs`.
-/
namespace PyAirtouch.Lemmas.Sock
open PyAirtouch.Model.Sock PyAirtouch.Spec.Trace

/-! ### C16: entries that were never re-queued -/

def fresh (q : List Entry) : List Entry := q.filter (fun e => !e.requeued)

theorem AStep.fresh_bound {a b : Abs} (h : AStep a b) :
    (fresh a.queue).length ≤ CAP → (fresh b.queue).length ≤ CAP := by
  induction h with
  | refl a => exact id
  | trans _ _ ih1 ih2 => exact fun h => ih2 (ih1 h)
  | tick a t h => exact id
  | note a ev h => exact id
  | dropQ a q' h =>
    intro hb
    exact Nat.le_trans (List.Sublist.length_le (List.Sublist.filter _ h)) hb
  | dropF a fl' h => exact id
  | permF a fl' h => exact id
  | write a e rest wev hq hlt hw =>
    intro hb
    rw [hq] at hb
    refine Nat.le_trans (List.Sublist.length_le (List.Sublist.filter _ ?_)) hb
    exact List.sublist_cons_self _ _
  | requeue a e fl' hf hk => intro hb; simpa [fresh] using hb
  | burn a sid => exact id
  | accept a sid r life ok hcap =>
    intro _
    have : (fresh a.queue).length ≤ a.queue.length := List.length_filter_le _ _
    simp only [fresh, List.filter_append, List.length_append] at this ⊢
    simp
    omega

/-- `AStep.fresh_bound` along `runX_abs`.  The name is in `SockX`, as every statement about `runX` is; it is declared
    here, where the abstract lemma is. -/
theorem _root_.PyAirtouch.Lemmas.SockX.fresh_bound_of_reachableX {s : Sys} (h : ReachableX s) :
    (fresh s.core.queue).length ≤ CAP := by
  obtain ⟨ls, h⟩ := h
  exact (SockX.runX_abs ls s h).fresh_bound (by simp [abs, absC, init, fresh])

theorem fresh_bound_of_reachable {s : Sys} (h : Reachable s) : (fresh s.core.queue).length ≤ CAP :=
  SockX.fresh_bound_of_reachableX (SockX.reachableX_of_reachable h)

/-! ### trace functions under extension -/

theorem acceptedAt_quiet (tr : List Ev) (ev : Ev) (s : Nat) (h : Quiet ev = true) :
    acceptedAt (tr ++ [ev]) s = acceptedAt tr s := by
  rw [acceptedAt_append]
  cases ev <;> first | exact Option.or_none | cases h

theorem acceptedAt_write (tr : List Ev) (ev : Ev) (s sid now : Nat) (h : IsWrite ev sid now) :
    acceptedAt (tr ++ [ev]) s = acceptedAt tr s := by
  rw [acceptedAt_append]
  obtain ⟨cid, rfl | rfl | rfl⟩ := h <;> exact Option.or_none

theorem acceptedAt_accept (tr : List Ev) (s sid t e r : Nat) (ok : Bool) :
    acceptedAt (tr ++ [.accept sid t e r ok]) s =
      (acceptedAt tr s).or (if sid = s then some (t, e, r, ok) else none) := by
  rw [acceptedAt_append]; simp [acceptedAt]

theorem writeAttempts_quiet (tr : List Ev) (ev : Ev) (s : Nat) (h : Quiet ev = true) :
    writeAttempts (tr ++ [ev]) s = writeAttempts tr s := by
  rw [writeAttempts_append]
  cases ev <;> first | rfl | cases h

theorem writeAttempts_accept (tr : List Ev) (s sid t e r : Nat) (ok : Bool) :
    writeAttempts (tr ++ [.accept sid t e r ok]) s = writeAttempts tr s :=
  writeAttempts_append ..

theorem writeAttempts_write (tr : List Ev) (ev : Ev) (s sid now : Nat) (h : IsWrite ev sid now) :
    writeAttempts (tr ++ [ev]) s = writeAttempts tr s + (if sid = s then 1 else 0) := by
  rw [writeAttempts_append]
  obtain ⟨cid, rfl | rfl | rfl⟩ := h <;> simp [writeAttempts]

theorem wireCount_quiet (tr : List Ev) (ev : Ev) (s : Nat) (h : Quiet ev = true) :
    wireCount (tr ++ [ev]) s = wireCount tr s := by
  rw [wireCount_append]
  cases ev <;> first | rfl | cases h

theorem wireCount_accept (tr : List Ev) (s sid t e r : Nat) (ok : Bool) :
    wireCount (tr ++ [.accept sid t e r ok]) s = wireCount tr s :=
  wireCount_append ..

theorem wireCount_write_ne (tr : List Ev) (ev : Ev) (s sid now : Nat) (h : IsWrite ev sid now) (hne : sid ≠ s) :
    wireCount (tr ++ [ev]) s = wireCount tr s := by
  rw [wireCount_append]
  obtain ⟨cid, rfl | rfl | rfl⟩ := h <;> simp [wireCount, hne]

/-- what the invariant says about one event of the trace -/
def WriteOk (tr : List Ev) : Ev → Prop
  | .wire _ s t | .deadWrite _ s t | .writeFault _ s t =>
    ∃ t0 e r ok, acceptedAt tr s = some (t0, e, r, ok) ∧ t < e
  | .wireUnknown _ _ => False
  | _ => True

theorem WriteOk.mono {tr : List Ev} {ev : Ev} (tr' : List Ev) (h : WriteOk tr ev) : WriteOk (tr ++ tr') ev := by
  cases ev <;> simp only [WriteOk] at h ⊢
  all_goals
    obtain ⟨t0, e, r, ok, h1, h2⟩ := h
    exact ⟨t0, e, r, ok, acceptedAt_mono tr' h1, h2⟩

theorem WriteOk.quiet (tr : List Ev) {ev : Ev} (h : Quiet ev = true) : WriteOk tr ev := by
  cases ev <;> simp_all [Quiet, WriteOk]

theorem writeAttempts_zero {tr : List Ev} {s : Nat} (hw : ∀ ev ∈ tr, WriteOk tr ev)
    (hn : acceptedAt tr s = none) : writeAttempts tr s = 0 := by
  simp only [writeAttempts, List.countP_eq_zero]
  intro ev hev
  have := hw ev hev
  cases ev <;> simp only [decide_eq_true_eq, Bool.false_eq_true, not_false_eq_true]
  all_goals
    simp only [WriteOk] at this
    obtain ⟨t0, e, r, ok, h1, _⟩ := this
    intro heq; subst heq; rw [hn] at h1; cases h1

/-! ### C01 / C02: the invariant linking queue, in-flight entries and trace -/

/-- `x` was accepted with its expiry / encodability and has retries left to cover its attempts -/
def Held (tr : List Ev) (slack : Nat) (x : Entry) : Prop :=
  ∃ t0 r0, acceptedAt tr x.sid = some (t0, x.expiry, r0, x.encOk) ∧
    writeAttempts tr x.sid + x.retries ≤ r0 + slack

theorem writes_snoc {tr : List Ev} {ev : Ev} (h : ∀ e ∈ tr, WriteOk tr e) (hev : WriteOk (tr ++ [ev]) ev) :
    ∀ e ∈ tr ++ [ev], WriteOk (tr ++ [ev]) e := by
  intro e he
  rcases List.mem_append.1 he with he | he
  · exact (h e he).mono _
  · rw [List.mem_singleton.1 he]; exact hev

theorem accepts_snoc {tr : List Ev} {ev : Ev}
    (h : ∀ s t e r ok, Ev.accept s t e r ok ∈ tr → acceptedAt tr s = some (t, e, r, ok))
    (hev : ∀ s t e r ok, ev = .accept s t e r ok → acceptedAt (tr ++ [ev]) s = some (t, e, r, ok)) :
    ∀ s t e r ok, Ev.accept s t e r ok ∈ tr ++ [ev] → acceptedAt (tr ++ [ev]) s = some (t, e, r, ok) := by
  intro s t e r ok hmem
  rcases List.mem_append.1 hmem with hmem | hmem
  · exact acceptedAt_mono _ (h s t e r ok hmem)
  · exact hev s t e r ok (List.mem_singleton.1 hmem).symm

structure AInv (a : Abs) : Prop where
  accUsed : ∀ sid x, acceptedAt a.trace sid = some x → sid ∈ a.used
  writes : ∀ ev ∈ a.trace, WriteOk a.trace ev
  accepts : ∀ s t e r ok, Ev.accept s t e r ok ∈ a.trace → acceptedAt a.trace s = some (t, e, r, ok)
  bounded : ∀ s t e r ok, acceptedAt a.trace s = some (t, e, r, ok) → writeAttempts a.trace s ≤ 1 + r
  queued : ∀ x ∈ a.queue, Held a.trace 0 x
  flying : ∀ x ∈ a.fl, Held a.trace 1 x
  uniq : ((a.queue ++ a.fl).map (·.sid)).Nodup

theorem AInv.note {a : Abs} (h : AInv a) (ev : Ev) (hq : Quiet ev = true) :
    AInv { a with trace := a.trace ++ [ev] } := by
  have hacc := fun s => acceptedAt_quiet a.trace ev s hq
  have hwa := fun s => writeAttempts_quiet a.trace ev s hq
  constructor
  · simpa only [hacc] using h.accUsed
  · exact writes_snoc h.writes (WriteOk.quiet _ hq)
  · exact accepts_snoc h.accepts fun s t e r ok he => by subst he; cases hq
  · simpa only [hacc, hwa] using h.bounded
  · simpa only [Held, hacc, hwa] using h.queued
  · simpa only [Held, hacc, hwa] using h.flying
  · exact h.uniq


theorem AInv.wireOnlySubmitted {a : Abs} (h : AInv a) : wireOnlySubmitted a.trace = true := by
  simp only [Spec.Trace.wireOnlySubmitted, List.all_eq_true]
  intro ev hev
  have hw := h.writes ev hev
  cases ev <;> simp only [WriteOk] at hw ⊢
  all_goals
    obtain ⟨t0, e, r, ok, h1, h2⟩ := hw
    simp [h1]

theorem nodup_sids_sub {q q' fl fl' : List Entry} (hq : q'.Sublist q) (hf : fl'.Sublist fl)
    (h : ((q ++ fl).map (·.sid)).Nodup) : ((q' ++ fl').map (·.sid)).Nodup :=
  List.Nodup.sublist (List.Sublist.map _ (List.Sublist.append hq hf)) h

theorem AInv.dropQ {a : Abs} (h : AInv a) (q' : List Entry) (hs : q'.Sublist a.queue) :
    AInv { a with queue := q' } :=
  { h with queued := fun x hx => h.queued x (hs.subset hx)
           uniq := nodup_sids_sub hs (List.Sublist.refl _) h.uniq }

theorem AInv.dropF {a : Abs} (h : AInv a) (fl' : List Entry) (hs : fl'.Sublist a.fl) :
    AInv { a with fl := fl' } :=
  { h with flying := fun x hx => h.flying x (hs.subset hx)
           uniq := nodup_sids_sub (List.Sublist.refl _) hs h.uniq }

theorem AInv.permF {a : Abs} (h : AInv a) (fl' : List Entry) (hs : fl'.Perm a.fl) :
    AInv { a with fl := fl' } :=
  { h with flying := fun x hx => h.flying x (hs.subset hx)
           uniq := (List.Perm.nodup_iff ((List.Perm.append_left _ hs).map _)).2 h.uniq }

theorem uniq_move {e : Entry} {rest fl : List Entry} (h : (((e :: rest) ++ fl).map (·.sid)).Nodup) :
    ((rest ++ e :: fl).map (·.sid)).Nodup ∧ (∀ x ∈ rest, x.sid ≠ e.sid) ∧ (∀ x ∈ fl, x.sid ≠ e.sid) := by
  have hp : (rest ++ e :: fl).Perm ((e :: rest) ++ fl) := List.perm_middle
  refine ⟨(List.Perm.nodup_iff (hp.map _)).2 h, ?_, ?_⟩
  · intro x hx heq
    simp only [List.cons_append, List.map_cons, List.nodup_cons, List.mem_map, List.mem_append] at h
    exact h.1 ⟨x, .inl hx, heq⟩
  · intro x hx heq
    simp only [List.cons_append, List.map_cons, List.nodup_cons, List.mem_map, List.mem_append] at h
    exact h.1 ⟨x, .inr hx, heq⟩

theorem AInv.write {a : Abs} (h : AInv a) (e : Entry) (rest : List Entry) (wev : Ev)
    (hq : a.queue = e :: rest) (hlt : a.now < e.expiry) (hw : IsWrite wev e.sid a.now) :
    AInv { a with queue := rest, trace := a.trace ++ [wev], fl := e :: a.fl } := by
  have hacc := fun s => acceptedAt_write a.trace wev s _ _ hw
  have hwa := fun s => writeAttempts_write a.trace wev s _ _ hw
  have hu := h.uniq; rw [hq] at hu
  obtain ⟨hu1, hu2, hu3⟩ := uniq_move hu
  obtain ⟨t0, r0, he1, he2⟩ := h.queued e (by simp [hq])
  constructor
  · simpa only [hacc] using h.accUsed
  · refine writes_snoc h.writes ?_
    obtain ⟨cid, rfl | rfl | rfl⟩ := hw <;> exact ⟨t0, e.expiry, r0, e.encOk, acceptedAt_mono _ he1, hlt⟩
  · refine accepts_snoc h.accepts fun s t e' r ok he => ?_
    obtain ⟨cid, h | h | h⟩ := hw <;> cases h.symm.trans he
  · intro s t e' r ok hs
    simp only [hacc] at hs
    rw [hwa]
    have := h.bounded s t e' r ok hs
    split
    · rename_i heq; subst heq
      rw [he1] at hs; cases hs; omega
    · omega
  · intro x hx
    have hne := hu2 x hx
    obtain ⟨t1, r1, hx1, hx2⟩ := h.queued x (by simp [hq, hx])
    refine ⟨t1, r1, by rw [hacc]; exact hx1, ?_⟩
    rw [hwa, if_neg (fun h => hne h.symm)]; exact hx2
  · intro x hx
    simp only [List.mem_cons] at hx
    rcases hx with rfl | hx
    · refine ⟨t0, r0, by rw [hacc]; exact he1, ?_⟩
      rw [hwa, if_pos rfl]; omega
    · have hne := hu3 x hx
      obtain ⟨t1, r1, hx1, hx2⟩ := h.flying x hx
      refine ⟨t1, r1, by rw [hacc]; exact hx1, ?_⟩
      rw [hwa, if_neg (fun h => hne h.symm)]; exact hx2
  · exact hu1

theorem AInv.requeue {a : Abs} (h : AInv a) (e : Entry) (fl' : List Entry) (hf : a.fl = e :: fl')
    (hk : e.retries ≠ 0) :
    AInv { a with queue := { e with retries := e.retries - 1, requeued := true } :: a.queue, fl := fl' } := by
  obtain ⟨t0, r0, he1, he2⟩ := h.flying e (by simp [hf])
  refine { h with queued := ?_, flying := fun x hx => h.flying x (by simp [hf, hx]), uniq := ?_ }
  · intro x hx
    simp only [List.mem_cons] at hx
    rcases hx with rfl | hx
    · exact ⟨t0, r0, he1, by simp only; omega⟩
    · exact h.queued x hx
  · have hu := h.uniq; rw [hf] at hu
    have hp : (({ e with retries := e.retries - 1, requeued := true } : Entry) :: a.queue ++ fl').map (·.sid)
        = ((e :: (a.queue ++ fl')).map (·.sid)) := by simp
    show ((({ e with retries := e.retries - 1, requeued := true } : Entry) :: a.queue ++ fl').map (·.sid)).Nodup
    rw [hp]
    exact (List.Perm.nodup_iff ((List.perm_middle (a := e) (l₁ := a.queue) (l₂ := fl')).map _)).1 hu


theorem AInv.burn {a : Abs} (h : AInv a) (sid : Nat) : AInv { a with used := a.used ++ [sid] } :=
  { h with accUsed := fun s x hx => by simp [h.accUsed s x hx] }

theorem AInv.not_accepted {a : Abs} (h : AInv a) {sid : Nat} (hfresh : sid ∉ a.used) : acceptedAt a.trace sid = none := by
  cases hx : acceptedAt a.trace sid with
  | none => rfl
  | some x => exact absurd (h.accUsed sid x hx) hfresh

theorem not_mem_of_nodup_snoc {u : List Nat} {sid : Nat} (h : (u ++ [sid]).Nodup) : sid ∉ u :=
  fun hu => (List.nodup_append.1 h).2.2 sid hu sid List.mem_cons_self rfl

theorem AInv.accept {a : Abs} (h : AInv a) (sid r life : Nat) (ok : Bool) (hfresh : sid ∉ a.used) :
    AInv { a with used := a.used ++ [sid]
                  queue := a.queue ++ [⟨sid, r, a.now + life, ok, false⟩]
                  trace := a.trace ++ [.accept sid a.now (a.now + life) r ok] } := by
  have hnone := h.not_accepted hfresh
  have hzero : writeAttempts a.trace sid = 0 := writeAttempts_zero h.writes hnone
  have hacc := fun s => acceptedAt_accept a.trace s sid a.now (a.now + life) r ok
  have hold := fun s x (hx : acceptedAt a.trace s = some x) =>
    acceptedAt_mono [Ev.accept sid a.now (a.now + life) r ok] hx
  have hnew := hacc sid
  rw [hnone, if_pos rfl] at hnew
  have hwa := fun s => writeAttempts_accept a.trace s sid a.now (a.now + life) r ok
  have hheld : ∀ k x, Held a.trace k x → Held _ k x :=
    fun k x ⟨t1, r1, hx1, hx2⟩ => ⟨t1, r1, hold _ _ hx1, by rw [hwa]; exact hx2⟩
  have hsidq : ∀ k x, Held a.trace k x → x.sid ≠ sid := by
    intro k x ⟨t1, r1, hx1, _⟩ heq
    rw [heq, hnone] at hx1; cases hx1
  constructor
  · intro s x hx
    rw [hacc] at hx
    cases hs : acceptedAt a.trace s with
    | some y => simp [h.accUsed s y hs]
    | none =>
      rw [hs] at hx
      by_cases heq : sid = s
      · subst heq; simp
      · simp [heq] at hx
  · exact writes_snoc h.writes trivial
  · exact accepts_snoc h.accepts fun s t e' r' ok' he => by cases he; exact hnew
  · intro s t e' r' ok' hs
    rw [hwa]
    rw [hacc] at hs
    cases hs' : acceptedAt a.trace s with
    | some y => rw [hs'] at hs; simp only [Option.or, Option.some.injEq] at hs; subst hs; exact h.bounded s t e' r' ok' hs'
    | none =>
      rw [hs'] at hs
      by_cases heq : sid = s
      · subst heq; rw [hzero]; omega
      · simp [heq] at hs
  · intro x hx
    simp only [List.mem_append, List.mem_singleton] at hx
    rcases hx with hx | rfl
    · exact hheld 0 x (h.queued x hx)
    · exact ⟨a.now, r, hnew, by rw [hwa, hzero]; simp⟩
  · exact fun x hx => hheld 1 x (h.flying x hx)
  · have hu := h.uniq
    have hp : (a.queue ++ [(⟨sid, r, a.now + life, ok, false⟩ : Entry)] ++ a.fl).Perm
        ((⟨sid, r, a.now + life, ok, false⟩ : Entry) :: (a.queue ++ a.fl)) := by
      simp only [List.append_assoc, List.singleton_append]
      exact List.perm_middle
    refine (List.Perm.nodup_iff (hp.map _)).2 ?_
    simp only [List.map_cons, List.nodup_cons]
    refine ⟨?_, hu⟩
    intro hmem
    simp only [List.mem_map, List.mem_append] at hmem
    obtain ⟨x, hx | hx, heq⟩ := hmem
    · exact hsidq 0 x (h.queued x hx) heq
    · exact hsidq 1 x (h.flying x hx) heq

theorem AStep.used_sublist {a b : Abs} (h : AStep a b) : a.used.Sublist b.used := by
  induction h with
  | trans _ _ ih1 ih2 => exact ih1.trans ih2
  | burn a sid => exact List.sublist_append_left _ _
  | accept a sid r life ok hcap => exact List.sublist_append_left _ _
  | _ => exact List.Sublist.refl _

theorem AStep.inv {a b : Abs} (h : AStep a b) : (a.used.Nodup → AInv a) → (b.used.Nodup → AInv b) := by
  induction h with
  | refl a => exact id
  | trans _ _ ih1 ih2 => exact fun h => ih2 (ih1 h)
  | tick a t h => exact fun h hn => { h hn with }
  | note a ev hq => exact fun h hn => (h hn).note ev hq
  | dropQ a q' hs => exact fun h hn => (h hn).dropQ q' hs
  | dropF a fl' hs => exact fun h hn => (h hn).dropF fl' hs
  | permF a fl' hs => exact fun h hn => (h hn).permF fl' hs
  | write a e rest wev hq hlt hw => exact fun h hn => (h hn).write e rest wev hq hlt hw
  | requeue a e fl' hf hk => exact fun h hn => (h hn).requeue e fl' hf hk
  | burn a sid =>
    intro h hn
    exact (h (List.Nodup.sublist (List.sublist_append_left _ _) hn)).burn sid
  | accept a sid r life ok hcap =>
    intro h hn
    have hn' : a.used.Nodup := List.Nodup.sublist (List.sublist_append_left _ _) hn
    exact (h hn').accept sid r life ok (not_mem_of_nodup_snoc hn)

theorem AInv.init : AInv (abs [] Model.Sock.init) := by
  constructor <;> simp [abs, absC, Model.Sock.init, flOf, acceptedAt]

/-- `AInv` along `runX_abs`; the two names are in `SockX` as statements about `runX`, and declared here, where `AInv` is -/
theorem _root_.PyAirtouch.Lemmas.SockX.ainv_of_runX {ls : List LabelX} {s : Sys} (hn : (sendSidsX ls).Nodup)
    (h : runX Model.Sock.init ls = some s) : AInv (abs (sendSidsX ls) s) :=
  (SockX.runX_abs ls s h).inv (fun _ => AInv.init) hn

theorem _root_.PyAirtouch.Lemmas.SockX.ainv_of_reachableWFX {s : Sys} (h : ReachableWFX s) : ∃ u, AInv (abs u s) :=
  have ⟨ls, hn, h⟩ := h
  ⟨sendSidsX ls, SockX.ainv_of_runX hn h⟩

theorem ainv_of_reachableWF {s : Sys} (h : ReachableWF s) : ∃ u, AInv (abs u s) :=
  SockX.ainv_of_reachableWFX (SockX.reachableWFX_of_reachableWF h)

end PyAirtouch.Lemmas.Sock
