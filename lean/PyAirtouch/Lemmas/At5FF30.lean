import PyAirtouch.Model.At5.FF30
import PyAirtouch.Lemmas.Part3Text
/-! Round trip and length lemmas for the AirTouch 5 console version codec. -/
namespace PyAirtouch.Lemmas.At5FF30
open PyAirtouch.Model PyAirtouch.Model.At5.FF30 PyAirtouch.Lemmas.Part3Text

theorem encode_length (m : Msg) : (encode m).length = size m := by
  cases m with
  | request => rfl
  | message m => simp [encode, size]; omega

theorem encodeE_ok (m : Msg) (h : WF m) : encodeE m = .ok (encode m) := by
  cases m with
  | request => rfl
  | message m =>
    have hl : (joined m).length < 256 := by have := h.2.2; omega
    simp [encodeE, hl]

theorem joined_valid (m : ConsoleVersionMessage) (h : ∀ v ∈ m.versions, utf8Valid v = true) :
    utf8Valid (joined m) = true :=
  utf8Valid_joinSep sepByte (by decide) m.versions h

theorem decode_encode (m : Msg) (h : WF m) (rest : Bytes) :
    decode (encode m ++ rest) (size m) = .ok (m, rest) := by
  cases m with
  | request => simp [decode, encode, size]
  | message m =>
    obtain ⟨hne, hv, _⟩ := h
    have hvalid := joined_valid m (fun v hm => (hv v hm).2)
    have hsplit : splitOn sepByte (joined m) = m.versions :=
      splitOn_joinSep sepByte m.versions hne (fun v hm => (hv v hm).1)
    have hsz : 2 + (joined m).length ≠ 0 := by omega
    rcases m with ⟨ua, vs⟩
    simp only [decode, encode, size, hsz, ↓reduceIte, List.cons_append, List.nil_append,
      List.take_left', List.drop_left', hvalid, hsplit]
    cases ua <;> simp

theorem wfBool_iff (m : Msg) : wfBool m = true ↔ WF m := by
  cases m with
  | request => simp [wfBool, WF]
  | message m => simp [wfBool, WF, and_assoc]

/-- the case excluded by `WF`: an empty version list is sent as the empty text and decodes as `[""]` -/
theorem empty_versions_not_preserved (ua : Bool) (rest : Bytes) :
    decode (encode (.message ⟨ua, []⟩) ++ rest) (size (.message ⟨ua, []⟩))
      = .ok (.message ⟨ua, [[]]⟩, rest) := by
  cases ua <;> simp [decode, encode, size, joined, joinSep, splitOn, utf8Valid_nil]

end PyAirtouch.Lemmas.At5FF30
