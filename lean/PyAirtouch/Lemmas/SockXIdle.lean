import PyAirtouch.Lemmas.SockXInv
import PyAirtouch.Lemmas.SockIdle
/-!
# Nothing stays queued on an idle connection — with cancelled callers

`SockIdle.IInv` says: connected, current transport open, queue non-empty ⟹ some task is still going to drain the queue
or to disconnect (`promising`).  The natural witness is the task that has just run, but that may be an API caller, which
the extended model (`Model/SockX.lean`) may cancel.  So the invariant proved here asks for a witness that no cancellation
can remove (`durable`: a background task, or a `close()` waiting for the background tasks - `.closeGather` is not a
cancellation point of `stepX`), for every step of the extended model; `SockIdle.idle_invariant` is its corollary.

* a block run by a background task: the `Post` part of the block lemmas of `SockIdle.lean` (the task itself is the
  witness; `idleBlock_witness`);
* a block run by an API caller: `Weak` - if the socket is connected with a non-empty queue on an open transport
  afterwards, it was so before, with the same current transport (so the earlier durable witness, another task, is still
  there; `IInvX.block_weak`); for the drain loop (third part of `drain_idle`) moreover the queue it started from had at
  least two entries, which is what a fresh `send` needs (its own entry does not count);
* a block that tears the connection down ends "dead" (not connected, or current transport not open): third part of
  `disconnect_idle` (`idleBlock_dead`);
* `cancel t`: the cancelled task is not durable, the witness is another task (`block_weak` again).

These say what a block leaves (`IdleBlock`); the task table after it is `SockConn.Ran`, once (`IdleBlock.ran`).
-/
namespace PyAirtouch.Lemmas.SockXIdle
open PyAirtouch.Model.Sock PyAirtouch.Lemmas.SockIdle PyAirtouch.Lemmas.SockX
open PyAirtouch.Lemmas.SockConn (step_block Block connPc acceptedCore purgedCore closingCore shrink_requeue Ran EnvRel)

/-- pcs only background tasks can have: the connection attempts.  The invariant records this (`bgs`) because a task at
    `connOpening` becomes the `promising` task at `notifyWait .connAfterNotify` when it is resumed, and must then be
    `durable` -/
def needsBg : Pc → Bool
  | .connStart | .connDelay _ | .connOpening => true
  | _ => false

/-- a task no cancellation of `stepX` removes: a background task, or a `close()` waiting for the background tasks -/
def durable (k : Task) : Bool := k.bg || k.pc == .closeGather

theorem Same.ofEnv {c c' : Core} (h : EnvRel c c') : Same c c' :=
  ⟨h.isConnected, h.rw, fun hq => h.queue ▸ hq, fun hl => by
    obtain ⟨w, hw, hlw⟩ := (curLive_iff c').1 hl
    exact (curLive_iff c).2 ⟨w, h.rw ▸ hw, h.live w hlw⟩⟩

theorem exec_noBg (fuel : Nat) (c : Core) (sp : List Pc) (k : Kont) : needsBg (exec fuel c sp k).pc = false := by
  fun_induction exec fuel c sp k <;> grind [needsBg]

structure IInvX (s : Sys) : Prop where
  pre : Pre s.core
  pcs : ∀ k ∈ s.tasks, okPc k.pc = true
  bgs : ∀ k ∈ s.tasks, needsBg k.pc = true → k.bg = true
  busy : Live s.core → ∃ k ∈ s.tasks, promising s.core.rw k.pc = true ∧ durable k = true

theorem noBg_imp {p : Pc} {b : Bool} (h : needsBg p = false) : needsBg p = true → b = true := by
  intro hn; rw [h] at hn; cases hn

/-- what `IInvX` asks of a block run on the table of `s` by the rows `old` (with `bg = b`): if it ends `Live`, the task
    itself is a durable witness, or another row of the table is -/
structure IdleBlock (s : Sys) (old : List Task) (b : Bool) (out : Out) : Prop where
  ok : OutOk out
  bg : needsBg out.pc = true → b = true
  busy : Live out.core → (promising out.core.rw out.pc = true ∧ durable ⟨out.pc, b⟩ = true) ∨
    ∃ k ∈ s.tasks, k ∉ old ∧ promising out.core.rw k.pc = true ∧ durable k = true

/-- Of the table the block starts on only the program counters are asked for: `close()` starts on the table with the
    background tasks cancelled, which may have lost its witness. -/
theorem IdleBlock.ran {s : Sys} {out : Out} {ts' old rest : List Task} {b : Bool} (hf : IdleBlock s old b out)
    (hpcs : ∀ k ∈ s.tasks, okPc k.pc = true) (hbgs : ∀ k ∈ s.tasks, needsBg k.pc = true → k.bg = true)
    (hran : Ran s.tasks ts' old ⟨out.pc, b⟩ out.spawned rest) (hsp : ∀ p ∈ out.spawned, SockConn.spawnPc p = true) :
    IInvX ⟨out.core, ts'⟩ := by
  refine ⟨hf.ok.pre, hran.forall_pc hpcs hf.ok.pc fun p hp => okPc_of_start (hsp p hp), fun k hk => ?_,
    fun hl => ?_⟩
  · rcases hran.mem_after hk with rfl | hk | ⟨p, _, rfl⟩
    · exact hf.bg
    · exact hbgs k (hran.rest_mem_before hk)
    · exact fun _ => rfl
  · rcases hf.busy hl with ⟨hp, hd⟩ | ⟨k, hk, hno, hp, hd⟩
    · exact ⟨_, hran.new_mem, hp, hd⟩
    · exact ⟨k, hran.rest_mem_after ((hran.mem_before hk).resolve_left hno), hp, hd⟩

theorem idleBlock_witness {s : Sys} {old : List Task} {b : Bool} {out : Out} (ho : OutOk out) (hpost : Post out)
    (hnb : needsBg out.pc = true → b = true) (hd : durable ⟨out.pc, b⟩ = true) : IdleBlock s old b out :=
  ⟨ho, hnb, fun hl => .inl ⟨hpost hl.1 hl.2.1 hl.2.2, hd⟩⟩

theorem idleBlock_dead {s : Sys} {old : List Task} {b : Bool} {out : Out} (ho : OutOk out)
    (hnb : needsBg out.pc = true → b = true) (hdead : ¬ (out.core.isConnected = true ∧ curLive out.core = true)) :
    IdleBlock s old b out :=
  ⟨ho, hnb, fun hl => absurd ⟨hl.1, hl.2.2⟩ hdead⟩

theorem IInvX.block_weak {s : Sys} (h : IInvX s) {old : List Task} {b : Bool} {out : Out} (ho : OutOk out)
    (hnb : needsBg out.pc = true → b = true) (hw : Weak s.core out.core)
    (hnw : ∀ k ∈ old, ¬ (promising s.core.rw k.pc = true ∧ durable k = true)) : IdleBlock s old b out := by
  refine ⟨ho, hnb, fun hl => .inr ?_⟩
  obtain ⟨hl0, hrw⟩ := hw hl
  obtain ⟨k, hk, hp, hd⟩ := h.busy hl0
  exact ⟨k, hk, fun ho' => hnw k ho' ⟨hp, hd⟩, by rw [hrw]; exact hp, hd⟩

theorem IInvX.block_same {s : Sys} (h : IInvX s) {old : List Task} {b : Bool} {out : Out}
    (hs : Same s.core out.core) (hpc : okPc out.pc = true)
    (hnb : needsBg out.pc = true → b = true) (hnp : ∀ k ∈ old, promising s.core.rw k.pc = false) :
    IdleBlock s old b out :=
  h.block_weak ⟨hs.pre h.pre, hpc⟩ hnb (Weak.of_same hs) fun k hk ⟨hp, _⟩ => by
    rw [hnp k hk] at hp; cases hp

theorem IInvX.env {s : Sys} (h : IInvX s) (c' : Core) (hs : Same s.core c') : IInvX { s with core := c' } := by
  refine ⟨hs.pre h.pre, h.pcs, h.bgs, ?_⟩
  intro hl
  obtain ⟨hl0, hrw⟩ := Weak.of_same hs hl
  obtain ⟨k', hk', hp, hd⟩ := h.busy hl0
  exact ⟨k', hk', by rw [hrw]; exact hp, hd⟩

theorem cancel_bgs (ts : List Task) (h : ∀ k ∈ ts, needsBg k.pc = true → k.bg = true) :
    ∀ k ∈ ts.map cancelTask, needsBg k.pc = true → k.bg = true := by
  intro k hk
  simp only [List.mem_map] at hk
  obtain ⟨k0, hk0, rfl⟩ := hk
  have := h k0 hk0
  unfold cancelTask
  split
  · rename_i hb
    split <;> exact fun _ => hb
  · exact this

theorem not_durable {k : Task} (hb : k.bg = false) (hp : k.pc ≠ .closeGather) : durable k = false := by
  simp [durable, hb, hp]

theorem iinvx_step {s s' : Sys} {l : Label} (hI : IInvX s) (h : step s l = some s') : IInvX s' := by
  rcases step_block h with ⟨c', rfl, he⟩ | ⟨s0, old, b, out, rest, ts', hb, rfl, hran⟩
  · exact hI.env _ (Same.ofEnv he.rel)
  have h0 : (∀ k ∈ s0.tasks, okPc k.pc = true) ∧ ∀ k ∈ s0.tasks, needsBg k.pc = true → k.bg = true := by
    rcases hb.start with rfl | ⟨_, rfl⟩
    · exact ⟨hI.pcs, hI.bgs⟩
    · exact ⟨cancel_pcs _ hI.pcs, cancel_bgs _ hI.bgs⟩
  suffices hf : IdleBlock s0 old b out from hf.ran h0.1 h0.2 hran hb.spawned
  clear hran h h0
  have hdisc : ∀ {s0 : Sys} {old : List Task} {b : Bool} (c0 : Core) (r : Ret), plainRet r = true → Pre c0 →
      IdleBlock s0 old b (exec FUEL c0 [] (.disconnect r)) := fun c0 r hr hp =>
    have hd := disconnect_idle FUEL (by decide) c0 [] r hr hp
    idleBlock_dead hd.1 (noBg_imp (exec_noBg _ _ _ _)) hd.2.2
  cases hb with
  | openAgain | closeAgain | sendClosed =>
    exact hI.block_same ⟨rfl, rfl, id, id⟩ rfl (noBg_imp rfl) (List.forall_mem_nil _)
  | openFresh =>
    exact hI.block_same ⟨rfl, rfl, fun h => absurd rfl h, id⟩ rfl (noBg_imp rfl) (List.forall_mem_nil _)
  | closeGather =>
    exact idleBlock_witness ⟨hI.pre, rfl⟩ (fun _ _ _ => rfl) (noBg_imp rfl) rfl
  | closeNow => exact hdisc (closingCore s.core) .closeTail rfl hI.pre
  | reset => exact hdisc (s.core.emit (.apiReset s.core.now)) (.resetTail .done) rfl hI.pre
  | sendFull =>
    refine hI.block_same ⟨rfl, rfl, ?_, id⟩ rfl (noBg_imp rfl) (List.forall_mem_nil _)
    intro hq hnil
    apply hq
    simp [Core.emit, purgedCore, purged, hnil]
  | sendOk sid r life ok =>
    have hpre : Pre (acceptedCore s.core sid r life ok) := hI.pre
    obtain ⟨h1, _, h3⟩ := drain_idle FUEL (by decide) _ [] .done rfl hpre
    refine hI.block_weak h1 (noBg_imp (exec_noBg _ _ _ _)) ?_ (List.forall_mem_nil _)
    intro hl
    obtain ⟨⟨a1, _, a3⟩, a4, a5⟩ := h3 hl
    refine ⟨⟨a1, ?_, a3⟩, a4⟩
    intro hnil
    apply a5
    simp [acceptedCore, purgedCore, Core.emit, purged, hnil]
  | exec t a k0 c0 kont hk0 hc =>
    have hok : okPc k0.pc = true := hI.pcs k0 (List.mem_of_getElem? hk0)
    have hnb : needsBg (exec FUEL c0 [] kont).pc = true → k0.bg = true := noBg_imp (exec_noBg _ _ _ _)
    have one : ∀ {P : Task → Prop}, P k0 → ∀ k ∈ [k0], P k := List.forall_mem_singleton.2
    -- the task takes the queue on: as a background task it is the witness; as an API caller it found the earlier one
    have mine : ∀ out : Out, OutOk out → Post out → needsBg out.pc = false → Weak s.core out.core →
        k0.pc ≠ .closeGather → IdleBlock s [k0] k0.bg out := by
      intro out h1 h2 hn hw hng
      cases hb : k0.bg with
      | true => exact idleBlock_witness h1 h2 (fun _ => rfl) rfl
      | false =>
        exact hI.block_weak h1 (noBg_imp hn) hw (one fun ⟨_, hd⟩ => by rw [not_durable hb hng] at hd; cases hd)
    generalize hpc : k0.pc = pc at hc hok mine
    cases hc with
    | drainOk w e r =>
      have hr : plainRet r = true := by simpa [okPc] using hok
      obtain ⟨h1, h2, h3⟩ := drain_idle FUEL (by decide) s.core [] r hr hI.pre
      exact mine _ h1 h2 (exec_noBg _ _ _ _) (fun hl => ⟨(h3 hl).1, (h3 hl).2.1⟩) nofun
    | drainErr w e r hnl =>
      have hr : plainRet r = true := by simpa [okPc] using hok
      have hs := shrink_requeue s.core e
      exact hdisc _ (.resetTail r) (by simpa [plainRet] using hr)
        (by intro hc; rw [hs.rw]; exact hI.pre (hs.isConnected ▸ hc))
    | closed w r exc hdead =>
      have hr : plainRet r = true := by simpa [okPc] using hok
      obtain ⟨d1, d3⟩ := discTail_idle FUEL s.core [] (some w) r hr
      by_cases hw : s.core.rw = some w
      · obtain ⟨e1, e2⟩ := d3 (by decide) hw
        exact idleBlock_dead (disconnected_ok _ r hr e1 e2).1 hnb (fun ⟨hc, _⟩ => by rw [e1] at hc; cases hc)
      · rcases d1 with ⟨e1, e2⟩ | ⟨e1, e2⟩
        · exact hI.block_same e1 (okPc_of_quiet e2) hnb (one (by rw [hpc]; simp [promising, hw]))
        · exact idleBlock_dead (disconnected_ok _ r hr e1 e2).1 hnb (fun ⟨hc, _⟩ => by rw [e1] at hc; cases hc)
    | notified r =>
      have hr := hok
      simp only [okPc, Bool.or_eq_true, beq_iff_eq] at hr
      rcases hr with rfl | hr
      · obtain ⟨h1, h2, h3⟩ := connAfterNotify_idle FUEL (by decide) s.core [] hI.pre
        exact mine _ h1 h2 (exec_noBg _ _ _ _) h3 nofun
      · obtain ⟨r1, r2⟩ := ret_plain FUEL s.core [] r hr
        exact hI.block_same r1 (okPc_of_quiet r2) hnb (one (by rw [hpc]; cases r <;> first | rfl | cases hr))
    | readStart =>
      obtain ⟨r1, r2⟩ := ret_plain FUEL s.core [] .readLoop rfl
      exact hI.block_same r1 (okPc_of_quiet r2) hnb (one (by rw [hpc]; rfl))
    | readBad | readFail | gathered => exact hdisc _ _ rfl hI.pre
  | connect t a k0 hk0 hpc =>
    have hbg : k0.bg = true :=
      hI.bgs k0 (List.mem_of_getElem? hk0) (by revert hpc; cases k0.pc <;> simp [connPc, needsBg])
    have hnp : promising s.core.rw k0.pc = false := by revert hpc; cases k0.pc <;> simp [connPc, promising]
    unfold connectBlock
    split
    · exact hI.block_same (Same.refl _) rfl (fun _ => hbg) (List.forall_mem_singleton.2 hnp)
    · exact hI.block_same ⟨rfl, rfl, id, id⟩ rfl (fun _ => hbg)
        (List.forall_mem_singleton.2 hnp)
  | openOk t k0 hk0 hpc =>
    have hbg : k0.bg = true := hI.bgs k0 (List.mem_of_getElem? hk0) (by rw [hpc]; rfl)
    refine idleBlock_witness ⟨?_, rfl⟩ (fun _ _ _ => rfl) (fun _ => hbg)
      (by simp [durable, hbg])
    intro _; simp [Core.emit]
  | openRefused t a k0 hk0 hpc =>
    exact hI.block_same ⟨rfl, rfl, id, id⟩ rfl (noBg_imp rfl)
      (List.forall_mem_singleton.2 (by rw [hpc]; rfl))
  | cancelled t a k0 hk0 hpc | readMsg t k0 _ _ hk0 hpc =>
    exact hI.block_same ⟨rfl, rfl, id, id⟩ rfl (noBg_imp rfl)
      (List.forall_mem_singleton.2 (by rw [hpc]; rfl))
  | readEof t k0 c hk0 hpc =>
    exact hI.block_same (Same.refl _) rfl (noBg_imp rfl)
      (List.forall_mem_singleton.2 (by rw [hpc]; rfl))

theorem cancel_iinvx {s s' : Sys} {t : Nat} (hI : IInvX s) (h : stepX s (.cancel t) = some s') : IInvX s' := by
  obtain ⟨k, hk, hbg, hc, rfl⟩ := stepX_cancel h
  have hnd : durable k = false := not_durable hbg (by intro hp; rw [hp] at hc; cases hc)
  exact (hI.block_weak (out := ⟨s.core, .finished, []⟩) ⟨hI.pre, rfl⟩ nofun
    (Weak.of_same (Same.refl _)) fun k' hk' ⟨_, hd⟩ => by rw [List.mem_singleton.1 hk', hnd] at hd; cases hd).ran
    hI.pcs hI.bgs (SockConn.modify_ran _ hk) (List.forall_mem_nil _)

theorem IInvX.init : IInvX Model.Sock.init := by
  refine ⟨?_, ?_, ?_, ?_⟩ <;> simp [Model.Sock.init, Pre, Live]

theorem idle_invariantX {s : Sys} (h : ReachableX s) : IInvX s := by
  refine ReachableX.induction (P := IInvX) IInvX.init ?_ s h
  intro s l s' _ hp hst
  cases l with
  | base l => exact iinvx_step hp hst
  | cancel t => exact cancel_iinvx hp hst

/-- the base model, without cancellations and with any witness -/
theorem _root_.PyAirtouch.Lemmas.SockIdle.idle_invariant {s : Sys} (h : Reachable s) : IInv s :=
  have hx := idle_invariantX (reachableX_of_reachable h)
  ⟨hx.pre, hx.pcs, fun hc hq hl => let ⟨k, hk, hp, _⟩ := hx.busy ⟨hc, hq, hl⟩; ⟨k, hk, hp⟩⟩

end PyAirtouch.Lemmas.SockXIdle
