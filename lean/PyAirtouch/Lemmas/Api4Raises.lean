import PyAirtouch.Lemmas.Api4Inv
import PyAirtouch.Lemmas.Api4HandlerRel
/-!
# Whether subscribers raise is irrelevant: a step-for-step simulation between a run and the same run with every
"raises" flag erased

A delivered message goes through `er_handlerRel` (`er` commutes with the pieces of the handler, `Lemmas/Api4HandlerRel`);
the other ops are compared directly.
-/
namespace PyAirtouch.Lemmas.Api4
open PyAirtouch.Model PyAirtouch.Model.Api4 PyAirtouch.Model.At4
open PyAirtouch.Model.TimerCommon (AcTimerState AcTimerStatusData)

def erSubs (l : List Sub) : List Sub := l.map fun sb => { sb with raises := false }
def erZone (z : ZoneObj) : ZoneObj := { z with subs := erSubs z.subs }
def erAc (a : AcObj) : AcObj := { a with subs := erSubs a.subs, stateSubs := erSubs a.stateSubs }
def er (s : State) : State :=
  { s with subs := erSubs s.subs, zoneObjs := s.zoneObjs.map erZone, acObjs := s.acObjs.map erAc }

def erOp : Op → Op
  | .sub t sid _ => .sub t sid false
  | op => op

theorem er_findAc (s : State) (k : Nat) : (er s).findAc k = (s.findAc k).map erAc := ObjTable.find_map erAc _ _ k

theorem er_zoneOf (s : State) (k : Nat) : (er s).zoneOf k = (s.zoneOf k).map erZone := ObjTable.find_map erZone _ _ k

theorem er_setAc (s : State) (k : Nat) (a : AcObj) : (er s).setAc k (erAc a) = er (s.setAc k a) := by
  rw [setAc_eq, setAc_eq]
  show ({ er s with acObjs := ObjTable.put s.acDict (s.acObjs.map erAc) k (erAc a) } : State) = _
  rw [← ObjTable.map_put]; rfl

theorem er_setZone (s : State) (k : Nat) (z : ZoneObj) : (er s).setZone k (erZone z) = er (s.setZone k z) := by
  rw [setZone_eq, setZone_eq]
  show ({ er s with zoneObjs := ObjTable.put s.zoneDict (s.zoneObjs.map erZone) k (erZone z) } : State) = _
  rw [← ObjTable.map_put]; rfl

theorem map_sid_erSubs {β} (l : List Sub) (f : String → β) :
    (erSubs l).map (fun sb => f sb.sid) = l.map (fun sb => f sb.sid) := by
  simp [erSubs, List.map_map]

theorem notifyAcAll_er (a : AcObj) : notifyAcAll (erAc a) = notifyAcAll a := by
  simp only [notifyAcAll, erAc, AcObj.acId]
  rw [map_sid_erSubs a.subs (fun sid => Ev.notifyAc a.status.ac_number true sid),
    map_sid_erSubs a.stateSubs (fun sid => Ev.notifyAc a.status.ac_number false sid)]

theorem notifyAcGeneral_er (a : AcObj) : notifyAcGeneral (erAc a) = notifyAcGeneral a := by
  simp only [notifyAcGeneral, erAc, AcObj.acId]
  exact map_sid_erSubs a.subs (fun sid => Ev.notifyAc a.status.ac_number true sid)

theorem er_acsOfZoneKey (s : State) (k : Nat) : acsOfZoneKey (er s) k = (acsOfZoneKey s k).map erAc := by
  simp only [acsOfZoneKey, er]
  cases s.zoneDict.lookup k with
  | none => rfl
  | some zi =>
    simp only [acsOfZone, List.filter_map]
    rfl

theorem agree_er {ε : Type} {f : State → State × ε} {s : State} (e : f (er s) = (er (f s).1, (f s).2)) :
    Agree (fun a b => b = er a) (f s) (f (er s)) := by rw [e]; exact ⟨rfl, rfl⟩

theorem Kind.er_update {ρ ω β : Type} [DecidableEq β] (K : Kind ρ ω β) (e : ω → ω)
    (hfind : ∀ s k, K.tbl.find (er s) k = (K.tbl.find s k).map e)
    (hset : ∀ s k o, K.tbl.set (er s) k (e o) = er (K.tbl.set s k o))
    (hget : ∀ o, K.get (e o) = K.get o) (hput : ∀ r o, K.put r (e o) = e (K.put r o))
    (hevs : ∀ s r o, K.evs (er s) r (e o) = K.evs s r o) (s : State) (r : ρ) :
    Agree (fun a b => b = er a) (K.update s r) (K.update (er s) r) :=
  K.update_agree (fun o o' => o' = e o) r
    (by rw [hfind]
        cases K.tbl.find s (K.key r) with
        | none => exact .inl ⟨rfl, rfl⟩
        | some o => exact .inr ⟨o, _, rfl, rfl, rfl⟩)
    (fun o _ q => by rw [q, hget]) (fun o _ q => by rw [q, hput, hset]) (fun o _ q => by rw [q, hevs]) rfl

theorem StatusKind.er_update {ρ ω β : Type} [DecidableEq β] {K : Kind ρ ω β} (h : StatusKind K) (s : State) (r : ρ) :
    Agree (fun a b => b = er a) (K.update s r) (K.update (er s) r) := by
  cases h
  · exact Kind.er_update _ erAc er_findAc er_setAc (fun _ => rfl) (fun _ _ => rfl)
      (fun _ r a => congrArg (_ ++ ·)
        (notifyAcAll_er { a with status := r, errInfo := if r.error_code ≠ 0 then a.errInfo else none })) s r
  · exact Kind.er_update _ erAc er_findAc er_setAc (fun _ => rfl) (fun _ _ => rfl)
      (fun _ r a => notifyAcAll_er { a with timer := r }) s r
  · exact Kind.er_update _ erAc er_findAc er_setAc (fun _ => rfl) (fun _ _ => rfl)
      (fun _ m a => notifyAcAll_er { a with errInfo := m.error_info }) s r
  · refine Kind.er_update _ erZone er_zoneOf er_setZone (fun _ => rfl) (fun _ _ => rfl) (fun s g z => ?_) s r
    show (erSubs z.subs).map (fun sb => Ev.notifyZone g.group_number sb.sid) ++
        (acsOfZoneKey (er s) g.group_number).flatMap notifyAcGeneral = _
    rw [er_acsOfZoneKey, map_sid_erSubs z.subs (fun sid => Ev.notifyZone g.group_number sid)]
    simp only [List.flatMap_map, notifyAcGeneral_er]
    rfl

theorem er_updateVersion (s : State) (v : FF30.ConsoleVersionMessage) :
    updateVersion (er s) v = (er (updateVersion s v).1, (updateVersion s v).2) := by
  unfold updateVersion
  have : (er s).version = s.version := rfl
  rw [this]
  split
  · rfl
  · have e2 : (er s).subs.map (fun sb => Ev.notifyAt sb.sid) = s.subs.map (fun sb => Ev.notifyAt sb.sid) :=
      map_sid_erSubs s.subs (fun sid => Ev.notifyAt sid)
    simp only [e2]
    rfl

theorem er_addZone (s : State) (p : Nat × Bytes) : addZone (er s) p = er (addZone s p) := by
  simp [addZone, er, erZone, mkZone, erSubs]

theorem erAc_of_mkAc {ab : FF11.AcAbility} {zs : List Nat} {a : AcObj} (h : mkAc ab zs = some a) : erAc a = a := by
  obtain ⟨_, _, _, h1, h2, _⟩ := mkAc_number h
  cases a
  simp only at h1 h2
  subst h1 h2
  rfl

theorem er_addAc (s : State) (single : Bool) (ab : FF11.AcAbility) :
    addAc (er s) single ab = (addAc s single ab).map er := by
  unfold addAc
  show (zonesForAbility s single ab >>= _) = _
  cases zonesForAbility s single ab with
  | none => rfl
  | some zs =>
    cases hm : mkAc ab zs with
    | none => simp [hm]
    | some a =>
      simp [hm, er, erAc_of_mkAc hm]

theorem er_hbStart (s : State) : hbStart (er s) = (er (hbStart s).1, (hbStart s).2) := by
  unfold hbStart
  have : (er s).hb = s.hb := rfl
  rw [this]
  split <;> rfl

theorem er_enterConnected (s : State) : enterConnected (er s) = (er (enterConnected s).1, (enterConnected s).2) := by
  rw [enterConnected_eq, enterConnected_eq]
  have e : connectedCore (er s) = er (connectedCore s) := rfl
  rw [e, er_hbStart]
  rfl

theorem er_rearmPolls (s : State) : rearmPolls (er s) = er (rearmPolls s) := rfl

theorem er_st (s : State) (x : AState) : ({ er s with st := x } : State) = er { s with st := x } := rfl

theorem er_hbOnMessage (s : State) (m : RMsg) : hbOnMessage (er s) m = er (hbOnMessage s m) := by
  unfold hbOnMessage; split <;> rfl

theorem er_handlerRel : HandlerRel fun a b => b = er a where
  st h := by rw [h]; rfl
  subscribed h := by rw [h]; rfl
  update hK r h := by subst h; exact hK.er_update _ r
  rearm h := by rw [h, er_rearmPolls]
  addZone p h := by rw [h, er_addZone]
  addAc x ab h := by
    subst h
    rw [er_addAc]
    cases addAc _ x ab with
    | none => exact .inl ⟨rfl, rfl⟩
    | some s' => exact .inr ⟨s', _, rfl, rfl, rfl⟩
  firstAnswer _ h _ := by rw [h]; rfl
  newVersion v h _ := by subst h; exact agree_er (f := (updateVersion · v)) (er_updateVersion _ v)
  setSt _ h _ := by rw [h, er_st]
  enter h _ := by subst h; exact agree_er (f := enterConnected) (er_enterConnected _)
  hbResponse m h := by rw [h, er_hbOnMessage]

theorem er_recv (s : State) (m : RMsg) : recv (er s) m = (er (recv s m).1, (recv s m).2) :=
  Prod.ext (er_handlerRel.recv rfl m).1 (er_handlerRel.recv rfl m).2.symm

theorem er_tick (s : State) : tick (er s) = (er (tick s).1, (tick s).2) := by
  unfold tick
  simp only [fireHbTimeout_eq, fireBeat_eq]
  rfl

theorem er_advance (n : Nat) (s : State) : advance n (er s) = (er (advance n s).1, (advance n s).2) := by
  induction n generalizing s with
  | zero => rfl
  | succ n ih => simp only [advance, er_tick, ih]

theorem er_airConditioners (s : State) : (er s).airConditioners = s.airConditioners.map erAc := by
  simp only [State.airConditioners, er, List.getElem?_map, List.map_filterMap]

theorem er_findZone (s : State) (i : Nat) : (er s).findZone i = s.findZone i := by
  simp only [State.findZone, er_airConditioners, List.flatMap_map]
  have h1 : (s.airConditioners.flatMap fun a => (erAc a).zones) = s.airConditioners.flatMap (·.zones) := rfl
  rw [h1]
  congr 1
  funext zi
  simp only [er, List.getElem?_map]
  cases s.zoneObjs[zi]? <;> rfl

theorem er_callResult (s : State) (c : Call) : callResult (er s) c = callResult s c := by
  have hz : ∀ o : Option Nat, o.bind ((er s).zoneObjs[·]?) = (o.bind (s.zoneObjs[·]?)).map erZone := by
    intro o
    cases o with
    | none => rfl
    | some zi => simp [er, List.getElem?_map]
  unfold callResult
  simp only [er_findAc, er_findZone, hz]
  split
  · rfl
  · cases c.acId? with
    | some i =>
      simp only
      generalize s.findAc i = o
      cases o with
      | none => rfl
      | some a => cases c <;> rfl
    | none =>
      cases c.zoneId? with
      | none => rfl
      | some i =>
        simp only
        generalize (s.findZone i).bind (s.zoneObjs[·]?) = o
        cases o with
        | none => rfl
        | some z => cases c <;> rfl

theorem erSubs_subAdd (l : List Sub) (sid : String) (r : Bool) :
    subAdd (erSubs l) { sid := sid, raises := false } = erSubs (subAdd l { sid := sid, raises := r }) := by
  unfold subAdd
  have : (erSubs l).any (fun x => x.sid == sid) = l.any (fun x => x.sid == sid) := by
    simp [erSubs, List.any_map]
    rfl
  simp only [this]
  split
  · rfl
  · simp [erSubs]

theorem erSubs_subRemove (l : List Sub) (sid : String) : subRemove (erSubs l) sid = erSubs (subRemove l sid) := by
  simp only [subRemove, erSubs, List.filter_map]
  rfl

theorem er_subUnsub (s : State) (t : Target) (f g : List Sub → List Sub) (hfg : ∀ l, g (erSubs l) = erSubs (f l)) :
    subUnsub (er s) t g = (er (subUnsub s t f).1, (subUnsub s t f).2) := by
  unfold subUnsub
  cases t with
  | airtouch =>
    simp only
    have : g (er s).subs = erSubs (f s.subs) := hfg s.subs
    simp only [this]
    rfl
  | ac i general =>
    simp only [er_findAc]
    cases s.findAc i with
    | none => rfl
    | some a =>
      simp only [Option.map_some]
      rw [← er_setAc]
      cases general with
      | true =>
        have : ({ erAc a with subs := g (erAc a).subs } : AcObj) = erAc { a with subs := f a.subs } := by
          simp only [erAc, hfg]
        simp [this]
      | false =>
        have : ({ erAc a with stateSubs := g (erAc a).stateSubs } : AcObj) = erAc { a with stateSubs := f a.stateSubs } := by
          simp only [erAc, hfg]
        simp [this]
  | zone i =>
    simp only [er_findZone]
    cases s.findZone i with
    | none => rfl
    | some zi =>
      simp only
      have hz : (er s).zoneObjs[zi]? = (s.zoneObjs[zi]?).map erZone := by simp [er, List.getElem?_map]
      rw [hz]
      cases s.zoneObjs[zi]? with
      | none => rfl
      | some z =>
        simp only [Option.map_some]
        have : ({ erZone z with subs := g (erZone z).subs } : ZoneObj) = erZone { z with subs := f z.subs } := by
          simp only [erZone, hfg]
        simp only [this, er, List.map_set]

theorem viewZone_er (z : ZoneObj) : viewZone (erZone z) = viewZone z := rfl

theorem viewAc_er (zs : List ZoneObj) (a : AcObj) : viewAc (zs.map erZone) (erAc a) = viewAc zs a := by
  unfold viewAc
  have h : ((erAc a).zones.filterMap ((zs.map erZone)[·]?)).mapM viewZone = (a.zones.filterMap (zs[·]?)).mapM viewZone := by
    have : (erAc a).zones = a.zones := rfl
    rw [this]
    generalize a.zones = l
    have hl : ∀ l : List Nat, l.filterMap ((zs.map erZone)[·]?) = (l.filterMap (zs[·]?)).map erZone := fun l => by
      simp only [List.map_filterMap, List.getElem?_map]
    rw [hl, List.mapM_map]
    rfl
  simp only [h]
  rfl

theorem viewAt_er (s : State) : viewAt (er s) = viewAt s := by
  have h : (er s).airConditioners.mapM (viewAc (er s).zoneObjs) = s.airConditioners.mapM (viewAc s.zoneObjs) := by
    rw [er_airConditioners]
    show (s.airConditioners.map erAc).mapM (viewAc (s.zoneObjs.map erZone)) = _
    rw [List.mapM_map]
    exact congrArg (List.mapM · _) (funext (viewAc_er s.zoneObjs))
  unfold viewAt
  rw [h]
  rfl

theorem er_apiStep (s : State) (op : Op) : apiStep (er s) (erOp op) = (er (apiStep s op).1, (apiStep s op).2) := by
  cases op with
  | init =>
    simp only [erOp, apiStep, doInit]
    have : (er s).initialised = s.initialised := rfl
    rw [this]
    split <;> rfl
  | shutdown => rfl
  | conn up => simp only [erOp, apiStep]; rw [onConn_eq, onConn_eq]; rfl
  | msg mid payload =>
    simp only [erOp, apiStep]
    split
    · exact er_recv s _
    · rfl
  | recv m => exact er_recv s m
  | call c => simp only [erOp, apiStep, doCall, er_callResult]; rfl
  | callBad cls => rfl
  | sub t sid r =>
    exact er_subUnsub s t (subAdd · { sid := sid, raises := r }) (subAdd · { sid := sid, raises := false })
      (fun l => erSubs_subAdd l sid r)
  | unsub t sid => exact er_subUnsub s t (subRemove · sid) (subRemove · sid) (fun l => erSubs_subRemove l sid)
  | adv n => exact er_advance n s
  | view =>
    simp only [erOp, apiStep, viewAt_er]
    split <;> rfl

theorem er_run (s : State) (ops : List Op) : run (er s) (ops.map erOp) = (er (run s ops).1, (run s ops).2) := by
  induction ops generalizing s with
  | nil => rfl
  | cons op ops ih => simp only [List.map_cons, run, er_apiStep, ih]

end PyAirtouch.Lemmas.Api4
