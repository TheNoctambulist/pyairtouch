import PyAirtouch.Model.Heartbeat
/-!
# The heartbeat model action by action: its invariants

`Step` lists the atomic actions of `PyAirtouch.Model.Heartbeat.step`, each a small record update under a guard
(`step_iff`); `Frame` says what an action leaves alone (`Step.frame`).  `apply!`, of which the scheduler and the API
models are built, is the action if the label is enabled and nothing otherwise: `apply_cases`, `apply_inv`, `apply_frame`.
A run is given as `Drives P h g` (labels out of a set) or as `Ran h ls tr g` (labels and log exactly); in these two forms
the scheduler and the API models say what they do to the manager.
The invariants, which hold for every label sequence, are proved action by action: the timing invariant `Basic`, where
arm points and resets come from (`ArmInv`), and - against the monitor `Mon` that reads `GoodRun` off a label sequence -
the simulation `Sim` behind "no false reset".  `foldlM_inv`, `eq_foldlM` and `lockstep` know nothing of the model: they
are induction over any run that is a `List.foldlM`, and serve the extended models of `HeartbeatXInv` as well.
-/
namespace PyAirtouch.Lemmas.Heartbeat
open PyAirtouch.Model.Heartbeat PyAirtouch.Spec.Heartbeat

theorem foldlM_inv {σ L : Type} {f : σ → L → Option σ} {P : σ → Prop} :
    ∀ (ls : List L) (s s' : σ), (∀ l ∈ ls, ∀ a b, P a → f a l = some b → P b) → P s →
      ls.foldlM f s = some s' → P s'
  | [], s, s', _, hp, hr => by cases hr; exact hp
  | l :: ls, s, s', hstep, hp, hr => by
    rw [List.foldlM_cons] at hr
    cases hs : f s l with
    | none => rw [hs] at hr; cases hr
    | some s1 =>
      rw [hs] at hr
      exact foldlM_inv ls s1 s' (fun l' hl' => hstep l' (List.mem_cons_of_mem _ hl'))
        (hstep l (List.mem_cons_self ..) s s1 hp hs) hr

theorem eq_foldlM {σ L : Type} {f : σ → L → Option σ} {r : σ → List L → Option σ} (h0 : ∀ s, r s [] = some s)
    (hc : ∀ s l ls, r s (l :: ls) = (f s l).bind fun s' => r s' ls) : ∀ (ls : List L) (s : σ), r s ls = ls.foldlM f s
  | [], s => h0 s
  | l :: ls, s => by
    rw [hc, List.foldlM_cons]
    exact congrArg _ (funext (eq_foldlM h0 hc ls))

theorem run_eq_foldlM : ∀ (ls : List Label) (h : HB), run h ls = ls.foldlM step h :=
  eq_foldlM (fun _ => rfl) (fun _ _ _ => rfl)

theorem run_inv {P : HB → Prop} (hstep : ∀ h l h', P h → step h l = some h' → P h') :
    ∀ ls h h', P h → run h ls = some h' → P h' :=
  fun ls h h' hp hr => foldlM_inv ls h h' (fun l _ a b => hstep a l b) hp (run_eq_foldlM ls h ▸ hr)

theorem reachable_inv {P : HB → Prop} {i t : Nat} (h0 : P (init i t))
    (hstep : ∀ h l h', P h → step h l = some h' → P h') {h : HB} : Reachable i t h → P h :=
  fun ⟨ls, hr⟩ => run_inv hstep ls _ _ h0 hr

theorem run_append {h : HB} {ls1 ls2 : List Label} :
    run h (ls1 ++ ls2) = (run h ls1).bind (fun h' => run h' ls2) := by
  simp only [run_eq_foldlM, List.foldlM_append, Option.bind_eq_bind]

theorem run_trans {a b c : HB} {l1 l2 : List Label} (h1 : run a l1 = some b) (h2 : run b l2 = some c) :
    run a (l1 ++ l2) = some c := by
  rw [run_append, h1]; exact h2

theorem run_one {h g : HB} {l : Label} (hs : step h l = some g) : run h [l] = some g := by
  rw [run, hs]; rfl

theorem reachable_run {i t : Nat} {h h' : HB} {ls : List Label} :
    Reachable i t h → run h ls = some h' → Reachable i t h' := by
  intro ⟨ls0, hr⟩ hs
  exact ⟨ls0 ++ ls, by rw [run_append, hr]; exact hs⟩

theorem reachable_step {i t : Nat} {h h' : HB} {l : Label} (hr : Reachable i t h)
    (hs : step h l = some h') : Reachable i t h' :=
  reachable_run hr (run_one hs)

inductive Step (h : HB) : Label → HB → Prop
  | advance {t : Nat} : h.now ≤ t → (∀ d, h.tl = .waiting d → t ≤ d ∧ h.flag = false) →
      (∀ u, h.hl = .sleeping u → t ≤ u) → Step h (.advance t) { h with now := t }
  | conn (up : Bool) : Step h (.conn up) ({ h with connected := up }.emit (.conn up h.now))
  | start : h.tl = .idle → h.hl = .idle →
      Step h .start ({ enterTimeout h with hl := .sleeping h.now }.emit (.start h.now))
  | startAgain : ¬ (h.tl = .idle ∧ h.hl = .idle) → Step h .start h
  | stop : ¬ (h.tl = .idle ∧ h.hl = .idle) →
      Step h .stop ({ h with tl := .idle, hl := .idle }.emit (.stop h.now))
  | stopAgain : h.tl = .idle → h.hl = .idle → Step h .stop h
  | response : h.tl ≠ .idle → Step h .response ({ h with flag := true }.emit (.resp h.now))
  | wake {d : Nat} : h.tl = .waiting d → h.flag = true → Step h .tlWake (enterTimeout h)
  | fireUp {d : Nat} : h.tl = .waiting d → d ≤ h.now → h.connected = true → Step h .tlFire
      ({ h with expiries := h.expiries ++ [h.now], tl := .resetting, resetAt := h.now }.emit (.reset h.now))
  | fireDown {d : Nat} : h.tl = .waiting d → d ≤ h.now → h.connected = false →
      Step h .tlFire (enterTimeout { h with expiries := h.expiries ++ [h.now] })
  | resetDone : h.tl = .resetting → Step h .tlResetDone ((enterTimeout h).emit (.resetDone h.now))
  | beatUp {u : Nat} : h.hl = .sleeping u → u ≤ h.now → h.connected = true →
      Step h .hlBeat { h.emit (.beat h.now) with hl := .sleeping (h.now + h.interval) }
  | beatDown {u : Nat} : h.hl = .sleeping u → u ≤ h.now → h.connected = false →
      Step h .hlBeat { h with hl := .sleeping (h.now + h.interval) }

theorem step_iff {h h' : HB} {l : Label} : step h l = some h' ↔ Step h l h' := by
  constructor
  · intro hs
    cases l <;> simp only [step] at hs
    case advance t =>
      simp only [Option.ite_none_right_eq_some, Option.some.injEq, Bool.and_eq_true,
        decide_eq_true_eq] at hs
      obtain ⟨⟨⟨h1, h2⟩, h3⟩, rfl⟩ := hs
      exact .advance h1 (fun d hd => by simpa [hd] using h2) (fun u hu => by simpa [hu] using h3)
    -- every branch of `step` is one action, its conditions the guard
    all_goals (repeat' split at hs) <;> cases hs <;> constructor <;> first | assumption | simp_all
  · intro hs
    cases hs
    case advance t h1 h2 h3 =>
      simp only [step]
      cases htl : h.tl <;> cases hhl : h.hl <;> simp_all
    all_goals simp_all [step, HB.emit, enterTimeout]

structure Frame (h : HB) (l : Label) (g : HB) : Prop where
  interval : g.interval = h.interval
  timeout : g.timeout = h.timeout
  now : (∀ t, l ≠ .advance t) → g.now = h.now
  connected : (∀ up, l ≠ .conn up) → g.connected = h.connected
  running : l ≠ .start → l ≠ .stop → (g.tl = .idle ↔ h.tl = .idle) ∧ (g.hl = .idle ↔ h.hl = .idle)
  timeoutLoop : l = .tlFire ∨ l = .tlResetDone → g.hl = h.hl

theorem Frame.refl (h : HB) (l : Label) : Frame h l h :=
  ⟨rfl, rfl, fun _ => rfl, fun _ => rfl, fun _ _ => ⟨.rfl, .rfl⟩, fun _ => rfl⟩

theorem Step.frame {h g : HB} {l : Label} (hs : Step h l g) : Frame h l g := by
  cases hs <;> refine ⟨rfl, rfl, ?_, ?_, ?_, ?_⟩ <;> simp [*, HB.emit, enterTimeout]

theorem step_idle_back {h g : HB} {l : Label} (hs : step h l = some g) (hl : l ≠ .stop) :
    (g.tl = .idle → h.tl = .idle) ∧ (g.hl = .idle → h.hl = .idle) := by
  by_cases e : l = .start
  · subst e
    cases step_iff.1 hs with
    | start => exact ⟨nofun, nofun⟩
    | startAgain => exact ⟨id, id⟩
  · have r := (step_iff.1 hs).frame.running e hl
    exact ⟨r.1.1, r.2.1⟩

theorem apply_cases (h : HB) (l : Label) : (step h l = none ∧ apply! h l = h) ∨ Step h l (apply! h l) := by
  unfold apply!
  cases hs : step h l with
  | none => exact .inl ⟨rfl, rfl⟩
  | some g => exact .inr (step_iff.1 hs)

theorem apply_of_step {h g : HB} {l : Label} (hs : Step h l g) : apply! h l = g := by
  unfold apply!; rw [step_iff.2 hs]; rfl

theorem apply_inv {P : HB → Prop} {h : HB} {l : Label} (hp : P h) (hs : ∀ g, Step h l g → P g) : P (apply! h l) :=
  (apply_cases h l).elim (fun e => e.2.symm ▸ hp) (hs _)

theorem apply_frame (h : HB) (l : Label) : Frame h l (apply! h l) :=
  apply_inv (Frame.refl h l) fun _ => Step.frame

/-! ### runs: `Drives`, labels out of a set, and `Ran`, labels and log given

Two ways of saying that `g` comes from `h` by a run of the model.

`Drives P h g` keeps of the labels only that each satisfies `P`.  Every composition of `apply!` is one, without any
hypothesis (`Drives.apply`: a label that is not enabled is the empty run), so it is the form for what the labels keep:
`Drives.inv`, `Drives.inv_apply`, `Drives.params`, `Drives.clock`, `Drives.basic`.  The AirTouch 4 API model moves the
clock by assignment, before the run (`Drives P { h with now := t } g`): `advance` is not among its labels.

`Ran h ls tr g` gives the labels and the logged events exactly, `advance t` among the labels.  Every guard has to be
shown (`Step.ran`), so it holds only under the caller's invariant; it is the form for what depends on the labels or on
the log: `Reachable`, `GoodRun`, counting `reset` and `beat`. -/

def Drives (P : Label → Prop) (h g : HB) : Prop :=
  ∃ ls, run h ls = some g ∧ ∀ l ∈ ls, P l

theorem Drives.refl {P : Label → Prop} {h : HB} : Drives P h h := ⟨[], rfl, List.forall_mem_nil _⟩

theorem Drives.trans {P : Label → Prop} {a b c : HB} : Drives P a b → Drives P b c → Drives P a c
  | ⟨l1, r1, a1⟩, ⟨l2, r2, a2⟩ =>
    ⟨l1 ++ l2, run_trans r1 r2, fun l hl => (List.mem_append.1 hl).elim (a1 l) (a2 l)⟩

theorem Drives.apply {P : Label → Prop} (h : HB) (l : Label) (hl : P l) : Drives P h (apply! h l) :=
  (apply_cases h l).elim (fun e => e.2.symm ▸ .refl) fun hs =>
    ⟨[l], run_one (step_iff.2 hs), fun _ hl' => List.mem_singleton.1 hl' ▸ hl⟩

theorem Drives.inv {P : Label → Prop} {Q : HB → Prop} {h g : HB}
    (hstep : ∀ l, P l → ∀ a b, Q a → step a l = some b → Q b) (hq : Q h) : Drives P h g → Q g
  | ⟨ls, hr, ha⟩ => foldlM_inv ls h g (fun l hm => hstep l (ha l hm)) hq (run_eq_foldlM ls h ▸ hr)

theorem Drives.mono {P P' : Label → Prop} {h g : HB} (hp : ∀ l, P l → P' l) : Drives P h g → Drives P' h g
  | ⟨ls, r, a⟩ => ⟨ls, r, fun l hl => hp l (a l hl)⟩

theorem Drives.inv_apply {P : Label → Prop} {Q : HB → Prop} {h g : HB} (d : Drives P h g)
    (ha : ∀ a l, P l → Q a → Q (apply! a l)) (hq : Q h) : Q g :=
  d.inv (fun l hl a _ qa hs => apply_of_step (step_iff.1 hs) ▸ ha a l hl qa) hq

theorem Drives.params {P : Label → Prop} {h g : HB} (d : Drives P h g) :
    g.interval = h.interval ∧ g.timeout = h.timeout :=
  d.inv (Q := fun x => x.interval = h.interval ∧ x.timeout = h.timeout)
    (fun _ _ _ _ k hs => ⟨(step_iff.1 hs).frame.interval.trans k.1, (step_iff.1 hs).frame.timeout.trans k.2⟩) ⟨rfl, rfl⟩

theorem Drives.clock {P : Label → Prop} {h g : HB} (d : Drives P h g)
    (hP : ∀ l, P l → (∀ t, l ≠ .advance t) ∧ ∀ up, l ≠ .conn up) : g.now = h.now ∧ g.connected = h.connected :=
  d.inv (Q := fun x => x.now = h.now ∧ x.connected = h.connected)
    (fun l hl _ _ k hs => ⟨((step_iff.1 hs).frame.now (hP l hl).1).trans k.1,
      ((step_iff.1 hs).frame.connected (hP l hl).2).trans k.2⟩) ⟨rfl, rfl⟩

structure Ran (h : HB) (ls : List Label) (tr : List HEv) (g : HB) : Prop where
  run : run h ls = some g
  trace : g.trace = h.trace ++ tr

theorem Ran.nil (h : HB) : Ran h [] [] h := ⟨rfl, (List.append_nil _).symm⟩

theorem Ran.trans {a b c : HB} {l1 l2 : List Label} {t1 t2 : List HEv} (r1 : Ran a l1 t1 b) (r2 : Ran b l2 t2 c) :
    Ran a (l1 ++ l2) (t1 ++ t2) c :=
  ⟨run_trans r1.run r2.run, by rw [r2.trace, r1.trace, List.append_assoc]⟩

theorem Step.ran {h g : HB} {l : Label} (hs : Step h l g) {tr : List HEv} (e : g.trace = h.trace ++ tr) :
    Ran h [l] tr g :=
  ⟨run_one (step_iff.2 hs), e⟩

theorem Step.ran_nil {h g : HB} {l : Label} (hs : Step h l g) (e : g.trace = h.trace) : Ran h [l] [] g :=
  hs.ran (e.trans (List.append_nil _).symm)

/-- parameters are constant, the latest arm point is in the past, a pending deadline is exactly
`timeout` after it and not yet passed, a pending wake-up is not yet passed and at most `interval`
ahead, and the two tasks exist together -/
structure Basic (i t : Nat) (h : HB) : Prop where
  timeout_eq : h.timeout = t
  interval_eq : h.interval = i
  arm_le : h.lastArm ≤ h.now
  deadline : ∀ d, h.tl = .waiting d → h.now ≤ d ∧ d = h.lastArm + h.timeout
  wake : ∀ u, h.hl = .sleeping u → h.now ≤ u ∧ u ≤ h.now + h.interval
  both : h.tl = .idle ↔ h.hl = .idle

theorem basic_init (i t : Nat) : Basic i t (init i t) := by
  constructor <;> simp [init]

theorem armed {n t d : Nat} (e : TL.waiting (n + t) = .waiting d) : n ≤ d ∧ d = n + t := by
  cases e; exact ⟨Nat.le_add_right _ _, rfl⟩

theorem Basic.beat {i t : Nat} {h : HB} (b : Basic i t h) {u : Nat} (eu : h.hl = .sleeping u)
    (tr : List HEv) : Basic i t { h with hl := .sleeping (h.now + h.interval), trace := tr } :=
  ⟨b.1, b.2, b.3, b.4, fun u k => by cases k; exact ⟨Nat.le_add_right _ _, Nat.le_refl _⟩,
    ⟨fun k => absurd (b.both.1 k) (eu ▸ nofun), nofun⟩⟩

theorem basic_step {i t : Nat} {h h' : HB} {l : Label} (b : Basic i t h) (hs : step h l = some h') :
    Basic i t h' := by
  have alive : h.tl ≠ .idle → h.hl ≠ .idle := fun k k' => k (b.both.2 k')
  cases step_iff.mp hs with
  | advance hn hd hu =>
    exact ⟨b.1, b.2, Nat.le_trans b.3 hn, fun d e => ⟨(hd d e).1, (b.deadline d e).2⟩,
      fun u e => ⟨hu u e, Nat.le_trans (b.wake u e).2 (Nat.add_le_add_right hn _)⟩, b.both⟩
  | conn | response | startAgain | stopAgain => exact ⟨b.1, b.2, b.3, b.4, b.5, b.6⟩
  | start =>
    exact ⟨b.1, b.2, Nat.le_refl _, fun _ => armed,
      fun u e => by cases e; exact ⟨Nat.le_refl _, Nat.le_add_right _ _⟩, iff_of_false nofun nofun⟩
  | stop => exact ⟨b.1, b.2, b.3, nofun, nofun, iff_of_true rfl rfl⟩
  | wake e | fireDown e | resetDone e =>
    exact ⟨b.1, b.2, Nat.le_refl _, fun _ => armed, b.wake, iff_of_false nofun (alive (e ▸ nofun))⟩
  | fireUp e => exact ⟨b.1, b.2, b.3, nofun, b.wake, iff_of_false nofun (alive (e ▸ nofun))⟩
  | beatUp e | beatDown e => exact b.beat e _

theorem reachable_basic {i t : Nat} {h : HB} : Reachable i t h → Basic i t h :=
  reachable_inv (basic_init i t) (fun _ _ _ => basic_step)

theorem basic_run {i t : Nat} {h g : HB} {ls : List Label} (b : Basic i t h) (hr : run h ls = some g) : Basic i t g :=
  run_inv (P := Basic i t) (fun _ _ _ hp hs => basic_step hp hs) ls h g b hr

theorem Drives.basic {P : Label → Prop} {i t : Nat} {h g : HB} (d : Drives P h g) (b : Basic i t h) : Basic i t g :=
  d.elim fun _ r => basic_run b r.1

theorem Basic.fire {i t : Nat} {h h' : HB} (b : Basic i t h) (hs : step h .tlFire = some h')
    (hc : h.connected = true) : h'.trace = h.trace ++ [.reset h.now] ∧ h.now = h.lastArm + t := by
  cases step_iff.mp hs with
  | fireUp ed hle => have := b.deadline _ ed; have := b.timeout_eq; exact ⟨rfl, by omega⟩
  | fireDown _ _ hd => rw [hc] at hd; cases hd

theorem Basic.iteration {i t : Nat} {h h' : HB} (b : Basic i t h) (hs : step h .hlBeat = some h') :
    ∃ u, h.hl = .sleeping u ∧ h.now = u ∧ h'.hl = .sleeping (u + i) ∧
      (h.connected = true → h'.trace = h.trace ++ [.beat u]) ∧
      (h.connected = false → h'.trace = h.trace) := by
  cases step_iff.mp hs with
  | beatUp eu hle hc | beatDown eu hle hc =>
    obtain rfl := Nat.le_antisymm (b.wake _ eu).1 hle
    exact ⟨_, eu, rfl, by rw [← b.interval_eq], by simp [hc, HB.emit], by simp [hc]⟩

theorem step_trace {h h' : HB} {l : Label} (hs : step h l = some h') :
    h'.trace = h.trace ∨ ∃ e, h'.trace = h.trace ++ [e] ∧ e.time = h.now := by
  cases step_iff.mp hs
  case advance | startAgain | stopAgain | wake | fireDown | beatDown => exact .inl rfl
  all_goals exact .inr ⟨_, rfl, rfl⟩

theorem step_reset {h h' : HB} {l : Label} {r : Nat} (hs : step h l = some h')
    (hin : HEv.reset r ∈ h'.trace) (hout : HEv.reset r ∉ h.trace) :
    l = .tlFire ∧ h.connected = true ∧ r = h.now ∧ h'.trace = h.trace ++ [.reset h.now] := by
  cases step_iff.mp hs
  case fireUp d _ _ hc =>
    have := (List.mem_append.1 hin).resolve_left hout
    exact ⟨rfl, hc, HEv.reset.inj (List.mem_singleton.1 this), rfl⟩
  case advance | startAgain | stopAgain | wake | fireDown | beatDown => exact absurd hin hout
  all_goals exact absurd (List.mem_singleton.1 ((List.mem_append.1 hin).resolve_left hout)) nofun

theorem step_keeps_deadline {h h' : HB} {l : Label} {d a : Nat} (hs : step h l = some h')
    (hk : h.tl = .waiting d ∧ h.now ≤ d ∧ h.lastArm = a)
    (hl : l ≠ .tlFire ∧ l ≠ .tlWake ∧ l ≠ .stop) : h'.tl = .waiting d ∧ h'.now ≤ d ∧ h'.lastArm = a := by
  obtain ⟨hw, hn, ha⟩ := hk
  cases step_iff.mp hs
  case advance hd _ => exact ⟨hw, (hd d hw).1, ha⟩
  case start e _ | resetDone e => rw [e] at hw; cases hw
  case stop | stopAgain => exact absurd rfl hl.2.2
  case wake => exact absurd rfl hl.2.1
  case fireUp | fireDown => exact absurd rfl hl.1
  all_goals exact ⟨hw, hn, ha⟩

/-- `a` is the instant of a recorded `start`, response or completed reset -/
def Origin (tr : List HEv) (a : Nat) : Prop :=
  HEv.start a ∈ tr ∨ HEv.resp a ∈ tr ∨ HEv.resetDone a ∈ tr

theorem Origin.append {tr : List HEv} {a : Nat} (e : HEv) : Origin tr a → Origin (tr ++ [e]) a :=
  Or.imp (List.mem_append_left _) (Or.imp (List.mem_append_left _) (List.mem_append_left _))

/-- `b` is a whole number of timeouts after a recorded arm point, and every recorded response is no
later than that arm point, or `late` -/
def Since (t : Nat) (tr : List HEv) (late : Nat → Prop) (b : Nat) : Prop :=
  ∃ k a, b = a + k * t ∧ Origin tr a ∧ ∀ x, HEv.resp x ∈ tr → x ≤ a ∨ late x

theorem Since.fresh {t : Nat} {tr : List HEv} {late : Nat → Prop} {n : Nat} (ho : Origin tr n)
    (hp : ∀ x, HEv.resp x ∈ tr → x ≤ n) : Since t tr late n :=
  ⟨0, n, by rw [Nat.zero_mul, Nat.add_zero], ho, fun x hx => .inl (hp x hx)⟩

theorem Since.next {t : Nat} {tr : List HEv} {late : Nat → Prop} {b : Nat} :
    Since t tr late b → Since t tr late (b + t)
  | ⟨k, a, e, ho, hq⟩ => ⟨k + 1, a, by rw [e, Nat.succ_mul, Nat.add_assoc], ho, hq⟩

theorem Since.imp {t : Nat} {tr : List HEv} {late late' : Nat → Prop} {b : Nat}
    (hl : ∀ x, late x → late' x) : Since t tr late b → Since t tr late' b
  | ⟨k, a, e, ho, hq⟩ => ⟨k, a, e, ho, fun x hx => (hq x hx).imp_right (hl x)⟩

theorem Since.append {t : Nat} {tr : List HEv} {late : Nat → Prop} {b : Nat} (e : HEv)
    (he : ∀ x, e = .resp x → late x) : Since t tr late b → Since t (tr ++ [e]) late b
  | ⟨k, a, eq, ho, hq⟩ => ⟨k, a, eq, ho.append e, fun x hx =>
      (List.mem_append.1 hx).elim (hq x) fun hx => .inr (he x (List.mem_singleton.1 hx).symm)⟩

/-- events are stamped with times in the past; a set event was recorded; the latest arm point is a whole
number of timeouts (expiries while the link was down) after a recorded start / response / completed
reset, with no response in between except the one that set the event; every recorded reset came
`timeout` after such an instant, with no response in between -/
structure ArmInv (t : Nat) (h : HB) : Prop where
  past : ∀ e ∈ h.trace, e.time ≤ h.now
  flag_resp : ∀ d, h.tl = .waiting d → h.flag = true → HEv.resp h.now ∈ h.trace
  arm_origin : ∀ d, h.tl = .waiting d →
    Since t h.trace (fun x => h.flag = true ∧ x = h.now) h.lastArm
  reset_origin : ∀ r, HEv.reset r ∈ h.trace → ∃ b, r = b + t ∧ Since t h.trace (r ≤ ·) b

theorem armInv_init (i t : Nat) : ArmInv t (init i t) := by
  constructor <;> simp [init]

theorem ArmInv.past_emit {t : Nat} {h : HB} (a : ArmInv t h) {e : HEv} (he : e.time = h.now) :
    ∀ e' ∈ h.trace ++ [e], e'.time ≤ h.now :=
  fun e' he' => (List.mem_append.1 he').elim (a.past e') fun k => by
    rw [List.mem_singleton.1 k, he]; exact Nat.le_refl _

theorem ArmInv.resets_emit {t : Nat} {h : HB} (a : ArmInv t h) {e : HEv} (he : e.time = h.now) {r : Nat}
    (hr : HEv.reset r ∈ h.trace) : ∃ b, r = b + t ∧ Since t (h.trace ++ [e]) (r ≤ ·) b := by
  have hrn : r ≤ h.now := a.past _ hr
  obtain ⟨b, eb, s⟩ := a.reset_origin r hr
  exact ⟨b, eb, s.append e fun x ex => by subst ex; exact Nat.le_trans hrn (Nat.le_of_eq he.symm)⟩

theorem ArmInv.emit {t : Nat} {h : HB} (a : ArmInv t h) {e : HEv} (he : e.time = h.now)
    (hne : ∀ r, e ≠ .reset r) (r : Nat) (hr : HEv.reset r ∈ h.trace ++ [e]) :
    ∃ b, r = b + t ∧ Since t (h.trace ++ [e]) (r ≤ ·) b :=
  a.resets_emit he ((List.mem_append.1 hr).resolve_right fun k => hne r (List.mem_singleton.1 k).symm)

theorem armInv_step {i t : Nat} {h h' : HB} {l : Label} (hb : Basic i t h) (a : ArmInv t h)
    (hs : step h l = some h') : ArmInv t h' := by
  have pastR : ∀ x, HEv.resp x ∈ h.trace → x ≤ h.now := fun x hx => a.past _ hx
  have last : ∀ {e : HEv}, e ∈ h.trace ++ [e] := List.mem_append_right _ (List.mem_singleton_self _)
  -- the expiry of a deadline happens `timeout` after the latest arm point
  have due : ∀ {d}, h.tl = .waiting d → d ≤ h.now → h.now = h.lastArm + t := fun ed hle => by
    have := hb.deadline _ ed; have := hb.timeout_eq; omega
  cases step_iff.mp hs with
  | startAgain | stopAgain => exact a
  | beatDown => exact ⟨a.1, a.2, a.3, a.4⟩
  | advance hn hd =>
    have quiet : ∀ {d}, h.tl = .waiting d → h.flag ≠ true := fun ed => by simp [(hd _ ed).2]
    exact ⟨fun e he => Nat.le_trans (a.past e he) hn, fun d ed f => absurd f (quiet ed),
      fun d ed => (a.arm_origin d ed).imp fun x k => absurd k.1 (quiet ed), a.reset_origin⟩
  | conn | beatUp =>
    exact ⟨a.past_emit rfl, fun d ed f => List.mem_append_left _ (a.flag_resp d ed f),
      fun d ed => (a.arm_origin d ed).append _ nofun, a.emit rfl nofun⟩
  | stop => exact ⟨a.past_emit rfl, nofun, nofun, a.emit rfl nofun⟩
  | start =>
    exact ⟨a.past_emit rfl, nofun, fun _ _ => .fresh (.inl last) fun x hx => a.past_emit rfl _ hx,
      a.emit rfl nofun⟩
  | resetDone =>
    exact ⟨a.past_emit rfl, nofun, fun _ _ => .fresh (.inr (.inr last)) fun x hx => a.past_emit rfl _ hx,
      a.emit rfl nofun⟩
  | response =>
    exact ⟨a.past_emit rfl, fun _ _ _ => last,
      fun d ed => ((a.arm_origin d ed).imp fun x k => ⟨rfl, k.2⟩).append _
        fun x ex => ⟨rfl, (HEv.resp.inj ex).symm⟩, a.emit rfl nofun⟩
  | wake ed f =>
    exact ⟨a.past, nofun, fun _ _ => .fresh (.inr (.inl (a.flag_resp _ ed f))) pastR, a.reset_origin⟩
  | fireDown ed hle =>
    refine ⟨a.past, nofun, fun _ _ => ?_, a.reset_origin⟩
    cases f : h.flag
    · exact due ed hle ▸ ((a.arm_origin _ ed).imp fun x k => by simp [f] at k).next
    · exact .fresh (.inr (.inl (a.flag_resp _ ed f))) pastR
  | fireUp ed hle =>
    refine ⟨a.past_emit rfl, nofun, nofun, fun r hr =>
      (List.mem_append.1 hr).elim (a.resets_emit rfl) fun k => ?_⟩
    rw [HEv.reset.inj (List.mem_singleton.1 k)]
    exact ⟨_, due ed hle, ((a.arm_origin _ ed).imp fun x k => Nat.le_of_eq k.2.symm).append _ nofun⟩

theorem reachable_armInv {i t : Nat} {h : HB} (hr : Reachable i t h) : ArmInv t h :=
  (reachable_inv (P := fun h => Basic i t h ∧ ArmInv t h) ⟨basic_init i t, armInv_init i t⟩
    (fun _ _ _ hp hs => ⟨basic_step hp.1 hs, armInv_step hp.1 hp.2 hs⟩) hr).2

theorem ArmInv.resets {t : Nat} {h : HB} (a : ArmInv t h) (r : Nat) (hr : HEv.reset r ∈ h.trace) :
    ∃ k a, r = a + (k + 1) * t ∧ Origin h.trace a ∧ ∀ x, HEv.resp x ∈ h.trace → x ≤ a ∨ r ≤ x := by
  obtain ⟨b, rfl, k, a, rfl, ho, hq⟩ := a.reset_origin r hr
  exact ⟨k, a, by rw [Nat.succ_mul, Nat.add_assoc], ho, hq⟩

theorem ArmInv.silence {t : Nat} {h : HB} (a : ArmInv t h) (r : Nat) (hr : HEv.reset r ∈ h.trace) :
    t ≤ r ∧ ∀ x, HEv.resp x ∈ h.trace → x + t ≤ r ∨ r ≤ x := by
  obtain ⟨b, rfl, k, a, rfl, -, hq⟩ := a.reset_origin r hr
  exact ⟨Nat.le_add_left _ _, fun x hx => (hq x hx).imp_left fun k =>
    Nat.add_le_add_right (Nat.le_trans k (Nat.le_add_right _ _)) _⟩

/-! ### runs in which every heartbeat is answered in time

`GoodRun` reads a label sequence on its own (it does not look at the model state).  It keeps the
current time (the argument of the latest `advance`) and the instant `b` of the oldest iteration of
the heartbeat loop (`hlBeat`) that has not yet been followed by the timeout loop consuming a response
(`tlWake`).  The run is good when time is never advanced to `b + m` or beyond while such an
iteration is outstanding. -/

structure Mon where
  now : Nat
  pending : Option Nat
deriving DecidableEq, Repr

/-- one label; `none` = the run is not good -/
def Mon.step (m : Nat) (s : Mon) : Label → Option Mon
  | .advance t' =>
    match s.pending with
    | some b => if t' < b + m then some { s with now := t' } else none
    | none => some { s with now := t' }
  | .hlBeat =>
    match s.pending with
    | none => some { s with pending := some s.now }
    | some _ => some s
  | .tlWake => some { s with pending := none }
  | .stop => some { s with pending := none }
  | _ => some s

def goodFrom (m : Nat) (s : Mon) : List Label → Bool
  | [] => true
  | l :: ls =>
    match s.step m l with
    | some s' => goodFrom m s' ls
    | none => false

/-- every iteration of the heartbeat loop at an instant `b` is followed by a consumed response
before time reaches `b + m` -/
def GoodRun (m : Nat) (ls : List Label) : Prop := goodFrom m ⟨0, none⟩ ls = true

instance (m : Nat) (ls : List Label) : Decidable (GoodRun m ls) := by
  unfold GoodRun; infer_instance

/-- the simulation invariant between the model and the monitor of `GoodRun`; `R` is what every recorded reset satisfies
(in `no_reset_added`: it was on record at the start) -/
structure Sim (R : Nat → Prop) (i t m : Nat) (h : HB) (s : Mon) : Prop where
  basic : Basic i t h
  now_eq : s.now = h.now
  not_resetting : h.tl ≠ .resetting
  idle_pending : h.tl = .idle → s.pending = none
  slack : ∀ d u, h.tl = .waiting d → h.hl = .sleeping u →
    (s.pending = none → u + m ≤ d) ∧ (∀ b, s.pending = some b → b + m ≤ d ∧ h.now < b + m)
  no_reset : ∀ r, HEv.reset r ∈ h.trace → R r

theorem sim_init (R : Nat → Prop) (i t m : Nat) : Sim R i t m (init i t) ⟨0, none⟩ := by
  constructor <;> first | exact basic_init i t | simp [init]

theorem sim_lt {R : Nat → Prop} {i t m : Nat} (hm : 0 < m) {h : HB} {s : Mon} (hsim : Sim R i t m h s) :
    ∀ d, h.tl = .waiting d → h.now < d := by
  intro d hd
  cases hhl : h.hl with
  | idle => rw [hsim.basic.both.2 hhl] at hd; cases hd
  | sleeping u =>
    have := hsim.slack d u hd hhl
    have := hsim.basic.wake u hhl
    cases hp : s.pending <;> grind

theorem no_reset_append {R : Nat → Prop} {tr : List HEv} {e : HEv} (h : ∀ r, HEv.reset r ∈ tr → R r)
    (he : ∀ r, HEv.reset r ≠ e) : ∀ r, HEv.reset r ∈ tr ++ [e] → R r :=
  fun r k => (List.mem_append.1 k).elim (h r) fun k => absurd (List.mem_singleton.1 k) (he r)

theorem Mon.step_advance {m t' : Nat} {s s' : Mon} :
    s.step m (.advance t') = some s' ↔ (∀ b, s.pending = some b → t' < b + m) ∧ s' = ⟨t', s.pending⟩ := by
  cases s with | mk n p => cases p <;> simp [Mon.step, eq_comm]

theorem Sim.beat {R : Nat → Prop} {i t m : Nat} (hm : 0 < m) {h : HB} {s s' : Mon} (hsim : Sim R i t m h s) {u : Nat}
    (eu : h.hl = .sleeping u) (hle : u ≤ h.now) {tr : List HEv} (htr : ∀ r, HEv.reset r ∈ tr → R r)
    (hms : s.step m .hlBeat = some s') :
    Sim R i t m { h with hl := .sleeping (h.now + h.interval), trace := tr } s' := by
  obtain ⟨hb, g1, g2, g3, g4, g5⟩ := hsim
  have hu := hb.wake _ eu
  have hne : h.tl ≠ .idle := fun k => by rw [hb.both.1 k] at eu; cases eu
  simp only [Mon.step] at hms
  cases hp : s.pending with
  | none =>
    rw [hp] at hms; cases hms
    exact ⟨hb.beat eu tr, g1, g2, fun k => absurd k hne, fun d u' ed eu' => ⟨nofun, fun b eb => by
      cases eb; have := (g4 d _ ed eu).1 hp
      show s.now + m ≤ d ∧ h.now < s.now + m; omega⟩, htr⟩
  | some b =>
    rw [hp] at hms; cases hms
    exact ⟨hb.beat eu tr, g1, g2, fun k => absurd k hne, fun d u' ed eu' =>
      ⟨fun k => (by rw [hp] at k; cases k), (g4 d _ ed eu).2⟩, htr⟩

theorem sim_step {R : Nat → Prop} {i t m : Nat} (hm : 0 < m) (hmt : m + i ≤ t) {h h' : HB} {s s' : Mon} {l : Label}
    (hsim : Sim R i t m h s) (hs : step h l = some h') (hms : s.step m l = some s') :
    Sim R i t m h' s' := by
  have hlt := sim_lt hm hsim
  have hb' := basic_step hsim.basic hs
  have ⟨hb, g1, g2, g3, g4, g5⟩ := hsim
  have ht := hb.timeout_eq
  have hi := hb.interval_eq
  cases step_iff.mp hs with
  | advance hn hd hu =>
    obtain ⟨hg, rfl⟩ := Mon.step_advance.1 hms
    exact ⟨hb', rfl, g2, g3, fun d u ed eu => ⟨(g4 d u ed eu).1, fun b eb =>
      ⟨((g4 d u ed eu).2 b eb).1, hg b eb⟩⟩, g5⟩
  | conn | response => cases hms; exact ⟨hb', g1, g2, g3, g4, no_reset_append g5 nofun⟩
  | startAgain => cases hms; exact hsim
  | start e1 =>
    cases hms
    refine ⟨hb', g1, nofun, nofun, fun d u ed eu => ⟨fun _ => ?_, fun b eb => ?_⟩,
      no_reset_append g5 nofun⟩
    · cases ed; cases eu; omega
    · rw [g3 e1] at eb; cases eb
  | stop => cases hms; exact ⟨hb', g1, nofun, fun _ => rfl, nofun, no_reset_append g5 nofun⟩
  | stopAgain e1 =>
    cases hms
    exact ⟨hb', g1, g2, fun _ => rfl, fun d u ed => (by rw [e1] at ed; cases ed), g5⟩
  | wake =>
    cases hms
    refine ⟨hb', g1, nofun, nofun, fun d u ed eu => ⟨fun _ => ?_, nofun⟩, g5⟩
    cases ed; have := hb.wake u eu; omega
  | fireUp e hle | fireDown e hle => exact absurd (hlt _ e) (Nat.not_lt.2 hle)
  | resetDone e => exact absurd e g2
  | beatUp eu hle => exact hsim.beat hm eu hle (no_reset_append g5 nofun) hms
  | beatDown eu hle => exact hsim.beat hm eu hle g5 hms

theorem lockstep {σ τ L : Type} {f : σ → L → Option σ} {g : τ → L → Option τ} {good : τ → List L → Bool}
    {R : σ → τ → Prop}
    (hgood : ∀ b l ls, good b (l :: ls) = match g b l with | some b' => good b' ls | none => false)
    (hstep : ∀ {a b l a' b'}, R a b → f a l = some a' → g b l = some b' → R a' b') :
    ∀ ls a a' b, R a b → ls.foldlM f a = some a' → good b ls = true → ∃ b', R a' b'
  | [], a, a', b, hr, ha, _ => by cases ha; exact ⟨b, hr⟩
  | l :: ls, a, a', b, hr, ha, hg => by
    rw [List.foldlM_cons] at ha
    rw [hgood] at hg
    cases hs : f a l with
    | none => rw [hs] at ha; cases ha
    | some a1 =>
      cases hm : g b l with
      | none => rw [hm] at hg; cases hg
      | some b1 =>
        rw [hs] at ha; rw [hm] at hg
        exact lockstep hgood hstep ls a1 a' b1 (hstep hr hs hm) ha hg

theorem sim_run {R : Nat → Prop} {i t m : Nat} (hm : 0 < m) (hmt : m + i ≤ t) (ls : List Label) (h h' : HB) (s : Mon)
    (hsim : Sim R i t m h s) (hr : run h ls = some h') (hg : goodFrom m s ls = true) : ∃ s', Sim R i t m h' s' :=
  lockstep (f := step) (g := Mon.step m) (fun _ _ _ => by rw [goodFrom]; split <;> simp [*]) (sim_step hm hmt) ls h h' s hsim (run_eq_foldlM ls h ▸ hr) hg

/-- from any state related to a monitor state, with any slack `m`: a good continuation adds no reset to the record and
never reaches a deadline -/
theorem no_reset_added {i t m : Nat} (hm : 0 < m) (hmt : m + i ≤ t) (ls : List Label) (h h' : HB) (s : Mon)
    (hsim : Sim (HEv.reset · ∈ h.trace) i t m h s) (hr : run h ls = some h') (hg : goodFrom m s ls = true) :
    (∀ r, HEv.reset r ∈ h'.trace → HEv.reset r ∈ h.trace) ∧ h'.tl ≠ .resetting ∧ ∀ d, h'.tl = .waiting d → h'.now < d :=
  have ⟨_, k⟩ := sim_run hm hmt ls h h' s hsim hr hg
  ⟨k.no_reset, k.not_resetting, sim_lt hm k⟩

/-! ### label sequences used by the non-vacuity examples (`interval` 2400, `timeout` 2640) -/

/-- link up, started at 5, first request sent, the clock at the second wake-up -/
def exBeat : List Label := [.conn true, .advance 5, .start, .hlBeat, .advance 2405]
/-- … second request sent, the clock at the deadline 5 + 2640 -/
def exDue : List Label := exBeat ++ [.hlBeat, .advance 2645]
/-- requests at 5, 2405, 4805 answered after 0, 239 and 100 ticks -/
def exGood : List Label :=
  [.conn true, .advance 5, .start, .hlBeat, .response, .tlWake,
   .advance 2405, .hlBeat, .advance 2644, .response, .tlWake,
   .advance 4805, .hlBeat, .advance 4905, .response, .tlWake, .advance 7000]

end PyAirtouch.Lemmas.Heartbeat
