import PyAirtouch.Lemmas.Api5Handshake
import PyAirtouch.Lemmas.Api5Time
/-!
# One op of the AirTouch 5 API model, in normal form

`Step s op r`: the ten things an op can do to the heartbeat manager and its surroundings (the clock, the event, the waiting
`init()` calls, the stub socket), to the state machine and to the outputs; `apiStep_step : Step s op (apiStep s op)` analyses
`apiStep` once, over the equations of the ops that feed the manager (`doMsg_eq` here, the others in `Api5Time`).  The ops
are the atoms.  They cannot be split into smaller moves that keep the invariants: `HbOk` of `Api5Heartbeat` fails between
the pieces of `finishInit` (after `start` the manager runs while the event is clear), of `doAdv` (after `finish d` the
manager's clock is ahead of the API's) and of `doShutdown` (after `stop` the manager is at rest while the event is set).

`init`, `junk`, `shutdown`, `deaf`, `adv` give the whole result.  Everywhere the six fields of `SameHb` are exact, and `st` is
exact or one of two stated alternatives.  Of the rest of the state `call`, `frame`, `resp`, `last` say nothing: the state
after the handler is a variable `s1` with `SameSt s s1` or `SameHb s s1`.  What the manager reports (`hbRep`) and the marks
of `last` are exact; of the outputs of calls and handlers only an alphabet is kept (`NoMark`, `HandlerOut`, `isNotify`).
`isHeartbeatResponse m = false` in `last` follows from its guards and is listed for the consumers.

A statement about the manager's surroundings, the state machine or an output alphabet, for every op, is proved by

    have st := apiStep_step s op
    generalize apiStep s op = r at st ⊢
    cases st with …

so that in every case op and result are the constructor's (for a statement about `doMsg s a m`: `have st : Step s (.msg a m)
(doMsg s a m) := apiStep_step s (.msg a m)`); for a given op only its own constructors remain, and `call`, whose op is a
variable: `| call _ _ _ hp => cases hp`.  A property of the manager alone goes through `apiStep_hbInv` of `Api5Heartbeat`
instead.  What needs the exact outputs of the calls, which `Step.call` does not keep, goes by cases on the op over the
equations (`closed_apiStep`, `apiStep_send`, `apiStep_sim`); so do the exact condition under which the state machine moves
(`doMsg_st`) and the part of a handler an output comes from (`doMsg_out_mem`).
-/
namespace PyAirtouch.Lemmas.Api5
open PyAirtouch.Model PyAirtouch.Model.Api5 PyAirtouch.Model.At5 PyAirtouch.Model.At5.Registry
open PyAirtouch.Model.Heartbeat PyAirtouch.Spec.Heartbeat
open PyAirtouch.Gen PyAirtouch.Gen.Api5

theorem answers_last {st : AirTouchState} {toAddr : Nat} {m : Msg} (ha : answers st toAddr m = true)
    (h : nextState st = .CONNECTED) : st = .INIT_ZONE_STATUS := by
  have := (answers_rank ha).2
  cases st <;> first | rfl | exact absurd this (by decide) | cases h

theorem handleMessage_st (s : State) (toAddr : Nat) (m : Msg) :
    (handleMessage s toAddr m).s.st =
      if answers s.st toAddr m = true ∧ (digest m s).exc = none then nextState s.st else s.st := by
  rw [handleMessage_eq]
  by_cases ha : answers s.st toAddr m = true
  · rw [if_pos ha]
    cases hexc : (digest m s).exc with
    | none =>
      rw [andThen_none _ _ hexc, if_pos ⟨ha, rfl⟩]
      rcases proceed_cases s.st (answers_rank ha).1 (answers_rank ha).2 with ⟨_, req, _, hp⟩ | ⟨hst, hp⟩ <;> rw [hp]
      · exact congrArg State.st (sendMsg_s _ _ _ _)
      · rw [hst]; rfl
    | some c =>
      rw [andThen_some _ _ c hexc, if_neg (fun h => nomatch h.2)]
      exact (digest_touch m s).ctl.st
  · rw [if_neg ha, if_neg (fun h => ha h.1)]
    exact (report_touch s.st m s).ctl.st

theorem handleMessage_ordinary (s : State) (toAddr : Nat) (m : Msg)
    (h : ¬ (s.st = .INIT_ZONE_STATUS ∧ answers .INIT_ZONE_STATUS toAddr m = true)) :
    SameHb s (handleMessage s toAddr m).s ∧ AllOut SendOrNotify (handleMessage s toAddr m) := by
  rw [handleMessage_eq]
  split
  · rename_i ha
    rcases proceed_cases s.st (answers_rank ha).1 (answers_rank ha).2 with ⟨_, req, _, e⟩ | ⟨e, _⟩
    · have hd := (digest_touch m s).ctl.toSameHb
      refine ⟨?_, by
        rw [e]
        exact allOut_andThen (fun o ho => ((digest_touch m s).out o ho).sendOrNotify) fun _ =>
          allOut_sendMsg _ _ _ _ (sn_send _ _ _)⟩
      rcases andThen_s (digest m s) (proceed s.st) with e1 | ⟨_, e1⟩ <;> rw [e1]
      · exact hd
      · rw [e, sendMsg_s]
        exact hd.trans (sameHb_st _ _)
    · exact absurd ⟨e, e ▸ ha⟩ h
  · exact ⟨(report_touch s.st m s).ctl.toSameHb, fun o ho => ((report_touch s.st m s).out o ho).sendOrNotify⟩

theorem doMsg_eq (s : State) (toAddr : Nat) (m : Msg) :
    doMsg s toAddr m =
      if s.sockSubscribed = true then
        if isHeartbeatResponse m = true then
          ({ (handleMessage s toAddr m).s with
              hb := hbStep (handleMessage s toAddr m).s.hb (.resp (handleMessage s toAddr m).s.now) },
           excOut (handleMessage s toAddr m) ++
             hbRep (handleMessage s toAddr m).s.hb (.resp (handleMessage s toAddr m).s.now))
        else ((handleMessage s toAddr m).s, excOut (handleMessage s toAddr m))
      else (s, []) := by
  unfold doMsg
  split
  · dsimp only
    split
    · rfl
    · rw [List.append_nil]
  · rfl

theorem doMsg_nonHb (s : State) (toAddr : Nat) (m : Msg) (hsub : s.sockSubscribed = true)
    (h : isHeartbeatResponse m = false) :
    doMsg s toAddr m = ((handleMessage s toAddr m).s, excOut (handleMessage s toAddr m)) := by
  rw [doMsg_eq, if_pos hsub, if_neg (by rw [h]; exact Bool.false_ne_true)]

theorem step_zoneNames (s : State) (t : Nat) (zn : FF13.ZoneNamesMessage) (hsub : s.sockSubscribed = true)
    (hst : s.st = .INIT_ZONE_NAMES) :
    (apiStep s (.msg t (.extended (.zoneNames (.message zn))))).1 =
      { processZoneNames zn.zone_names s with st := .INIT_AC_ABILITY } := by
  show (doMsg s t _).1 = _
  rw [doMsg_nonHb s t _ hsub rfl]
  exact (congrArg HR.s (if_pos hst)).trans (sendMsg_s _ _ _ _)

theorem step_ability (s : State) (t : Nat) (abs : List FF11.AcAbility) (hsub : s.sockSubscribed = true)
    (hst : s.st = .INIT_AC_ABILITY) (hok : (processAcAbility abs s).exc = none) :
    (apiStep s (.msg t (.extended (.acAbility (.ability abs))))).1 =
      { (processAcAbility abs s).s with st := .INIT_AC_STATUS } := by
  show (doMsg s t _).1 = _
  rw [doMsg_nonHb s t _ hsub rfl]
  exact (congrArg HR.s ((if_pos hst).trans (andThen_none _ _ hok))).trans (sendMsg_s _ _ _ _)

theorem doMsg_fst (s : State) (toAddr : Nat) (m : Msg) (hsub : s.sockSubscribed = true) :
    ∃ hb', (doMsg s toAddr m).1 = { (handleMessage s toAddr m).s with hb := hb' } := by
  rw [doMsg_eq, if_pos hsub]
  split
  · exact ⟨_, rfl⟩
  · exact ⟨_, rfl⟩

theorem doMsg_st (s : State) (toAddr : Nat) (m : Msg) :
    (doMsg s toAddr m).1.st =
      if s.sockSubscribed = true ∧ answers s.st toAddr m = true ∧ (digest m s).exc = none then nextState s.st else s.st := by
  by_cases hsub : s.sockSubscribed = true
  · obtain ⟨hb', e⟩ := doMsg_fst s toAddr m hsub
    rw [e]
    simp only [hsub, true_and]
    exact handleMessage_st s toAddr m
  · rw [if_neg fun h => hsub h.1, doMsg_eq, if_neg hsub]

theorem doMsg_out_mem {s : State} {toAddr : Nat} {m : Msg} {o : Out} (ho : o ∈ (doMsg s toAddr m).2) :
    s.sockSubscribed = true ∧ (o ∈ (handleMessage s toAddr m).out ∨
      (∃ c, (handleMessage s toAddr m).exc = some c ∧ o = .subscriberExc c) ∨
      o ∈ hbRep (handleMessage s toAddr m).s.hb (.resp (handleMessage s toAddr m).s.now)) := by
  rw [doMsg_eq] at ho
  split at ho
  · refine ⟨‹_›, ?_⟩
    split at ho
    · rcases List.mem_append.1 ho with ho | ho
      · exact (mem_excOut.1 ho).imp_right .inl
      · exact .inr (.inr ho)
    · exact (mem_excOut.1 ho).imp_right .inl
  · cases ho

theorem doMsg_notify_mem (s : State) (toAddr : Nat) (m : Msg) (o : Out) (ho : o.isNotify = true) :
    o ∈ (doMsg s toAddr m).2 ↔ s.sockSubscribed = true ∧ o ∈ (handleMessage s toAddr m).out := by
  constructor
  · intro h
    rcases doMsg_out_mem h with ⟨hs, h | ⟨c, _, rfl⟩ | h⟩
    · exact ⟨hs, h⟩
    · cases ho
    · rcases hbRep_out _ _ o h with rfl | rfl <;> cases ho
  · rintro ⟨hs, h⟩
    rw [doMsg_eq, if_pos hs]
    split
    · exact List.mem_append_left _ (mem_excOut.2 (.inl h))
    · exact mem_excOut.2 (.inl h)

/-! ### what one op can do -/

/-- what the user calls on an object, apart from `init()` and `shutdown()` -/
def Op.isCall : Op → Bool
  | .callAt | .callAc _ _ | .callZone _ _ | .sub _ _ _ | .unsub _ _ | .view => true
  | _ => false

theorem callOut_inert {r : HR}
    (h : (∃ p m b, r.out = [.send p m b] ∧ r.exc = none) ∨ (∃ e, r.out = [] ∧ r.exc = some e ∧ e ≠ "OK")) :
    ∀ o ∈ callOut r, NoMark o := by
  rcases h with ⟨p, m, b, e, _⟩ | ⟨_, e, _⟩ <;> simp [callOut, e, noMark_iff]


theorem handleConnection_shape (s : State) (up : Bool) :
    ∃ st', (handleConnection s up).s = { s with st := st' } ∧ (st' = s.st ∨ st' = .INIT_VERSION ∧ s.st = .CONNECTING) ∧
      (∀ o ∈ (handleConnection s up).out, o.isSend = true ∧ ConnReq o) ∧
      (s.sockOpen = true → (handleConnection s up).exc = none) := by
  unfold handleConnection
  split
  · rename_i hc
    simp only [Bool.and_eq_true, decide_eq_true_eq] at hc
    exact ⟨.INIT_VERSION, sendMsg_s _ _ _ _, .inr ⟨rfl, hc.2⟩, allOut_sendMsg _ _ _ _ ⟨rfl, rfl, rfl, rfl⟩,
      fun ho => by rw [sendMsg_open { s with st := .INIT_VERSION } _ _ _ ho]⟩
  · split
    · refine ⟨s.st, ?_, .inl rfl,
        allOut_andThen (allOut_sendMsg _ _ _ _ ⟨rfl, rfl, rfl, rfl⟩) (fun _ => allOut_sendMsg _ _ _ _ ⟨rfl, rfl, rfl, rfl⟩),
        fun ho => by rw [sendMsg_open s _ _ _ ho, andThen_none _ _ rfl, sendMsg_open s _ _ _ ho]⟩
      rcases andThen_s (sendMsg s .connected msgAcStatusRequest) (fun s => sendMsg s .connected msgZoneStatusRequest)
        with e | ⟨_, e⟩ <;> rw [e] <;> simp only [sendMsg_s]
    · exact ⟨s.st, rfl, .inl rfl, by simp, fun _ => rfl⟩

/-- the op is the frame that completes the handshake -/
def Finishing (s : State) (op : Op) : Prop :=
  ∃ toAddr m, op = .msg toAddr m ∧ s.sockSubscribed = true ∧ s.st = .INIT_ZONE_STATUS ∧
    answers .INIT_ZONE_STATUS toAddr m = true

/-- an ordinary frame, any but the one that completes the handshake, on an API that listens: the handler leaves the
manager and its surroundings alone and the state machine stays or moves on, short of `CONNECTED` -/
structure Ordinary (s : State) (a : Nat) (m : Msg) (s1 : State) (out : List Out) : Prop where
  listens : s.sockSubscribed = true
  notLast : ¬ (s.st = .INIT_ZONE_STATUS ∧ answers .INIT_ZONE_STATUS a m = true)
  same : SameHb s s1
  st : s1.st = s.st ∨ s1.st = nextState s.st ∧ answers s.st a m = true ∧ s1.st ≠ .CONNECTED
  out : ∀ o ∈ out, HandlerOut o

theorem Ordinary.connected_iff {s s1 : State} {a : Nat} {m : Msg} {out : List Out} (h : Ordinary s a m s1 out) :
    s1.st = .CONNECTED ↔ s.st = .CONNECTED := by
  rcases h.st with e | ⟨e, _, hn⟩
  · rw [e]
  · exact ⟨fun h1 => absurd h1 hn, fun h1 => absurd (by rw [e, h1]; rfl) hn⟩

/-- `Step s op r` lists the results `r` an op `op` can have from `s` -/
inductive Step (s : State) : Op → State × List Out → Prop
  /-- `init()`: the socket is opened and listened to; the caller waits unless the event is set -/
  | init : Step s .init
      ({ s with st := .CONNECTING, sockSubscribed := true, sockOpen := true,
                pendingInits := if s.initialised = true then s.pendingInits else s.pendingInits ++ [s.now + initTimeout] },
       .opened :: if s.initialised = true then [.result "init True"] else [])
  /-- calls, subscriptions, `view` -/
  | call (op : Op) (s1 : State) (out : List Out) : Op.isCall op = true → SameSt s s1 → (∀ o ∈ out, NoMark o) →
      Step s op (s1, out)
  | junk (c : String) : Step s (.undecodable c) (s, [.undecodable c])
  /-- `shutdown()`: what the manager reports is discarded; the waiting `init()` calls stay -/
  | shutdown : Step s .shutdown
      ({ s with hb := hbStep (hbStep s.hb (.stop s.now)) (.conn false s.now), st := .CLOSED, initialised := false,
                sockOpen := false, zobjs := [], aobjs := [], zones := [], acs := [] },
       [.hbStop, .closed, .result "shutdown OK"])
  /-- a connection change: the manager is told (what it reports is discarded), the state machine may leave `CONNECTING` -/
  | conn (up : Bool) (st' : AirTouchState) (out : List Out) : (st' = s.st ∨ st' = .INIT_VERSION ∧ s.st = .CONNECTING) →
      (∀ o ∈ out, HandlerOut o) → (s.sockOpen = true → ∀ o ∈ out, o.isSend = true) →
      Step s (.conn up) ({ s with hb := hbStep s.hb (.conn up s.now), st := st' }, out)
  | deaf (a : Nat) (m : Msg) : s.sockSubscribed = false → Step s (.msg a m) (s, [])
  | frame (a : Nat) (m : Msg) (s1 : State) (out : List Out) : Ordinary s a m s1 out → isHeartbeatResponse m = false →
      Step s (.msg a m) (s1, out)
  /-- an ordinary frame that is a heartbeat response: after the handler the manager is fed `resp` -/
  | resp (a : Nat) (m : Msg) (s1 : State) (out : List Out) : Ordinary s a m s1 out → isHeartbeatResponse m = true →
      Step s (.msg a m) ({ s1 with hb := hbStep s.hb (.resp s.now) }, out ++ hbRep s.hb (.resp s.now))
  /-- the answer that completes the handshake (`Finishing s (.msg a m)`) -/
  | last (a : Nat) (m : Msg) (s1 : State) (pre : List Out) : s.sockSubscribed = true → s.st = .INIT_ZONE_STATUS →
      answers .INIT_ZONE_STATUS a m = true → isHeartbeatResponse m = false → SameSt s s1 → (∀ o ∈ pre, o.isNotify = true) →
      Step s (.msg a m)
        ({ s1 with st := .CONNECTED, hb := hbStep s.hb (.start s.now), initialised := true, pendingInits := [] },
         pre ++ [.hbStart] ++ s.pendingInits.map (fun _ => Out.result "init True") ++ hbRep s.hb (.start s.now))
  /-- `adv n`: the manager is fed the due `init()` deadlines, then the target time -/
  | adv (n : Nat) : Step s (.adv n)
      ({ s with hb := (hbSteps s.hb ((s.pendingInits.filter (· ≤ s.now + n)).map .finish ++ [.finish (s.now + n)])).1,
                now := s.now + n, pendingInits := s.pendingInits.filter (s.now + n < ·) },
       advOut s.hb (s.pendingInits.filter (· ≤ s.now + n)) (s.now + n))

theorem subTarget_same (s : State) (t : Target) (f : List Sub → List Sub) : SameSt s (subTarget s t f).1 := by
  unfold subTarget
  repeat' split
  all_goals exact ⟨⟨rfl, rfl, rfl, rfl, rfl, rfl⟩, rfl⟩

theorem subTarget_step (s : State) (t : Target) (f : List Sub → List Sub) (op : Op) (h : Op.isCall op = true) :
    Step s op (subTarget s t f) :=
  .call op (subTarget s t f).1 (subTarget s t f).2 h (subTarget_same s t f) fun o ho => by
    rw [subTarget_out _ _ _ o ho]; simp [noMark_iff]

theorem call_step (s : State) (op : Op) (h : Op.isCall op = true) : Step s op (apiStep s op) := by
  cases op
  all_goals (try (cases h; done))
  all_goals dsimp only [apiStep]
  case sub t _ _ | unsub t _ => exact subTarget_step s t _ _ h
  case callAt =>
    rw [sendMsg_s]
    refine .call _ _ _ rfl (SameSt.refl s) (callOut_inert ?_)
    unfold sendMsg; split
    · exact .inl ⟨_, _, _, rfl, rfl⟩
    · exact .inr ⟨_, rfl, rfl, by decide⟩
  case callAc id c =>
    split
    · rename_i r a _
      rw [(acCall_shape s a c).1]
      exact .call _ _ _ rfl (SameSt.refl s) (callOut_inert (acCall_shape s a c).2)
    · exact .call _ _ _ rfl (SameSt.refl s) (by simp [noMark_iff])
  case callZone id c =>
    split
    · rename_i r z _
      rw [(zoneCall_shape s z c).1]
      exact .call _ _ _ rfl (SameSt.refl s) (callOut_inert (zoneCall_shape s z c).2)
    · exact .call _ _ _ rfl (SameSt.refl s) (by simp [noMark_iff])
  case view => split <;> exact .call _ _ _ rfl (SameSt.refl s) (by simp [noMark_iff])

theorem apiStep_step (s : State) (op : Op) : Step s op (apiStep s op) := by
  cases op
  case init =>
    show Step s .init (doInit s)
    unfold doInit
    dsimp only
    split
    · rename_i h; simpa only [h, if_true] using Step.init (s := s)
    · rename_i h; simpa only [h, if_false, Bool.false_eq_true] using Step.init (s := s)
  case shutdown => exact (doShutdown_eq s ▸ .shutdown : Step s .shutdown (doShutdown s))
  case adv n => exact (doAdv_eq s n ▸ .adv n : Step s (.adv n) (doAdv s n))
  case undecodable c => exact .junk c
  case conn up =>
    show Step s (.conn up) (doConn s up)
    rw [doConn_eq]
    split
    · obtain ⟨st', e1, e2, e3, e4⟩ := handleConnection_shape { s with hb := hbStep s.hb (.conn up s.now) } up
      rw [show handleConnection _ up = ⟨_, (handleConnection _ up).out, (handleConnection _ up).exc⟩ from
        congrArg (HR.mk · _ _) e1]
      refine .conn up st' _ e2 (excOut_handlerOut ⟨_, _, _⟩ fun o ho => .inl (e3 o ho).1) fun hopen o ho => ?_
      rcases mem_excOut.1 ho with ho | ⟨c, hc, _⟩
      · exact (e3 o ho).1
      · rw [show (handleConnection _ up).exc = none from e4 hopen] at hc; cases hc
    · exact .conn up s.st [] (.inl rfl) (List.forall_mem_nil _) fun _ => List.forall_mem_nil _
  case msg a m =>
    show Step s (.msg a m) (doMsg s a m)
    rw [doMsg_eq]
    split
    case isFalse hsub => exact .deaf a m (by simpa using hsub)
    case isTrue hsub =>
    by_cases hfin : s.st = .INIT_ZONE_STATUS ∧ answers .INIT_ZONE_STATUS a m = true
    · -- the answer that completes the handshake: entity updates with their notifications, then `finishInit`
      obtain ⟨hst, ha⟩ := hfin
      suffices fin : ∃ s1 pre, SameSt s s1 ∧ (∀ o ∈ pre, o.isNotify = true) ∧ isHeartbeatResponse m = false ∧
          handleMessage s a m = { s := (finishInit s1).s, out := pre ++ (finishInit s1).out } by
        obtain ⟨s1, pre, c1, c5, hr, e⟩ := fin
        rw [if_neg (by rw [hr]; exact Bool.false_ne_true), e, finishInit_eq]
        simpa only [excOut, List.append_assoc, List.append_nil, c1.hb, c1.now, c1.pendingInits] using
          Step.last a m s1 pre hsub hst ha hr c1 c5
      rcases answers_zoneStatus_inv ha with ⟨l, rfl⟩ | ⟨rfl, hc⟩
      · have hexc : (processZoneStatus l s).exc = none := by rw [processZoneStatus_eq l s]
        exact ⟨_, _, (ent_processZoneStatus l s).touch.ctl, (ent_processZoneStatus l s).touch.out, rfl, by
          simp [handleMessage, hst, HR.andThen, hexc, finishInit]⟩
      · exact ⟨s, [], SameSt.refl s, by simp, rfl, by simp [handleMessage, hst, hc, finishInit]⟩
    · obtain ⟨h1, h2⟩ := handleMessage_ordinary s a m hfin
      have ord : Ordinary s a m (handleMessage s a m).s (excOut (handleMessage s a m)) := by
        refine ⟨hsub, hfin, h1, ?_, excOut_handlerOut _ h2⟩
        rw [handleMessage_st]
        split
        · rename_i h
          -- the state entered is `CONNECTED` only after the last answer
          exact .inr ⟨rfl, h.1, fun hc => hfin ⟨answers_last h.1 hc, answers_last h.1 hc ▸ h.1⟩⟩
        · exact .inl rfl
      split
      · rename_i hr
        rw [h1.hb, h1.now]
        exact .resp a m _ _ ord hr
      · rename_i hr
        exact .frame a m _ _ ord (by simpa using hr)
  all_goals exact call_step s _ rfl

/-! ### read off `Step` -/

/-- **the frame that completes the handshake**, inverted: the `last` case of `Step` is the only one -/
theorem step_last {s : State} {a : Nat} {m : Msg} (hsub : s.sockSubscribed = true) (hst : s.st = .INIT_ZONE_STATUS)
    (ha : answers .INIT_ZONE_STATUS a m = true) :
    ∃ s1 pre, SameSt s s1 ∧ (∀ o ∈ pre, o.isNotify = true) ∧ isHeartbeatResponse m = false ∧
      doMsg s a m =
        ({ s1 with st := .CONNECTED, hb := hbStep s.hb (.start s.now), initialised := true, pendingInits := [] },
         pre ++ [.hbStart] ++ s.pendingInits.map (fun _ => Out.result "init True") ++ hbRep s.hb (.start s.now)) := by
  have st : Step s (.msg a m) (doMsg s a m) := apiStep_step s (.msg a m)
  generalize doMsg s a m = r at st ⊢
  cases st with
  | call _ _ _ hp => cases hp
  | deaf _ _ h => rw [hsub] at h; cases h
  | frame _ _ _ _ h | resp _ _ _ _ h => exact absurd ⟨hst, ha⟩ h.notLast
  | last _ _ s1 pre _ _ _ hr c hpre => exact ⟨s1, pre, c, hpre, hr, rfl⟩

/-- `step_last` as `Props/C09At5` states it: of what the manager reports on `start` only the alphabet -/
theorem last_answer_spec (s : State) (toAddr : Nat) (m : Msg) (hsub : s.sockSubscribed = true)
    (hst : s.st = .INIT_ZONE_STATUS) (ha : answers .INIT_ZONE_STATUS toAddr m = true) :
    (doMsg s toAddr m).1.st = .CONNECTED ∧ (doMsg s toAddr m).1.initialised = true ∧
    (doMsg s toAddr m).1.pendingInits = [] ∧
    ∃ pre post, (doMsg s toAddr m).2 =
        pre ++ [.hbStart] ++ s.pendingInits.map (fun _ => Out.result "init True") ++ post ∧
      (∀ o ∈ pre, o.isNotify = true) ∧ (∀ o ∈ post, o = .send .connected hbMessage false ∨ o = .reset) := by
  obtain ⟨s1, pre, _, hpre, _, e⟩ := step_last hsub hst ha
  rw [e]
  exact ⟨rfl, rfl, rfl, pre, _, rfl, hpre, hbRep_out _ _⟩

/-- what a frame can do to the control part of the state -/
structure Mono (s s' : State) : Prop where
  sockOpen : s'.sockOpen = s.sockOpen
  sockSubscribed : s'.sockSubscribed = s.sockSubscribed
  now : s'.now = s.now
  st : s'.st = s.st ∨ (s'.st = nextState s.st ∧ 2 ≤ rank s.st ∧ rank s.st ≤ 7)
  initialised : s.initialised = true → s'.initialised = true
  connected : s'.st = .CONNECTED → s.st ≠ .CONNECTED → s'.initialised = true
  -- nothing but the final step touches the event, the waiting `init()` calls or the heartbeat manager
  quiet : s'.st ≠ .CONNECTED ∨ s.st = .CONNECTED →
    s'.initialised = s.initialised ∧ s'.pendingInits = s.pendingInits ∧ (HbIdle s.hb → HbIdle s'.hb)

theorem Mono.of_sameHb {s s' : State} (hb : SameHb s s')
    (hst : s'.st = s.st ∨ (s'.st = nextState s.st ∧ 2 ≤ rank s.st ∧ rank s.st ≤ 7))
    (hnc : s'.st = .CONNECTED → s.st = .CONNECTED) : Mono s s' :=
  ⟨hb.sockOpen, hb.sockSubscribed, hb.now, hst, fun hi => hb.initialised.trans hi, fun h1 h2 => absurd (hnc h1) h2,
    fun _ => ⟨hb.initialised, hb.pendingInits, fun hi => hb.hb ▸ hi⟩⟩

theorem Mono.refl (s : State) : Mono s s := .of_sameHb (SameHb.refl s) (.inl rfl) id

theorem doMsg_mono (s : State) (toAddr : Nat) (m : Msg) : Mono s (doMsg s toAddr m).1 := by
  have st : Step s (.msg toAddr m) (doMsg s toAddr m) := apiStep_step s (.msg toAddr m)
  generalize doMsg s toAddr m = r at st ⊢
  have ord : ∀ {s1 out}, Ordinary s toAddr m s1 out → Mono s s1 := fun h =>
    .of_sameHb h.same (h.st.imp_right fun ⟨e, ha, _⟩ => ⟨e, answers_rank ha⟩) h.connected_iff.1
  cases st with
  | call _ _ _ hp => cases hp
  | deaf => exact Mono.refl s
  | frame _ _ s1 out h => exact ord h
  | resp _ _ s1 out h =>
    have key := ord h
    exact ⟨key.sockOpen, key.sockSubscribed, key.now, key.st, key.initialised, key.connected,
      fun hq => ⟨(key.quiet hq).1, (key.quiet hq).2.1, fun hi => (hbStep_idle (.resp s.now) hi nofun).1⟩⟩
  | last _ _ s1 pre _ hst _ _ c =>
    exact ⟨c.sockOpen, c.sockSubscribed, c.now, .inr ⟨hst ▸ rfl, by rw [hst]; decide, by rw [hst]; decide⟩, fun _ => rfl,
      fun _ _ => rfl, fun hq => hq.elim (fun h => absurd rfl h) (fun h => by rw [hst] at h; cases h)⟩

/-- the socket is open and listened to, and the connection has come up since `init()`: the state machine is at
`INIT_VERSION` or beyond, `CONNECTED` included (`rank`: `2 ≤ Api5.rank s.st`) -/
structure Handshaking (s : State) : Prop where
  sockOpen : s.sockOpen = true
  sockSubscribed : s.sockSubscribed = true
  rank : 2 ≤ rank s.st

theorem mono_handshaking {s s' : State} (h : Mono s s') (hs : Handshaking s) :
    Handshaking s' ∧ rank s.st ≤ rank s'.st := by
  have hr : rank s.st ≤ rank s'.st := by
    rcases h.st with h1 | ⟨h1, _, h3⟩
    · rw [h1]; exact Nat.le_refl _
    · rw [h1, rank_nextState _ h3]; omega
  exact ⟨⟨h.sockOpen ▸ hs.sockOpen, h.sockSubscribed ▸ hs.sockSubscribed, Nat.le_trans hs.rank hr⟩, hr⟩

theorem answer_advances (s : State) (toAddr : Nat) (m : Msg) (hs : Handshaking s)
    (ha : answers s.st toAddr m = true) (hok : abilityOk s m) :
    (doMsg s toAddr m).1.st = nextState s.st := by
  rw [doMsg_st, if_pos ⟨hs.sockSubscribed, ha, digest_exc hs.sockOpen hok⟩]

end PyAirtouch.Lemmas.Api5
