import PyAirtouch.Lemmas.Api5
/-!
# What the AirTouch 5 API model emits: alphabets of outputs (`AllOut O r`: every output of `r` is in `O`), and those of
`finishInit` and of the heartbeat manager
-/
namespace PyAirtouch.Lemmas.Api5
open PyAirtouch.Model PyAirtouch.Model.Api5 PyAirtouch.Model.At5 PyAirtouch.Model.At5.Registry
open PyAirtouch.Model.TimerCommon (AcTimerState AcTimerStatusData)
open PyAirtouch.Gen PyAirtouch.Gen.Api5

def AllOut (O : Out → Prop) (r : HR) : Prop := ∀ o ∈ r.out, O o

theorem AllOut.mono {O O' : Out → Prop} {r : HR} (h : AllOut O r) (hi : ∀ o, O o → O' o) : AllOut O' r :=
  fun o ho => hi o (h o ho)

theorem allOut_nil (O : Out → Prop) (s : State) (e : Option String) : AllOut O { s := s, out := [], exc := e } := by
  intro o ho; simp at ho

theorem allOut_andThen {O : Out → Prop} {r : HR} {f : State → HR} (h1 : AllOut O r) (h2 : ∀ s, AllOut O (f s)) :
    AllOut O (r.andThen f) := by
  unfold HR.andThen
  split
  · exact h1
  · intro o ho
    simp only [List.mem_append] at ho
    rcases ho with ho | ho
    · exact h1 o ho
    · exact h2 _ o ho

theorem allOut_sendMsg {O : Out → Prop} (s : State) (p : Policy) (m : Msg) (b : Bool) (h : O (.send p m b)) :
    AllOut O (sendMsg s p m b) := by
  unfold sendMsg
  split
  · intro o ho; simp at ho; subst ho; exact h
  · exact allOut_nil O s _

theorem acNotifyAll_isNotify (a : AcObj) : ∀ o ∈ acNotifyAll a, o.isNotify = true := by
  intro o ho
  simp only [acNotifyAll, acNotifyGeneral, List.mem_append, List.mem_map] at ho
  rcases ho with ⟨x, _, rfl⟩ | ⟨x, _, rfl⟩ <;> rfl

theorem mem_fwdNotify (aobjs : List AcObj) (fwd : List Nat) (o : Out) :
    o ∈ fwdNotify aobjs fwd ↔ ∃ r ∈ fwd, ∃ a, aobjs[r]? = some a ∧ ∃ sid ∈ a.subs, o = .notifyAc a.id false sid := by
  simp only [fwdNotify, List.mem_flatMap]
  constructor
  · rintro ⟨r, hr, ho⟩
    split at ho
    · rename_i a ha
      simp only [acNotifyGeneral, List.mem_map] at ho
      obtain ⟨x, hx, rfl⟩ := ho
      exact ⟨r, hr, a, ha, x, hx, rfl⟩
    · simp at ho
  · rintro ⟨r, hr, a, ha, x, hx, rfl⟩
    refine ⟨r, hr, ?_⟩
    simp only [ha, acNotifyGeneral, List.mem_map]
    exact ⟨x, hx, rfl⟩

theorem fwdNotify_notifyAc {aobjs : List AcObj} {fwd : List Nat} {o : Out} (h : o ∈ fwdNotify aobjs fwd) :
    ∃ id sid, o = .notifyAc id false sid := by
  obtain ⟨_, _, a, _, sid, _, rfl⟩ := (mem_fwdNotify _ _ _).1 h
  exact ⟨_, _, rfl⟩

theorem zoneNotify_isNotify (aobjs : List AcObj) (z : ZoneObj) : ∀ o ∈ zoneNotify aobjs z, o.isNotify = true := by
  intro o ho
  simp only [zoneNotify, List.mem_append, List.mem_map] at ho
  rcases ho with ⟨x, _, rfl⟩ | ho
  · rfl
  · obtain ⟨_, _, rfl⟩ := fwdNotify_notifyAc ho
    rfl

/-- handshake / refresh / heartbeat / error-information requests -/
def isRequest : Msg → Bool
  | .extended (.consoleVer .request) => true
  | .extended (.zoneNames (.request _)) => true
  | .extended (.acAbility (.request _)) => true
  | .extended (.errInfo (.request _)) => true
  | .controlStatus (.acStatus .request) => true
  | .controlStatus (.acTimerStatus .request) => true
  | .controlStatus (.zoneStatus .request) => true
  | _ => false

/-- what the connection, frame and timer handlers may emit: a request with the CONNECTED policy, or something that is
not a send at all -/
def ConnReq (o : Out) : Prop :=
  match o with
  | .send p m b => p = .connected ∧ isRequest m = true ∧ b = false
  | _ => True

/-- a send or a notification (in particular: no `RESULT`, no `HBSTART`, no exception report) -/
def SendOrNotify (o : Out) : Prop := o.isSend = true ∨ o.isNotify = true

def isErrInfoRequest : Msg → Bool
  | .extended (.errInfo (.request _)) => true
  | _ => false

/-- what the entity updates emit: notifications and, for an AC status with an error code, the error-information
request -/
def ErrOrNotify (o : Out) : Prop := o.isNotify = true ∨ ∃ ac, o = .send .connected (msgErrInfoRequest ac) false

theorem sn_send (p : Policy) (m : Msg) (b : Bool) : SendOrNotify (.send p m b) := .inl rfl

theorem ErrOrNotify.connReq {o : Out} (h : ErrOrNotify o) : ConnReq o := by
  rcases h with h | ⟨ac, rfl⟩
  · cases o <;> first | trivial | cases h
  · exact ⟨rfl, rfl, rfl⟩

theorem ErrOrNotify.sendOrNotify {o : Out} (h : ErrOrNotify o) : SendOrNotify o := by
  rcases h with h | ⟨ac, rfl⟩
  · exact .inr h
  · exact .inl rfl

theorem hbFeed_out (s : State) (i : Heartbeat.HIn) :
    ∀ o ∈ (hbFeed s i).2, o = .send .connected hbMessage false ∨ o = .reset := by
  intro o ho
  simp only [hbFeed, List.mem_filterMap] at ho
  obtain ⟨e, _, he⟩ := ho
  cases e <;> simp [hbOut] at he
  · exact .inl he.symm
  · exact .inr he.symm

theorem hbFeed_connReq (s : State) (i : Heartbeat.HIn) : ∀ o ∈ (hbFeed s i).2, ConnReq o := by
  intro o ho
  rcases hbFeed_out s i o ho with rfl | rfl
  · exact ⟨rfl, rfl, rfl⟩
  · trivial

theorem finishInit_connReq (s : State) : AllOut ConnReq (finishInit s) := by
  intro o ho
  simp only [finishInit, setInitialised, List.mem_append, List.mem_singleton, List.mem_map] at ho
  rcases ho with (rfl | ⟨_, _, rfl⟩) | ho
  · trivial
  · trivial
  · exact hbFeed_connReq _ _ o ho

theorem mem_excOut {r : HR} {o : Out} : o ∈ excOut r ↔ o ∈ r.out ∨ ∃ c, r.exc = some c ∧ o = .subscriberExc c := by
  unfold excOut
  cases r.exc <;> simp

theorem excOut_connReq (r : HR) (h : AllOut ConnReq r) : ∀ o ∈ excOut r, ConnReq o := by
  intro o ho
  rcases mem_excOut.1 ho with ho | ⟨c, _, rfl⟩
  · exact h o ho
  · trivial

theorem subTarget_out (s : State) (t : Target) (f : List Sub → List Sub) :
    ∀ o ∈ (subTarget s t f).2, o = .result "KeyError" := by
  intro o ho
  unfold subTarget at ho
  split at ho
  · simp at ho
  · split at ho <;> simp at ho
    exact ho
  · split at ho <;> simp at ho
    exact ho

/-- not one of the heartbeat manager's marks -/
structure NoMark (o : Out) : Prop where
  reset : o ≠ .reset
  hbStart : o ≠ .hbStart
  hbStop : o ≠ .hbStop

theorem noMark_iff {o : Out} : NoMark o ↔ o ≠ .reset ∧ o ≠ .hbStart ∧ o ≠ .hbStop :=
  ⟨fun h => ⟨h.1, h.2, h.3⟩, fun h => ⟨h.1, h.2.1, h.2.2⟩⟩

structure NoMarkNoResult (o : Out) : Prop extends NoMark o where
  result : ∀ txt, o ≠ .result txt

theorem SendOrNotify.noMark {o : Out} (h : SendOrNotify o) : NoMarkNoResult o := by
  cases o <;> simp [SendOrNotify, Out.isSend, Out.isNotify] at h <;> exact ⟨⟨nofun, nofun, nofun⟩, nofun⟩

/-- what a handler of the socket's callbacks can make the op output: notifications, sends, and the report of the handler's
exception -/
def HandlerOut (o : Out) : Prop := SendOrNotify o ∨ ∃ c, o = .subscriberExc c

theorem HandlerOut.noMark {o : Out} (h : HandlerOut o) : NoMarkNoResult o := by
  rcases h with h | ⟨c, rfl⟩
  · exact h.noMark
  · exact ⟨⟨nofun, nofun, nofun⟩, nofun⟩

theorem excOut_handlerOut (r : HR) (h : AllOut SendOrNotify r) : ∀ o ∈ excOut r, HandlerOut o := fun o ho =>
  (mem_excOut.1 ho).imp (h o) fun ⟨c, _, e⟩ => ⟨c, e⟩

end PyAirtouch.Lemmas.Api5
