import PyAirtouch.Model.At4.X2A
import PyAirtouch.Lemmas.BitField
/-!
Round trip and length lemmas for the AirTouch 4 group control codec (0x2A).

Byte 2 packs the setting code, the control method and the power (`encSetting_code`, `enum_facts`, read back through
`BitField.fields_3_2_3`); the encoder raises exactly when the group number or the setting value does not fit a byte
(`encode_ok_iff`).  The vendor reading of the same bytes is in `Lemmas/SpecCmd.lean`.
-/
namespace PyAirtouch.Lemmas.At4X2A
open PyAirtouch.Model PyAirtouch.Model.At4.X2A PyAirtouch.Gen.At4.X2AGroupCtrl

theorem encSetting_code (st : GroupSetting) : ∃ k, (encSetting st).1 = k * 32 ∧ k < 8 ∧
    ∀ b2, b2 / 32 % 8 = k → decSetting b2 (encSetting st).2 = st := by
  cases st with
  | incDec v =>
    exact ⟨v.toNat, rfl, by cases v <;> decide, fun b2 h => by simp only [decSetting, h]; cases v <;> rfl⟩
  | damper p => exact ⟨SET_PERCENTAGE, rfl, by decide, fun b2 h => by simp only [decSetting, h]; rfl⟩
  | setPoint sp => exact ⟨SET_SETPOINT, rfl, by decide, fun b2 h => by simp only [decSetting, h]; rfl⟩
  | none => exact ⟨KEEP_SETTING, rfl, by decide, fun b2 h => by simp only [decSetting, h]; rfl⟩

/-- power fits bits 0-2; the control-method mask `(value << 3) & 0x18` loses nothing, the value fits two bits -/
theorem enum_facts (pw : GroupPowerControl) (cm : GroupControlMethod) :
    pw.toNat < 8 ∧ encMethod cm = cm.toNat * 8 ∧ cm.toNat < 4 :=
  ⟨by cases pw <;> decide, by cases cm <;> decide⟩

theorem encB2_lt (m : Msg) : encB2 m < 256 := by
  obtain ⟨k, hk, hk8, _⟩ := encSetting_code m.setting
  obtain ⟨hp, he, hc⟩ := enum_facts m.power m.control_method
  rw [encB2, hk, he]
  exact (BitField.fields_3_2_3 hk8 hc hp).1

theorem encode_ok (m : Msg) (h : WF m) : encode m = .ok (encodeBytes m) := by
  obtain ⟨hg, hs⟩ := h
  have hb := encB2_lt m
  have hv : (encSetting m.setting).2 < 256 := by
    rcases m with ⟨gn, pw, cm, st⟩
    cases st <;> simp_all [encSetting, WFSetting, VALUE_INVALID]
  simp [encode, hg, hb, hv]

theorem encode_error (m : Msg) (h : ¬ WF m) : encode m = .error .structError := by
  have : ¬ (m.group_number < 256 ∧ encB2 m < 256 ∧ (encSetting m.setting).2 < 256) := by
    intro ⟨hg, _, hv⟩
    apply h
    refine ⟨hg, ?_⟩
    rcases m with ⟨gn, pw, cm, st⟩
    cases st <;> simp_all [encSetting, WFSetting]
  simp [encode, this]

theorem encode_ok_iff (m : Msg) : (∃ bs, encode m = .ok bs) ↔ WF m := by
  constructor
  · intro ⟨bs, hbs⟩
    apply Classical.byContradiction
    intro hn
    rw [encode_error m hn] at hbs
    cases hbs
  · intro h
    exact ⟨_, encode_ok m h⟩

theorem encode_length (m : Msg) (bs : Bytes) (h : encode m = .ok bs) : bs.length = size m := by
  unfold encode at h
  split at h
  · cases h; rfl
  · cases h

theorem decode_encodeBytes (m : Msg) (rest : Bytes) (msgLen : Nat) :
    decode (encodeBytes m ++ rest) msgLen = .ok (m, rest) := by
  rcases m with ⟨gn, pw, cm, st⟩
  obtain ⟨k, hk, hk8, hdec⟩ := encSetting_code st
  obtain ⟨hp, he, hc⟩ := enum_facts pw cm
  -- byte 2: setting code (bits 5-7), control method (bits 3-4), power (bits 0-2)
  obtain ⟨_, f3, f2, f1⟩ := BitField.fields_3_2_3 hk8 hc hp
  have hpw : GroupPowerControl.ofNat? pw.toNat = some pw := by cases pw <;> rfl
  have hcm : GroupControlMethod.ofNat? cm.toNat = some cm := by cases cm <;> rfl
  simp only [encodeBytes, encB2, List.cons_append, List.nil_append, decode, hk, he, f1, f2, hpw, hcm, hdec _ f3]

theorem decode_encode (m : Msg) (h : WF m) (rest : Bytes) :
    ∃ bs, encode m = .ok bs ∧ decode (bs ++ rest) (size m) = .ok (m, rest) :=
  ⟨encodeBytes m, encode_ok m h, decode_encodeBytes m rest _⟩

theorem wfSettingBool_iff (s : GroupSetting) : wfSettingBool s = true ↔ WFSetting s := by
  cases s <;> simp [wfSettingBool, WFSetting]

theorem wfBool_iff (m : Msg) : wfBool m = true ↔ WF m := by
  simp [wfBool, WF, wfSettingBool_iff]

end PyAirtouch.Lemmas.At4X2A
