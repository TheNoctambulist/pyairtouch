import PyAirtouch.Lemmas.SpecCmd
import PyAirtouch.Lemmas.Api4Kind
import PyAirtouch.Lemmas.Api5
/-!
# C19: the unified API over AirTouch 4 and AirTouch 5

`Model/Api4.lean` and `Model/Api5.lean` are two independent state machines.  They are related through a common abstract
description of what a console reports.  The guide to the theorems, and the list of differences found, are at the head
of `Props/C19.lean`; here is what the description fixes.

An abstract AC (`AbsAc`: ability, status, the timer record - literally the same type in both models - and the error
text) and an abstract zone (`AbsZone`: status and name) are embedded by `….to4` / `….to5` into the record types of the
two message models.  AirTouch 5: cool limits = heat limits = the one pair, set-points in tenths (`10 * whole degrees`),
`bypass_active = false`, `turbo_active = false`, Intelligent Auto not advertised.  AirTouch 4: `supports_turbo` = the
flag, no group bitmap (the zones of an AC are `start_group … start_group + group_count - 1` as in AirTouch 5).

`….WF` are the side conditions under which a description is *transmittable* in both wire formats: AC number 0 … 3
(AirTouch 4 has four ACs), zone numbers 0 … 15 (sixteen groups), names that fit AirTouch 4's fixed fields (16 / 8 bytes,
no NUL, UTF-8), set-points and limits 10 … 35 °C (AirTouch 5 cannot encode below 10.0 or above 35.5 °C, AirTouch 4 has
six bits of whole degrees), temperatures -50.0 … 154.7 / 150.0 °C, a zone set-point exactly when there is a sensor and a
zone temperature only with a sensor (the status decoders), error code in 16 bits, timer hour / minute in 5 / 6 bits.
Only `AbsAcInfo.WF`, `AbsAcStatus.WF` and `AbsZoneStatus.WF` are used, by the `…_expressible` theorems (the embedded
records lie in the round-trip domain of both codecs); the bundles `AbsAc.WF` with `TimersWF` are stated only,
and `AbsZone.WF` with `ZoneNameWF` is shown of one example zone (`zone_supported_power_states_needs_turbo`).  No
attribute, state or request theorem assumes `WF`, and the well-formedness lemmas for the control messages
(`ac_control_wf`, `ac_set_point_wf`) take the bare bounds.

Not covered: `shutdown`, connection loss / re-connection, the clock, subscriptions and notifications (the relation
`Rel` says nothing about timers, the heartbeat manager or subscriber sets), the quick-timer calls and
`check_for_updates` (same code in both generations).  A console without zones is outside the description as well: both
registries decode its names answer as the *request* object, which AirTouch 5 takes for the answer and AirTouch 4 does
not (its `init()` times out); `AbsMsg.names []` embeds to message objects that no frame delivers.
-/
namespace PyAirtouch.Lemmas.ApiEquiv
open PyAirtouch PyAirtouch.Model PyAirtouch.Gen
open PyAirtouch.Model.TimerCommon (AcTimerState AcTimerStatusData)
open PyAirtouch.Lemmas.SpecCmd
open PyAirtouch.Lemmas.Api4 (mapM_some_rec supportedOf_keys)

/-- the AC modes a status report can carry in both protocols -/
inductive AbsMode
  | AUTO | HEAT | DRY | FAN | COOL | AUTO_HEAT | AUTO_COOL
deriving DecidableEq, Repr

/-- the seven fan speeds both protocols know -/
inductive AbsFan
  | AUTO | QUIET | LOW | MEDIUM | HIGH | POWERFUL | TURBO
deriving DecidableEq, Repr

def AbsMode.to4 : AbsMode → Gen.At4.X2DAcStatus.AcMode
  | .AUTO => .AUTO | .HEAT => .HEAT | .DRY => .DRY | .FAN => .FAN | .COOL => .COOL
  | .AUTO_HEAT => .AUTO_HEAT | .AUTO_COOL => .AUTO_COOL

def AbsMode.to5 : AbsMode → Gen.At5.XC023AcStatus.AcMode
  | .AUTO => .AUTO | .HEAT => .HEAT | .DRY => .DRY | .FAN => .FAN | .COOL => .COOL
  | .AUTO_HEAT => .AUTO_HEAT | .AUTO_COOL => .AUTO_COOL

/-- `selected_mode`: the automatic variants are AUTO -/
def AbsMode.selected : AbsMode → ApiEnums.AcMode
  | .AUTO | .AUTO_HEAT | .AUTO_COOL => .AUTO
  | .HEAT => .HEAT | .DRY => .DRY | .FAN => .FAN | .COOL => .COOL

/-- `active_mode`: the automatic variants name the running mode -/
def AbsMode.active : AbsMode → ApiEnums.AcMode
  | .AUTO => .AUTO | .AUTO_HEAT => .HEAT | .AUTO_COOL => .COOL
  | .HEAT => .HEAT | .DRY => .DRY | .FAN => .FAN | .COOL => .COOL

def AbsFan.to4 : AbsFan → Gen.At4.X2DAcStatus.AcFanSpeed
  | .AUTO => .AUTO | .QUIET => .QUIET | .LOW => .LOW | .MEDIUM => .MEDIUM | .HIGH => .HIGH
  | .POWERFUL => .POWERFUL | .TURBO => .TURBO

def AbsFan.to5 : AbsFan → Gen.At5.XC023AcStatus.AcFanSpeed
  | .AUTO => .AUTO | .QUIET => .QUIET | .LOW => .LOW | .MEDIUM => .MEDIUM | .HIGH => .HIGH
  | .POWERFUL => .POWERFUL | .TURBO => .TURBO

/-- the member of the unified enum -/
def AbsFan.api : AbsFan → ApiEnums.AcFanSpeed
  | .AUTO => .AUTO | .QUIET => .QUIET | .LOW => .LOW | .MEDIUM => .MEDIUM | .HIGH => .HIGH
  | .POWERFUL => .POWERFUL | .TURBO => .TURBO

def AbsFan.all : List AbsFan := [.AUTO, .QUIET, .LOW, .MEDIUM, .HIGH, .POWERFUL, .TURBO]

theorem AbsMode.to4_inj {a b : AbsMode} (h : a.to4 = b.to4) : a = b := by cases a <;> cases b <;> first | rfl | contradiction
theorem AbsMode.to5_inj {a b : AbsMode} (h : a.to5 = b.to5) : a = b := by cases a <;> cases b <;> first | rfl | contradiction
theorem AbsFan.to4_inj {a b : AbsFan} (h : a.to4 = b.to4) : a = b := by cases a <;> cases b <;> first | rfl | contradiction
theorem AbsFan.to5_inj {a b : AbsFan} (h : a.to5 = b.to5) : a = b := by cases a <;> cases b <;> first | rfl | contradiction
theorem AbsFan.api_inj {a b : AbsFan} (h : a.api = b.api) : a = b := by cases a <;> cases b <;> first | rfl | contradiction

/-- what the ability report says about an AC (static) -/
structure AbsAcInfo where
  number : Nat
  name : Bytes
  /-- supported modes: any subset of the five unified modes (membership is what counts) -/
  modes : List ApiEnums.AcMode
  /-- supported fan speeds: any subset of the seven common speeds -/
  fans : List AbsFan
  /-- the one pair of set-point limits, whole degrees -/
  minSetPoint : Nat
  maxSetPoint : Nat
  /-- the zones of this AC: `firstZone … firstZone + zoneCount - 1` -/
  firstZone : Nat
  zoneCount : Nat
deriving DecidableEq, Repr

/-- what an AC status report says -/
structure AbsAcStatus where
  number : Nat
  powerOn : Bool
  mode : AbsMode
  fan : AbsFan
  /-- whole degrees -/
  setPoint : Nat
  /-- tenths of a degree -/
  temperature : Int
  spill : Bool
  timerSet : Bool
  errorCode : Nat
deriving DecidableEq, Repr

structure AbsAc where
  info : AbsAcInfo
  status : AbsAcStatus
  /-- the two quick timers (`ac_number`, `on_timer`, `off_timer`): one type for both generations -/
  timers : AcTimerStatusData
  errText : Option Bytes
deriving DecidableEq, Repr

/-- what a zone (group) status report says -/
structure AbsZoneStatus where
  number : Nat
  power : ApiEnums.ZonePowerState
  method : ApiEnums.ZoneControlMethod
  damper : Nat
  /-- whole degrees; `none` = the protocol's "invalid set-point" code -/
  setPoint : Option Nat
  sensor : Bool
  /-- tenths; `none` = not available -/
  temperature : Option Int
  batteryLow : Bool
  spill : Bool
  /-- turbo supported (AirTouch 4 reports it; AirTouch 5 has no such report) -/
  turbo : Bool
deriving DecidableEq, Repr

structure AbsZone where
  name : Bytes
  status : AbsZoneStatus
deriving DecidableEq, Repr

def AbsAcInfo.to4 (i : AbsAcInfo) : At4.FF11.AcAbility :=
  { ac_number := i.number, ac_name := i.name
    ac_mode_support := [(.AUTO, i.modes.contains .AUTO), (.HEAT, i.modes.contains .HEAT), (.DRY, i.modes.contains .DRY),
      (.FAN, i.modes.contains .FAN), (.COOL, i.modes.contains .COOL), (.UNCHANGED, true)]
    fan_speed_support := [(.AUTO, i.fans.contains .AUTO), (.QUIET, i.fans.contains .QUIET), (.LOW, i.fans.contains .LOW),
      (.MEDIUM, i.fans.contains .MEDIUM), (.HIGH, i.fans.contains .HIGH), (.POWERFUL, i.fans.contains .POWERFUL),
      (.TURBO, i.fans.contains .TURBO), (.UNCHANGED, true)]
    min_set_point := i.minSetPoint, max_set_point := i.maxSetPoint
    groups := none, start_group := i.firstZone, group_count := i.zoneCount }

def AbsAcInfo.to5 (i : AbsAcInfo) : At5.FF11.AcAbility :=
  { ac_number := i.number, ac_name := i.name, start_zone := i.firstZone, zone_count := i.zoneCount
    ac_mode_support := [(.AUTO, i.modes.contains .AUTO), (.HEAT, i.modes.contains .HEAT), (.DRY, i.modes.contains .DRY),
      (.FAN, i.modes.contains .FAN), (.COOL, i.modes.contains .COOL), (.UNCHANGED, true)]
    fan_speed_support := [(.AUTO, i.fans.contains .AUTO), (.QUIET, i.fans.contains .QUIET), (.LOW, i.fans.contains .LOW),
      (.MEDIUM, i.fans.contains .MEDIUM), (.HIGH, i.fans.contains .HIGH), (.POWERFUL, i.fans.contains .POWERFUL),
      (.TURBO, i.fans.contains .TURBO), (.INTELLIGENT_AUTO, false), (.UNCHANGED, true)]
    min_cool_set_point := i.minSetPoint, max_cool_set_point := i.maxSetPoint
    min_heat_set_point := i.minSetPoint, max_heat_set_point := i.maxSetPoint }

def AbsAcStatus.to4 (s : AbsAcStatus) : At4.X2D.AcStatusData :=
  { ac_number := s.number, power_state := if s.powerOn then .ON else .OFF, mode := s.mode.to4, fan_speed := s.fan.to4
    spill_active := s.spill, timer_set := s.timerSet, set_point := s.setPoint, temperature := s.temperature
    error_code := s.errorCode }

def AbsAcStatus.to5 (s : AbsAcStatus) : At5.C023.AcStatusData :=
  { ac_number := s.number, power_state := if s.powerOn then .ON else .OFF, mode := s.mode.to5, fan_speed := s.fan.to5
    turbo_active := false, bypass_active := false, spill_active := s.spill, timer_set := s.timerSet
    set_point := 10 * (s.setPoint : Int), temperature := s.temperature, error_code := s.errorCode }

def zonePower4 : ApiEnums.ZonePowerState → Gen.At4.X2BGroupStatus.GroupPowerState
  | .OFF => .OFF | .ON => .ON | .TURBO => .TURBO
def zonePower5 : ApiEnums.ZonePowerState → Gen.At5.XC021ZoneStatus.ZonePowerState
  | .OFF => .OFF | .ON => .ON | .TURBO => .TURBO
def zoneMethod4 : ApiEnums.ZoneControlMethod → Gen.At4.X2BGroupStatus.GroupControlMethod
  | .DAMPER => .DAMPER | .TEMPERATURE => .TEMPERATURE
def zoneMethod5 : ApiEnums.ZoneControlMethod → Gen.At5.XC021ZoneStatus.ZoneControlMethod
  | .DAMPER => .DAMPER | .TEMPERATURE => .TEMPERATURE

def AbsZoneStatus.to4 (z : AbsZoneStatus) : At4.X2B.GroupStatusData :=
  { group_number := z.number, power_state := zonePower4 z.power, control_method := zoneMethod4 z.method
    spill_active := z.spill, supports_turbo := z.turbo, has_sensor := z.sensor
    battery_status := if z.batteryLow then .LOW else .NORMAL, temperature := z.temperature
    damper_percentage := z.damper, set_point := z.setPoint }

def AbsZoneStatus.to5 (z : AbsZoneStatus) : At5.C021.ZoneStatusData :=
  { zone_number := z.number, power_state := zonePower5 z.power, spill_active := z.spill
    control_method := zoneMethod5 z.method, has_sensor := z.sensor
    battery_status := if z.batteryLow then .LOW else .NORMAL, temperature := z.temperature
    damper_percentage := z.damper, set_point := z.setPoint.map fun (sp : Nat) => 10 * (sp : Int) }

/-- the entry of the names message -/
def AbsZone.nameEntry (z : AbsZone) : Nat × Bytes := (z.status.number, z.name)

theorem AbsAcStatus.to4_inj {a b : AbsAcStatus} (h : a.to4 = b.to4) : a = b := by
  rcases a with ⟨n, p, m, f, sp, t, sl, ts, e⟩
  rcases b with ⟨n', p', m', f', sp', t', sl', ts', e'⟩
  simp only [AbsAcStatus.to4, At4.X2D.AcStatusData.mk.injEq] at h
  obtain ⟨rfl, h2, h3, h4, rfl, rfl, rfl, rfl, rfl⟩ := h
  have hp : p = p' := by cases p <;> cases p' <;> simp_all
  rw [AbsMode.to4_inj h3, AbsFan.to4_inj h4, hp]

theorem AbsAcStatus.to5_inj {a b : AbsAcStatus} (h : a.to5 = b.to5) : a = b := by
  rcases a with ⟨n, p, m, f, sp, t, sl, ts, e⟩
  rcases b with ⟨n', p', m', f', sp', t', sl', ts', e'⟩
  simp only [AbsAcStatus.to5, At5.C023.AcStatusData.mk.injEq] at h
  obtain ⟨rfl, h2, h3, h4, -, -, rfl, rfl, h7, rfl, rfl⟩ := h
  have hp : p = p' := by cases p <;> cases p' <;> simp_all
  have hsp : sp = sp' := by omega
  rw [AbsMode.to5_inj h3, AbsFan.to5_inj h4, hp, hsp]

theorem AbsAcStatus.to4_eq_iff_to5_eq (a b : AbsAcStatus) : a.to4 = b.to4 ↔ a.to5 = b.to5 :=
  ⟨fun h => by rw [AbsAcStatus.to4_inj h], fun h => by rw [AbsAcStatus.to5_inj h]⟩

/-- a name both ability codecs carry (16-byte field, NUL-terminated, UTF-8) -/
def AcNameWF (s : Bytes) : Prop := s.length ≤ 16 ∧ (∀ b ∈ s, b ≠ 0) ∧ utf8Valid s = true ∧ AllBytes s

/-- AC numbers 0 … 3 (AirTouch 4 has four ACs; its control message carries the number in six bits, AirTouch 5 in four);
    limits and set-points within 10 … 35 °C (AirTouch 5 cannot encode less than 10.0 or more than 35.5 °C; AirTouch 4
    has six bits); zones 0 … 15 (AirTouch 4 has sixteen groups) -/
structure AbsAcInfo.WF (i : AbsAcInfo) : Prop where
  number : i.number < 4
  name : AcNameWF i.name
  limits : 10 ≤ i.minSetPoint ∧ i.minSetPoint ≤ i.maxSetPoint ∧ i.maxSetPoint ≤ 35
  zones : i.firstZone + i.zoneCount ≤ 16

structure AbsAcStatus.WF (s : AbsAcStatus) : Prop where
  number : s.number < 4
  setPoint : 10 ≤ s.setPoint ∧ s.setPoint ≤ 35
  temperature : -500 ≤ s.temperature ∧ s.temperature ≤ 1547
  errorCode : s.errorCode < 65536

/-- hour in five bits, minute in six (the wire field of both generations) -/
def TimersWF (t : AcTimerStatusData) : Prop :=
  t.ac_number < 4 ∧ TimerCommon.WFState t.on_timer ∧ TimerCommon.WFState t.off_timer

/-- a zone status both codecs carry: a set-point exactly when there is a sensor (AirTouch 4 decoder), a temperature
    only with a sensor, set-point 10 … 35 °C, temperature -50.0 … 150.0 °C, percentage 0 … 100; `turbo` is *not*
    constrained here (AirTouch 5 simply does not transmit it) -/
structure AbsZoneStatus.WF (z : AbsZoneStatus) : Prop where
  number : z.number < 16
  damper : z.damper ≤ 100
  withSensor : z.sensor = true → ∃ sp, z.setPoint = some sp ∧ 10 ≤ sp ∧ sp ≤ 35
  noSensor : z.sensor = false → z.setPoint = none ∧ z.temperature = none
  temperature : ∀ t, z.temperature = some t → -500 ≤ t ∧ t ≤ 1500

/-- a zone name both names codecs carry (AirTouch 4: 8-byte field, NUL-terminated) -/
def ZoneNameWF (s : Bytes) : Prop := s.length ≤ 8 ∧ (∀ b ∈ s, b ≠ 0) ∧ utf8Valid s = true ∧ AllBytes s

structure AbsAc.WF (a : AbsAc) : Prop where
  info : a.info.WF
  status : a.status.WF
  timers : TimersWF a.timers
  sameNumber : a.status.number = a.info.number ∧ a.timers.ac_number = a.info.number

structure AbsZone.WF (z : AbsZone) : Prop where
  name : ZoneNameWF z.name
  status : z.status.WF

theorem acInfo_expressible (i : AbsAcInfo) (h : i.WF) : At4.FF11.WFRec i.to4 ∧ At5.FF11.WFRec i.to5 := by
  obtain ⟨h1, h2, ⟨h3, h4, h5⟩, h6⟩ := h
  refine ⟨⟨?_, ?_, ?_, ?_, ?_, h2, ⟨rfl, rfl⟩, ⟨rfl, rfl⟩, by intro gs hgs; cases hgs⟩,
    ⟨?_, ?_, ?_, ?_, ?_, ?_, ?_, h2, ⟨rfl, rfl⟩, ⟨rfl, rfl⟩⟩⟩ <;> simp only [AbsAcInfo.to4, AbsAcInfo.to5] <;> omega

theorem acStatus_expressible (s : AbsAcStatus) (h : s.WF) : At4.X2D.WFRec s.to4 ∧ At5.C023.WFRec s.to5 := by
  obtain ⟨h1, ⟨h2, h3⟩, ⟨h4, h5⟩, h6⟩ := h
  refine ⟨⟨?_, ?_, h6, h4, h5⟩, ⟨?_, ?_, ?_, h4, h5, h6⟩⟩ <;> simp only [AbsAcStatus.to4, AbsAcStatus.to5] <;> omega

theorem zoneStatus_expressible (z : AbsZoneStatus) (h : z.WF) : At4.X2B.WFRec z.to4 ∧ At5.C021.WFRec z.to5 := by
  obtain ⟨h1, h2, h3, h4, h5⟩ := h
  refine ⟨⟨by show z.number < 64; omega, by show z.damper < 128; omega, ?_, h4, ?_⟩,
    ⟨by show z.number < 64; omega, by show z.damper < 128; omega, ?_, ?_⟩⟩
  · intro hs
    obtain ⟨sp, e, _, _⟩ := h3 hs
    exact ⟨sp, e, by omega⟩
  · intro t ht
    have := h5 t ht
    omega
  · intro sp hsp
    cases hsen : z.sensor with
    | false =>
      have := (h4 hsen).1
      simp [AbsZoneStatus.to5, this] at hsp
    | true =>
      obtain ⟨sp', e, _, _⟩ := h3 hsen
      simp only [AbsZoneStatus.to5, e, Option.map_some, Option.some.injEq] at hsp
      omega
  · intro t ht
    cases hsen : z.sensor with
    | false =>
      have := (h4 hsen).2
      change z.temperature = some t at ht
      rw [this] at ht; cases ht
    | true => exact ⟨hsen, h5 t ht⟩

/-- `[api for (api, flag) in … if flag]` -/
def pick {α} (l : List (α × Bool)) : List α := (l.filter (·.2)).map (·.1)

/-- `supported_modes`: the supported ones of the five unified modes, in the order of the enum -/
def AbsAcInfo.supportedModes (i : AbsAcInfo) : List ApiEnums.AcMode :=
  pick [(.AUTO, i.modes.contains .AUTO), (.HEAT, i.modes.contains .HEAT), (.DRY, i.modes.contains .DRY),
    (.FAN, i.modes.contains .FAN), (.COOL, i.modes.contains .COOL)]

/-- `supported_fan_speeds`: the supported ones of the seven common speeds, in the order of the enum -/
def AbsAcInfo.supportedFanSpeeds (i : AbsAcInfo) : List ApiEnums.AcFanSpeed :=
  pick [(.AUTO, i.fans.contains .AUTO), (.QUIET, i.fans.contains .QUIET), (.LOW, i.fans.contains .LOW),
    (.MEDIUM, i.fans.contains .MEDIUM), (.HIGH, i.fans.contains .HIGH), (.POWERFUL, i.fans.contains .POWERFUL),
    (.TURBO, i.fans.contains .TURBO)]


theorem mem_pick {α} (l : List (α × Bool)) (a : α) : a ∈ pick l ↔ (a, true) ∈ l := by
  simp [pick]

theorem mem_supportedModes (i : AbsAcInfo) (m : ApiEnums.AcMode) : m ∈ i.supportedModes ↔ m ∈ i.modes := by
  rw [AbsAcInfo.supportedModes, mem_pick, ← List.contains_iff_mem (as := i.modes)]
  cases m <;> simp

theorem mem_supportedFanSpeeds (i : AbsAcInfo) (f : AbsFan) : f.api ∈ i.supportedFanSpeeds ↔ f ∈ i.fans := by
  rw [AbsAcInfo.supportedFanSpeeds, mem_pick, ← List.contains_iff_mem (as := i.fans)]
  cases f <;> simp [AbsFan.api]

theorem intelligentAuto_not_supported (i : AbsAcInfo) : ApiEnums.AcFanSpeed.INTELLIGENT_AUTO ∉ i.supportedFanSpeeds := by
  rw [AbsAcInfo.supportedFanSpeeds, mem_pick]
  simp

def AbsAc.powerState (a : AbsAc) : ApiEnums.AcPowerState := if a.status.powerOn then .ON else .OFF
def AbsAc.selectedMode (a : AbsAc) : ApiEnums.AcMode := a.status.mode.selected
def AbsAc.activeMode (a : AbsAc) : ApiEnums.AcMode := a.status.mode.active
/-- `selected_fan_speed` and `active_fan_speed` (no Intelligent Auto in the common description) -/
def AbsAc.fanSpeed (a : AbsAc) : ApiEnums.AcFanSpeed := a.status.fan.api
/-- tenths -/
def AbsAc.currentTemperature (a : AbsAc) : Int := a.status.temperature
/-- tenths -/
def AbsAc.targetTemperature (a : AbsAc) : Int := 10 * (a.status.setPoint : Int)
def AbsAc.minTargetTemperature (a : AbsAc) : Int := 10 * (a.info.minSetPoint : Int)
def AbsAc.maxTargetTemperature (a : AbsAc) : Int := 10 * (a.info.maxSetPoint : Int)
def AbsAc.spillState (a : AbsAc) : ApiEnums.AcSpillState := if a.status.spill then .SPILL else .NONE
def AbsAc.timerState (a : AbsAc) : ApiEnums.AcTimerType → AcTimerState
  | .OFF_TIMER => a.timers.off_timer
  | .ON_TIMER => a.timers.on_timer
/-- `next_quick_timer`: outer `none` = `ValueError` of `datetime.time(hour, minute)`; `some none` = timer disabled -/
def quickTimer (t : AcTimerState) : Option (Option (Nat × Nat)) :=
  if t.disabled then some none else if t.hour < 24 ∧ t.minute < 60 then some (some (t.hour, t.minute)) else none
def AbsAc.errorInfo (a : AbsAc) : Option (Nat × Option Bytes) :=
  if a.status.errorCode ≠ 0 then some (a.status.errorCode, a.errText) else none

def AbsZone.powerState (z : AbsZone) : ApiEnums.ZonePowerState := z.status.power
def AbsZone.controlMethod (z : AbsZone) : ApiEnums.ZoneControlMethod := z.status.method
def AbsZone.batteryStatus (z : AbsZone) : ApiEnums.SensorBatteryStatus := if z.status.batteryLow then .LOW else .NORMAL
/-- tenths -/
def AbsZone.targetTemperature (z : AbsZone) : Option Int := z.status.setPoint.map fun (sp : Nat) => 10 * (sp : Int)
/-- what AirTouch 4 offers -/
def AbsZone.supportedPowerStates (z : AbsZone) : List ApiEnums.ZonePowerState :=
  [.OFF, .ON] ++ (if z.status.turbo then [.TURBO] else [])

/-- the AirTouch 4 AC object holds the embedded records of `a` (`supportedModes` / `supportedFanSpeeds` are what the
    constructor computes from the embedded ability: `mkAc_embedded`) -/
structure IsAt4Ac (a : AbsAc) (o : Api4.AcObj) : Prop where
  status : o.status = a.status.to4
  timer : o.timer = a.timers
  errInfo : o.errInfo = a.errText
  ability : o.ability = a.info.to4
  modes : o.supportedModes = a.info.supportedModes
  fans : o.supportedFanSpeeds = a.info.supportedFanSpeeds

structure IsAt5Ac (a : AbsAc) (o : Api5.AcObj) : Prop where
  status : o.status = a.status.to5
  timer : o.timer = a.timers
  errInfo : o.errInfo = a.errText
  ability : o.ability = a.info.to5
  modes : o.supportedModes = a.info.supportedModes
  fans : o.supportedFanSpeeds = a.info.supportedFanSpeeds

structure IsAt4Zone (z : AbsZone) (o : Api4.ZoneObj) : Prop where
  name : o.name = z.name
  status : o.status = z.status.to4

structure IsAt5Zone (z : AbsZone) (o : Api5.ZoneObj) : Prop where
  name : o.name = z.name
  status : o.status = z.status.to5

/-- the status `At4AirConditioner.__init__` / `At5AirConditioner.__init__` start with -/
def AbsAcStatus.initial (n : Nat) : AbsAcStatus :=
  { number := n, powerOn := false, mode := .AUTO, fan := .AUTO, setPoint := 0, temperature := 0, spill := false
    timerSet := false, errorCode := 0 }

def AbsAc.initial (i : AbsAcInfo) : AbsAc :=
  { info := i, status := .initial i.number
    timers := { ac_number := i.number, on_timer := ⟨true, 0, 0⟩, off_timer := ⟨true, 0, 0⟩ }, errText := none }

/-- the status `At4Zone.__init__` / `At5Zone.__init__` start with -/
def AbsZone.initial (n : Nat) (name : Bytes) : AbsZone :=
  { name := name
    status := { number := n, power := .OFF, method := .DAMPER, damper := 0, setPoint := none, sensor := false
                temperature := some 0, batteryLow := false, spill := false, turbo := false } }

theorem supported_eq_supportedOf {A C : Type} [BEq C] (items : List (A × C)) (support : List (C × Bool)) :
    Api5.supported items support = Api4.supportedOf items support := by
  unfold Api4.supportedOf
  induction items with
  | nil => rfl
  | cons p ps ih =>
    rw [Api5.supported, ih, List.mapM_cons]
    cases support.lookup p.2 <;> cases ps.mapM (fun p => (support.lookup p.2).map fun b => (p.1, b)) <;> try rfl
    rename_i b l
    cases b <;> rfl

theorem mkAc_embedded (i : AbsAcInfo) (zs : List Nat) :
    ∃ o, Api4.mkAc i.to4 zs = some o ∧ IsAt4Ac (.initial i) o ∧ o.zones = zs ∧ o.subs = [] ∧ o.stateSubs = [] :=
  -- the keys of the embedded support lists are constants, so the look-ups evaluate whatever the flags are
  ⟨_, rfl, ⟨rfl, rfl, rfl, rfl, rfl, rfl⟩, rfl, rfl, rfl⟩

theorem newAc_embedded (i : AbsAcInfo) (zs : List Nat) :
    IsAt5Ac (.initial i) (Api5.newAc i.to5 zs i.supportedModes i.supportedFanSpeeds) :=
  ⟨rfl, rfl, rfl, rfl, rfl, rfl⟩

theorem mkZone_embedded (n : Nat) (name : Bytes) : IsAt4Zone (.initial n name) (Api4.mkZone n name) := ⟨rfl, rfl⟩
theorem newZone_embedded (n : Nat) (name : Bytes) : IsAt5Zone (.initial n name) (Api5.newZone n name) := ⟨rfl, rfl⟩

theorem quickTimer_ok {ε} (t : AcTimerState) (e : ε) :
    (if t.disabled then Except.ok none
      else if t.hour < 24 ∧ t.minute < 60 then .ok (some (t.hour, t.minute)) else .error e) =
      match quickTimer t with
      | some v => .ok v
      | none => .error e := by
  unfold quickTimer
  split
  · rfl
  · split <;> rfl

theorem ac_attributes_at4 {a : AbsAc} {o : Api4.AcObj} (h : IsAt4Ac a o) :
    o.acId = a.status.number ∧ o.ability.ac_name = a.info.name ∧
    o.supportedModes = a.info.supportedModes ∧ o.supportedFanSpeeds = a.info.supportedFanSpeeds ∧
    o.powerState = .ok a.powerState ∧ o.selectedMode = .ok a.selectedMode ∧ o.activeMode = .ok a.activeMode ∧
    o.fanSpeed = .ok a.fanSpeed ∧
    o.status.temperature = a.currentTemperature ∧ 10 * (o.status.set_point : Int) = a.targetTemperature ∧
    10 * (o.ability.min_set_point : Int) = a.minTargetTemperature ∧
    10 * (o.ability.max_set_point : Int) = a.maxTargetTemperature ∧
    o.spillState = a.spillState ∧
    (∀ tt, o.nextQuickTimer tt = match quickTimer (a.timerState tt) with
      | some v => .ok v
      | none => .error .valueError) ∧
    o.errorInfo = a.errorInfo := by
  obtain ⟨hs, ht, he, hab, hm, hf⟩ := h
  cases o; cases hs; cases ht; cases he; cases hab; cases hm; cases hf
  rcases a with ⟨info, ⟨n, p, m, f, sp, t, sl, ts, e⟩, timers, errText⟩
  refine ⟨rfl, rfl, rfl, rfl, by cases p <;> rfl, by cases m <;> rfl, by cases m <;> rfl, by cases f <;> rfl, rfl, rfl,
    rfl, rfl, rfl, fun tt => ?_, rfl⟩
  cases tt <;> exact quickTimer_ok _ _

/-- limits: cool = heat = the pair, so every mode gives the pair; spill state: bypass is never reported -/
theorem ac_attributes_at5 {a : AbsAc} {o : Api5.AcObj} (h : IsAt5Ac a o) :
    o.id = a.status.number ∧ o.ability.ac_name = a.info.name ∧
    o.supportedModes = a.info.supportedModes ∧ o.supportedFanSpeeds = a.info.supportedFanSpeeds ∧
    o.powerState = some a.powerState ∧ o.selectedMode = some a.selectedMode ∧ o.activeMode = some a.activeMode ∧
    o.selectedFanSpeed = some a.fanSpeed ∧ o.activeFanSpeed = some a.fanSpeed ∧
    o.status.temperature = a.currentTemperature ∧ o.status.set_point = a.targetTemperature ∧
    10 * (o.minTarget : Int) = a.minTargetTemperature ∧ 10 * (o.maxTarget : Int) = a.maxTargetTemperature ∧
    o.spillState = a.spillState ∧
    (∀ tt, o.nextQuickTimer tt = match quickTimer (a.timerState tt) with
      | some v => .ok v
      | none => .error "ValueError") ∧
    o.errorInfo = a.errorInfo := by
  obtain ⟨hs, ht, he, hab, hm, hf⟩ := h
  cases o; cases hs; cases ht; cases he; cases hab; cases hm; cases hf
  rcases a with ⟨info, ⟨n, p, m, f, sp, t, sl, ts, e⟩, timers, errText⟩
  refine ⟨rfl, rfl, rfl, rfl, by cases p <;> rfl, by cases m <;> rfl, by cases m <;> rfl, by cases f <;> rfl,
    by cases f <;> rfl, rfl, rfl, ?_, ?_, by cases sl <;> rfl, fun tt => ?_, rfl⟩
  · cases m <;> simp only [Api5.AcObj.minTarget, AbsMode.to5, AbsAc.minTargetTemperature, Nat.min_self]
  · cases m <;> simp only [Api5.AcObj.maxTarget, AbsMode.to5, AbsAc.maxTargetTemperature, Nat.max_self]
  · cases tt <;> exact quickTimer_ok _ _

theorem zone_attributes_at4 {z : AbsZone} {o : Api4.ZoneObj} (h : IsAt4Zone z o) :
    o.zoneId = z.status.number ∧ o.name = z.name ∧ o.supportedPowerStates = z.supportedPowerStates ∧
    o.powerState = .ok z.powerState ∧ o.controlMethod = .ok z.controlMethod ∧ o.batteryStatus = .ok z.batteryStatus ∧
    o.status.has_sensor = z.status.sensor ∧ o.status.temperature = z.status.temperature ∧
    o.status.set_point.map (fun (n : Nat) => 10 * (n : Int)) = z.targetTemperature ∧
    o.status.damper_percentage = z.status.damper ∧ o.status.spill_active = z.status.spill := by
  obtain ⟨hn, hs⟩ := h
  cases o; cases hn; cases hs
  rcases z with ⟨nm, ⟨num, pw, me, dm, sp, sen, tmp, bl, spl, tb⟩⟩
  exact ⟨rfl, rfl, rfl, by cases pw <;> rfl, by cases me <;> rfl, by cases bl <;> rfl, rfl, rfl, rfl, rfl, rfl⟩

theorem zone_attributes_at5 {z : AbsZone} {o : Api5.ZoneObj} (h : IsAt5Zone z o) :
    o.id = z.status.number ∧ o.name = z.name ∧ Api5.supportedZonePowerStates = [.OFF, .ON, .TURBO] ∧
    o.powerState = some z.powerState ∧ o.controlMethod = some z.controlMethod ∧ o.batteryStatus = some z.batteryStatus ∧
    o.status.has_sensor = z.status.sensor ∧ o.status.temperature = z.status.temperature ∧
    o.status.set_point = z.targetTemperature ∧
    o.status.damper_percentage = z.status.damper ∧ o.status.spill_active = z.status.spill := by
  obtain ⟨hn, hs⟩ := h
  cases o; cases hn; cases hs
  rcases z with ⟨nm, ⟨num, pw, me, dm, sp, sen, tmp, bl, spl, tb⟩⟩
  exact ⟨rfl, rfl, rfl, by cases pw <;> rfl, by cases me <;> rfl, by cases bl <;> rfl, rfl, rfl, rfl, rfl, rfl⟩

theorem IsAt5Ac.limits {a : AbsAc} {o : Api5.AcObj} (h : IsAt5Ac a o) :
    o.minTarget = a.info.minSetPoint ∧ o.maxTarget = a.info.maxSetPoint := by
  obtain ⟨-, -, -, -, -, -, -, -, -, -, -, hmin, hmax, -⟩ := ac_attributes_at5 h
  unfold AbsAc.minTargetTemperature at hmin
  unfold AbsAc.maxTargetTemperature at hmax
  omega

theorem IsAt4Zone.supportedPowerStates {z : AbsZone} {o : Api4.ZoneObj} (h : IsAt4Zone z o) :
    o.supportedPowerStates = z.supportedPowerStates := (zone_attributes_at4 h).2.2.1

theorem zone_supported_power_states_iff (z : AbsZone) :
    z.supportedPowerStates = Api5.supportedZonePowerStates ↔ z.status.turbo = true := by
  unfold AbsZone.supportedPowerStates
  cases z.status.turbo <;> decide

/-- an AirTouch 4 group without turbo support: zone 0, off, percentage control, no sensor -/
def exZoneNoTurbo : AbsZone :=
  { name := []
    status := { number := 0, power := .OFF, method := .DAMPER, damper := 0, setPoint := none, sensor := false
                temperature := none, batteryLow := false, spill := false, turbo := false } }

theorem zone_supported_power_states_needs_turbo :
    exZoneNoTurbo.WF ∧ ∀ (o4 : Api4.ZoneObj) (o5 : Api5.ZoneObj), IsAt4Zone exZoneNoTurbo o4 → IsAt5Zone exZoneNoTurbo o5 →
      o4.supportedPowerStates = [.OFF, .ON] ∧ Api5.supportedZonePowerStates = [.OFF, .ON, .TURBO] := by
  refine ⟨⟨⟨by decide, by simp [exZoneNoTurbo], by decide, by simp [exZoneNoTurbo, AllBytes]⟩,
    ⟨by decide, by decide, by simp [exZoneNoTurbo], by simp [exZoneNoTurbo], by simp [exZoneNoTurbo]⟩⟩, ?_⟩
  intro o4 o5 h4 h5
  exact ⟨by rw [h4.supportedPowerStates]; rfl, rfl⟩

/-- what `view_zone` of the harness prints, minus `target_temperature_resolution` -/
structure ZoneView where
  zoneId : Nat
  name : Bytes
  supportedPowerStates : List ApiEnums.ZonePowerState
  powerState : ApiEnums.ZonePowerState
  controlMethod : ApiEnums.ZoneControlMethod
  hasTempSensor : Bool
  sensorBatteryStatus : ApiEnums.SensorBatteryStatus
  /-- tenths -/
  currentTemperature : Option Int
  /-- tenths -/
  targetTemperature : Option Int
  currentDamperPercentage : Nat
  spillActive : Bool
deriving DecidableEq, Repr

/-- what `view_ac` prints, minus `supported_power_controls` and `target_temperature_resolution` -/
structure AcView where
  acId : Nat
  name : Bytes
  supportedModes : List ApiEnums.AcMode
  supportedFanSpeeds : List ApiEnums.AcFanSpeed
  powerState : ApiEnums.AcPowerState
  selectedMode : ApiEnums.AcMode
  activeMode : ApiEnums.AcMode
  selectedFanSpeed : ApiEnums.AcFanSpeed
  activeFanSpeed : ApiEnums.AcFanSpeed
  /-- tenths -/
  currentTemperature : Int
  targetTemperature : Int
  minTargetTemperature : Int
  maxTargetTemperature : Int
  spillState : ApiEnums.AcSpillState
  offTimer : Option (Nat × Nat)
  onTimer : Option (Nat × Nat)
  errorInfo : Option (Nat × Option Bytes)
  zones : List ZoneView
deriving DecidableEq, Repr

/-- what `view_at` prints, minus `model` -/
structure AtView where
  initialised : Bool
  airtouchId : Bytes
  serial : Bytes
  name : Bytes
  host : Bytes
  updateAvailable : Bool
  consoleVersions : List Bytes
  airConditioners : List AcView
deriving DecidableEq, Repr

/-- AirTouch 5 always offers TURBO -/
def ZoneView.allTurbo (v : ZoneView) : ZoneView := { v with supportedPowerStates := [.OFF, .ON, .TURBO] }
def AcView.allTurbo (v : AcView) : AcView := { v with zones := v.zones.map ZoneView.allTurbo }
def AtView.allTurbo (v : AtView) : AtView := { v with airConditioners := v.airConditioners.map AcView.allTurbo }

/-- the projection of an AirTouch 4 zone object: the getters of `Api4.viewZone`, field by field; `none` = a getter raised -/
def zoneView4 (z : Api4.ZoneObj) : Option ZoneView := do
  let ps ← z.powerState.toOption
  let cm ← z.controlMethod.toOption
  let bat ← z.batteryStatus.toOption
  pure { zoneId := z.zoneId, name := z.name, supportedPowerStates := z.supportedPowerStates, powerState := ps
         controlMethod := cm, hasTempSensor := z.status.has_sensor, sensorBatteryStatus := bat
         currentTemperature := z.status.temperature
         targetTemperature := z.status.set_point.map fun (n : Nat) => 10 * (n : Int)
         currentDamperPercentage := z.status.damper_percentage, spillActive := z.status.spill_active }

/-- the projection of an AirTouch 5 zone object: the getters of `Api5.viewZone` -/
def zoneView5 (z : Api5.ZoneObj) : Option ZoneView := do
  let ps ← z.powerState
  let cm ← z.controlMethod
  let bat ← z.batteryStatus
  pure { zoneId := z.id, name := z.name, supportedPowerStates := Api5.supportedZonePowerStates, powerState := ps
         controlMethod := cm, hasTempSensor := z.status.has_sensor, sensorBatteryStatus := bat
         currentTemperature := z.status.temperature, targetTemperature := z.status.set_point
         currentDamperPercentage := z.status.damper_percentage, spillActive := z.status.spill_active }

/-- the AC's own attributes (AirTouch 4), given the views of its zones -/
def acView4Core (a : Api4.AcObj) (zs : List ZoneView) : Option AcView := do
  let ps ← a.powerState.toOption
  let sm ← a.selectedMode.toOption
  let am ← a.activeMode.toOption
  let fs ← a.fanSpeed.toOption
  let offT ← (a.nextQuickTimer .OFF_TIMER).toOption
  let onT ← (a.nextQuickTimer .ON_TIMER).toOption
  pure { acId := a.acId, name := a.ability.ac_name, supportedModes := a.supportedModes
         supportedFanSpeeds := a.supportedFanSpeeds, powerState := ps, selectedMode := sm, activeMode := am
         selectedFanSpeed := fs, activeFanSpeed := fs, currentTemperature := a.status.temperature
         targetTemperature := 10 * (a.status.set_point : Int)
         minTargetTemperature := 10 * (a.ability.min_set_point : Int)
         maxTargetTemperature := 10 * (a.ability.max_set_point : Int)
         spillState := a.spillState, offTimer := offT, onTimer := onT, errorInfo := a.errorInfo, zones := zs }

/-- as `Api4.viewAc`: the zones are the objects the references resolve to -/
def acView4 (zoneObjs : List Api4.ZoneObj) (a : Api4.AcObj) : Option AcView := do
  let zs ← (a.zones.filterMap (zoneObjs[·]?)).mapM zoneView4
  acView4Core a zs

def acView5Core (a : Api5.AcObj) (zs : List ZoneView) : Option AcView := do
  let ps ← a.powerState
  let sm ← a.selectedMode
  let am ← a.activeMode
  let sf ← a.selectedFanSpeed
  let af ← a.activeFanSpeed
  let offT ← (a.nextQuickTimer .OFF_TIMER).toOption
  let onT ← (a.nextQuickTimer .ON_TIMER).toOption
  pure { acId := a.id, name := a.ability.ac_name, supportedModes := a.supportedModes
         supportedFanSpeeds := a.supportedFanSpeeds, powerState := ps, selectedMode := sm, activeMode := am
         selectedFanSpeed := sf, activeFanSpeed := af, currentTemperature := a.status.temperature
         targetTemperature := a.status.set_point
         minTargetTemperature := 10 * (a.minTarget : Int), maxTargetTemperature := 10 * (a.maxTarget : Int)
         spillState := a.spillState, offTimer := offT, onTimer := onT, errorInfo := a.errorInfo, zones := zs }

/-- as `Api5.viewAc`: a dangling zone reference is an error -/
def acView5 (zobjs : List Api5.ZoneObj) (a : Api5.AcObj) : Option AcView := do
  let zs ← a.zones.mapM fun r => (zobjs[r]?).bind zoneView5
  acView5Core a zs

def atView4 (s : Api4.State) : Option AtView := do
  let acs ← s.airConditioners.mapM (acView4 s.zoneObjs)
  pure { initialised := s.initialised, airtouchId := s.airtouchId, serial := s.serial, name := s.name, host := s.host
         updateAvailable := s.version.update_available, consoleVersions := s.version.versions, airConditioners := acs }

def atView5 (s : Api5.State) : Option AtView := do
  let acs ← s.airConditioners.mapM (acView5 s.zobjs)
  pure { initialised := s.initialised, airtouchId := s.airtouchId, serial := s.serial, name := s.name, host := s.host
         updateAvailable := s.consoleVersion.update_available, consoleVersions := s.consoleVersion.versions
         airConditioners := acs }

/-- the abstract view of a zone (AirTouch 4 side: `supported_power_states` follows the flag) -/
def AbsZone.view (z : AbsZone) : ZoneView :=
  { zoneId := z.status.number, name := z.name, supportedPowerStates := z.supportedPowerStates
    powerState := z.powerState, controlMethod := z.controlMethod, hasTempSensor := z.status.sensor
    sensorBatteryStatus := z.batteryStatus, currentTemperature := z.status.temperature
    targetTemperature := z.targetTemperature, currentDamperPercentage := z.status.damper
    spillActive := z.status.spill }

/-- the abstract view of an AC, given the views of its zones; `none` = a quick timer outside 0..23 h / 0..59 min -/
def AbsAc.view (a : AbsAc) (zs : List ZoneView) : Option AcView := do
  let offT ← quickTimer a.timers.off_timer
  let onT ← quickTimer a.timers.on_timer
  pure { acId := a.status.number, name := a.info.name, supportedModes := a.info.supportedModes
         supportedFanSpeeds := a.info.supportedFanSpeeds, powerState := a.powerState, selectedMode := a.selectedMode
         activeMode := a.activeMode, selectedFanSpeed := a.fanSpeed, activeFanSpeed := a.fanSpeed
         currentTemperature := a.currentTemperature, targetTemperature := a.targetTemperature
         minTargetTemperature := a.minTargetTemperature, maxTargetTemperature := a.maxTargetTemperature
         spillState := a.spillState, offTimer := offT, onTimer := onT, errorInfo := a.errorInfo, zones := zs }

theorem zoneView4_embedded {z : AbsZone} {o : Api4.ZoneObj} (h : IsAt4Zone z o) : zoneView4 o = some z.view := by
  simp only [zoneView4, zone_attributes_at4 h, Except.toOption, Option.bind_eq_bind, Option.bind_some, Option.pure_def,
    AbsZone.view]

theorem zoneView5_embedded {z : AbsZone} {o : Api5.ZoneObj} (h : IsAt5Zone z o) :
    zoneView5 o = some z.view.allTurbo := by
  simp only [zoneView5, zone_attributes_at5 h, Option.bind_eq_bind, Option.bind_some, Option.pure_def, AbsZone.view,
    ZoneView.allTurbo]

theorem acView4Core_embedded {a : AbsAc} {o : Api4.AcObj} (h : IsAt4Ac a o) (zs : List ZoneView) :
    acView4Core o zs = a.view zs := by
  simp only [acView4Core, AbsAc.view, ac_attributes_at4 h, AbsAc.timerState, Except.toOption, Option.bind_eq_bind,
    Option.bind_some, Option.pure_def]
  cases quickTimer a.timers.off_timer <;> cases quickTimer a.timers.on_timer <;> rfl

theorem acView5Core_embedded {a : AbsAc} {o : Api5.AcObj} (h : IsAt5Ac a o) (zs : List ZoneView) :
    acView5Core o zs = a.view zs := by
  simp only [acView5Core, AbsAc.view, ac_attributes_at5 h, AbsAc.timerState, Except.toOption, Option.bind_eq_bind,
    Option.bind_some, Option.pure_def]
  cases quickTimer a.timers.off_timer <;> cases quickTimer a.timers.on_timer <;> rfl

theorem zone_attributes_equal {z : AbsZone} {o4 : Api4.ZoneObj} {o5 : Api5.ZoneObj} (h4 : IsAt4Zone z o4)
    (h5 : IsAt5Zone z o5) :
    zoneView5 o5 = (zoneView4 o4).map ZoneView.allTurbo ∧ (z.status.turbo = true → zoneView4 o4 = zoneView5 o5) := by
  rw [zoneView4_embedded h4, zoneView5_embedded h5]
  refine ⟨rfl, ?_⟩
  intro ht
  simp only [ZoneView.allTurbo, AbsZone.view, AbsZone.supportedPowerStates, ht]
  rfl

theorem ac_attributes_equal {a : AbsAc} {o4 : Api4.AcObj} {o5 : Api5.AcObj} (h4 : IsAt4Ac a o4) (h5 : IsAt5Ac a o5)
    (zs : List ZoneView) : acView4Core o4 zs = acView5Core o5 zs := by
  rw [acView4Core_embedded h4, acView5Core_embedded h5]

/-! ### the VIEW text of either model is a rendering of the projection

`renderZone` / `renderAc` / `renderAt` are one set of printing functions, parameterised by exactly the three attributes
left out of the projection (resolution, supported power controls, model).  The models' `viewZone` / `viewAc` / `viewAt`
print `render… (projection)`; hence equal projections mean equal VIEW text up to those three attributes. -/

def renderZone (res : Int) (v : ZoneView) : String :=
  "Zone(" ++ ",".intercalate [
    "zone_id=" ++ cNat v.zoneId, "name=" ++ cStr v.name,
    "supported_power_states=" ++ cList ApiEnums.ZonePowerState.name v.supportedPowerStates,
    "power_state=" ++ v.powerState.name, "control_method=" ++ v.controlMethod.name,
    "has_temp_sensor=" ++ cBool v.hasTempSensor, "sensor_battery_status=" ++ v.sensorBatteryStatus.name,
    "current_temperature=" ++ cOpt cTenths v.currentTemperature,
    "target_temperature=" ++ cOpt cTenths v.targetTemperature,
    "target_temperature_resolution=" ++ cTenths res,
    "current_damper_percentage=" ++ cNat v.currentDamperPercentage,
    "spill_active=" ++ cBool v.spillActive] ++ ")"

def renderAc (res : Int) (pcs : List ApiEnums.AcPowerControl) (v : AcView) : String :=
  "AC(" ++ ",".intercalate [
    "ac_id=" ++ cNat v.acId, "name=" ++ cStr v.name,
    "supported_power_controls=" ++ cList ApiEnums.AcPowerControl.name pcs,
    "supported_modes=" ++ cList ApiEnums.AcMode.name v.supportedModes,
    "supported_fan_speeds=" ++ cList ApiEnums.AcFanSpeed.name v.supportedFanSpeeds,
    "power_state=" ++ v.powerState.name, "selected_mode=" ++ v.selectedMode.name, "active_mode=" ++ v.activeMode.name,
    "selected_fan_speed=" ++ v.selectedFanSpeed.name, "active_fan_speed=" ++ v.activeFanSpeed.name,
    "current_temperature=" ++ cTenths v.currentTemperature,
    "target_temperature=" ++ cTenths v.targetTemperature,
    "target_temperature_resolution=" ++ cTenths res,
    "min_target_temperature=" ++ cTenths v.minTargetTemperature,
    "max_target_temperature=" ++ cTenths v.maxTargetTemperature,
    "spill_state=" ++ v.spillState.name,
    "off_timer=" ++ Api4.viewTimer v.offTimer, "on_timer=" ++ Api4.viewTimer v.onTimer,
    "error_info=" ++ Api4.viewErr v.errorInfo,
    "zones=[" ++ ",".intercalate (v.zones.map (renderZone res)) ++ "]"] ++ ")"

def renderAt (model : ApiEnums.AirTouchModel) (res : Int) (pcs : List ApiEnums.AcPowerControl) (v : AtView) : String :=
  "AirTouch(" ++ ",".intercalate [
    "initialised=" ++ cBool v.initialised, "airtouch_id=" ++ cStr v.airtouchId, "serial=" ++ cStr v.serial,
    "name=" ++ cStr v.name, "host=" ++ cStr v.host, "model=" ++ model.name,
    "update_available=" ++ cBool v.updateAvailable,
    "console_versions=" ++ cList cStr v.consoleVersions,
    "air_conditioners=[" ++ ",".intercalate (v.airConditioners.map (renderAc res pcs)) ++ "]"] ++ ")"

theorem mapM_ok_of_some {α β γ ε} {f : α → Option β} {g : α → Except ε γ} {r : β → γ}
    (hfg : ∀ a b, f a = some b → g a = .ok (r b)) (l : List α) (vs : List β) (h : l.mapM f = some vs) :
    l.mapM g = .ok (vs.map r) :=
  mapM_some_rec (P := fun l vs => l.mapM g = .ok (vs.map r)) rfl
    (fun a b l vs hb ih => by rw [List.mapM_cons, hfg a b hb, ih]; rfl) l vs h

theorem toOption_eq_some {ε α} {e : Except ε α} {a : α} (h : e.toOption = some a) : e = .ok a := by
  cases e with
  | error _ => cases h
  | ok _ => cases h; rfl

theorem viewZone4_render (z : Api4.ZoneObj) (v : ZoneView) (h : zoneView4 z = some v) :
    Api4.viewZone z = .ok (renderZone Api4.TARGET_TEMPERATURE_RESOLUTION_tenths v) := by
  simp only [zoneView4, Option.bind_eq_bind, Option.pure_def, Option.bind_eq_some_iff, Option.some.injEq] at h
  obtain ⟨ps, h1, cm, h2, bat, h3, rfl⟩ := h
  simp only [Api4.viewZone, toOption_eq_some h1, toOption_eq_some h2, toOption_eq_some h3, bind, Except.bind, pure,
    Except.pure, renderZone]
  cases z.status.set_point <;> rfl

theorem viewZone5_render (z : Api5.ZoneObj) (v : ZoneView) (h : zoneView5 z = some v) :
    Api5.viewZone z = some (renderZone Api5.TARGET_TEMPERATURE_RESOLUTION_tenths v) := by
  simp only [zoneView5, Option.bind_eq_bind, Option.pure_def, Option.bind_eq_some_iff, Option.some.injEq] at h
  obtain ⟨ps, h1, cm, h2, bat, h3, rfl⟩ := h
  simp only [Api5.viewZone, h1, h2, h3, Option.bind_eq_bind, Option.bind_some, Option.pure_def, renderZone]
  cases z.status.set_point <;> cases z.status.temperature <;> rfl

theorem viewAc4_render (zoneObjs : List Api4.ZoneObj) (a : Api4.AcObj) (v : AcView) (h : acView4 zoneObjs a = some v) :
    Api4.viewAc zoneObjs a = .ok (renderAc Api4.TARGET_TEMPERATURE_RESOLUTION_tenths Api4.supportedPowerControls v) := by
  simp only [acView4, acView4Core, Option.bind_eq_bind, Option.pure_def, Option.bind_eq_some_iff, Option.some.injEq] at h
  obtain ⟨zs, hz, ps, h1, sm, h2, am, h3, fs, h4, offT, h5, onT, h6, rfl⟩ := h
  simp only [Api4.viewAc, toOption_eq_some h1, toOption_eq_some h2, toOption_eq_some h3, toOption_eq_some h4,
    toOption_eq_some h5, toOption_eq_some h6, mapM_ok_of_some viewZone4_render _ _ hz, bind, Except.bind, pure,
    Except.pure, renderAc]

theorem viewAt4_render (s : Api4.State) (v : AtView) (h : atView4 s = some v) :
    Api4.viewAt s = .ok (renderAt .AIRTOUCH_4 Api4.TARGET_TEMPERATURE_RESOLUTION_tenths Api4.supportedPowerControls v) := by
  simp only [atView4, Option.bind_eq_bind, Option.pure_def, Option.bind_eq_some_iff, Option.some.injEq] at h
  obtain ⟨acs, hacs, rfl⟩ := h
  simp only [Api4.viewAt, mapM_ok_of_some (viewAc4_render s.zoneObjs) _ _ hacs, bind, Except.bind, pure, Except.pure,
    renderAt]

theorem optKey_some {α} (x : α) : Api5.optKey (some x) = .ok x := rfl

theorem viewAc5_render (zobjs : List Api5.ZoneObj) (a : Api5.AcObj) (v : AcView) (h : acView5 zobjs a = some v) :
    Api5.viewAc zobjs a = .ok (renderAc Api5.TARGET_TEMPERATURE_RESOLUTION_tenths Api5.supportedPowerControls v) := by
  simp only [acView5, acView5Core, Option.bind_eq_bind, Option.pure_def, Option.bind_eq_some_iff, Option.some.injEq] at h
  obtain ⟨zs, hz, ps, h1, sm, h2, am, h3, sf, h4, af, h4', offT, h5, onT, h6, rfl⟩ := h
  have ht : ∀ (x : Option (Nat × Nat)) tt, (a.nextQuickTimer tt).toOption = some x →
      Api5.viewTimer a tt = .ok (Api4.viewTimer x) := by
    intro x tt hx
    simp only [Api5.viewTimer, toOption_eq_some hx]
    rcases x with _ | ⟨hh, mm⟩ <;> rfl
  have hzs := mapM_ok_of_some (g := fun r => match zobjs[r]? with
      | some z => Api5.optKey (Api5.viewZone z)
      | none => .error "KeyError") (r := renderZone Api5.TARGET_TEMPERATURE_RESOLUTION_tenths)
    (fun r v hv => by
      cases hr : zobjs[r]? with
      | none => rw [hr] at hv; cases hv
      | some z => rw [hr] at hv; simp only [viewZone5_render z v hv, optKey_some]) _ _ hz
  simp only [Api5.viewAc, h1, h2, h3, h4, h4', ht _ _ h5, ht _ _ h6, optKey_some, bind, Except.bind, pure, Except.pure,
    renderAc]
  generalize hmap : List.mapM (m := Except String) (β := String) _ a.zones = res
  have hres : res = .ok (zs.map (renderZone Api5.TARGET_TEMPERATURE_RESOLUTION_tenths)) := by rw [← hmap]; exact hzs
  subst hres
  rcases a.errorInfo with _ | ⟨c, d⟩ <;> rfl

theorem viewAt5_render (s : Api5.State) (v : AtView) (h : atView5 s = some v) :
    Api5.viewAt s = .ok (renderAt Api5.MODEL Api5.TARGET_TEMPERATURE_RESOLUTION_tenths Api5.supportedPowerControls v) := by
  simp only [atView5, Option.bind_eq_bind, Option.pure_def, Option.bind_eq_some_iff, Option.some.injEq] at h
  obtain ⟨acs, hacs, rfl⟩ := h
  simp only [Api5.viewAt, mapM_ok_of_some (viewAc5_render s.zobjs) _ _ hacs, bind, Except.bind, pure, Except.pure,
    renderAt]

/-! ## related states

The two models keep the same kind of object heap (append-only lists of zone / AC objects, dictionaries
*number ↦ heap index* in Python insertion order).  `HeapRel` relates an AirTouch 4 state and an AirTouch 5 state
index by index: equal dictionaries, and objects at equal indices hold the two embeddings of one abstract entity. -/

def ListRel {α β} (R : α → β → Prop) (l4 : List α) (l5 : List β) : Prop :=
  l4.length = l5.length ∧ ∀ (i : Nat) a b, l4[i]? = some a → l5[i]? = some b → R a b

theorem ListRel.nil {α β} (R : α → β → Prop) : ListRel R [] [] := ⟨rfl, by intro i a b h; simp at h⟩

variable {α β} {R : α → β → Prop} {l4 : List α} {l5 : List β}

theorem ListRel.get (h : ListRel R l4 l5) (i : Nat) :
    (l4[i]? = none ∧ l5[i]? = none) ∨ ∃ a b, l4[i]? = some a ∧ l5[i]? = some b ∧ R a b := by
  by_cases hi : i < l4.length
  · have hi5 : i < l5.length := h.1 ▸ hi
    exact .inr ⟨l4[i], l5[i], List.getElem?_eq_getElem hi, List.getElem?_eq_getElem hi5,
      h.2 i _ _ (List.getElem?_eq_getElem hi) (List.getElem?_eq_getElem hi5)⟩
  · have hi5 : ¬ i < l5.length := h.1 ▸ hi
    exact .inl ⟨List.getElem?_eq_none (Nat.le_of_not_lt hi), List.getElem?_eq_none (Nat.le_of_not_lt hi5)⟩

theorem ListRel.set (h : ListRel R l4 l5) (i : Nat) (a : α) (b : β)
    (hab : R a b) : ListRel R (l4.set i a) (l5.set i b) := by
  refine ⟨by simp [h.1], ?_⟩
  intro j x y hx hy
  rw [List.getElem?_set] at hx hy
  by_cases hij : i = j
  · simp only [hij, ↓reduceIte] at hx hy
    split at hx
    · split at hy
      · cases hx; cases hy; exact hab
      · cases hy
    · cases hx
  · simp only [hij, ↓reduceIte] at hx hy
    exact h.2 j x y hx hy

theorem ListRel.push (h : ListRel R l4 l5) (a : α) (b : β)
    (hab : R a b) : ListRel R (l4 ++ [a]) (l5 ++ [b]) := by
  refine ⟨by simp [h.1], ?_⟩
  intro j x y hx hy
  by_cases hj : j < l4.length
  · rw [List.getElem?_append_left hj] at hx
    rw [List.getElem?_append_left (h.1 ▸ hj)] at hy
    exact h.2 j x y hx hy
  · have hj' : l4.length ≤ j := Nat.le_of_not_lt hj
    rw [List.getElem?_append_right hj'] at hx
    rw [List.getElem?_append_right (h.1 ▸ hj')] at hy
    rw [← h.1] at hy
    cases hk : j - l4.length with
    | zero => simp [hk] at hx hy; subst hx; subst hy; exact hab
    | succ k => simp [hk] at hx

theorem ListRel.mono {α β} {R S : α → β → Prop} {l4 : List α} {l5 : List β} (h : ListRel R l4 l5)
    (hRS : ∀ a b, R a b → S a b) : ListRel S l4 l5 :=
  ⟨h.1, fun i a b ha hb => hRS a b (h.2 i a b ha hb)⟩

/-- the heap update both models perform for one status record: the object the dictionary names under `k` becomes
    `f` of itself (`f` answers `none` when the record changes nothing) -/
def updAt {α} (d : List (Nat × Nat)) (l : List α) (k : Nat) (f : α → Option α) : List α :=
  match d.lookup k with
  | none => l
  | some i =>
    match l[i]? with
    | none => l
    | some a =>
      match f a with
      | none => l
      | some a' => l.set i a'

theorem set_of_getElem? {α} {l : List α} {i : Nat} {a : α} (h : l[i]? = some a) : l.set i a = l := by
  obtain ⟨hi, rfl⟩ := List.getElem?_eq_some_iff.mp h
  exact List.set_getElem_self hi

theorem updAt_eq_set {α} (d : List (Nat × Nat)) (l : List α) (k : Nat) (f : α → Option α) :
    updAt d l k f = match d.lookup k with
      | none => l
      | some i =>
        match l[i]? with
        | none => l
        | some a => l.set i ((f a).getD a) := by
  unfold updAt
  cases d.lookup k with
  | none => rfl
  | some i =>
    dsimp only
    cases hi : l[i]? with
    | none => rfl
    | some a =>
      dsimp only
      cases f a with
      | none => exact (set_of_getElem? hi).symm
      | some a' => rfl

theorem updAt_length {α} (d : List (Nat × Nat)) (l : List α) (k : Nat) (f : α → Option α) :
    (updAt d l k f).length = l.length := by
  rw [updAt_eq_set]
  split
  · rfl
  · split <;> simp

/-- `updAt` on related lists with step functions that keep related objects related - also when only one side
    considers the record a change.  Two dictionaries, equal by `hd`: the callers' two states name theirs differently
    (`s4.acDict` / `s5.acs`) and `HeapRel` gives the equation. -/
theorem ListRel.updAt (h : ListRel R l4 l5) {d d5 : List (Nat × Nat)}
    (hd : d = d5) (k : Nat) (f4 : α → Option α) (f5 : β → Option β)
    (hf : ∀ a b, R a b → R ((f4 a).getD a) ((f5 b).getD b)) :
    ListRel R (updAt d l4 k f4) (updAt d5 l5 k f5) := by
  subst hd
  rw [updAt_eq_set, updAt_eq_set]
  cases d.lookup k with
  | none => exact h
  | some i =>
    rcases h.get i with ⟨h4, h5⟩ | ⟨a, b, h4, h5, hab⟩
    · simp only [h4, h5]; exact h
    · simp only [h4, h5]; exact h.set i _ _ (hf a b hab)

/-- the two zone objects hold the two embeddings of one abstract zone -/
def ZoneRel (z4 : Api4.ZoneObj) (z5 : Api5.ZoneObj) : Prop := ∃ z : AbsZone, IsAt4Zone z z4 ∧ IsAt5Zone z z5

/-- the two AC objects hold the two embeddings of one abstract AC, and refer to the same zone objects (heap indices
    below `n`) -/
def AcRel (n : Nat) (a4 : Api4.AcObj) (a5 : Api5.AcObj) : Prop :=
  (∃ a : AbsAc, IsAt4Ac a a4 ∧ IsAt5Ac a a5) ∧ a4.zones = a5.zones ∧ ∀ r ∈ a4.zones, r < n

structure HeapRel (s4 : Api4.State) (s5 : Api5.State) : Prop where
  zoneDict : s4.zoneDict = s5.zones
  acDict : s4.acDict = s5.acs
  zones : ListRel ZoneRel s4.zoneObjs s5.zobjs
  acs : ListRel (AcRel s4.zoneObjs.length) s4.acObjs s5.aobjs
  zoneRefs : ∀ p ∈ s4.zoneDict, p.2 < s4.zoneObjs.length

/-- the states of the two handshake machines (`GROUP` ↔ `ZONE`) -/
def stCorr : Api4.AState → Api5.AirTouchState
  | .CLOSED => .CLOSED | .CONNECTING => .CONNECTING | .INIT_VERSION => .INIT_VERSION
  | .INIT_GROUP_NAMES => .INIT_ZONE_NAMES | .INIT_AC_ABILITY => .INIT_AC_ABILITY | .INIT_AC_STATUS => .INIT_AC_STATUS
  | .INIT_AC_TIMER_STATUS => .INIT_AC_TIMER_STATUS | .INIT_GROUP_STATUS => .INIT_ZONE_STATUS | .CONNECTED => .CONNECTED

/-- the scalar fields of a state the relation looks at -/
structure Scalars where
  subscribed : Bool
  sockOpen : Bool
  initialised : Bool
  updateAvailable : Bool
  versions : List Bytes
  airtouchId : Bytes
  serial : Bytes
  name : Bytes
  host : Bytes
deriving DecidableEq, Repr

def scalars4 (s : Api4.State) : Scalars :=
  { subscribed := s.subscribed, sockOpen := s.sockOpen, initialised := s.initialised
    updateAvailable := s.version.update_available, versions := s.version.versions, airtouchId := s.airtouchId
    serial := s.serial, name := s.name, host := s.host }

def scalars5 (s : Api5.State) : Scalars :=
  { subscribed := s.sockSubscribed, sockOpen := s.sockOpen, initialised := s.initialised
    updateAvailable := s.consoleVersion.update_available, versions := s.consoleVersion.versions
    airtouchId := s.airtouchId, serial := s.serial, name := s.name, host := s.host }

/-- **related states**: related heaps, corresponding handshake states, both sockets open, equal identification /
    console version / initialised flag / "callbacks registered" flag.  Nothing is said about timers, the heartbeat,
    subscribers. -/
structure Rel (s4 : Api4.State) (s5 : Api5.State) : Prop where
  heap : HeapRel s4 s5
  st : s5.st = stCorr s4.st
  scalars : scalars4 s4 = scalars5 s5
  isOpen : s4.sockOpen = true

theorem Rel.subscribed {s4 s5} (h : Rel s4 s5) : s4.subscribed = s5.sockSubscribed := congrArg Scalars.subscribed h.scalars
theorem Rel.sockOpen_eq {s4 s5} (h : Rel s4 s5) : s4.sockOpen = s5.sockOpen := congrArg Scalars.sockOpen h.scalars
theorem Rel.open5 {s4 s5} (h : Rel s4 s5) : s5.sockOpen = true :=
  (congrArg Scalars.sockOpen h.scalars).symm.trans h.isOpen
theorem Rel.initialised {s4 s5} (h : Rel s4 s5) : s4.initialised = s5.initialised :=
  congrArg Scalars.initialised h.scalars
theorem Rel.updateAvailable {s4 s5} (h : Rel s4 s5) :
    s4.version.update_available = s5.consoleVersion.update_available := congrArg Scalars.updateAvailable h.scalars
theorem Rel.versions {s4 s5} (h : Rel s4 s5) : s4.version.versions = s5.consoleVersion.versions :=
  congrArg Scalars.versions h.scalars
theorem Rel.airtouchId {s4 s5} (h : Rel s4 s5) : s4.airtouchId = s5.airtouchId := congrArg Scalars.airtouchId h.scalars
theorem Rel.serial {s4 s5} (h : Rel s4 s5) : s4.serial = s5.serial := congrArg Scalars.serial h.scalars
theorem Rel.name {s4 s5} (h : Rel s4 s5) : s4.name = s5.name := congrArg Scalars.name h.scalars
theorem Rel.host {s4 s5} (h : Rel s4 s5) : s4.host = s5.host := congrArg Scalars.host h.scalars

theorem mapM_map_opt {α β γ} (f : α → Option β) (g : β → γ) (l : List α) :
    l.mapM (fun x => (f x).map g) = (l.mapM f).map (List.map g) := by
  induction l with
  | nil => rfl
  | cons x xs ih =>
    rw [List.mapM_cons, List.mapM_cons, ih]
    cases f x <;> cases xs.mapM f <;> rfl

theorem AbsAc.view_allTurbo (a : AbsAc) (zs : List ZoneView) :
    (a.view zs).map AcView.allTurbo = a.view (zs.map ZoneView.allTurbo) := by
  simp only [AbsAc.view, Option.bind_eq_bind, Option.pure_def]
  cases quickTimer a.timers.off_timer <;> cases quickTimer a.timers.on_timer <;> rfl

theorem zones_view_rel {zs4 : List Api4.ZoneObj} {zs5 : List Api5.ZoneObj} (h : ListRel ZoneRel zs4 zs5) (rs : List Nat)
    (hrs : ∀ r ∈ rs, r < zs4.length) :
    rs.mapM (fun r => (zs5[r]?).bind zoneView5) =
      ((rs.filterMap (zs4[·]?)).mapM zoneView4).map (List.map ZoneView.allTurbo) := by
  induction rs with
  | nil => rfl
  | cons r rs ih =>
    have hr : r < zs4.length := hrs r (by simp)
    rcases h.get r with ⟨h4, _⟩ | ⟨z4, z5, h4, h5, ⟨z, hz4, hz5⟩⟩
    · rw [List.getElem?_eq_getElem hr] at h4; cases h4
    · rw [List.mapM_cons, ih (fun r' hr' => hrs r' (by simp [hr'])), List.filterMap_cons, h4]
      simp only [h5, Option.bind_some, List.mapM_cons, zoneView4_embedded hz4, zoneView5_embedded hz5, Option.bind_eq_bind,
        Option.pure_def]
      cases ((rs.filterMap (zs4[·]?)).mapM zoneView4) <;> rfl

theorem acView_rel {zs4 : List Api4.ZoneObj} {zs5 : List Api5.ZoneObj} (h : ListRel ZoneRel zs4 zs5) {a4 : Api4.AcObj}
    {a5 : Api5.AcObj} (ha : AcRel zs4.length a4 a5) : acView5 zs5 a5 = (acView4 zs4 a4).map AcView.allTurbo := by
  obtain ⟨⟨a, h4, h5⟩, hz, hb⟩ := ha
  simp only [acView5, acView4, ← hz, zones_view_rel h a4.zones hb, Option.bind_eq_bind]
  cases ((a4.zones.filterMap (zs4[·]?)).mapM zoneView4) with
  | none => rfl
  | some zs =>
    simp only [Option.map_some, Option.bind_some, acView4Core_embedded h4, acView5Core_embedded h5, AbsAc.view_allTurbo]

variable {s4 : Api4.State} {s5 : Api5.State}

/-- **equal attributes on related states**: the projected view of the AirTouch 5 state is the projected view of the
    AirTouch 4 state with `supported_power_states` of every zone replaced by the full list (the one stated asymmetry) -/
theorem view_rel (h : Rel s4 s5) : atView5 s5 = (atView4 s4).map AtView.allTurbo := by
  have hacs : ∀ d : List (Nat × Nat),
      (d.filterMap fun p => s5.aobjs[p.2]?).mapM (acView5 s5.zobjs) =
        ((d.filterMap fun p => s4.acObjs[p.2]?).mapM (acView4 s4.zoneObjs)).map (List.map AcView.allTurbo) := by
    intro d
    induction d with
    | nil => rfl
    | cons p ps ih =>
      rcases h.heap.acs.get p.2 with ⟨e4, e5⟩ | ⟨a4, a5, e4, e5, hab⟩
      · simp only [List.filterMap_cons, e4, e5, ih]
      · simp only [List.filterMap_cons, e4, e5, List.mapM_cons, ih, acView_rel h.heap.zones hab, Option.bind_eq_bind,
          Option.pure_def]
        cases acView4 s4.zoneObjs a4 <;>
          cases ((ps.filterMap fun p => s4.acObjs[p.2]?).mapM (acView4 s4.zoneObjs)) <;> rfl
  simp only [atView5, atView4, Api5.State.airConditioners, Api4.State.airConditioners, ← h.heap.acDict, hacs,
    Option.bind_eq_bind, Option.pure_def, ← h.initialised, ← h.updateAvailable, ← h.versions, ← h.airtouchId, ← h.serial,
    ← h.name, ← h.host]
  cases ((s4.acDict.filterMap fun p => s4.acObjs[p.2]?).mapM (acView4 s4.zoneObjs)) <;> rfl

/-- every zone object of the AirTouch 4 state says "turbo supported" -/
def AllTurbo (s4 : Api4.State) : Prop := ∀ z ∈ s4.zoneObjs, z.status.supports_turbo = true

/-- `update_ac_status`, AirTouch 4 -/
def acStatusStep4 (r : At4.X2D.AcStatusData) (a : Api4.AcObj) : Option Api4.AcObj :=
  if a.status = r then none else some { a with status := r, errInfo := if r.error_code ≠ 0 then a.errInfo else none }

/-- `update_ac_status`, AirTouch 5 -/
def acStatusStep5 (r : At5.C023.AcStatusData) (a : Api5.AcObj) : Option Api5.AcObj :=
  if a.status = r then none
  else some { a with status := r, errInfo := if r.error_code ≠ 0 then a.errInfo else none }

def acTimerStep4 (r : AcTimerStatusData) (a : Api4.AcObj) : Option Api4.AcObj :=
  if a.timer = r then none else some { a with timer := r }
def acTimerStep5 (r : AcTimerStatusData) (a : Api5.AcObj) : Option Api5.AcObj :=
  if a.timer = r then none else some { a with timer := r }

def errInfoStep4 (e : Option Bytes) (a : Api4.AcObj) : Option Api4.AcObj :=
  if a.errInfo = e then none else some { a with errInfo := e }
def errInfoStep5 (e : Option Bytes) (a : Api5.AcObj) : Option Api5.AcObj :=
  if a.errInfo = e then none else some { a with errInfo := e }

def zoneStatusStep4 (g : At4.X2B.GroupStatusData) (z : Api4.ZoneObj) : Option Api4.ZoneObj :=
  if z.status = g then none else some { z with status := g }
def zoneStatusStep5 (g : At5.C021.ZoneStatusData) (z : Api5.ZoneObj) : Option Api5.ZoneObj :=
  if z.status = g then none else some { z with status := g }

/-- a status record of any kind stores by `updAt` on its table: `dict`, `objs`, `withObjs` say which of the two tables
    of the state the kind's `find` and `set` work on -/
theorem kind_update_eq {ρ ω β} [DecidableEq β] (K : Api4.Kind ρ ω β) (dict : Api4.State → List (Nat × Nat))
    (objs : Api4.State → List ω) (withObjs : Api4.State → List ω → Api4.State)
    (hfind : ∀ s k, K.tbl.find s k = ObjTable.find (dict s) (objs s) k)
    (hset : ∀ s k o, K.tbl.set s k o = withObjs s (ObjTable.put (dict s) (objs s) k o))
    (hid : ∀ s, withObjs s (objs s) = s) (s : Api4.State) (r : ρ) :
    (K.update s r).1 = withObjs s (updAt (dict s) (objs s) (K.key r)
      fun a => if K.get a = K.val r then none else some (K.put r a)) := by
  unfold Api4.Kind.update updAt
  rw [hfind, ObjTable.find]
  cases hl : (dict s).lookup (K.key r) with
  | none => exact (hid s).symm
  | some i =>
    simp only [Option.bind_some]
    cases (objs s)[i]? with
    | none => exact (hid s).symm
    | some a =>
      simp only
      split
      · exact (hid s).symm
      · rw [hset, ObjTable.put, hl]

theorem kind_update_ac {ρ β} [DecidableEq β] (K : Api4.Kind ρ Api4.AcObj β) (hK : K.tbl = Api4.acTable)
    (s : Api4.State) (r : ρ) :
    (K.update s r).1 = { s with acObjs := (updAt s.acDict s.acObjs (K.key r)
      fun a => if K.get a = K.val r then none else some (K.put r a)) } :=
  kind_update_eq K (·.acDict) (·.acObjs) (fun s l => { s with acObjs := l }) (fun _ _ => by rw [hK]; rfl)
    (fun s k o => by rw [hK]; exact Api4.setAc_eq s k o) (fun _ => rfl) s r

theorem kind_update_zone {ρ β} [DecidableEq β] (K : Api4.Kind ρ Api4.ZoneObj β) (hK : K.tbl = Api4.zoneTable)
    (s : Api4.State) (r : ρ) :
    (K.update s r).1 = { s with zoneObjs := (updAt s.zoneDict s.zoneObjs (K.key r)
      fun a => if K.get a = K.val r then none else some (K.put r a)) } :=
  kind_update_eq K (·.zoneDict) (·.zoneObjs) (fun s l => { s with zoneObjs := l }) (fun _ _ => by rw [hK]; rfl)
    (fun s k o => by rw [hK]; exact Api4.setZone_eq s k o) (fun _ => rfl) s r

theorem updateAcStatus4_eq (s : Api4.State) (r : At4.X2D.AcStatusData) :
    (Api4.updateAcStatus s r).1 = { s with acObjs := updAt s.acDict s.acObjs r.ac_number (acStatusStep4 r) } := by
  rw [Api4.updateAcStatus_kind]; exact kind_update_ac Api4.acStatusK rfl s r

theorem updateAcTimer4_eq (s : Api4.State) (r : AcTimerStatusData) :
    (Api4.updateAcTimer s r).1 = { s with acObjs := updAt s.acDict s.acObjs r.ac_number (acTimerStep4 r) } := by
  rw [Api4.updateAcTimer_kind]; exact kind_update_ac Api4.acTimerK rfl s r

theorem updateErrInfo4_eq (s : Api4.State) (m : At4.FF10.AcErrorInformationMessage) :
    (Api4.updateErrInfo s m).1 = { s with acObjs := updAt s.acDict s.acObjs m.ac_number (errInfoStep4 m.error_info) } := by
  rw [Api4.updateErrInfo_kind]; exact kind_update_ac Api4.errInfoK rfl s m

theorem updateGroupStatus4_eq (s : Api4.State) (g : At4.X2B.GroupStatusData) :
    (Api4.updateGroupStatus s g).1 =
      { s with zoneObjs := updAt s.zoneDict s.zoneObjs g.group_number (zoneStatusStep4 g) } := by
  rw [Api4.updateGroupStatus_kind]; exact kind_update_zone Api4.groupK rfl s g

/-! AirTouch 5: one record of `processAcStatus` / `processAcTimer` / `processZoneStatus`.  No step raises; only the AC
status step sends (the error-information request), so only there this needs the socket open.  The AirTouch 5 model has no
common form of its four record updates (each is its own `match` on the object list, and the lemmas of `Lemmas/Api5` store
the object also when nothing changed), so the four equations below each unfold their own update. -/

def acStatus5 (s : Api5.State) (d : At5.C023.AcStatusData) : Api5.HR :=
  match s.acRef d.ac_number with
  | some r => Api5.updateAcStatus s r d
  | none => { s }

def acTimer5 (s : Api5.State) (d : AcTimerStatusData) : Api5.HR :=
  match s.acRef d.ac_number with
  | some r => Api5.updateAcTimer s r d
  | none => { s }

def zoneStatus5 (s : Api5.State) (d : At5.C021.ZoneStatusData) : Api5.HR :=
  match s.zones.lookup d.zone_number with
  | some r => Api5.updateZoneStatus s r d
  | none => { s }

theorem acStatus5_eq (s : Api5.State) (r : At5.C023.AcStatusData) (ho : s.sockOpen = true) :
    (acStatus5 s r).exc = none ∧
    (acStatus5 s r).s = { s with aobjs := updAt s.acs s.aobjs r.ac_number (acStatusStep5 r) } := by
  unfold acStatus5 updAt Api5.State.acRef
  cases hd : s.acs.lookup r.ac_number with
  | none => exact ⟨rfl, rfl⟩
  | some i =>
    simp only [Api5.updateAcStatus, acStatusStep5]
    cases ha : s.aobjs[i]? with
    | none => exact ⟨rfl, rfl⟩
    | some a =>
      by_cases hs : a.status = r
      · simp [hs]
      · by_cases he : r.error_code = 0
        · simp [hs, he, Api5.State.setAc, Api5.modifyAt_eq, ha]
        · simp [hs, he, Api5.sendMsg, Api5.State.setAc, ho, Api5.HR.andThen, Api5.modifyAt_eq, ha]

theorem acTimer5_eq (s : Api5.State) (r : AcTimerStatusData) :
    (acTimer5 s r).exc = none ∧
    (acTimer5 s r).s = { s with aobjs := updAt s.acs s.aobjs r.ac_number (acTimerStep5 r) } := by
  unfold acTimer5 updAt Api5.State.acRef
  cases hd : s.acs.lookup r.ac_number with
  | none => exact ⟨rfl, rfl⟩
  | some i =>
    simp only [Api5.updateAcTimer, acTimerStep5]
    cases ha : s.aobjs[i]? with
    | none => exact ⟨rfl, rfl⟩
    | some a =>
      by_cases hs : a.timer = r
      · simp [hs]
      · simp [hs, Api5.State.setAc, Api5.modifyAt_eq, ha]

theorem zoneStatus5_eq (s : Api5.State) (r : At5.C021.ZoneStatusData) :
    (zoneStatus5 s r).exc = none ∧
    (zoneStatus5 s r).s = { s with zobjs := updAt s.zones s.zobjs r.zone_number (zoneStatusStep5 r) } := by
  unfold zoneStatus5 updAt
  cases hd : s.zones.lookup r.zone_number with
  | none => exact ⟨rfl, rfl⟩
  | some i =>
    simp only [Api5.updateZoneStatus, zoneStatusStep5]
    cases ha : s.zobjs[i]? with
    | none => exact ⟨rfl, rfl⟩
    | some a =>
      by_cases hs : a.status = r
      · simp [hs]
      · simp [hs, Api5.State.setZone, Api5.modifyAt_eq, ha]

theorem processErrInfo5_eq (m : At5.FF10.AcErrorInformationMessage) (s : Api5.State) :
    (Api5.processErrInfo m s).exc = none ∧
    (Api5.processErrInfo m s).s =
      { s with aobjs := updAt s.acs s.aobjs m.ac_number (errInfoStep5 m.error_info) } := by
  unfold Api5.processErrInfo updAt Api5.State.acRef
  cases hd : s.acs.lookup m.ac_number with
  | none => exact ⟨rfl, rfl⟩
  | some i =>
    simp only [Api5.updateAcErrInfo, errInfoStep5]
    cases ha : s.aobjs[i]? with
    | none => exact ⟨rfl, rfl⟩
    | some a =>
      by_cases hs : a.errInfo = m.error_info
      · simp [hs]
      · simp [hs, Api5.State.setAc, Api5.modifyAt_eq, ha]

variable {n : Nat} {a4 : Api4.AcObj} {a5 : Api5.AcObj}

theorem acStatusStep_rel (h : AcRel n a4 a5) (x : AbsAcStatus) :
    AcRel n ((acStatusStep4 x.to4 a4).getD a4) ((acStatusStep5 x.to5 a5).getD a5) := by
  obtain ⟨⟨a, h4, h5⟩, hz, hb⟩ := h
  unfold acStatusStep4 acStatusStep5
  by_cases he : a.status = x
  · have e4 : a4.status = x.to4 := by rw [h4.status, he]
    have e5 : a5.status = x.to5 := by rw [h5.status, he]
    simp only [e4, e5, ↓reduceIte, Option.getD_none]
    exact ⟨⟨a, h4, h5⟩, hz, hb⟩
  · have e4 : a4.status ≠ x.to4 := by rw [h4.status]; exact fun e => he (AbsAcStatus.to4_inj e)
    have e5 : a5.status ≠ x.to5 := by rw [h5.status]; exact fun e => he (AbsAcStatus.to5_inj e)
    simp only [e4, e5, ↓reduceIte, Option.getD_some]
    refine ⟨⟨{ a with status := x, errText := if x.errorCode ≠ 0 then a.errText else none }, ?_, ?_⟩, hz, hb⟩
    · exact { h4 with
        status := rfl
        errInfo := by show (if x.to4.error_code ≠ 0 then a4.errInfo else none) = _; rw [h4.errInfo]; rfl }
    · exact { h5 with
        status := rfl
        errInfo := by show (if x.to5.error_code ≠ 0 then a5.errInfo else none) = _; rw [h5.errInfo]; rfl }

theorem acTimerStep_rel (h : AcRel n a4 a5) (x : AcTimerStatusData) :
    AcRel n ((acTimerStep4 x a4).getD a4) ((acTimerStep5 x a5).getD a5) := by
  obtain ⟨⟨a, h4, h5⟩, hz, hb⟩ := h
  unfold acTimerStep4 acTimerStep5
  rw [h4.timer, h5.timer]
  by_cases he : a.timers = x
  · simp only [he, ↓reduceIte, Option.getD_none]
    exact ⟨⟨a, h4, h5⟩, hz, hb⟩
  · simp only [he, ↓reduceIte, Option.getD_some]
    exact ⟨⟨{ a with timers := x }, { h4 with timer := rfl }, { h5 with timer := rfl }⟩, hz, hb⟩

theorem errInfoStep_rel (h : AcRel n a4 a5) (x : Option Bytes) :
    AcRel n ((errInfoStep4 x a4).getD a4) ((errInfoStep5 x a5).getD a5) := by
  obtain ⟨⟨a, h4, h5⟩, hz, hb⟩ := h
  unfold errInfoStep4 errInfoStep5
  rw [h4.errInfo, h5.errInfo]
  by_cases he : a.errText = x
  · simp only [he, ↓reduceIte, Option.getD_none]
    exact ⟨⟨a, h4, h5⟩, hz, hb⟩
  · simp only [he, ↓reduceIte, Option.getD_some]
    exact ⟨⟨{ a with errText := x }, { h4 with errInfo := rfl }, { h5 with errInfo := rfl }⟩, hz, hb⟩

/-- zones: whichever side considers the record a change, afterwards both hold the embeddings of the new status
    (the AirTouch 5 record does not carry `turbo`, so only AirTouch 4 may see a change) -/
theorem zoneStatusStep_rel {z4 : Api4.ZoneObj} {z5 : Api5.ZoneObj} (h : ZoneRel z4 z5) (x : AbsZoneStatus) :
    ZoneRel ((zoneStatusStep4 x.to4 z4).getD z4) ((zoneStatusStep5 x.to5 z5).getD z5) := by
  obtain ⟨z, h4, h5⟩ := h
  refine ⟨{ z with status := x }, ?_, ?_⟩
  · unfold zoneStatusStep4; split
    · next e => exact ⟨h4.name, e⟩
    · exact ⟨h4.name, rfl⟩
  · unfold zoneStatusStep5; split
    · next e => exact ⟨h5.name, e⟩
    · exact ⟨h5.name, rfl⟩

theorem AcRel.mono {n m : Nat} (hnm : n ≤ m) {a4 : Api4.AcObj} {a5 : Api5.AcObj} (h : AcRel n a4 a5) : AcRel m a4 a5 :=
  ⟨h.1, h.2.1, fun r hr => Nat.lt_of_lt_of_le (h.2.2 r hr) hnm⟩

theorem addZone_rel (h : HeapRel s4 s5) (p : Nat × Bytes) :
    HeapRel (Api4.addZone s4 p) (Api5.addZone s5 p) := by
  refine ⟨?_, h.acDict, ?_, ?_, ?_⟩
  · show dictInsert s4.zoneDict p.1 s4.zoneObjs.length = dictInsert s5.zones p.1 s5.zobjs.length
    rw [h.zoneDict, h.zones.1]
  · exact h.zones.push _ _ ⟨.initial p.1 p.2, mkZone_embedded _ _, newZone_embedded _ _⟩
  · show ListRel (AcRel (s4.zoneObjs ++ [Api4.mkZone p.1 p.2]).length) s4.acObjs s5.aobjs
    exact h.acs.mono fun a b hab => hab.mono (by simp)
  · intro q hq
    show q.2 < (s4.zoneObjs ++ [Api4.mkZone p.1 p.2]).length
    rcases Dict.mem_dictInsert _ _ _ _ hq with h1 | h1
    · have := h.zoneRefs q h1; simp; omega
    · subst h1; simp

theorem names_rel (h : HeapRel s4 s5) (names : List (Nat × Bytes)) :
    ∃ Z4 D4 Z5 D5, Api4.processGroupNames s4 names = { s4 with zoneObjs := Z4, zoneDict := D4 } ∧
      Api5.processZoneNames names s5 = { s5 with zobjs := Z5, zones := D5 } ∧
      HeapRel { s4 with zoneObjs := Z4, zoneDict := D4 } { s5 with zobjs := Z5, zones := D5 } := by
  unfold Api4.processGroupNames Api5.processZoneNames
  induction names generalizing s4 s5 with
  | nil => exact ⟨_, _, _, _, rfl, rfl, h⟩
  | cons p ps ih => exact ih (addZone_rel h p)

theorem attachAc_rel {l4 : List Api4.ZoneObj} {l5 : List Api5.ZoneObj} (h : ListRel ZoneRel l4 l5) (r : Nat)
    (refs : List Nat) : ListRel ZoneRel l4 (Api5.attachAc r refs l5) := by
  refine ⟨h.1.trans (Api5.attachAc_length r refs l5).symm, fun i a b' ha hb' => ?_⟩
  rcases h.get i with ⟨e4, _⟩ | ⟨a', b, e4, e5, z, h4, h5⟩
  · rw [e4] at ha; cases ha
  · obtain ⟨z', g1, g2, -⟩ := Api5.attachAc_get r refs l5 i b e5
    cases ha.symm.trans e4
    cases hb'.symm.trans g1
    exact ⟨z, h4, g2.name.trans h5.name, g2.status.trans h5.status⟩

theorem mapM_range'_eq_zoneRange (d : List (Nat × Nat)) (start count : Nat) :
    (List.range' start count).mapM (fun g => d.lookup g) = Api5.zoneRange d start count := by
  induction count generalizing start with
  | zero => rfl
  | succ c ih =>
    rw [List.range'_succ, List.mapM_cons, ih, Api5.zoneRange]
    cases d.lookup start <;> cases Api5.zoneRange d (start + 1) c <;> rfl

theorem zoneRange_skip (k v : Nat) (d : List (Nat × Nat)) (start count : Nat) (hk : k < start) :
    Api5.zoneRange ((k, v) :: d) start count = Api5.zoneRange d start count := by
  induction count generalizing start with
  | zero => rfl
  | succ c ih =>
    have hne : (start == k) = false := by simp; omega
    simp only [Api5.zoneRange, List.lookup_cons, hne, ih (start + 1) (by omega)]

theorem zoneRange_all (d : List (Nat × Nat)) (start count : Nat) (h : d.map (·.1) = List.range' start count) :
    Api5.zoneRange d start count = some (d.map (·.2)) := by
  induction d generalizing start count with
  | nil =>
    cases count with
    | zero => rfl
    | succ c => simp [List.range'_succ] at h
  | cons p ps ih =>
    cases count with
    | zero => simp at h
    | succ c =>
      obtain ⟨k, v⟩ := p
      simp only [List.map_cons, List.range'_succ, List.cons.injEq] at h
      obtain ⟨hk, hrest⟩ := h
      subst hk
      simp only [Api5.zoneRange, List.lookup_cons, beq_self_eq_true, zoneRange_skip k v ps (k + 1) c (by omega),
        ih (k + 1) c hrest, List.map_cons]

theorem zoneRange_mem (d : List (Nat × Nat)) (start count : Nat) (refs : List Nat)
    (h : Api5.zoneRange d start count = some refs) : ∀ r ∈ refs, ∃ k, (k, r) ∈ d := by
  intro r hr
  obtain ⟨hl, hk⟩ := Api5.zoneRange_spec d start count refs h
  obtain ⟨k, hk', rfl⟩ := List.mem_iff_getElem.mp hr
  have := (hk k (hl ▸ hk')).1
  rw [List.getElem?_eq_getElem hk'] at this
  obtain ⟨l₁, l₂, e, _⟩ := List.lookup_eq_some_iff.mp this.symm
  exact ⟨start + k, by rw [e]; simp⟩

/-- the AirTouch 4 rule for a *single* AC without group bitmap - "all named groups belong to it", whatever
    `start_group` / `group_count` say - agrees with the range rule exactly when the range is the named groups -/
def SingleOk (d : List (Nat × Nat)) (single : Bool) (i : AbsAcInfo) : Prop :=
  single = true → d.map (·.1) = List.range' i.firstZone i.zoneCount

theorem zonesForAbility_embedded (s4 : Api4.State) (single : Bool) (i : AbsAcInfo) (hs : SingleOk s4.zoneDict single i) :
    Api4.zonesForAbility s4 single i.to4 = Api5.zoneRange s4.zoneDict i.firstZone i.zoneCount := by
  simp only [Api4.zonesForAbility, AbsAcInfo.to4]
  cases single with
  | true => simp only [↓reduceIte]; rw [zoneRange_all _ _ _ (hs rfl)]
  | false => simp only [Bool.false_eq_true, ↓reduceIte]; exact mapM_range'_eq_zoneRange _ _ _

theorem addAc_rel (h : HeapRel s4 s5) (single : Bool) (i : AbsAcInfo)
    (hs : SingleOk s4.zoneDict single i) :
    (Api4.addAc s4 single i.to4 = none ∧ Api5.addAc s5 i.to5 = none) ∨
    ∃ A4 D4 A5 Z5 D5, Api4.addAc s4 single i.to4 = some { s4 with acObjs := A4, acDict := D4 } ∧
      Api5.addAc s5 i.to5 = some { s5 with aobjs := A5, zobjs := Z5, acs := D5 } ∧
      HeapRel { s4 with acObjs := A4, acDict := D4 } { s5 with aobjs := A5, zobjs := Z5, acs := D5 } := by
  have hz := zonesForAbility_embedded s4 single i hs
  have e5 : Api5.zoneRange s5.zones i.to5.start_zone i.to5.zone_count = Api5.zoneRange s4.zoneDict i.firstZone i.zoneCount := by
    rw [h.zoneDict]; rfl
  cases hr : Api5.zoneRange s4.zoneDict i.firstZone i.zoneCount with
  | none =>
    left
    rw [hr] at hz e5
    exact ⟨by simp [Api4.addAc, hz], by simp only [Api5.addAc, e5]⟩
  | some refs =>
    right
    rw [hr] at hz e5
    obtain ⟨o, ho, hio, hoz, _, _⟩ := mkAc_embedded i refs
    refine ⟨s4.acObjs ++ [o], dictInsert s4.acDict i.number s4.acObjs.length,
      s5.aobjs ++ [Api5.newAc i.to5 refs i.supportedModes i.supportedFanSpeeds],
      Api5.attachAc s5.aobjs.length refs s5.zobjs, dictInsert s5.acs i.number s5.aobjs.length, ?_, ?_, ?_⟩
    · simp only [Api4.addAc, hz, ho, Option.bind_eq_bind, Option.bind_some, Option.pure_def]; rfl
    · simp only [Api5.addAc, e5, supported_eq_supportedOf]; rfl
    · refine ⟨h.zoneDict, ?_, attachAc_rel h.zones _ _, ?_, h.zoneRefs⟩
      · show dictInsert s4.acDict i.number s4.acObjs.length = dictInsert s5.acs i.number s5.aobjs.length
        rw [h.acDict, h.acs.1]
      · refine h.acs.push _ _ ⟨⟨.initial i, hio, newAc_embedded i refs⟩, hoz, ?_⟩
        intro r hr'
        rw [hoz] at hr'
        obtain ⟨k, hk⟩ := zoneRange_mem _ _ _ _ hr r hr'
        exact h.zoneRefs _ hk

theorem abilities_rel (h : HeapRel s4 s5) (single : Bool) (infos : List AbsAcInfo)
    (hs : ∀ i ∈ infos, SingleOk s4.zoneDict single i) :
    ∃ A4 D4 A5 Z5 D5 ok, Api4.processAbility s4 single (infos.map AbsAcInfo.to4) = ({ s4 with acObjs := A4, acDict := D4 }, ok) ∧
      (Api5.processAcAbility (infos.map AbsAcInfo.to5) s5).s = { s5 with aobjs := A5, zobjs := Z5, acs := D5 } ∧
      (Api5.processAcAbility (infos.map AbsAcInfo.to5) s5).exc = (if ok then none else some "KeyError") ∧
      HeapRel { s4 with acObjs := A4, acDict := D4 } { s5 with aobjs := A5, zobjs := Z5, acs := D5 } := by
  unfold Api5.processAcAbility
  induction infos generalizing s4 s5 with
  | nil => exact ⟨_, _, _, _, _, true, rfl, rfl, rfl, h⟩
  | cons i is ih =>
    simp only [List.map_cons, Api4.processAbility, Api5.forEach]
    rcases addAc_rel h single i (hs i (by simp)) with ⟨e4, e5⟩ | ⟨A4, D4, A5, Z5, D5, e4, e5, hr⟩
    · simp only [e4, e5, Api5.HR.andThen]
      exact ⟨_, _, _, _, _, false, rfl, rfl, rfl, h⟩
    · simp only [e4, e5, Api5.HR.andThen]
      exact ih hr fun j hj => hs j (by simp [hj])

/-- a console report expressible in both protocols -/
inductive AbsMsg
  | version (updateAvailable : Bool) (versions : List Bytes)
  | names (l : List (Nat × Bytes))
  | abilities (l : List AbsAcInfo)
  | acStatus (l : List AbsAcStatus)
  | acTimers (l : List AcTimerStatusData)
  | zoneStatus (l : List AbsZoneStatus)
  | errInfo (ac : Nat) (text : Option Bytes)
deriving DecidableEq, Repr

/-- the AirTouch 4 message object -/
def AbsMsg.to4 : AbsMsg → Api4.RMsg
  | .version u vs => .extended (.consoleVer (.message ⟨u, vs⟩))
  | .names l => .extended (.groupNames (.message ⟨l⟩))
  | .abilities l => .extended (.acAbility (.ability (l.map AbsAcInfo.to4)))
  | .acStatus l => .acStatus (.status (l.map AbsAcStatus.to4))
  | .acTimers l => .acTimerStatus (.status l)
  | .zoneStatus l => .groupStatus (.status (l.map AbsZoneStatus.to4))
  | .errInfo ac t => .extended (.errInfo (.message ⟨ac, t⟩))

/-- the AirTouch 5 message object -/
def AbsMsg.to5 : AbsMsg → At5.Registry.Msg
  | .version u vs => .extended (.consoleVer (.message ⟨u, vs⟩))
  | .names l => .extended (.zoneNames (.message ⟨l⟩))
  | .abilities l => .extended (.acAbility (.ability (l.map AbsAcInfo.to5)))
  | .acStatus l => .controlStatus (.acStatus (.status (l.map AbsAcStatus.to5)))
  | .acTimers l => .controlStatus (.acTimerStatus (.status l))
  | .zoneStatus l => .controlStatus (.zoneStatus (.status (l.map AbsZoneStatus.to5)))
  | .errInfo ac t => .extended (.errInfo (.message ⟨ac, t⟩))

/-- the one side condition: an ability message with a single AC must give it exactly the named zones (AirTouch 4 gives a
    single AC without bitmap every named group, AirTouch 5 the range) -/
def AbsMsg.Admissible (s4 : Api4.State) : AbsMsg → Prop
  | .abilities l => ∀ i ∈ l, SingleOk s4.zoneDict (l.length == 1) i
  | _ => True

theorem stCorr_eq_iff (x : Api4.AState) :
    (stCorr x = .INIT_VERSION ↔ x = .INIT_VERSION) ∧ (stCorr x = .INIT_ZONE_NAMES ↔ x = .INIT_GROUP_NAMES) ∧
    (stCorr x = .INIT_AC_ABILITY ↔ x = .INIT_AC_ABILITY) ∧ (stCorr x = .INIT_AC_STATUS ↔ x = .INIT_AC_STATUS) ∧
    (stCorr x = .INIT_AC_TIMER_STATUS ↔ x = .INIT_AC_TIMER_STATUS) ∧
    (stCorr x = .INIT_ZONE_STATUS ↔ x = .INIT_GROUP_STATUS) ∧ (stCorr x = .CONNECTED ↔ x = .CONNECTED) := by
  cases x <;> simp [stCorr]

theorem stCorr_CONNECTING (x : Api4.AState) : stCorr x = .CONNECTING ↔ x = .CONNECTING := by cases x <;> simp [stCorr]

theorem updateVersion4_eq (s : Api4.State) (v : At4.FF30.ConsoleVersionMessage) :
    (Api4.updateVersion s v).1 = { s with version := v } := by
  unfold Api4.updateVersion
  split
  · next h => rw [← h]
  · rfl

theorem processConsoleVersionUpdate5_eq (v : At5.FF30.ConsoleVersionMessage) (s : Api5.State) :
    (Api5.processConsoleVersionUpdate v s).s = { s with consoleVersion := v } := by
  unfold Api5.processConsoleVersionUpdate
  split
  · next h => rw [← h]
  · rfl

/-- the fields of a state that `HeapRel` reads -/
def heap4 (s : Api4.State) := (s.zoneDict, s.acDict, s.zoneObjs, s.acObjs)
def heap5 (s : Api5.State) := (s.zones, s.acs, s.zobjs, s.aobjs)

theorem HeapRel.congr {t4 : Api4.State} {t5 : Api5.State} (h : HeapRel s4 s5) (e4 : heap4 t4 = heap4 s4)
    (e5 : heap5 t5 = heap5 s5) : HeapRel t4 t5 := by
  simp only [heap4, heap5, Prod.mk.injEq] at e4 e5
  obtain ⟨a1, a2, a3, a4⟩ := e4
  obtain ⟨b1, b2, b3, b4⟩ := e5
  exact ⟨by rw [a1, b1]; exact h.zoneDict, by rw [a2, b2]; exact h.acDict, by rw [a3, b3]; exact h.zones,
    by rw [a3, a4, b4]; exact h.acs, by rw [a1, a3]; exact h.zoneRefs⟩

/-- `Rel` reads the heap fields, the handshake state and `scalars4` / `scalars5`: an update of anything else (the
    heartbeat manager, the poll timers, subscribers) keeps it -/
theorem Rel.congr {t4 : Api4.State} {t5 : Api5.State} (h : Rel s4 s5)
    (e4 : (heap4 t4, t4.st, scalars4 t4) = (heap4 s4, s4.st, scalars4 s4))
    (e5 : (heap5 t5, t5.st, scalars5 t5) = (heap5 s5, s5.st, scalars5 s5)) : Rel t4 t5 := by
  simp only [Prod.mk.injEq] at e4 e5
  exact ⟨h.heap.congr e4.1 e5.1, by rw [e4.2.1, e5.2.1]; exact h.st, by rw [e4.2.2, e5.2.2]; exact h.scalars,
    (congrArg Scalars.sockOpen e4.2.2).trans h.isOpen⟩

theorem Rel.setSt (h : Rel s4 s5) (st4 : Api4.AState) :
    Rel { s4 with st := st4 } { s5 with st := stCorr st4 } :=
  ⟨h.heap.congr rfl rfl, rfl, h.scalars, h.isOpen⟩

theorem Rel.withZones {s4 : Api4.State} {s5 : Api5.State} (h : Rel s4 s5) {Z4 : List Api4.ZoneObj} {Z5 : List Api5.ZoneObj}
    (hZ : ListRel ZoneRel Z4 Z5) (hlen : Z4.length = s4.zoneObjs.length) (st4 : Api4.AState) :
    Rel { s4 with zoneObjs := Z4, st := st4 } { s5 with zobjs := Z5, st := stCorr st4 } :=
  ⟨⟨h.heap.zoneDict, h.heap.acDict, hZ, by show ListRel (AcRel Z4.length) _ _; rw [hlen]; exact h.heap.acs,
    by intro p hp; show p.2 < Z4.length; rw [hlen]; exact h.heap.zoneRefs p hp⟩, rfl, h.scalars, h.isOpen⟩

theorem st_eq_self (s4 : Api4.State) : ({ s4 with st := s4.st } : Api4.State) = s4 := rfl

theorem Rel.withAcs (h : Rel s4 s5) {A4 : List Api4.AcObj} {A5 : List Api5.AcObj}
    (hA : ListRel (AcRel s4.zoneObjs.length) A4 A5) : Rel { s4 with acObjs := A4 } { s5 with aobjs := A5 } :=
  ⟨{ h.heap.congr rfl rfl with acs := hA }, h.st, h.scalars, h.isOpen⟩

theorem connected_rel (h : Rel s4 s5) :
    Rel (Api4.enterConnected s4).1 (Api5.finishInit s5).s := by
  have hs := h.scalars
  simp only [scalars4, scalars5, Scalars.mk.injEq] at hs
  simp only [Api4.enterConnected, Api4.hbStart, Api5.finishInit, Api5.hbFeed, Api5.setInitialised]
  split <;> exact ⟨h.heap.congr rfl rfl, rfl, by simp only [scalars4, scalars5, Scalars.mk.injEq]; simp [hs], h.isOpen⟩

theorem foldEv_forEach_rel {ρ ρ4 ρ5} (e4 : ρ → ρ4) (e5 : ρ → ρ5) (f4 : Api4.State → ρ4 → Api4.State × List Api4.Ev)
    (f5 : Api5.State → ρ5 → Api5.HR)
    (hstep : ∀ s4 s5 x, Rel s4 s5 → Rel (f4 s4 (e4 x)).1 (f5 s5 (e5 x)).s ∧ (f5 s5 (e5 x)).exc = none)
    (l : List ρ) {s4 : Api4.State} {s5 : Api5.State} (h : Rel s4 s5) :
    Rel (Api4.foldEv f4 s4 (l.map e4)).1 (Api5.forEach (l.map e5) f5 s5).s ∧
      (Api5.forEach (l.map e5) f5 s5).exc = none := by
  induction l generalizing s4 s5 with
  | nil => exact ⟨h, rfl⟩
  | cons x xs ih =>
    obtain ⟨h1, x1⟩ := hstep s4 s5 x h
    simp only [List.map_cons, Api4.foldEv, Api5.forEach, Api5.HR.andThen, x1]
    exact ih h1

theorem acStatusMsg_rel (h : Rel s4 s5) (l : List AbsAcStatus) :
    Rel (Api4.foldEv Api4.updateAcStatus s4 (l.map AbsAcStatus.to4)).1 (Api5.processAcStatus (l.map AbsAcStatus.to5) s5).s ∧
      (Api5.processAcStatus (l.map AbsAcStatus.to5) s5).exc = none :=
  foldEv_forEach_rel AbsAcStatus.to4 AbsAcStatus.to5 Api4.updateAcStatus acStatus5
    (fun s4 s5 x h => by
      obtain ⟨x5, e5⟩ := acStatus5_eq s5 x.to5 h.open5
      rw [updateAcStatus4_eq, e5]
      exact ⟨h.withAcs (h.heap.acs.updAt h.heap.acDict _ _ _ fun a b hab => acStatusStep_rel hab x), x5⟩) l h

theorem acTimersMsg_rel (h : Rel s4 s5) (l : List AcTimerStatusData) :
    Rel (Api4.foldEv Api4.updateAcTimer s4 l).1 (Api5.processAcTimer l s5).s ∧ (Api5.processAcTimer l s5).exc = none := by
  have := foldEv_forEach_rel (fun x => x) (fun x => x) Api4.updateAcTimer acTimer5
    (fun s4 s5 x h => by
      obtain ⟨x5, e5⟩ := acTimer5_eq s5 x
      rw [updateAcTimer4_eq, e5]
      exact ⟨h.withAcs (h.heap.acs.updAt h.heap.acDict _ _ _ fun a b hab => acTimerStep_rel hab x), x5⟩) l h
  rwa [List.map_id'] at this

theorem zoneStatusMsg_rel (h : Rel s4 s5) (l : List AbsZoneStatus) :
    Rel (Api4.foldEv Api4.updateGroupStatus s4 (l.map AbsZoneStatus.to4)).1
      (Api5.processZoneStatus (l.map AbsZoneStatus.to5) s5).s ∧
      (Api5.processZoneStatus (l.map AbsZoneStatus.to5) s5).exc = none :=
  foldEv_forEach_rel AbsZoneStatus.to4 AbsZoneStatus.to5 Api4.updateGroupStatus zoneStatus5
    (fun s4 s5 x h => by
      obtain ⟨x5, e5⟩ := zoneStatus5_eq s5 x.to5
      rw [updateGroupStatus4_eq, e5]
      have := h.withZones (h.heap.zones.updAt h.heap.zoneDict x.number _ _ fun a b hab => zoneStatusStep_rel hab x)
        (updAt_length _ _ _ _) s4.st
      rw [← h.st] at this
      exact ⟨this, x5⟩) l h

/-- the message handlers `AirTouch4._message_received` / `AirTouch5._message_received` keep states related -/
theorem onMessage_rel (h : Rel s4 s5) (m : AbsMsg) (toAddr : Nat)
    (hadm : m.Admissible s4) : Rel (Api4.onMessage s4 m.to4).1 (Api5.handleMessage s5 toAddr m.to5).s := by
  have ho5 := h.open5
  -- The two handlers are unfolded on the embedded message, not read through `Api4.onMessage_cases` /
  -- `Api5.handleMessage_eq` (in modules this one does not import).  After the `simp only` each goal has, on both
  -- sides, the form `if st = <the state that awaits this kind> then … else if st = CONNECTED then … else s`, the tests of
  -- the AirTouch 5 side rewritten to tests on `s4.st` by `stCorr_eq_iff`; the cases below are: the awaited answer (stored,
  -- next state, next request), a report when connected (stored), anything else (ignored).
  cases m <;> simp only [AbsMsg.to4, AbsMsg.to5, Api4.onMessage, Api4.processTimers, Api5.handleMessage, h.st,
    stCorr_eq_iff]
  case version u vs =>
    have hv : Rel { s4 with version := ⟨u, vs⟩ } { s5 with consoleVersion := ⟨u, vs⟩ } :=
      ⟨h.heap.congr rfl rfl, h.st,
        by have := h.scalars; simp only [scalars4, scalars5, Scalars.mk.injEq] at this ⊢; simp [this], h.isOpen⟩
    by_cases h1 : s4.st = .INIT_VERSION
    · simp only [h1, ↓reduceIte, Api5.sendMsg_s]
      exact hv.setSt _
    · by_cases h2 : s4.st = .CONNECTED
      · simp only [h2, ↓reduceIte, reduceCtorEq, updateVersion4_eq, processConsoleVersionUpdate5_eq]
        rwa [h2] at hv
      · simp only [h1, h2, ↓reduceIte]; exact h
  case names l =>
    by_cases h1 : s4.st = .INIT_GROUP_NAMES
    · simp only [h1, ↓reduceIte, Api5.sendMsg_s]
      obtain ⟨Z4, D4, Z5, D5, e4, e5, hr⟩ := names_rel h.heap l
      rw [e4, e5]
      exact ⟨hr.congr rfl rfl, rfl, h.scalars, h.isOpen⟩
    · simp only [h1, ↓reduceIte]; exact h
  case abilities l =>
    by_cases h1 : s4.st = .INIT_AC_ABILITY
    · simp only [h1, ↓reduceIte, List.length_map]
      obtain ⟨A4, D4, A5, Z5, D5, ok, e4, e5, ex, hr⟩ := abilities_rel h.heap (l.length == 1) l hadm
      rw [e4]
      cases ok with
      | true =>
        simp only [↓reduceIte] at ex
        rw [Api5.andThen_none _ _ ex, Api5.sendMsg_s, e5]
        exact ⟨hr.congr rfl rfl, rfl, h.scalars, h.isOpen⟩
      | false =>
        simp only [Bool.false_eq_true, ↓reduceIte] at ex
        simp only [Api5.HR.andThen, ex, e5]
        exact ⟨hr.congr rfl rfl, by show s5.st = stCorr s4.st; exact h.st,
          h.scalars, h.isOpen⟩
    · simp only [h1, ↓reduceIte]; exact h
  case acStatus l =>
    obtain ⟨hr, x5⟩ := acStatusMsg_rel h l
    by_cases h1 : s4.st = .INIT_AC_STATUS
    · simp only [h1, ↓reduceIte]
      rw [Api5.andThen_none _ _ x5, Api5.sendMsg_s]
      exact hr.setSt _
    · by_cases h2 : s4.st = .CONNECTED
      · simp only [h2, ↓reduceIte, reduceCtorEq]; exact hr
      · simp only [h1, h2, ↓reduceIte]; exact h
  case acTimers l =>
    obtain ⟨hr, x5⟩ := acTimersMsg_rel h l
    by_cases h1 : s4.st = .INIT_AC_TIMER_STATUS
    · simp only [h1, ↓reduceIte]
      rw [Api5.andThen_none _ _ x5, Api5.sendMsg_s]
      exact hr.setSt _
    · by_cases h2 : s4.st = .CONNECTED
      · simp only [h2, ↓reduceIte, reduceCtorEq]; exact hr
      · simp only [h1, h2, ↓reduceIte]; exact h
  case zoneStatus l =>
    by_cases h1 : s4.st = .INIT_GROUP_STATUS
    · obtain ⟨hr, x5⟩ := zoneStatusMsg_rel h l
      simp only [h1, ↓reduceIte]
      rw [Api5.andThen_none _ _ x5]
      exact connected_rel hr
    · by_cases h2 : s4.st = .CONNECTED
      · simp only [h2, ↓reduceIte, reduceCtorEq]
        exact (zoneStatusMsg_rel (s4 := Api4.rearmPolls s4) (h.congr rfl rfl) l).1
      · simp only [h1, h2, ↓reduceIte]; exact h
  case errInfo ac t =>
    obtain ⟨x5, e5⟩ := processErrInfo5_eq ⟨ac, t⟩ s5
    rw [updateErrInfo4_eq, e5]
    exact h.withAcs (h.heap.acs.updAt h.heap.acDict _ _ _ fun a b hab => errInfoStep_rel hab t)

theorem Rel.hb4 (h : Rel s4 s5) (x : Heartbeat.HB) : Rel { s4 with hb := x } s5 := h.congr rfl rfl

theorem Rel.hb5 (h : Rel s4 s5) (x : Heartbeat.HB) : Rel s4 { s5 with hb := x } := h.congr rfl rfl

theorem step_rel {s4 : Api4.State} {s5 : Api5.State} (h : Rel s4 s5) (m : AbsMsg) (toAddr : Nat)
    (hadm : m.Admissible s4) :
    Rel (Api4.apiStep s4 (.recv m.to4)).1 (Api5.apiStep s5 (.msg toAddr m.to5)).1 := by
  -- both sides become `if subscribed then <handler, then the heartbeat manager's look at the message> else <that look
  -- only>`; the heartbeat manager is outside `Rel` (`Rel.hb4`, `Rel.hb5`)
  simp only [Api4.apiStep, Api4.recv, Api5.apiStep, Api5.doMsg, ← h.subscribed]
  cases hsub : s4.subscribed with
  | false => simp only [Bool.false_eq_true, ↓reduceIte, Api4.hbOnMessage]; split <;> first | exact h | exact h.hb4 _
  | true =>
    simp only [↓reduceIte]
    have hr := onMessage_rel h m toAddr hadm
    have h4 : Rel (Api4.hbOnMessage (Api4.onMessage s4 m.to4).1 m.to4) (Api5.handleMessage s5 toAddr m.to5).s := by
      unfold Api4.hbOnMessage; split
      · exact hr.hb4 _
      · exact hr
    split
    · exact h4.hb5 _
    · exact h4

/-- the AirTouch 5 object the harness would build with the identification of the AirTouch 4 one -/
def fresh5 : Api5.State :=
  Api5.State.new Api4.State.initial.airtouchId Api4.State.initial.serial Api4.State.initial.name Api4.State.initial.host

theorem rel_after_init :
    Rel (Api4.run Api4.State.initial [.init, .conn true]).1 (Api5.run fresh5 [.init, .conn true]).1 := by
  refine ⟨⟨rfl, rfl, ListRel.nil _, ListRel.nil _, ?_⟩, rfl, rfl, rfl⟩
  intro p hp
  have : (Api4.run Api4.State.initial [.init, .conn true]).1.zoneDict = [] := rfl
  rw [this] at hp; cases hp

/-- the side condition along a run (only ability messages carry one) -/
def AdmissibleRun : Api4.State → List AbsMsg → Prop
  | _, [] => True
  | s4, m :: ms => m.Admissible s4 ∧ AdmissibleRun (Api4.apiStep s4 (.recv m.to4)).1 ms

theorem run_rel (h : Rel s4 s5) (toAddr : Nat) (ms : List AbsMsg)
    (hadm : AdmissibleRun s4 ms) :
    Rel (Api4.run s4 (ms.map fun m => .recv m.to4)).1 (Api5.run s5 (ms.map fun m => .msg toAddr m.to5)).1 := by
  induction ms generalizing s4 s5 with
  | nil => exact h
  | cons m ms ih => exact ih (step_rel h m toAddr hadm.1) hadm.2

/-- the scripts of the whole-run theorem: `init()`, connection up, then the console's messages -/
def script4 (ms : List AbsMsg) : List Api4.Op := [.init, .conn true] ++ ms.map fun m => .recv m.to4
def script5 (toAddr : Nat) (ms : List AbsMsg) : List Api5.Op := [.init, .conn true] ++ ms.map fun m => .msg toAddr m.to5

/-- **whole runs from fresh objects**: after `init()`, the connection coming up and the same abstract console messages
    (the handshake answers and any later status reports, in any order, with anything in between) the two models are in
    related states -/
theorem fresh_run_rel (toAddr : Nat) (ms : List AbsMsg)
    (hadm : AdmissibleRun (Api4.run Api4.State.initial [.init, .conn true]).1 ms) :
    Rel (Api4.run Api4.State.initial (script4 ms)).1 (Api5.run fresh5 (script5 toAddr ms)).1 := by
  unfold script4 script5
  rw [PyAirtouch.Lemmas.Api4.run_append]
  show Rel _ (PyAirtouch.Lemmas.Api5.runS fresh5 (_ ++ _))
  rw [PyAirtouch.Lemmas.Api5.runS_append]
  exact run_rel rel_after_init toAddr ms hadm

theorem fresh_run_view (toAddr : Nat) (ms : List AbsMsg)
    (hadm : AdmissibleRun (Api4.run Api4.State.initial [.init, .conn true]).1 ms) :
    atView5 (Api5.run fresh5 (script5 toAddr ms)).1 =
      (atView4 (Api4.run Api4.State.initial (script4 ms)).1).map AtView.allTurbo :=
  view_rel (fresh_run_rel toAddr ms hadm)

theorem admissibleRun_of_no_single (s4 : Api4.State) (ms : List AbsMsg)
    (h : ∀ m ∈ ms, ∀ l, m = .abilities l → l.length ≠ 1) : AdmissibleRun s4 ms := by
  induction ms generalizing s4 with
  | nil => trivial
  | cons m ms ih =>
    refine ⟨?_, ih _ (fun m' hm' => h m' (List.mem_cons_of_mem _ hm'))⟩
    cases m with
    | abilities l =>
      intro i _ hs
      have := h _ (List.mem_cons_self) l rfl
      simp only [beq_iff_eq] at hs
      exact absurd hs this
    | _ => trivial

theorem names_zoneDict (s : Api4.State) (hsub : s.subscribed = true) (hst : s.st = .INIT_GROUP_NAMES) (zs : List (Nat × Bytes)) :
    (Api4.apiStep s (.recv (AbsMsg.names zs).to4)).1.zoneDict = (Api4.processGroupNames s zs).zoneDict := by
  simp only [Api4.apiStep, Api4.recv, hsub, ↓reduceIte, AbsMsg.to4, Api4.onMessage, hst, Api4.hbOnMessage]
  split <;> rfl

theorem handshake_admissible (u : Bool) (vs : List Bytes) (zs : List (Nat × Bytes)) (acs : List AbsAcInfo) (rest : List AbsMsg)
    (hnd : (zs.map (·.1)).Nodup)
    (hsingle : acs.length = 1 → ∀ i ∈ acs, zs.map (·.1) = List.range' i.firstZone i.zoneCount)
    (hrest : ∀ m ∈ rest, ∀ l, m = .abilities l → l.length ≠ 1) :
    AdmissibleRun (Api4.run Api4.State.initial [.init, .conn true]).1
      (.version u vs :: .names zs :: .abilities acs :: rest) := by
  refine ⟨trivial, trivial, ?_, admissibleRun_of_no_single _ rest hrest⟩
  intro i hi hs
  simp only [beq_iff_eq] at hs
  rw [names_zoneDict _ rfl rfl, Api4.keys_processGroupNames_fresh _ rfl zs hnd]
  exact hsingle hs i hi

theorem zoneView4_allTurbo (z : Api4.ZoneObj) (v : ZoneView) (h : zoneView4 z = some v)
    (ht : z.status.supports_turbo = true) : v.allTurbo = v := by
  simp only [zoneView4, Option.bind_eq_bind, Option.pure_def, Option.bind_eq_some_iff, Option.some.injEq] at h
  obtain ⟨_, _, _, _, _, _, rfl⟩ := h
  simp only [ZoneView.allTurbo, Api4.ZoneObj.supportedPowerStates, ht, ↓reduceIte]
  rfl

theorem mapM_zoneView4_allTurbo (l : List Api4.ZoneObj) (vs : List ZoneView) (h : l.mapM zoneView4 = some vs) :
    (∀ z ∈ l, z.status.supports_turbo = true) → vs.map ZoneView.allTurbo = vs :=
  mapM_some_rec (P := fun l vs => (∀ z ∈ l, z.status.supports_turbo = true) → vs.map ZoneView.allTurbo = vs)
    (fun _ => rfl)
    (fun z v l vs hv ih ht => by
      rw [List.map_cons, zoneView4_allTurbo z v hv (ht z List.mem_cons_self),
        ih fun z' hz' => ht z' (List.mem_cons_of_mem _ hz')])
    l vs h

theorem acView4_allTurbo (zoneObjs : List Api4.ZoneObj) (a : Api4.AcObj) (v : AcView) (h : acView4 zoneObjs a = some v)
    (ht : ∀ z ∈ zoneObjs, z.status.supports_turbo = true) : v.allTurbo = v := by
  simp only [acView4, acView4Core, Option.bind_eq_bind, Option.pure_def, Option.bind_eq_some_iff, Option.some.injEq] at h
  obtain ⟨zs, hzs, _, _, _, _, _, _, _, _, _, _, _, _, rfl⟩ := h
  have := mapM_zoneView4_allTurbo _ zs hzs (by
    intro z hz
    obtain ⟨r, _, hr⟩ := List.mem_filterMap.mp hz
    exact ht z (List.mem_of_getElem? hr))
  simp only [AcView.allTurbo, this]

theorem atView4_allTurbo (s : Api4.State) (v : AtView) (h : atView4 s = some v) (ht : AllTurbo s) : v.allTurbo = v := by
  simp only [atView4, Option.bind_eq_bind, Option.pure_def, Option.bind_eq_some_iff, Option.some.injEq] at h
  obtain ⟨acs, hacs, rfl⟩ := h
  have := mapM_some_rec (P := fun _ vs => vs.map AcView.allTurbo = vs) rfl
    (fun a v _ vs hv ih => by rw [List.map_cons, acView4_allTurbo _ a v hv ht, ih]) _ acs hacs
  simp only [AtView.allTurbo, this]

theorem view_eq_of_allTurbo {s4 : Api4.State} {s5 : Api5.State} (h : Rel s4 s5) (ht : AllTurbo s4) :
    atView4 s4 = atView5 s5 := by
  rw [view_rel h]
  cases hv : atView4 s4 with
  | none => rfl
  | some v => rw [Option.map_some, atView4_allTurbo s4 v hv ht]

theorem view_text_of_allTurbo (h : Rel s4 s5) (ht : AllTurbo s4) (v : AtView)
    (hv : atView4 s4 = some v) :
    Api4.viewAt s4 = .ok (renderAt .AIRTOUCH_4 10 [.TOGGLE, .TURN_OFF, .TURN_ON] v) ∧
    Api5.viewAt s5 = .ok (renderAt .AIRTOUCH_5 1 [.TOGGLE, .TURN_OFF, .TURN_ON, .SET_TO_AWAY, .SET_TO_SLEEP] v) :=
  ⟨viewAt4_render s4 v hv, viewAt5_render s5 v (by rw [← view_eq_of_allTurbo h ht]; exact hv)⟩

/-! ## requests

### the correspondence of the vendor words

`Lemmas/SpecCmd.lean` gives each control message its meaning in the vocabulary of its own vendor document
(`meaning2C`, `meaning2A` for AirTouch 4; `meaningC022`, `meaningC020` for AirTouch 5).  The two vocabularies are related
by the explicit maps below.  Raw pass-through fields of the readers' records (`setpointValue`, `reserved`, `value`,
`setpointValueRaw`, `valueRaw`, `reservedZero`) are wire artefacts and not compared. -/

/-- "Change on/off state" (4) = "Change on/off status" (5) -/
def acPower45 : Spec.At4.AcPowerCmd → Spec.At5.AcPowerCmd
  | .keep => .keep | .toggle => .change | .off => .off | .on => .on

def acMode45 : Spec.At4.AcModeCmd → Spec.At5.AcModeCmd
  | .set .auto => .auto | .set .heat => .heat | .set .dry => .dry | .set .fan => .fan | .set .cool => .cool
  | .keep _ => .keep

def acFan45 : Spec.At4.AcFanCmd → Spec.At5.AcFanCmd
  | .set .auto => .auto | .set .quiet => .quiet | .set .low => .low | .set .medium => .medium | .set .high => .high
  | .set .powerful => .powerful | .set .turbo => .turbo
  | .keep _ => .keep

/-- set-point commands, both in tenths of a degree; AirTouch 5's AC control has no increase / decrease -/
def acSetpoint45 : Spec.At4.AcSetpointCmd → Option Spec.At5.AcSetpointCmd
  | .keep => some .keep | .set t => some (.set t) | .increase => none | .decrease => none

/-- the AirTouch 4 AC command and the AirTouch 5 AC command say the same -/
structure AcCmdCorr (c4 : Spec.At4.AcControl) (c5 : Spec.At5.AcControl) : Prop where
  ac : c5.ac = c4.ac
  power : c5.power = acPower45 c4.power
  mode : c5.mode = acMode45 c4.mode
  fanSpeed : c5.fanSpeed = acFan45 c4.fanSpeed
  setpoint : some c5.setpoint = acSetpoint45 c4.setpoint

/-- "Change to next state" (4) = "Change on/off state" (5) -/
def zonePower45 : Spec.At4.GroupPowerCmd → Option Spec.At5.ZonePowerCmd
  | .keep => some .keep | .next => some .change | .off => some .off | .on => some .on | .turbo => some .turbo
  | .other _ => none

/-- the AirTouch 4 setting command is the AirTouch 5 pair (setting value command, value) -/
def zoneSetting45 : Spec.At4.GroupSettingCmd → Option (Spec.At5.ZoneSettingCmd × Spec.At5.ZoneValue)
  | .keep => some (.keep, .keep) | .decrease => some (.decrease, .keep) | .increase => some (.increase, .keep)
  | .setOpenPercentage p => some (.setPercentage, .percentage p)
  | .setTargetSetpoint t => some (.setSetpoint, .setpoint t)
  | .other _ => none

/-- NOTED ASYMMETRY: the control method an AirTouch 4 group control of the unified API carries with its setting - a
    percentage switches the group to percentage control, a set-point to temperature control - while the AirTouch 5 zone
    control message of `pyairtouch` has no control-type field at all (always "keep") -/
def methodWithSetting : Spec.At4.GroupSettingCmd → Spec.At4.GroupControlMethodCmd
  | .setOpenPercentage _ => .percentage
  | .setTargetSetpoint _ => .temperature
  | _ => .keep

/-- the AirTouch 4 group command and the AirTouch 5 zone command say the same - except for the control method,
    which only AirTouch 4 sets (`method4`, `controlType5`) -/
structure ZoneCmdCorr (c4 : Spec.At4.GroupControl) (c5 : Spec.At5.ZoneControl) : Prop where
  zone : c5.zone = c4.group
  power : some c5.power = zonePower45 c4.power
  setting : some (c5.setting, c5.value) = zoneSetting45 c4.setting
  method4 : c4.controlMethod = methodWithSetting c4.setting
  controlType5 : c5.controlType = .keep

/-- the two sent messages are control messages of the same kind with corresponding meanings -/
def SameMeaning : Api4.OutMsg → At5.Registry.Msg → Prop
  | .reg (.acCtrl m4), .controlStatus (.acCtrl m5) => ∃ c5, meaningC022 m5 = [c5] ∧ AcCmdCorr (meaning2C m4) c5
  | .reg (.groupCtrl m4), .controlStatus (.zoneCtrl m5) => ∃ c5, meaningC020 m5 = [c5] ∧ ZoneCmdCorr (meaning2A m4) c5
  | _, _ => False

/-- the outputs of a public call in the two models: the same exception, or one send each (same retry policy,
    corresponding meanings) followed by `RESULT OK` -/
def SameOutcome (o4 : List Api4.Ev) (o5 : List Api5.Out) : Prop :=
  (∃ e, e ≠ "OK" ∧ o4 = [.result e] ∧ o5 = [.result e]) ∨
  (∃ p4 m4 p5 m5 b, o4 = [.send p4 m4, .result "OK"] ∧ o5 = [.send p5 m5 b, .result "OK"] ∧ p4.name = p5.name ∧
    SameMeaning m4 m5)

/-- accepted or rejected alike (nothing said about the messages) -/
def SameAcceptance (o4 : List Api4.Ev) (o5 : List Api5.Out) : Prop :=
  (∃ e, e ≠ "OK" ∧ o4 = [.result e] ∧ o5 = [.result e]) ∨
  (∃ p4 m4 p5 m5 b, o4 = [.send p4 m4, .result "OK"] ∧ o5 = [.send p5 m5 b, .result "OK"])

theorem SameOutcome.acceptance {o4 : List Api4.Ev} {o5 : List Api5.Out} (h : SameOutcome o4 o5) : SameAcceptance o4 o5 := by
  rcases h with h | ⟨p4, m4, p5, m5, b, h1, h2, _, _⟩
  · exact .inl h
  · exact .inr ⟨p4, m4, p5, m5, b, h1, h2⟩

theorem findAc_rel (h : HeapRel s4 s5) (id : Nat) :
    (s4.findAc id = none ∧ s5.ac? id = none) ∨
    ∃ a4 r a5, s4.findAc id = some a4 ∧ s5.ac? id = some (r, a5) ∧ AcRel s4.zoneObjs.length a4 a5 := by
  simp only [Api4.State.findAc, Api5.State.ac?, Api5.State.acRef, ← h.acDict]
  cases hd : s4.acDict.lookup id with
  | none => exact .inl ⟨rfl, rfl⟩
  | some i =>
    rcases h.acs.get i with ⟨e4, e5⟩ | ⟨a4, a5, e4, e5, hab⟩
    · exact .inl ⟨by simp [e4], by simp [e5]⟩
    · exact .inr ⟨a4, i, a5, by simp [e4], by simp [e5], hab⟩

theorem zoneList_rel (h : HeapRel s4 s5) :
    s4.airConditioners.flatMap (·.zones) = s5.zoneList := by
  simp only [Api4.State.airConditioners, Api5.State.zoneList, ← h.acDict]
  induction s4.acDict with
  | nil => rfl
  | cons p ps ih =>
    rcases h.acs.get p.2 with ⟨e4, e5⟩ | ⟨a4, a5, e4, e5, hab⟩
    · simp only [List.filterMap_cons, e4, List.flatMap_cons, e5, Option.map_none, Option.getD_none, List.nil_append, ih]
    · simp only [List.filterMap_cons, e4, List.flatMap_cons, e5, Option.map_some, Option.getD_some, ih, hab.2.1]

theorem findZone_rel (h : HeapRel s4 s5) (id : Nat) :
    (s4.findZone id = none ∧ s5.zone? id = none) ∨
    ∃ zi z4 z5, s4.findZone id = some zi ∧ s4.zoneObjs[zi]? = some z4 ∧ s5.zone? id = some (zi, z5) ∧ ZoneRel z4 z5 := by
  have hf : s4.findZone id = s5.zoneRefOf id := by
    simp only [Api4.State.findZone, Api5.State.zoneRefOf, zoneList_rel h]
    apply congrArg (fun p => List.find? p s5.zoneList)
    funext zi
    simp only [Api5.State.zoneHasId]
    rcases h.zones.get zi with ⟨e4, e5⟩ | ⟨z4, z5, e4, e5, ⟨z, h4, h5⟩⟩
    · simp only [e4, e5]
    · simp only [e4, e5, Api4.ZoneObj.zoneId, Api5.ZoneObj.id, h4.status, h5.status]; rfl
  simp only [Api5.State.zone?, ← hf]
  cases hz : s4.findZone id with
  | none => exact .inl ⟨rfl, rfl⟩
  | some zi =>
    have hmem := hz
    simp only [Api4.State.findZone] at hmem
    replace hmem := List.find?_some hmem
    rcases h.zones.get zi with ⟨e4, e5⟩ | ⟨z4, z5, e4, e5, hzz⟩
    · simp only [e4] at hmem; cases hmem
    · exact .inr ⟨zi, z4, z5, rfl, e4, by simp [e5], hzz⟩

/-! ### the calls

A public call looks the object up and runs its method; `ac_call_rel` / `zone_call_rel` do the look-up once for all calls
of a class, so that each call is compared on a pair of objects holding the embeddings of one abstract entity. -/

/-- what a public call of the AirTouch 4 model prints, given the answer of the object's method -/
def out4 (s : Api4.State) : Except Api4.Exc (Api4.Policy × Api4.OutMsg) → List Api4.Ev
  | .ok (p, m) => if s.sockOpen then [.send p m, .result "OK"] else [.result "NotOpenError"]
  | .error e => [.result e.name]

theorem call4_eq (s : Api4.State) (c : Api4.Call) : (Api4.apiStep s (.call c)).2 = out4 s (Api4.callResult s c) := by
  show Api4.doCall s c = _
  unfold Api4.doCall out4
  rcases Api4.callResult s c with e | ⟨p, m⟩ <;> rfl

theorem callOut_sendMsg (s : Api5.State) (p : Api5.Policy) (m : At5.Registry.Msg) (b : Bool) :
    Api5.callOut (Api5.sendMsg s p m b) =
      if s.sockOpen then [Api5.Out.send p m b, .result "OK"] else [.result "NotOpenError"] := by
  unfold Api5.sendMsg Api5.callOut
  cases s.sockOpen <;> rfl

theorem callOut_raise (s : Api5.State) (e : String) : Api5.callOut (Api5.raise s e) = [.result e] := rfl

theorem sameOutcome_of_send (ho : s4.sockOpen = s5.sockOpen) {p4 : Api4.Policy}
    {m4 : Api4.OutMsg} {p5 : Api5.Policy} {m5 : At5.Registry.Msg} {b : Bool} (hp : p4.name = p5.name)
    (hm : SameMeaning m4 m5) : SameOutcome (out4 s4 (.ok (p4, m4))) (Api5.callOut (Api5.sendMsg s5 p5 m5 b)) := by
  rw [callOut_sendMsg, ← ho, out4]
  cases s4.sockOpen with
  | true => exact .inr ⟨p4, m4, p5, m5, b, rfl, rfl, hp, hm⟩
  | false => exact .inl ⟨"NotOpenError", by decide, rfl, rfl⟩

theorem sameAcceptance_of_send (ho : s4.sockOpen = s5.sockOpen) (p4 : Api4.Policy)
    (m4 : Api4.OutMsg) (p5 : Api5.Policy) (m5 : At5.Registry.Msg) (b : Bool) :
    SameAcceptance (out4 s4 (.ok (p4, m4))) (Api5.callOut (Api5.sendMsg s5 p5 m5 b)) := by
  rw [callOut_sendMsg, ← ho, out4]
  cases s4.sockOpen with
  | true => exact .inr ⟨p4, m4, p5, m5, b, rfl, rfl⟩
  | false => exact .inl ⟨"NotOpenError", by decide, rfl, rfl⟩

theorem sameOutcome_valueError (s4 : Api4.State) (s5 : Api5.State) :
    SameOutcome (out4 s4 (.error .valueError)) (Api5.callOut (Api5.raise s5 "ValueError")) :=
  .inl ⟨"ValueError", by decide, rfl, rfl⟩

theorem call5_ac (s : Api5.State) (id r : Nat) (a : Api5.AcObj) (c : Api5.AcCall) (h : s.ac? id = some (r, a)) :
    (Api5.apiStep s (.callAc id c)).2 = Api5.callOut (Api5.acCall s a c) := by
  simp only [Api5.apiStep, h]

theorem call5_zone (s : Api5.State) (id r : Nat) (z : Api5.ZoneObj) (c : Api5.ZoneCall) (h : s.zone? id = some (r, z)) :
    (Api5.apiStep s (.callZone id c)).2 = Api5.callOut (Api5.zoneCall s z c) := by
  simp only [Api5.apiStep, h]

/-- **calls on an AC**: unknown id → `KeyError` in both; otherwise the outputs are those of the two methods on objects
    holding the embeddings of one abstract AC (`hc`: the AirTouch 4 call is one that looks up AC `id`) -/
theorem ac_call_rel {Q : List Api4.Ev → List Api5.Out → Prop} {s4 : Api4.State} {s5 : Api5.State} (h : HeapRel s4 s5)
    (id : Nat) (c4 : Api4.Call) (c5 : Api5.AcCall)
    (hc : Api4.callResult s4 c4 = match s4.findAc id with
      | some a => Api4.callAc a c4
      | none => .error .keyError)
    (hkey : Q [.result "KeyError"] [.result "KeyError"])
    (hobj : ∀ a a4 a5, IsAt4Ac a a4 → IsAt5Ac a a5 →
      Q (out4 s4 (Api4.callAc a4 c4)) (Api5.callOut (Api5.acCall s5 a5 c5))) :
    Q (Api4.apiStep s4 (.call c4)).2 (Api5.apiStep s5 (.callAc id c5)).2 := by
  rw [call4_eq, hc]
  rcases findAc_rel h id with ⟨e4, e5⟩ | ⟨a4, r, a5, e4, e5, ⟨a, h4, h5⟩, _, _⟩
  · rw [e4]; simp only [Api5.apiStep, e5]; exact hkey
  · rw [e4, call5_ac _ _ _ _ _ e5]; exact hobj a a4 a5 h4 h5

theorem zone_call_rel {Q : List Api4.Ev → List Api5.Out → Prop} {s4 : Api4.State} {s5 : Api5.State} (h : HeapRel s4 s5)
    (id : Nat) (c4 : Api4.Call) (c5 : Api5.ZoneCall)
    (hc : Api4.callResult s4 c4 = match (s4.findZone id).bind (s4.zoneObjs[·]?) with
      | some z => Api4.callZone z c4
      | none => .error .keyError)
    (hkey : Q [.result "KeyError"] [.result "KeyError"])
    (hobj : ∀ z z4 z5, z4 ∈ s4.zoneObjs → IsAt4Zone z z4 → IsAt5Zone z z5 →
      Q (out4 s4 (Api4.callZone z4 c4)) (Api5.callOut (Api5.zoneCall s5 z5 c5))) :
    Q (Api4.apiStep s4 (.call c4)).2 (Api5.apiStep s5 (.callZone id c5)).2 := by
  rw [call4_eq, hc]
  rcases findZone_rel h id with ⟨e4, e5⟩ | ⟨zi, z4, z5, e4, ez, e5, z, h4, h5⟩
  · rw [e4]; simp only [Api5.apiStep, e5]; exact hkey
  · rw [e4, Option.bind_some, ez, call5_zone _ _ _ _ _ e5]; exact hobj z z4 z5 (List.mem_of_getElem? ez) h4 h5

theorem sameOutcome_keyError : SameOutcome [.result "KeyError"] [.result "KeyError"] :=
  .inl ⟨"KeyError", by decide, rfl, rfl⟩

theorem sameAcceptance_keyError : SameAcceptance [.result "KeyError"] [.result "KeyError"] :=
  .inl ⟨"KeyError", by decide, rfl, rfl⟩

theorem acId_eq {a : AbsAc} {a4 : Api4.AcObj} {a5 : Api5.AcObj} (h4 : IsAt4Ac a a4) (h5 : IsAt5Ac a a5) :
    a5.id = a4.acId := by
  rw [Api5.AcObj.id, Api4.AcObj.acId, h4.status, h5.status]; rfl

theorem zoneId_eq {z : AbsZone} {z4 : Api4.ZoneObj} {z5 : Api5.ZoneObj} (h4 : IsAt4Zone z z4) (h5 : IsAt5Zone z z5) :
    z5.id = z4.status.group_number := by
  rw [Api5.ZoneObj.id, h4.status, h5.status]; rfl

/-- **`set_power` TOGGLE / TURN_OFF / TURN_ON**: unknown AC → `KeyError` in both; otherwise one AC control message each,
    same retry policy, meaning "power: change / off / on, everything else kept" for that AC -/
theorem ac_set_power_alike (h : HeapRel s4 s5) (ho : s4.sockOpen = s5.sockOpen)
    (id : Nat) (p : ApiEnums.AcPowerControl) (hp : p = .TOGGLE ∨ p = .TURN_OFF ∨ p = .TURN_ON) :
    SameOutcome (Api4.apiStep s4 (.call (.acSetPower id p))).2 (Api5.apiStep s5 (.callAc id (.setPower p))).2 :=
  ac_call_rel h id _ _ rfl sameOutcome_keyError fun a a4 a5 h4 h5 => by
    rcases hp with rfl | rfl | rfl <;>
      exact sameOutcome_of_send ho rfl ⟨_, rfl, acId_eq h4 h5, rfl, rfl, rfl, rfl⟩

/-- **`set_mode`** (any of the five modes, `power_on` either way): unknown AC → `KeyError`; mode not supported →
    `ValueError` in both; otherwise one message each: "mode := m, power := on / keep" -/
theorem ac_set_mode_alike (h : HeapRel s4 s5) (ho : s4.sockOpen = s5.sockOpen)
    (id : Nat) (m : ApiEnums.AcMode) (po : Bool) :
    SameOutcome (Api4.apiStep s4 (.call (.acSetMode id m po))).2 (Api5.apiStep s5 (.callAc id (.setMode m po))).2 :=
  ac_call_rel h id _ _ rfl sameOutcome_keyError fun a a4 a5 h4 h5 => by
    simp only [Api4.callAc, Api5.acCall, h4.modes, h5.modes]
    cases a.info.supportedModes.contains m with
    | false => exact sameOutcome_valueError s4 s5
    | true =>
      cases m <;> cases po <;> exact sameOutcome_of_send ho rfl ⟨_, rfl, acId_eq h4 h5, rfl, rfl, rfl, rfl⟩

/-- **`set_fan_speed`** of one of the seven common speeds: not supported → `ValueError` in both; otherwise
    "fan speed := f, everything else kept" -/
theorem ac_set_fan_speed_alike (h : HeapRel s4 s5) (ho : s4.sockOpen = s5.sockOpen)
    (id : Nat) (f : AbsFan) :
    SameOutcome (Api4.apiStep s4 (.call (.acSetFanSpeed id f.api))).2
      (Api5.apiStep s5 (.callAc id (.setFanSpeed f.api))).2 :=
  ac_call_rel h id _ _ rfl sameOutcome_keyError fun a a4 a5 h4 h5 => by
    simp only [Api4.callAc, Api5.acCall, h4.fans, h5.fans]
    cases a.info.supportedFanSpeeds.contains f.api with
    | false => exact sameOutcome_valueError s4 s5
    | true => cases f <;> exact sameOutcome_of_send ho rfl ⟨_, rfl, acId_eq h4 h5, rfl, rfl, rfl, rfl⟩

/-! #### set-points: AirTouch 4 rounds to whole degrees, AirTouch 5 to tenths -/

/-- clipping a whole number of degrees: the AirTouch 5 expression (tenths, limits times ten) gives ten times the
    AirTouch 4 expression -/
theorem clip_whole (lo hi : Nat) (r : Int) :
    (Api5.clip lo hi (10 * r)).1 = ((min (max (lo : Int) r) (hi : Int)).toNat : Int) * 10 := by
  unfold Api5.clip
  simp only
  split <;> split <;> omega

theorem round_whole (d : Int) : Api4.roundHundredths (100 * d) = d ∧ Api5.roundTenths (100 * d) = 10 * d := by
  constructor
  · simp only [Api4.roundHundredths, Int.mul_ediv_cancel_left _ (by decide : (100 : Int) ≠ 0), Int.mul_emod_right]
    rfl
  · rw [show 100 * d = 10 * (10 * d) by omega]
    exact PyAirtouch.Lemmas.Api5.roundTenths_exact _

/-- the two roundings agree on the argument (hundredths of a degree): AirTouch 5's tenths are AirTouch 4's whole degree -/
def RoundsAlike (h : Int) : Prop := Api5.roundTenths h = 10 * Api4.roundHundredths h

theorem roundsAlike_whole (d : Int) : RoundsAlike (100 * d) := by
  unfold RoundsAlike; rw [(round_whole d).1, (round_whole d).2]

/-- **AC `set_target_temperature`** of a whole-degree value - or any value both generations round to the same whole
    degree: both accept (there is no refusal, the value is clipped), both send "set-point := set(t)" with the *same* `t`
    in tenths, clipped into the common limits, everything else kept -/
theorem ac_set_target_temperature_alike (h : HeapRel s4 s5)
    (ho : s4.sockOpen = s5.sockOpen) (id : Nat) (t : Int) (ht : RoundsAlike t) :
    SameOutcome (Api4.apiStep s4 (.call (.acSetTemp id t))).2 (Api5.apiStep s5 (.callAc id (.setTargetTemperature t))).2 :=
  ac_call_rel h id _ _ rfl sameOutcome_keyError fun a a4 a5 h4 h5 => by
    refine sameOutcome_of_send ho rfl ⟨_, rfl, acId_eq h4 h5, rfl, rfl, rfl, ?_⟩
    show some (Spec.At5.AcSetpointCmd.set _) = some (Spec.At5.AcSetpointCmd.set _)
    rw [h5.limits.1, h5.limits.2, ht, clip_whole, h4.ability]
    rfl

/-- AC `set_target_temperature` of *any* value (two decimals): never refused by either generation - both clip and send
    (what they send differs by the documented rounding: `set_point_resolution_bound`) -/
theorem ac_set_target_temperature_accepted_alike (h : HeapRel s4 s5)
    (ho : s4.sockOpen = s5.sockOpen) (id : Nat) (t : Int) :
    SameAcceptance (Api4.apiStep s4 (.call (.acSetTemp id t))).2
      (Api5.apiStep s5 (.callAc id (.setTargetTemperature t))).2 :=
  ac_call_rel h id _ _ rfl sameAcceptance_keyError fun _ _ _ _ _ => sameAcceptance_of_send ho _ _ _ _ _

/-- DOCUMENTED DIFFERENCE (set-point resolution): 21.5 °C on an AC with limits 16 … 30: AirTouch 4 sends 22 °C
    (whole degrees, half to even), AirTouch 5 sends 21.5 °C -/
theorem set_point_resolution_documented_difference :
    ¬ RoundsAlike 2150 ∧ Api4.roundHundredths 2150 = 22 ∧ Api5.roundTenths 2150 = 215 ∧
    (min (max (16 : Int) (Api4.roundHundredths 2150)) 30).toNat = 22 ∧ (Api5.clip 16 30 (Api5.roundTenths 2150)).1 = 215 := by
  unfold RoundsAlike
  decide

/-- … but never by more than half a degree (before clipping): AirTouch 5's tenths and AirTouch 4's whole degrees are
    both roundings of the same argument -/
theorem set_point_resolution_bound (t : Int) :
    Api5.roundTenths t - 10 * Api4.roundHundredths t ≤ 5 ∧ 10 * Api4.roundHundredths t - Api5.roundTenths t ≤ 5 := by
  have h5 := PyAirtouch.Lemmas.Api5.roundTenths_close t
  have h4 : 100 * Api4.roundHundredths t - 50 ≤ t ∧ t ≤ 100 * Api4.roundHundredths t + 50 := by
    unfold Api4.roundHundredths
    simp only
    split
    · omega
    · split
      · omega
      · split <;> omega
  omega

/-- **zone `set_power`** OFF / ON, and TURBO when every group of the AirTouch 4 heap reports turbo support (`AllTurbo`; the
    group addressed would do): one zone / group control message each,
    "power := off / on / turbo, setting and control method kept" -/
theorem zone_set_power_alike (h : HeapRel s4 s5) (ho : s4.sockOpen = s5.sockOpen)
    (id : Nat) (p : ApiEnums.ZonePowerState) (hturbo : p = .TURBO → AllTurbo s4) :
    SameOutcome (Api4.apiStep s4 (.call (.zoneSetPower id p))).2 (Api5.apiStep s5 (.callZone id (.setPower p))).2 :=
  zone_call_rel h id _ _ rfl sameOutcome_keyError fun z z4 z5 hz h4 h5 => by
    have hsup : z4.supportedPowerStates.contains p = true := by
      simp only [Api4.ZoneObj.supportedPowerStates]
      cases p with
      | OFF => simp
      | ON => simp
      | TURBO => rw [hturbo rfl z4 hz]; simp
    simp only [Api4.callZone, Api5.zoneCall, hsup, ↓reduceIte]
    cases p <;> exact sameOutcome_of_send ho rfl ⟨_, rfl, zoneId_eq h4 h5, rfl, rfl, rfl, rfl⟩

/-- ASYMMETRY (the request side of the `supported_power_states` asymmetry, not among the documented differences):
    `set_power(TURBO)` on a group that does not report turbo support is refused by AirTouch 4 and sent by AirTouch 5 -/
theorem zone_set_power_turbo_needs_support (h : HeapRel s4 s5)
    (hopen : s5.sockOpen = true) (id zi : Nat) (z4 : Api4.ZoneObj) (hf : s4.findZone id = some zi)
    (hz : s4.zoneObjs[zi]? = some z4) (hno : z4.status.supports_turbo = false) :
    (Api4.apiStep s4 (.call (.zoneSetPower id .TURBO))).2 = [.result "ValueError"] ∧
    ∃ zid, (Api5.apiStep s5 (.callZone id (.setPower .TURBO))).2 =
      [.send .idempotent (Api5.msgZoneControl ⟨zid, .TURBO, none⟩) false, .result "OK"] := by
  rcases findZone_rel h id with ⟨e4, e5⟩ | ⟨zi', z4', z5, e4, ez, e5, _⟩
  · rw [hf] at e4; cases e4
  · constructor
    · have hr4 : Api4.callResult s4 (.zoneSetPower id .TURBO) = Api4.callZone z4 (.zoneSetPower id .TURBO) := by
        show (match (s4.findZone id).bind (s4.zoneObjs[·]?) with
          | some z => Api4.callZone z (.zoneSetPower id .TURBO)
          | none => .error .keyError) = _
        rw [hf, Option.bind_some, hz]
      have hsup : z4.supportedPowerStates.contains .TURBO = false := by
        simp only [Api4.ZoneObj.supportedPowerStates, hno]; decide
      simp only [call4_eq, hr4, Api4.callZone, hsup]
      rfl
    · exact ⟨z5.id, by rw [call5_zone _ _ _ _ _ e5]; exact (callOut_sendMsg _ _ _ _).trans (by rw [hopen]; rfl)⟩

theorem callZone4_setDamper (z : Api4.ZoneObj) (id : Nat) (p : Int) :
    Api4.callZone z (.zoneSetDamper id p) =
      if p < 0 ∨ p > 100 then .error .valueError
      else .ok (.idempotent, .reg (.groupCtrl ⟨z.status.group_number, .UNCHANGED, .DAMPER, .damper p.toNat⟩)) := by
  simp only [Api4.callZone]; split <;> rfl

theorem zoneCall5_setDamper (s : Api5.State) (z : Api5.ZoneObj) (p : Int) :
    Api5.zoneCall s z (.setDamperPercentage p) =
      if p < 0 ∨ p > 100 then Api5.raise s "ValueError"
      else Api5.sendMsg s .idempotent (Api5.msgZoneControl ⟨z.id, .UNCHANGED, some (.damper p.toNat)⟩) false := by
  simp only [Api5.zoneCall]; split <;> rfl

/-- **zone `set_damper_percentage`**, any integer: outside 0 … 100 `ValueError` in both; otherwise "setting := open
    percentage p, power kept" - and, AirTouch 4 only, "control method := percentage" (`ZoneCmdCorr.method4`) -/
theorem zone_set_damper_alike (h : HeapRel s4 s5) (ho : s4.sockOpen = s5.sockOpen)
    (id : Nat) (p : Int) :
    SameOutcome (Api4.apiStep s4 (.call (.zoneSetDamper id p))).2
      (Api5.apiStep s5 (.callZone id (.setDamperPercentage p))).2 :=
  zone_call_rel h id _ _ rfl sameOutcome_keyError fun z z4 z5 _ h4 h5 => by
    rw [callZone4_setDamper, zoneCall5_setDamper]
    by_cases hp : p < 0 ∨ p > 100
    · rw [if_pos hp, if_pos hp]; exact sameOutcome_valueError s4 s5
    · rw [if_neg hp, if_neg hp]
      exact sameOutcome_of_send ho rfl ⟨_, rfl, zoneId_eq h4 h5, rfl, rfl, rfl, rfl⟩

theorem zoneCall5_setTemp (s : Api5.State) (z : Api5.ZoneObj) (t : Int) :
    Api5.zoneCall s z (.setTargetTemperature t) =
      if z.status.has_sensor then
        Api5.sendMsg s .idempotent (Api5.msgZoneControl ⟨z.id, .UNCHANGED, some (.setPoint (Api5.roundTenths t))⟩) false
      else Api5.raise s "ValueError" := by
  simp only [Api5.zoneCall]; split <;> rfl

theorem callZone4_setTemp (z : Api4.ZoneObj) (id : Nat) (t : Int) :
    Api4.callZone z (.zoneSetTemp id t) =
      if z.status.has_sensor then
        if 0 ≤ Api4.roundHundredths t then
          .ok (.idempotent, .reg (.groupCtrl
            ⟨z.status.group_number, .UNCHANGED, .TEMPERATURE, .setPoint (Api4.roundHundredths t).toNat⟩))
        else .ok (.idempotent, .zoneSetPointNeg z.status.group_number (Api4.roundHundredths t))
      else .error .valueError := rfl

/-- **zone `set_target_temperature`** of a non-negative whole-degree value (or one both round to the same whole degree):
    no sensor → `ValueError` in both; otherwise "setting := target set-point t (same tenths), power kept" - and,
    AirTouch 4 only, "control method := temperature" -/
theorem zone_set_target_temperature_alike (h : HeapRel s4 s5)
    (ho : s4.sockOpen = s5.sockOpen) (id : Nat) (t : Int) (ht : RoundsAlike t) (hpos : 0 ≤ Api4.roundHundredths t) :
    SameOutcome (Api4.apiStep s4 (.call (.zoneSetTemp id t))).2
      (Api5.apiStep s5 (.callZone id (.setTargetTemperature t))).2 :=
  zone_call_rel h id _ _ rfl sameOutcome_keyError fun z z4 z5 _ h4 h5 => by
    have hs4 : z4.status.has_sensor = z.status.sensor := by rw [h4.status]; rfl
    have hs5 : z5.status.has_sensor = z.status.sensor := by rw [h5.status]; rfl
    rw [callZone4_setTemp, zoneCall5_setTemp, hs4, hs5, if_pos hpos]
    cases z.status.sensor with
    | false => exact sameOutcome_valueError s4 s5
    | true =>
      refine sameOutcome_of_send ho rfl ⟨_, rfl, zoneId_eq h4 h5, rfl, ?_, rfl, rfl⟩
      show some (Spec.At5.ZoneSettingCmd.setSetpoint, Spec.At5.ZoneValue.setpoint (Api5.roundTenths t)) =
        some (Spec.At5.ZoneSettingCmd.setSetpoint, Spec.At5.ZoneValue.setpoint (((Api4.roundHundredths t).toNat : Int) * 10))
      rw [ht, Int.toNat_of_nonneg hpos, Int.mul_comm]

/-- zone `set_target_temperature` of *any* value: accepted or refused alike (for a negative rounded value neither sent
    message is encodable: AirTouch 4's has no wire form at all - `OutMsg.zoneSetPointNeg` -, AirTouch 5's set-point is
    below 10.0 °C) -/
theorem zone_set_target_temperature_accepted_alike (h : HeapRel s4 s5)
    (ho : s4.sockOpen = s5.sockOpen) (id : Nat) (t : Int) :
    SameAcceptance (Api4.apiStep s4 (.call (.zoneSetTemp id t))).2
      (Api5.apiStep s5 (.callZone id (.setTargetTemperature t))).2 :=
  zone_call_rel h id _ _ rfl sameAcceptance_keyError fun z z4 z5 _ h4 h5 => by
    have hs4 : z4.status.has_sensor = z.status.sensor := by rw [h4.status]; rfl
    have hs5 : z5.status.has_sensor = z.status.sensor := by rw [h5.status]; rfl
    rw [callZone4_setTemp, zoneCall5_setTemp, hs4, hs5]
    cases z.status.sensor with
    | false => exact .inl ⟨"ValueError", by decide, rfl, rfl⟩
    | true =>
      rw [if_pos rfl, if_pos rfl]
      split <;> exact sameAcceptance_of_send ho _ _ _ _ _

/-- DOCUMENTED DIFFERENCE (away / sleep): `supported_power_controls` -/
theorem supported_power_controls_documented_difference :
    Api4.supportedPowerControls = [.TOGGLE, .TURN_OFF, .TURN_ON] ∧
    Api5.supportedPowerControls = [.TOGGLE, .TURN_OFF, .TURN_ON, .SET_TO_AWAY, .SET_TO_SLEEP] := ⟨rfl, rfl⟩

/-- DOCUMENTED DIFFERENCE (set-point resolution): `target_temperature_resolution` 1.0 vs 0.1 °C -/
theorem resolution_documented_difference :
    Api4.TARGET_TEMPERATURE_RESOLUTION_tenths = 10 ∧ Api5.TARGET_TEMPERATURE_RESOLUTION_tenths = 1 := ⟨rfl, rfl⟩

/-- DOCUMENTED DIFFERENCE (away / sleep): on related states with the AC present and the sockets open, `set_power` of
    SET_TO_AWAY / SET_TO_SLEEP is refused by AirTouch 4 (`ValueError`, nothing sent) and sent by AirTouch 5 -/
theorem set_power_away_sleep_documented_difference (h : HeapRel s4 s5)
    (hopen : s5.sockOpen = true) (id : Nat) (a4 : Api4.AcObj) (hf : s4.findAc id = some a4) :
    (Api4.apiStep s4 (.call (.acSetPower id .SET_TO_AWAY))).2 = [.result "ValueError"] ∧
    (Api4.apiStep s4 (.call (.acSetPower id .SET_TO_SLEEP))).2 = [.result "ValueError"] ∧
    ∃ n, (Api5.apiStep s5 (.callAc id (.setPower .SET_TO_AWAY))).2 =
        [.send .idempotent (Api5.msgAcControl ⟨n, .SET_TO_AWAY, .UNCHANGED, .UNCHANGED, none⟩) false, .result "OK"] ∧
      (Api5.apiStep s5 (.callAc id (.setPower .SET_TO_SLEEP))).2 =
        [.send .idempotent (Api5.msgAcControl ⟨n, .SET_TO_SLEEP, .UNCHANGED, .UNCHANGED, none⟩) false, .result "OK"] := by
  rcases findAc_rel h id with ⟨e4, e5⟩ | ⟨a4', r, a5, e4, e5, _⟩
  · rw [hf] at e4; cases e4
  · have hr4 : ∀ c, Api4.callResult s4 (.acSetPower id c) = Api4.callAc a4 (.acSetPower id c) := by
      intro c
      show (match s4.findAc id with
        | some a => Api4.callAc a (.acSetPower id c)
        | none => .error .keyError) = _
      rw [hf]
    refine ⟨by rw [call4_eq, hr4]; rfl, by rw [call4_eq, hr4]; rfl, a5.id, ?_, ?_⟩ <;>
    · rw [call5_ac _ _ _ _ _ e5]
      show Api5.callOut (Api5.sendMsg s5 .idempotent _ false) = _
      rw [callOut_sendMsg, hopen]; rfl

/-- DOCUMENTED DIFFERENCE (Intelligent Auto): *no* AirTouch 4 AC object the constructor can build supports
    INTELLIGENT_AUTO, whatever the ability record says: `set_fan_speed(INTELLIGENT_AUTO)` is a `ValueError`; an
    AirTouch 5 AC that advertises it sends "fan speed := intelligent auto" -/
theorem intelligent_auto_documented_difference :
    (∀ (ab : At4.FF11.AcAbility) (zs : List Nat) (o : Api4.AcObj) (id : Nat), Api4.mkAc ab zs = some o →
      ApiEnums.AcFanSpeed.INTELLIGENT_AUTO ∉ o.supportedFanSpeeds ∧
      Api4.callAc o (.acSetFanSpeed id .INTELLIGENT_AUTO) = .error .valueError) ∧
    (∀ (s5 : Api5.State) (a5 : Api5.AcObj), ApiEnums.AcFanSpeed.INTELLIGENT_AUTO ∈ a5.supportedFanSpeeds →
      Api5.acCall s5 a5 (.setFanSpeed .INTELLIGENT_AUTO) =
        Api5.sendMsg s5 .idempotent (Api5.msgAcControl ⟨a5.id, .UNCHANGED, .UNCHANGED, .INTELLIGENT_AUTO, none⟩) false) := by
  constructor
  · intro ab zs o id h
    have hno : ApiEnums.AcFanSpeed.INTELLIGENT_AUTO ∉ o.supportedFanSpeeds := by
      simp only [Api4.mkAc, Option.bind_eq_bind, Option.pure_def, Option.bind_eq_some_iff, Option.some.injEq] at h
      obtain ⟨modes, _, fans, hf, rfl⟩ := h
      intro hmem
      have := supportedOf_keys _ _ _ hf _ hmem
      revert this; decide
    refine ⟨hno, ?_⟩
    have : o.supportedFanSpeeds.contains ApiEnums.AcFanSpeed.INTELLIGENT_AUTO = false := by
      simpa using hno
    simp only [Api4.callAc, this, Bool.false_eq_true, ↓reduceIte]
  · intro s5 a5 hmem
    have : a5.supportedFanSpeeds.contains ApiEnums.AcFanSpeed.INTELLIGENT_AUTO = true := by simpa using hmem
    simp only [Api5.acCall, this, ↓reduceIte]
    rfl

/-- DOCUMENTED DIFFERENCE (bypass reporting): no AirTouch 4 AC ever shows BYPASS; an AirTouch 5 AC whose status has
    `bypass_active` (and not `spill_active`) does -/
theorem bypass_documented_difference :
    (∀ o : Api4.AcObj, o.spillState ≠ .BYPASS) ∧
    (∀ o : Api5.AcObj, o.status.spill_active = false → o.status.bypass_active = true → o.spillState = .BYPASS) := by
  constructor
  · intro o; unfold Api4.AcObj.spillState; split <;> simp
  · intro o h1 h2; simp [Api5.AcObj.spillState, h1, h2]

/-- DOCUMENTED DIFFERENCE (away / sleep): an AirTouch 4 AC is ON or OFF; AirTouch 5 also reports the away and sleep states -/
theorem power_state_documented_difference :
    (∀ (o : Api4.AcObj) p, o.powerState = .ok p → p = .OFF ∨ p = .ON) ∧
    Api5.AC_POWER_STATE_MAPPING .OFF_AWAY = some .OFF_AWAY ∧ Api5.AC_POWER_STATE_MAPPING .ON_AWAY = some .ON_AWAY ∧
    Api5.AC_POWER_STATE_MAPPING .SLEEP = some .SLEEP := by
  refine ⟨?_, rfl, rfl, rfl⟩
  intro o p h
  unfold Api4.AcObj.powerState at h
  cases hs : o.status.power_state <;> rw [hs] at h <;> cases h <;> simp

/-- DOCUMENTED DIFFERENCE (per-mode limits): AirTouch 4 has one pair of limits whatever the mode; an AirTouch 5 AC with
    different cool and heat limits (17 … 30 / 16 … 28) shows 16 … 28 in HEAT, 17 … 30 in COOL and the hull 16 … 30 in
    AUTO (the getters give the hull in every mode other than HEAT and COOL; the statement has AUTO) -/
theorem per_mode_limits_documented_difference (ab : At5.FF11.AcAbility) (hc : ab.min_cool_set_point = 17)
    (hC : ab.max_cool_set_point = 30) (hh : ab.min_heat_set_point = 16) (hH : ab.max_heat_set_point = 28)
    (o : Api5.AcObj) (ho : o.ability = ab) :
    (o.status.mode = .HEAT → o.minTarget = 16 ∧ o.maxTarget = 28) ∧
    (o.status.mode = .COOL → o.minTarget = 17 ∧ o.maxTarget = 30) ∧
    (o.status.mode = .AUTO → o.minTarget = 16 ∧ o.maxTarget = 30) := by
  refine ⟨?_, ?_, ?_⟩ <;> intro hm <;> simp [Api5.AcObj.minTarget, Api5.AcObj.maxTarget, hm, ho, hc, hC, hh, hH]

/-- the AirTouch 4 group bitmap is *not* used by the embedding: with a bitmap the zones of an AC are listed in CPython's
    set order, e.g. zones 6 … 9 as 8, 9, 6, 7 (AirTouch 5: 6, 7, 8, 9) - an ordering difference of `ac.zones` outside the
    common description -/
theorem at4_bitmap_zone_order : Api4.pySetOrder [6, 7, 8, 9] = [8, 9, 6, 7] := by decide

/-- the single-AC side condition is needed: AirTouch 4 gives a single AC without bitmap *every* named group, AirTouch 5
    only its range.  Zones 0 and 1 named, one AC with range 0 … 0: -/
theorem single_ac_needs_covering_range :
    let s4 : Api4.State := Api4.processGroupNames Api4.State.initial [(0, []), (1, [])]
    let s5 : Api5.State := Api5.processZoneNames [(0, []), (1, [])] fresh5
    let i : AbsAcInfo := { number := 0, name := [], modes := [], fans := [], minSetPoint := 16, maxSetPoint := 30,
                           firstZone := 0, zoneCount := 1 }
    Api4.zonesForAbility s4 true i.to4 = some [0, 1] ∧ Api5.zoneRange s5.zones i.to5.start_zone i.to5.zone_count = some [0] := by
  decide

/-! ### on the wire

`SameMeaning` relates the *meanings* (`Lemmas/SpecCmd.lean`) of the two message objects.  With C04 (`wire_2C`,
`wire_C022`, `wire_2A`, `wire_C020`) this is a statement about bytes: for well-formed messages the vendor's reader of
each generation, applied to the frame that generation's send path writes, returns commands that correspond. -/

theorem ac_same_meaning_on_the_wire (pid4 pid5 : Nat) (h4 : pid4 < 256) (h5 : pid5 < 256) (m4 : At4.X2C.Msg)
    (m5 : At5.C022.Msg) (hwf4 : At4.X2C.WF m4) (hwf5 : At5.C022.WF m5)
    (hsame : SameMeaning (.reg (.acCtrl m4)) (.controlStatus (.acCtrl m5))) :
    ∃ fr4 fr5 f c5, At4.Registry.frameOf pid4 (.acCtrl m4) = .ok fr4 ∧
      Spec.At4.readWire fr4 = some (.acControl (meaning2C m4)) ∧
      At5.Registry.frameOf pid5 (.controlStatus (.acCtrl m5)) = .ok fr5 ∧
      Spec.At5.readFrame (fr5.drop 10) = some f ∧ Spec.At5.frameOk (fr5.drop 10) = true ∧
      Spec.At5.readControlStatus f.data = some (.acControl [c5]) ∧ AcCmdCorr (meaning2C m4) c5 := by
  obtain ⟨c5, hc5, hcorr⟩ := hsame
  have hlen : m5.ac_control.length = 1 := by
    have := congrArg List.length hc5
    simpa [meaningC022] using this
  obtain ⟨fr4, e4, _, _, _, r4⟩ := wire_2C pid4 h4 m4 hwf4
  obtain ⟨fr5, f, e5, rf, ok, _, _, _, r5⟩ := wire_C022 pid5 h5 m5 hwf5 (by omega)
  exact ⟨fr4, fr5, f, c5, e4, r4, e5, rf, ok, by rw [r5, hc5], hcorr⟩

theorem zone_same_meaning_on_the_wire (pid4 pid5 : Nat) (h4 : pid4 < 256) (h5 : pid5 < 256) (m4 : At4.X2A.Msg)
    (m5 : At5.C020.Msg) (hwf4 : At4.X2A.WF m4) (hwf5 : At5.C020.WF m5) (hdoc : ∀ z ∈ m5.zone_control, DocRange020 z)
    (hsame : SameMeaning (.reg (.groupCtrl m4)) (.controlStatus (.zoneCtrl m5))) :
    ∃ fr4 fr5 f c5, At4.Registry.frameOf pid4 (.groupCtrl m4) = .ok fr4 ∧
      Spec.At4.readWire fr4 = some (.groupControl (meaning2A m4)) ∧
      At5.Registry.frameOf pid5 (.controlStatus (.zoneCtrl m5)) = .ok fr5 ∧
      Spec.At5.readFrame (fr5.drop 10) = some f ∧ Spec.At5.frameOk (fr5.drop 10) = true ∧
      Spec.At5.readControlStatus f.data = some (.zoneControl [c5]) ∧ ZoneCmdCorr (meaning2A m4) c5 := by
  obtain ⟨c5, hc5, hcorr⟩ := hsame
  have hlen : m5.zone_control.length = 1 := by
    have := congrArg List.length hc5
    simpa [meaningC020] using this
  obtain ⟨fr4, e4, _, _, _, r4⟩ := wire_2A pid4 h4 m4 hwf4
  obtain ⟨fr5, f, e5, rf, ok, _, _, _, r5⟩ := wire_C020 pid5 h5 m5 hwf5 hdoc (by omega)
  exact ⟨fr4, fr5, f, c5, e4, r4, e5, rf, ok, by rw [r5, hc5], hcorr⟩

/-- the AC control messages of `set_power` / `set_mode` / `set_fan_speed` (no set-point) are well-formed in both
    generations for AC numbers 0 … 3 (the bound in `AbsAcStatus.WF`, taken bare) -/
theorem ac_control_wf (n : Nat) (hn : n < 4) (p4 : Gen.At4.X2CAcCtrl.AcPowerControl) (m4 : Gen.At4.X2CAcCtrl.AcModeControl)
    (f4 : Gen.At4.X2CAcCtrl.AcFanSpeedControl) (p5 : Gen.At5.XC022AcCtrl.AcPowerControl)
    (m5 : Gen.At5.XC022AcCtrl.AcModeControl) (f5 : Gen.At5.XC022AcCtrl.AcFanSpeedControl) :
    At4.X2C.WF ⟨n, p4, m4, f4, .none⟩ ∧ At5.C022.WF ⟨[⟨n, p5, m5, f5, none⟩]⟩ := by
  refine ⟨⟨by show n < 64; omega, trivial⟩, ?_⟩
  intro c hc
  simp only [List.mem_singleton] at hc
  subst hc
  exact ⟨by show n < 16; omega, by intro sp h; cases h⟩

/-- the set-point messages of `set_target_temperature` are well-formed in both generations when the AC number is 0 … 3
    and the limits lie within 10 … 35 °C (the bounds in `AbsAcInfo.WF`, taken bare): the clipped value is transmittable by both -/
theorem ac_set_point_wf (n lo hi : Nat) (r : Int) (hn : n < 4) (h1 : 10 ≤ lo) (h2 : lo ≤ hi) (h3 : hi ≤ 35) :
    At4.X2C.WF ⟨n, .UNCHANGED, .UNCHANGED, .UNCHANGED, .value (min (max (lo : Int) r) (hi : Int)).toNat⟩ ∧
    At5.C022.WF ⟨[⟨n, .UNCHANGED, .UNCHANGED, .UNCHANGED, some (Api5.clip lo hi (10 * r)).1⟩]⟩ := by
  refine ⟨⟨by show n < 64; omega, by show (min (max (lo : Int) r) (hi : Int)).toNat < 64; omega⟩, ?_⟩
  intro c hc
  simp only [List.mem_singleton] at hc
  subst hc
  refine ⟨by show n < 16; omega, ?_⟩
  intro sp h
  simp only [Option.some.injEq] at h
  subst h
  rw [clip_whole]
  omega

/-- WIRE-LEVEL ASYMMETRY (neither API clamps a *zone* set-point): `zone.set_target_temperature(d)` for a whole
    `d` outside 10 … 35 is accepted by both APIs (`zone_set_target_temperature_alike`); AirTouch 4's message is
    well-formed and goes out (0 … 255 °C), AirTouch 5's encoder raises `struct.error` -/
theorem zone_set_point_wire_asymmetry (g zn d : Nat) (hg : g < 256) (hd : d < 10 ∨ 35 < d) (hd' : d < 256) :
    At4.X2A.WF ⟨g, .UNCHANGED, .TEMPERATURE, .setPoint d⟩ ∧
    At5.C020.encode ⟨[⟨zn, .UNCHANGED, some (.setPoint (10 * (d : Int)))⟩]⟩ = .error .structError :=
  ⟨⟨hg, hd'⟩, value_boundary_C020_unencodable zn .UNCHANGED _ (by omega)⟩

end PyAirtouch.Lemmas.ApiEquiv
