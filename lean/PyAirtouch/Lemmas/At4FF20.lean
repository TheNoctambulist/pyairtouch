import PyAirtouch.Model.At4.FF20
import PyAirtouch.Lemmas.TimerCommon
/-! Round trip and length lemmas for the AirTouch 4 quick-timer codec (0x1FFF20). -/
namespace PyAirtouch.Lemmas.At4FF20
open PyAirtouch.Model PyAirtouch.Model.At4.FF20 PyAirtouch.Gen.At4.X1FFF20QuickTimer
open PyAirtouch.Lemmas.TimerCommon

theorem encode_length (m : Msg) (bs : Bytes) (h : encode m = .ok bs) : bs.length = size m :=
  QuickTimer.encode_length ops m bs h

theorem encodeBytes_length (m : Msg) : (encodeBytes m).length = size m := rfl

theorem encode_ok (m : Msg) (h : WF m) : encode m = .ok (encodeBytes m) :=
  QuickTimer.encode_ok ops m h

/-- the header is not consulted -/
theorem decode_encode (m : Msg) (h : WF m) (rest : Bytes) :
    decode (encodeBytes m ++ rest) (size m) = .ok (m, rest) :=
  QuickTimer.decode_encode ops (fun t => by cases t <;> rfl) (fun t => by cases t <;> decide) m h rest _

theorem wfBool_iff (m : Msg) : wfBool m = true ↔ WF m := QuickTimer.wfBool_iff m

end PyAirtouch.Lemmas.At4FF20
