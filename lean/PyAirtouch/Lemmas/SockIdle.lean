import PyAirtouch.Lemmas.SockOrder
/-!
# Nothing stays queued on an idle connection

While the socket is connected **and its current transport is still open** (`curLive`), the queue can only be non-empty
if some task is still going to run the drain loop or to tear the connection down: a task suspended in `drain()`, the
connect task between `opened` and its first drain, a `close()` waiting for the background tasks, or a task waiting for
the *current* transport to finish closing (`IInv`).  This file has the facts about single blocks.  The invariant itself
is proved once, in `Lemmas/SockXIdle.lean`, in a stronger form and for the model with cancellations;
`SockIdle.idle_invariant` is declared at the end of that file as its corollary, so its users import that file.

Once the current transport is closing or lost the drain loop leaves the queue alone (`_drain_message_queue`
returns at `writer.is_closing()`), so entries then legitimately stay queued until the reset that follows.

The vocabulary of the block lemmas:
* `Live c`: connected, something queued, current transport open - the situation that needs a witness;
* `Pre c`: a connected socket has a current transport (one direction of `SockConn.CoreInv.conn_rw`, carried here so
  that the block lemmas need no `Inv`);
* `Same c c'`: `is_connected` and `rw` unchanged, queue not refilled, current transport not revived;
* `Weak c c'`: if `c'` is `Live` then `c` was, with the same current transport (what `Same` gives, and the drain loop);
* `OutOk o`: what every block leaves behind (`Pre`, a pc that occurs);
* `Post o`: if the block ends `Live`, the task that ran it is itself the witness.

The block lemmas peel `exec` by hand instead of `fun_induction` and carry `k ≤ fuel`: they say that the block really
gets as far as the notification or the drain loop, which is false when the fuel runs out (`exec 0` ends the task
silently); `FUEL = 16` discharges them by `decide`.
-/
namespace PyAirtouch.Lemmas.SockIdle
open PyAirtouch.Model.Sock
open PyAirtouch.Lemmas.SockConn (forall_pc_cancel)

/-- tasks that will still drain the queue or disconnect -/
def promising (rw : Option Nat) : Pc → Bool
  | .drainAwait _ _ _ => true
  | .notifyWait .connAfterNotify => true
  | .closeGather => true
  | .discWait w _ => rw == some w
  | _ => false

/-- continuations that do not lead back into `_connect` after the notification -/
def plainRet : Ret → Bool
  | .connAfterNotify => false
  | .resetTail r => plainRet r
  | _ => true

/-- the suspended pcs that occur: the tail of `_connect` (`connAfterNotify`) is only ever pending at the notification of
    `_connect` itself, never behind a `drain()`, a `_disconnect` or another notification -/
def okPc : Pc → Bool
  | .drainAwait _ _ r => plainRet r
  | .discWait _ r => plainRet r
  | .notifyWait r => r == .connAfterNotify || plainRet r
  | _ => true

/-- a task that will do nothing until it is woken by its transport: finished, or a reader -/
def quietPc : Pc → Bool
  | .finished | .readWait _ => true
  | _ => false

theorem okPc_of_quiet {p : Pc} (h : quietPc p = true) : okPc p = true := by
  cases p <;> simp_all [quietPc, okPc]

theorem okPc_of_start {p : Pc} (h : SockConn.spawnPc p = true) : okPc p = true := by
  cases p <;> simp_all [SockConn.spawnPc, okPc]

def Pre (c : Core) : Prop := c.isConnected = true → c.rw.isSome = true

/-- there is a current transport and it is open (neither closing nor lost) -/
def curLive (c : Core) : Bool :=
  match c.rw with
  | some w => (c.conns[w]?.map ConnSt.isLive).getD false
  | none => false

open PyAirtouch.Lemmas.SockConn (liveAt liveAt_iff_getD) in
theorem curLive_iff (c : Core) : curLive c = true ↔ ∃ w, c.rw = some w ∧ liveAt c w := by
  unfold curLive
  cases c.rw with
  | none => simp
  | some w => simp [liveAt_iff_getD]

open PyAirtouch.Lemmas.SockConn (Shrink liveAt) in
theorem curLive_shrink {c c' : Core} (h : Shrink c c') (hl : curLive c' = true) : curLive c = true := by
  obtain ⟨w, hw, hlw⟩ := (curLive_iff c').1 hl
  exact (curLive_iff c).2 ⟨w, by rw [← h.rw]; exact hw, h.live w hlw⟩

structure Same (c c' : Core) : Prop where
  conn : c'.isConnected = c.isConnected
  rw : c'.rw = c.rw
  q : c'.queue ≠ [] → c.queue ≠ []
  live : curLive c' = true → curLive c = true

theorem Same.refl (c : Core) : Same c c := ⟨rfl, rfl, id, id⟩

theorem Same.trans {a b c : Core} (h1 : Same a b) (h2 : Same b c) : Same a c :=
  ⟨h2.conn.trans h1.conn, h2.rw.trans h1.rw, fun h => h1.q (h2.q h), fun h => h1.live (h2.live h)⟩

theorem Same.pre {c c' : Core} (h : Same c c') (hp : Pre c) : Pre c' := by
  intro hc; rw [h.rw]; exact hp (h.conn ▸ hc)

def Post (o : Out) : Prop :=
  o.core.isConnected = true → o.core.queue ≠ [] → curLive o.core = true → promising o.core.rw o.pc = true

structure OutOk (o : Out) : Prop where
  pre : Pre o.core
  pc : okPc o.pc = true

theorem ret_plain (fuel : Nat) (c : Core) (sp : List Pc) (r : Ret) (hr : plainRet r = true) :
    Same c (exec fuel c sp (.ret r)).core ∧ quietPc (exec fuel c sp (.ret r)).pc = true := by
  induction fuel generalizing c sp r with
  | zero => exact ⟨Same.refl _, rfl⟩
  | succ n ih =>
    cases r with
    | connAfterNotify => cases hr
    | resetTail r => exact ih _ _ _ hr
    | closeTail => exact ⟨⟨rfl, rfl, id, id⟩, rfl⟩
    | readLoop => simp only [exec]; split <;> exact ⟨Same.refl _, rfl⟩
    | _ => exact ⟨Same.refl _, rfl⟩

theorem discTail_idle (fuel : Nat) (c : Core) (sp : List Pc) (w : Option Nat) (r : Ret)
    (hr : plainRet r = true) :
    ((Same c (exec fuel c sp (.discTail w r)).core ∧ quietPc (exec fuel c sp (.discTail w r)).pc = true) ∨
     ((exec fuel c sp (.discTail w r)).core.isConnected = false ∧
      (exec fuel c sp (.discTail w r)).pc = .notifyWait r)) ∧
    (1 ≤ fuel → c.rw = w → (exec fuel c sp (.discTail w r)).core.isConnected = false ∧
      (exec fuel c sp (.discTail w r)).pc = .notifyWait r) := by
  cases fuel with
  | zero => exact ⟨.inl ⟨Same.refl _, rfl⟩, fun h => by omega⟩
  | succ n =>
    simp only [exec]
    split
    · exact ⟨.inr ⟨rfl, rfl⟩, fun _ _ => ⟨rfl, rfl⟩⟩
    · rename_i hne
      exact ⟨.inl (ret_plain n c sp r hr), fun _ h => absurd h hne⟩

theorem disconnected_ok (o : Out) (r : Ret) (hr : plainRet r = true) (e1 : o.core.isConnected = false)
    (e2 : o.pc = .notifyWait r) : OutOk o ∧ Post o := by
  refine ⟨⟨?_, ?_⟩, ?_⟩
  · intro h; rw [e1] at h; cases h
  · rw [e2]; simp [okPc, hr]
  · intro h; rw [e1] at h; cases h

theorem closeConn_same (c : Core) (w : Nat) : Same c (closeConn c w) :=
  have hs := SockConn.shrink_closeConn c w
  ⟨hs.isConnected, hs.rw, by unfold closeConn; split <;> exact id, curLive_shrink hs⟩

theorem disconnect_idle (fuel : Nat) (h2 : 2 ≤ fuel) (c : Core) (sp : List Pc) (r : Ret) (hr : plainRet r = true)
    (hpre : Pre c) :
    OutOk (exec fuel c sp (.disconnect r)) ∧ Post (exec fuel c sp (.disconnect r)) ∧
      ¬ ((exec fuel c sp (.disconnect r)).core.isConnected = true ∧ curLive (exec fuel c sp (.disconnect r)).core = true) := by
  obtain ⟨n, rfl⟩ : ∃ n, fuel = n + 1 := ⟨fuel - 1, by omega⟩
  have hn : 1 ≤ n := by omega
  simp only [exec]
  split
  · rename_i w hw
    have hs := closeConn_same c w
    refine ⟨⟨hs.pre hpre, by simpa [okPc] using hr⟩, ?_, ?_⟩
    · intro _ _ _
      simp [promising, hs.rw, hw]
    · rintro ⟨_, hl⟩
      obtain ⟨w', hw', h⟩ := (curLive_iff _).1 hl
      rw [show (closeConn c w).rw = c.rw from hs.rw, hw] at hw'
      cases hw'
      exact SockConn.closeConn_notLive c w h
  · rename_i hw
    obtain ⟨e1, e2⟩ := (discTail_idle n c sp none r hr).2 hn hw
    exact ⟨(disconnected_ok _ r hr e1 e2).1, (disconnected_ok _ r hr e1 e2).2, fun ⟨hc, _⟩ => by rw [e1] at hc; cases hc⟩

open PyAirtouch.Lemmas.SockConn (Shrink shrink_drainLoop')

theorem shrink_pre {c c' : Core} (hs : Shrink c c') (hp : Pre c) : Pre c' :=
  fun hc => hs.rw ▸ hp (hs.isConnected ▸ hc)

theorem drainLoop_empty (w : Nat) : ∀ (q : List Entry) (c : Core), (drainLoop c w q).2 = .empty →
    (drainLoop c w q).1.queue = [] ∨ ((drainLoop c w q).1.conns[w]?.map ConnSt.isLive).getD false = false := by
  refine SockDrain.drainLoop_induction w
    (motive := fun _ _ r => r.2 = .empty → r.1.queue = [] ∨ (r.1.conns[w]?.map ConnSt.isLive).getD false = false)
    ?_ ?_ ?_ ?_ ?_ ?_
  · exact fun _ _ => .inl rfl
  · exact fun _ _ _ hd _ => .inr hd
  · exact fun _ _ _ _ _ _ ih => ih
  · exact fun _ _ _ _ _ _ ih => ih
  · exact fun _ _ _ _ _ => nofun
  · exact fun _ _ _ _ _ _ => nofun

def Live (c : Core) : Prop := c.isConnected = true ∧ c.queue ≠ [] ∧ curLive c = true

def Weak (c c' : Core) : Prop := Live c' → Live c ∧ c'.rw = c.rw

theorem Weak.of_same {c c' : Core} (h : Same c c') : Weak c c' :=
  fun ⟨h1, h2, h3⟩ => ⟨⟨h.conn ▸ h1, h.q h2, h.live h3⟩, h.rw⟩

open PyAirtouch.Lemmas.SockConn (liveAt) in
theorem drainLoop_tail (w : Nat) : ∀ (q : List Entry) (c : Core),
    liveAt (drainLoop c w q).1 w → (drainLoop c w q).1.queue ≠ [] → q.tail ≠ [] := by
  refine SockDrain.drainLoop_induction w (motive := fun _ q r => liveAt r.1 w → r.1.queue ≠ [] → q.tail ≠ []) ?_ ?_ ?_ ?_ ?_ ?_
  · exact fun _ _ hq => absurd rfl hq
  · exact fun c e rest hd hl _ => absurd hl (SockConn.not_liveAt_iff_getD.2 hd)
  · exact fun _ _ rest _ _ _ ih hl hq h => ih hl hq (by rw [show rest = [] from h]; rfl)
  · exact fun _ _ rest _ _ _ ih hl hq h => ih hl hq (by rw [show rest = [] from h]; rfl)
  · exact fun _ _ _ _ _ _ hq => hq
  · exact fun _ _ _ _ _ _ _ hq => hq

open PyAirtouch.Lemmas.SockConn (liveAt) in
theorem drainLoop_weak {c c' : Core} {w : Nat} {st : DrainStop} (hw : c.rw = some w)
    (heq : drainLoop c w c.queue = (c', st)) (hl : Live c') : Live c ∧ c'.rw = c.rw ∧ c.queue.tail ≠ [] := by
  have hs : Shrink c c' := shrink_drainLoop' heq
  have hlw : liveAt c' w := by
    obtain ⟨w', hw', h⟩ := (curLive_iff c').1 hl.2.2
    rw [hs.rw, hw] at hw'; cases hw'; exact h
  have ht : c.queue.tail ≠ [] := by
    have h1 := drainLoop_tail w c.queue c
    rw [heq] at h1
    exact h1 hlw hl.2.1
  refine ⟨⟨hs.isConnected ▸ hl.1, ?_, curLive_shrink hs hl.2.2⟩, hs.rw, ht⟩
  intro h; rw [h] at ht; exact ht rfl

theorem drain_idle (fuel : Nat) (h3 : 3 ≤ fuel) (c : Core) (sp : List Pc) (r : Ret) (hr : plainRet r = true)
    (hpre : Pre c) :
    OutOk (exec fuel c sp (.drain r)) ∧ Post (exec fuel c sp (.drain r)) ∧
      (Live (exec fuel c sp (.drain r)).core → Live c ∧ (exec fuel c sp (.drain r)).core.rw = c.rw ∧ c.queue.tail ≠ []) := by
  obtain ⟨n, rfl⟩ : ∃ n, fuel = n + 1 := ⟨fuel - 1, by omega⟩
  simp only [exec]
  have hret : ∀ c' : Core, Pre c' → (c'.isConnected = true → c'.queue = [] ∨ curLive c' = false) →
      OutOk (exec n c' sp (.ret r)) ∧ Post (exec n c' sp (.ret r)) ∧ Weak c' (exec n c' sp (.ret r)).core := by
    intro c' hp hq
    obtain ⟨r1, r2⟩ := ret_plain n c' sp r hr
    refine ⟨⟨r1.pre hp, okPc_of_quiet r2⟩, ?_, Weak.of_same r1⟩
    intro hc hne hl
    rcases hq (r1.conn ▸ hc) with hq | hq
    · exact absurd hq (r1.q hne)
    · rw [r1.live hl] at hq; cases hq
  split
  · rename_i hnc
    obtain ⟨a, b, w⟩ := hret c hpre (fun h => by simp [h] at hnc)
    exact ⟨a, b, fun hl => by simp [(w hl).1.1] at hnc⟩
  · split
    · rename_i hnone
      have hno : c.isConnected = true → False := fun h => by have := hpre h; rw [hnone] at this; cases this
      obtain ⟨a, b, w⟩ := hret c hpre (fun h => (hno h).elim)
      exact ⟨a, b, fun hl => (hno (w hl).1.1).elim⟩
    · rename_i w hw
      split
      · rename_i c' heq
        have hs := shrink_drainLoop' heq
        have f3 := drainLoop_empty w c.queue c
        rw [heq] at f3
        obtain ⟨a, b, wk⟩ := hret c' (shrink_pre hs hpre) (fun _ => (f3 rfl).imp_right fun f3 => by
          unfold curLive; rw [hs.rw, hw]; exact f3)
        refine ⟨a, b, fun hl => ?_⟩
        obtain ⟨a1, a2, a3⟩ := drainLoop_weak hw heq (wk hl).1
        exact ⟨a1, (wk hl).2.trans a2, a3⟩
      · rename_i c' e heq
        exact ⟨⟨shrink_pre (shrink_drainLoop' heq) hpre, by simpa [okPc] using hr⟩, fun _ _ _ => rfl,
          drainLoop_weak hw heq⟩
      · rename_i c' e heq
        exact absurd heq SockDrain.drainLoop_not_raised

theorem connAfterNotify_idle (fuel : Nat) (h4 : 4 ≤ fuel) (c : Core) (sp : List Pc)
    (hpre : Pre c) :
    OutOk (exec fuel c sp (.ret .connAfterNotify)) ∧ Post (exec fuel c sp (.ret .connAfterNotify)) ∧
      Weak c (exec fuel c sp (.ret .connAfterNotify)).core := by
  obtain ⟨n, rfl⟩ : ∃ n, fuel = n + 1 := ⟨fuel - 1, by omega⟩
  simp only [exec]
  obtain ⟨a, b, w⟩ := drain_idle n (by omega) c sp .connAfterDrain rfl hpre
  exact ⟨a, b, fun hl => ⟨(w hl).1, (w hl).2.1⟩⟩

structure IInv (s : Sys) : Prop where
  pre : Pre s.core
  pcs : ∀ k ∈ s.tasks, okPc k.pc = true
  busy : s.core.isConnected = true → s.core.queue ≠ [] → curLive s.core = true →
    ∃ k ∈ s.tasks, promising s.core.rw k.pc = true

theorem cancel_pcs (ts : List Task) (h : ∀ k ∈ ts, okPc k.pc = true) :
    ∀ k ∈ ts.map cancelTask, okPc k.pc = true :=
  forall_pc_cancel (P := fun p => okPc p = true) ts h rfl rfl

theorem not_promising_iff (rw : Option Nat) (p : Pc) :
    promising rw p = false ↔
      (∀ w e r, p ≠ .drainAwait w e r) ∧ p ≠ .notifyWait .connAfterNotify ∧ p ≠ .closeGather ∧
      (∀ w r, p = .discWait w r → rw ≠ some w) := by
  cases p with
  | notifyWait r => cases r <;> simp [promising]
  | discWait w r =>
    simp only [promising, beq_eq_false_iff_ne, ne_eq, reduceCtorEq, not_false_eq_true, implies_true,
      Pc.discWait.injEq, and_imp, true_and]
    constructor
    · intro h w' r' hw _; subst hw; exact h
    · intro h; exact h w r rfl rfl
  | _ => simp [promising]

theorem idle_hyps {rw : Option Nat} {ts : List Task} (h : ∀ k ∈ ts, promising rw k.pc = false) :
    (∀ k ∈ ts, ∀ w e r, k.pc ≠ .drainAwait w e r) ∧ (∀ k ∈ ts, k.pc ≠ .notifyWait .connAfterNotify) ∧
    (∀ k ∈ ts, k.pc ≠ .closeGather) ∧ (∀ k ∈ ts, ∀ w r, k.pc = .discWait w r → rw ≠ some w) :=
  ⟨fun k hk => ((not_promising_iff _ _).1 (h k hk)).1, fun k hk => ((not_promising_iff _ _).1 (h k hk)).2.1,
   fun k hk => ((not_promising_iff _ _).1 (h k hk)).2.2.1, fun k hk => ((not_promising_iff _ _).1 (h k hk)).2.2.2⟩

end PyAirtouch.Lemmas.SockIdle
