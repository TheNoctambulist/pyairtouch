import PyAirtouch.Lemmas.Api5Frame
/-!
# The frame handler of the AirTouch 5 API model: the handshake states in order, requests, answers, and the handler as one
equation (`handleMessage_eq`: an answer is digested and the handshake proceeds, anything else is a report)
-/
namespace PyAirtouch.Lemmas.Api5
open PyAirtouch.Model PyAirtouch.Model.Api5 PyAirtouch.Model.At5 PyAirtouch.Model.At5.Registry
open PyAirtouch.Model.TimerCommon (AcTimerState AcTimerStatusData)
open PyAirtouch.Model.Heartbeat
open PyAirtouch.Gen PyAirtouch.Gen.Api5

/-- position in the state machine -/
def rank : AirTouchState → Nat
  | .CLOSED => 0 | .CONNECTING => 1 | .INIT_VERSION => 2 | .INIT_ZONE_NAMES => 3 | .INIT_AC_ABILITY => 4
  | .INIT_AC_STATUS => 5 | .INIT_AC_TIMER_STATUS => 6 | .INIT_ZONE_STATUS => 7 | .CONNECTED => 8

def nextState : AirTouchState → AirTouchState
  | .CLOSED => .CONNECTING | .CONNECTING => .INIT_VERSION | .INIT_VERSION => .INIT_ZONE_NAMES
  | .INIT_ZONE_NAMES => .INIT_AC_ABILITY | .INIT_AC_ABILITY => .INIT_AC_STATUS
  | .INIT_AC_STATUS => .INIT_AC_TIMER_STATUS | .INIT_AC_TIMER_STATUS => .INIT_ZONE_STATUS
  | .INIT_ZONE_STATUS => .CONNECTED | .CONNECTED => .CONNECTED

/-- the request sent on entering a handshake state (the one request outstanding while in it) -/
def requestFor : AirTouchState → Option Msg
  | .INIT_VERSION => some msgConsoleVersionRequest
  | .INIT_ZONE_NAMES => some msgZoneNamesRequestAll
  | .INIT_AC_ABILITY => some msgAcAbilityRequestAll
  | .INIT_AC_STATUS => some msgAcStatusRequest
  | .INIT_AC_TIMER_STATUS => some msgAcTimerStatusRequest
  | .INIT_ZONE_STATUS => some msgZoneStatusRequest
  | _ => none

/-- the frame `(toAddr, m)` is an answer to the request outstanding in state `st` -/
def answers (st : AirTouchState) (toAddr : Nat) (m : Msg) : Bool :=
  match st, m with
  | .INIT_VERSION, .extended (.consoleVer (.message _)) => true
  | .INIT_ZONE_NAMES, .extended (.zoneNames (.message _)) => true
  | .INIT_ZONE_NAMES, .extended (.zoneNames (.request _)) => toAddr == Gen.At5.Hdr.ADDRESS_CLIENT
  | .INIT_AC_ABILITY, .extended (.acAbility (.ability _)) => true
  | .INIT_AC_STATUS, .controlStatus (.acStatus (.status _)) => true
  | .INIT_AC_TIMER_STATUS, .controlStatus (.acTimerStatus (.status _)) => true
  | .INIT_AC_TIMER_STATUS, .controlStatus (.acTimerCtrl _) => true
  | .INIT_ZONE_STATUS, .controlStatus (.zoneStatus (.status _)) => true
  | .INIT_ZONE_STATUS, .controlStatus (.zoneStatus .request) => toAddr == Gen.At5.Hdr.ADDRESS_CLIENT
  | _, _ => false

/-- an AC-ability answer that the API can digest in state `s`: every zone it refers to is known (and the support
dicts are complete, as the decoder builds them) -/
def abilityOk (s : State) : Msg → Prop
  | .extended (.acAbility (.ability acs)) => (processAcAbility acs s).exc = none
  | _ => True

/-! ### the frame handler as one equation

A frame is either the answer awaited in the current state (`answers`), or a report.  An answer is digested and the
handshake proceeds; a report counts once CONNECTED (error information in any state). -/

/-- what an accepted answer does to the entities -/
def digest : Msg → State → HR
  | .extended (.consoleVer (.message v)), s => { s := { s with consoleVersion := v } }
  | .extended (.zoneNames (.message zn)), s => { s := processZoneNames zn.zone_names s }
  | .extended (.acAbility (.ability acs)), s => processAcAbility acs s
  | .controlStatus (.acStatus (.status l)), s => processAcStatus l s
  | .controlStatus (.acTimerStatus (.status l)), s => processAcTimer l s
  | .controlStatus (.acTimerCtrl c), s => processAcTimer c.ac_timer_status s
  | .controlStatus (.zoneStatus (.status l)), s => processZoneStatus l s
  | _, s => { s }

/-- after an answer awaited in `st`: enter the next state and send its request; after the last one finish `init()` -/
def proceed (st : AirTouchState) (s : State) : HR :=
  match requestFor (nextState st) with
  | some req => sendMsg { s with st := nextState st } .connected req
  | none => finishInit s

/-- a frame that is not the awaited answer, in state `st` -/
def report (st : AirTouchState) : Msg → State → HR
  | .extended (.errInfo (.message e)), s => processErrInfo e s
  | .extended (.consoleVer (.message v)), s => if st = .CONNECTED then processConsoleVersionUpdate v s else { s }
  | .extended _, s => { s }
  | m, s => if st = .CONNECTED then digest m s else { s }

theorem handleMessage_eq (s : State) (toAddr : Nat) (m : Msg) :
    handleMessage s toAddr m =
      if answers s.st toAddr m = true then (digest m s).andThen (proceed s.st) else report s.st m s := by
  split
  · rename_i ha
    -- `answers` names the state `X` for each kind of answer: there the handler's first test `s.st = X` succeeds (for the
    -- two request echoes together with the address test), and its branch is `digest` followed by `proceed X`
    unfold answers at ha
    split at ha
    all_goals (rename_i hst)
    all_goals (try cases ha)
    all_goals (rw [hst])
    all_goals first
      | exact (if_pos hst).trans rfl
      | exact (if_pos (by rw [ha, hst]; rfl)).trans rfl
  · rename_i ha
    -- every kind of frame is awaited in at most one state, and `s` is not in it
    have hne : ∀ st, answers st toAddr m = true → ¬ s.st = st := fun st h e => ha (e ▸ h)
    have skip {a b : HR} (st) (h : answers st toAddr m = true) : (if s.st = st then a else b) = b := if_neg (hne st h)
    have skip' {a : HR} (st) (h : answers st toAddr m = (toAddr == Gen.At5.Hdr.ADDRESS_CLIENT)) :
        (if (toAddr == Gen.At5.Hdr.ADDRESS_CLIENT && decide (s.st = st)) = true then a else { s }) = { s } := by
      refine if_neg fun h2 => ?_
      simp only [Bool.and_eq_true, decide_eq_true_eq] at h2
      exact hne st (h.trans h2.1) h2.2
    -- kind by kind: the handler's first test fails (`skip`), what is left is `report`
    rcases m with sub | sub | _
    · rcases sub with x | x | x | x | x | _
      · cases x <;> rfl
      · cases x
        · rfl
        · exact skip .INIT_AC_ABILITY rfl
      · cases x
        · exact skip .INIT_ZONE_NAMES rfl
        · exact skip' .INIT_ZONE_NAMES rfl
      · cases x
        · exact (skip .INIT_VERSION rfl).trans rfl
        · rfl
      · rfl
      · rfl
    · rcases sub with x | x | x | x | x | x | _
      · exact (ite_self _).symm
      · cases x
        · exact (skip' .INIT_ZONE_STATUS rfl).trans (ite_self _).symm
        · exact (skip .INIT_ZONE_STATUS rfl).trans rfl
      · exact (ite_self _).symm
      · cases x
        · exact (ite_self _).symm
        · exact (skip .INIT_AC_STATUS rfl).trans rfl
      · exact (skip .INIT_AC_TIMER_STATUS rfl).trans rfl
      · cases x
        · exact (ite_self _).symm
        · exact (skip .INIT_AC_TIMER_STATUS rfl).trans rfl
      · exact (ite_self _).symm
    · exact (ite_self _).symm

theorem answers_rank {st : AirTouchState} {toAddr : Nat} {m : Msg} (h : answers st toAddr m = true) :
    2 ≤ rank st ∧ rank st ≤ 7 := by
  unfold answers at h
  split at h <;> first | exact ⟨by decide, by decide⟩ | cases h

theorem rank_le (st : AirTouchState) : rank st ≤ 8 := by
  cases st <;> decide

theorem rank_nextState (st : AirTouchState) (h : rank st ≤ 7) : rank (nextState st) = rank st + 1 := by
  cases st <;> simp [rank, nextState] at h ⊢

/-- `rank` is injective: `rank st` is the position of `st` in the enumeration `AirTouchState.all` -/
theorem rank_inj {a b : AirTouchState} (h : rank a = rank b) : a = b := by
  have key : ∀ st, AirTouchState.all[rank st]? = some st := by intro st; cases st <;> rfl
  exact Option.some.inj ((key a).symm.trans (h ▸ key b))

theorem answers_zoneStatus_inv {toAddr : Nat} {m : Msg} (h : answers .INIT_ZONE_STATUS toAddr m = true) :
    (∃ l, m = .controlStatus (.zoneStatus (.status l))) ∨
    (m = .controlStatus (.zoneStatus .request) ∧ (toAddr == Gen.At5.Hdr.ADDRESS_CLIENT) = true) := by
  cases m with
  | extended sub => cases sub <;> simp [answers] at h
  | unsupported id raw => simp [answers] at h
  | controlStatus sub =>
    cases sub with
    | zoneStatus zs =>
      cases zs with
      | request => exact .inr ⟨rfl, by simpa [answers] using h⟩
      | status l => exact .inl ⟨l, rfl⟩
    | _ => simp [answers] at h

theorem requestFor_spec {st : AirTouchState} {req : Msg} (h : requestFor st = some req) :
    isRequest req = true ∧ isErrInfoRequest req = false := by
  cases st <;> cases h <;> exact ⟨rfl, rfl⟩

theorem proceed_cases (st : AirTouchState) (h2 : 2 ≤ rank st) (h7 : rank st ≤ 7) :
    (rank st ≤ 6 ∧ ∃ req, requestFor (nextState st) = some req ∧
      proceed st = fun s => sendMsg { s with st := nextState st } .connected req) ∨
    (st = .INIT_ZONE_STATUS ∧ proceed st = finishInit) := by
  cases st
  case INIT_ZONE_STATUS => exact .inr ⟨rfl, rfl⟩
  case CLOSED => exact absurd h2 (by decide)
  case CONNECTING => exact absurd h2 (by decide)
  case CONNECTED => exact absurd h7 (by decide)
  all_goals exact .inl ⟨by decide, _, rfl, rfl⟩

theorem digest_touch (m : Msg) (s : State) : Touch ErrOrNotify s (digest m s) := by
  unfold digest
  split
  · exact ⟨sameSt_heaps s _ _ _ _ _, allOut_nil _ _ _⟩
  · exact ⟨sameSt_processZoneNames _ _, allOut_nil _ _ _⟩
  · exact (ent_processAcAbility _ _).touch.mono fun _ => False.elim
  · exact (ent_processAcStatus _ _).touch
  · exact (ent_processAcTimer _ _).touch.mono fun _ => .inl
  · exact (ent_processAcTimer _ _).touch.mono fun _ => .inl
  · exact (ent_processZoneStatus _ _).touch.mono fun _ => .inl
  · exact touch_nil _ s none

theorem digest_exc {s : State} {m : Msg} (hopen : s.sockOpen = true) (hok : abilityOk s m) : (digest m s).exc = none := by
  unfold digest
  split
  · rfl
  · rfl
  · exact hok
  · rw [processAcStatus_eq _ s hopen]
  · rw [processAcTimer_eq]
  · rw [processAcTimer_eq]
  · rw [processZoneStatus_eq]
  · rfl

theorem report_touch (st : AirTouchState) (m : Msg) (s : State) : Touch ErrOrNotify s (report st m s) := by
  unfold report
  split
  · exact (ent_processErrInfo _ _).1.touch.mono fun _ => .inl
  · split
    · rw [processConsoleVersionUpdate_spec]
      refine ⟨sameSt_heaps s _ _ _ _ _, fun o ho => .inl ?_⟩
      split at ho
      · cases ho
      · obtain ⟨_, _, rfl⟩ := List.mem_map.1 ho; rfl
    · exact touch_nil _ s none
  · exact touch_nil _ s none
  · split
    · exact digest_touch _ s
    · exact touch_nil _ s none

theorem handleMessage_connReq (s : State) (toAddr : Nat) (m : Msg) : AllOut ConnReq (handleMessage s toAddr m) := by
  rw [handleMessage_eq]
  split
  · refine allOut_andThen ((digest_touch m s).out.mono fun _ => ErrOrNotify.connReq) fun s1 => ?_
    unfold proceed
    split
    · exact allOut_sendMsg _ _ _ _ ⟨rfl, (requestFor_spec ‹_›).1, rfl⟩
    · exact finishInit_connReq s1
  · exact (report_touch _ m s).out.mono fun _ => ErrOrNotify.connReq

theorem handleMessage_not_answer (s : State) (toAddr : Nat) (m : Msg) (h : answers s.st toAddr m = false)
    (hne : s.st ≠ .CONNECTED) :
    SameSt s (handleMessage s toAddr m).s ∧ (handleMessage s toAddr m).exc = none ∧
      ∀ o ∈ (handleMessage s toAddr m).out, o.isNotify = true := by
  rw [handleMessage_eq, if_neg (by rw [h]; exact Bool.false_ne_true)]
  -- before the handshake is complete a report can only be error information
  unfold report
  split
  · exact ⟨(ent_processErrInfo _ _).1.touch.ctl, (ent_processErrInfo _ _).2, (ent_processErrInfo _ _).1.touch.out⟩
  · rw [if_neg hne]; exact ⟨SameSt.refl s, rfl, by simp⟩
  · exact ⟨SameSt.refl s, rfl, by simp⟩
  · rw [if_neg hne]; exact ⟨SameSt.refl s, rfl, by simp⟩

end PyAirtouch.Lemmas.Api5
