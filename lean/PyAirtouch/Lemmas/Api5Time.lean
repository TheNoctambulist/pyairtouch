import PyAirtouch.Lemmas.Api5Out
import PyAirtouch.Lemmas.HeartbeatSched
/-!
# Time in the AirTouch 5 API model

What one `hbFeed` does to the embedded manager (`hbStep`) and what the API outputs of it (`hbRep`), with the manager at
rest (`hbStep_idle`); one equation for each op that feeds the manager: `doAdv_eq` with the functions `hbSteps` / `advOut` it
is written in and their lemmas, `doConn_eq`, `doShutdown_eq`, `finishInit_eq` (a frame's is `doMsg_eq` in `Api5Step`).
-/
namespace PyAirtouch.Lemmas.Api5
open PyAirtouch.Model PyAirtouch.Model.Api5 PyAirtouch.Model.At5 PyAirtouch.Model.At5.Registry
open PyAirtouch.Model.TimerCommon (AcTimerState AcTimerStatusData)
open PyAirtouch.Model.Heartbeat
open PyAirtouch.Gen PyAirtouch.Gen.Api5

theorem feed_idle (h : HB) (i : HIn) (hi : HbIdle h) (hk : ∀ t, i ≠ .start t) :
    HbIdle (feed 0 h i) ∧ (feed 0 h i).trace.filterMap hbOut = h.trace.filterMap hbOut := by
  obtain ⟨n', hn⟩ := advance_idle h i.time hi
  have hi' : HbIdle { h with now := n' } := hi
  unfold feed
  simp only [settle_idle _ _ _ _ _ hi, hn]
  cases i <;> simp only
  case start t => exact absurd rfl (hk t)
  case finish t => rw [settle_idle _ _ _ _ _ hi']; exact ⟨hi, rfl⟩
  all_goals simp [apply!, step, HB.emit, hi.1, hi.2, HbIdle, hbOut]

/-- `hbFeed` clears the trace (and the ghost list of expiries) before it feeds the manager: the API reads the trace afterwards
as "what the manager did this time" and turns it into outputs (`hbOut`) -/
def clr (h : HB) : HB := { h with trace := [], expiries := [] }

def hbStep (h : HB) (i : HIn) : HB := feed 0 (clr h) i

abbrev hbRep (h : HB) (i : HIn) : List Out := (hbStep h i).trace.filterMap hbOut

theorem hbFeed_fst (s : State) (i : HIn) : (hbFeed s i).1 = { s with hb := hbStep s.hb i } := rfl
theorem hbFeed_snd (s : State) (i : HIn) : (hbFeed s i).2 = hbRep s.hb i := rfl

theorem hbRep_out (h : HB) (i : HIn) : ∀ o ∈ hbRep h i, o = .send .connected hbMessage false ∨ o = .reset := by
  intro o ho
  obtain ⟨e, _, he⟩ := List.mem_filterMap.1 ho
  cases e <;> simp [hbOut] at he
  · exact .inl he.symm
  · exact .inr he.symm

theorem hbStep_idle {h : HB} (i : HIn) (hi : HbIdle h) (hk : ∀ t, i ≠ .start t) : HbIdle (hbStep h i) ∧ hbRep h i = [] :=
  feed_idle (clr h) i hi hk

theorem hbStep_stop_conn_idle (h : HB) (t u : Nat) (up : Bool) : HbIdle (hbStep (hbStep h (.stop t)) (.conn up u)) :=
  (hbStep_idle (.conn up u) (feed_stop_idle 0 _ _) nofun).1

/-- a sequence of inputs to the embedded manager: the final manager and everything it recorded on the way.  `doAdv_eq` uses
the first component only (`advOut` gives the outputs, interleaved with the `init()` time-outs); the second serves the
count of `RESET`s (`count_advOut`, `apiStep_feeds`).  This is `Heartbeat.feedsC 0` (`hbSteps_eq`); as a fold:
`hbSteps_eq_foldW` -/
def hbSteps (h : HB) : List HIn → HB × List PyAirtouch.Spec.Heartbeat.HEv
  | [] => (h, [])
  | i :: is => ((hbSteps (hbStep h i) is).1, (hbStep h i).trace ++ (hbSteps (hbStep h i) is).2)

theorem hbSteps_eq_foldW (h : HB) (ins : List HIn) :
    hbSteps h ins = FoldW.foldW (fun h i => (hbStep h i, (hbStep h i).trace)) h ins := by
  induction ins generalizing h with
  | nil => rfl
  | cons i is ih => simp only [hbSteps, FoldW.foldW, ih]

/-- what `adv` outputs: for each `init()` deadline that is due what the manager does until then and the caller's
`False`, then what the manager does until the target time -/
def advOut (h : HB) : List Nat → Nat → List Out
  | [], t => hbRep h (.finish t)
  | d :: ds, t =>
    hbRep h (.finish d) ++ [.result "init False"] ++ advOut (hbStep h (.finish d)) ds t

theorem doAdv_eq (s : State) (n : Nat) :
    doAdv s n =
      ({ s with hb := (hbSteps s.hb ((s.pendingInits.filter (· ≤ s.now + n)).map .finish ++ [.finish (s.now + n)])).1,
                now := s.now + n, pendingInits := s.pendingInits.filter (s.now + n < ·) },
       advOut s.hb (s.pendingInits.filter (· ≤ s.now + n)) (s.now + n)) := by
  have key : ∀ (due : List Nat) (acc : State × List Out) (t : Nat),
      let r := due.foldl (fun (acc : State × List Out) d =>
        ((hbFeed acc.1 (.finish d)).1, acc.2 ++ (hbFeed acc.1 (.finish d)).2 ++ [Out.result "init False"])) acc
      (hbFeed r.1 (.finish t)).1 = { acc.1 with hb := (hbSteps acc.1.hb (due.map .finish ++ [.finish t])).1 } ∧
      r.2 ++ (hbFeed r.1 (.finish t)).2 = acc.2 ++ advOut acc.1.hb due t := by
    intro due
    induction due with
    | nil => intro acc t; exact ⟨rfl, rfl⟩
    | cons d due ih =>
      intro acc t
      obtain ⟨h1, h2⟩ := ih ((hbFeed acc.1 (.finish d)).1, acc.2 ++ (hbFeed acc.1 (.finish d)).2 ++ [Out.result "init False"]) t
      simp only [hbFeed_fst, hbFeed_snd, List.append_assoc] at h1 h2
      simp only [List.foldl_cons, List.map_cons, List.cons_append, hbSteps, advOut, hbFeed_fst, hbFeed_snd, List.append_assoc]
      exact ⟨h1, h2⟩
  obtain ⟨h1, h2⟩ := key (s.pendingInits.filter (· ≤ s.now + n)) (s, []) (s.now + n)
  unfold doAdv
  simp only at h1 h2 ⊢
  rw [h1, h2]
  rfl

theorem doAdv_running (s : State) (n : Nat) (hp : s.pendingInits = []) :
    doAdv s n = ({ s with hb := hbStep s.hb (.finish (s.now + n)), now := s.now + n, pendingInits := [] },
                 (hbStep s.hb (.finish (s.now + n))).trace.filterMap hbOut) := by
  rw [doAdv_eq, hp]
  rfl

theorem hbSteps_eq : ∀ (ins : List HIn) (h : HB), hbSteps h ins = PyAirtouch.Lemmas.Heartbeat.feedsC 0 h ins
  | [], _ => rfl
  | i :: is, h => by
    rw [hbSteps, PyAirtouch.Lemmas.Heartbeat.feedsC, hbSteps_eq is]
    rfl

theorem hbSteps_inv {P : HB → Prop} {Q : HIn → Prop} (hP : ∀ h i, Q i → P h → P (hbStep h i)) :
    ∀ (ins : List HIn) (h : HB), (∀ i ∈ ins, Q i) → P h → P (hbSteps h ins).1 := fun ins h hq hp =>
  hbSteps_eq_foldW h ins ▸ FoldW.foldW_inv ins h hp fun g i hi => hP g i (hq i hi)

theorem count_reset_hbOut (evs : List PyAirtouch.Spec.Heartbeat.HEv) : (evs.filterMap hbOut).count .reset = resetEvs evs := by
  induction evs with
  | nil => rfl
  | cons e evs ih =>
    cases e <;> simp [hbOut, resetEvs, List.countP_cons, HEv.isReset, List.filterMap_cons, hbMessage] at ih ⊢ <;> omega

theorem count_reset_hbRep (h : HB) (i : HIn) : (hbRep h i).count .reset = resetEvs (hbStep h i).trace :=
  count_reset_hbOut _

theorem hbSteps_append (h : HB) (a b : List HIn) :
    hbSteps h (a ++ b) = ((hbSteps (hbSteps h a).1 b).1, (hbSteps h a).2 ++ (hbSteps (hbSteps h a).1 b).2) := by
  simp only [hbSteps_eq_foldW, FoldW.foldW_append]

theorem count_advOut (h : HB) (due : List Nat) (t : Nat) :
    (advOut h due t).count .reset = resetEvs (hbSteps h (due.map .finish ++ [.finish t])).2 := by
  induction due generalizing h with
  | nil => simp [advOut, hbSteps, count_reset_hbOut]
  | cons d due ih => simp [advOut, hbSteps, List.count_append, count_reset_hbOut, resetEvs_append, ih]

/-- `adv`: a time-out of a waiting `init()`, a heartbeat request, or the heartbeat's connection reset — nothing else -/
def AdvOut (o : Out) : Prop := o = .result "init False" ∨ o = .send .connected hbMessage false ∨ o = .reset

theorem advOut_out (h : HB) (due : List Nat) (t : Nat) : ∀ o ∈ advOut h due t, AdvOut o := by
  induction due generalizing h with
  | nil => exact fun o ho => .inr (hbRep_out h _ o ho)
  | cons d due ih =>
    intro o ho
    simp only [advOut, List.mem_append, List.mem_singleton] at ho
    rcases ho with (ho | rfl) | ho
    · exact .inr (hbRep_out h (.finish d) o ho)
    · exact .inl rfl
    · exact ih _ o ho

theorem doAdv_out (s : State) (n : Nat) : ∀ o ∈ (doAdv s n).2, AdvOut o := by
  rw [doAdv_eq]
  exact advOut_out _ _ _

theorem advOut_idle {h : HB} (hi : HbIdle h) (due : List Nat) (t : Nat) :
    advOut h due t = due.map (fun _ => Out.result "init False") ∧ HbIdle (hbSteps h (due.map .finish ++ [.finish t])).1 := by
  induction due generalizing h with
  | nil => exact ⟨(hbStep_idle (.finish t) hi nofun).2, (hbStep_idle (.finish t) hi nofun).1⟩
  | cons d due ih =>
    obtain ⟨g1, g2⟩ := ih (hbStep_idle (.finish d) hi nofun).1
    exact ⟨by rw [advOut, g1, (hbStep_idle (.finish d) hi nofun).2]; rfl, g2⟩

theorem doAdv_idle (s : State) (n : Nat) (hi : HbIdle s.hb) :
    (doAdv s n).2 = (s.pendingInits.filter (· ≤ s.now + n)).map (fun _ => Out.result "init False") ∧
    HbIdle (doAdv s n).1.hb ∧
    ∃ hb', (doAdv s n).1 = { s with hb := hb', now := s.now + n, pendingInits := s.pendingInits.filter (s.now + n < ·) } := by
  rw [doAdv_eq]
  exact ⟨(advOut_idle hi _ _).1, (advOut_idle hi _ _).2, _, rfl⟩

/-! ### the other ops that feed the manager, in the same form -/

theorem doShutdown_eq (s : State) :
    doShutdown s =
      ({ s with hb := hbStep (hbStep s.hb (.stop s.now)) (.conn false s.now), st := .CLOSED, initialised := false,
                sockOpen := false, zobjs := [], aobjs := [], zones := [], acs := [] },
       [.hbStop, .closed, .result "shutdown OK"]) := by
  simp only [doShutdown, hbFeed, hbStep, clr]

theorem doConn_eq (s : State) (up : Bool) :
    doConn s up = if s.sockSubscribed = true then
      ((handleConnection { s with hb := hbStep s.hb (.conn up s.now) } up).s,
        excOut (handleConnection { s with hb := hbStep s.hb (.conn up s.now) } up))
      else ({ s with hb := hbStep s.hb (.conn up s.now) }, []) := by
  simp only [doConn, hbFeed_fst]
  rfl

theorem finishInit_eq (s : State) :
    finishInit s = { s := { s with st := .CONNECTED, hb := hbStep s.hb (.start s.now), initialised := true, pendingInits := [] },
                     out := [.hbStart] ++ s.pendingInits.map (fun _ => Out.result "init True") ++ hbRep s.hb (.start s.now),
                     exc := none } := by
  simp only [finishInit, hbFeed, setInitialised, hbRep, hbStep, clr]

end PyAirtouch.Lemmas.Api5
