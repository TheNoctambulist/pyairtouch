import PyAirtouch.Spec.Trace
/-!
# The trace functions of the specification under concatenation

Every function below folds a trace event by event (`filterMap`, `countP`, `any`, `findSome?`), so it
is determined by what it does on `++`; its value on a one-event trace is found by evaluation.
-/
namespace PyAirtouch.Lemmas.Sock
open PyAirtouch.Spec.Trace

theorem acceptedAt_append (tr tr' : List Ev) (s : Nat) :
    acceptedAt (tr ++ tr') s = (acceptedAt tr s).or (acceptedAt tr' s) :=
  List.findSome?_append

theorem acceptedAt_mono {tr : List Ev} {s : Nat} {x} (tr' : List Ev) (h : acceptedAt tr s = some x) :
    acceptedAt (tr ++ tr') s = some x := by
  rw [acceptedAt_append, h]; rfl

theorem writeAttempts_append (tr tr' : List Ev) (s : Nat) :
    writeAttempts (tr ++ tr') s = writeAttempts tr s + writeAttempts tr' s :=
  List.countP_append

theorem wireCount_append (tr tr' : List Ev) (s : Nat) :
    wireCount (tr ++ tr') s = wireCount tr s + wireCount tr' s :=
  List.countP_append

theorem wiredSids_append (a b : List Ev) : wiredSids (a ++ b) = wiredSids a ++ wiredSids b :=
  List.filterMap_append

theorem acceptedSids_append (a b : List Ev) : acceptedSids (a ++ b) = acceptedSids a ++ acceptedSids b :=
  List.filterMap_append

theorem hasFault_append (a b : List Ev) : hasFault (a ++ b) = (hasFault a || hasFault b) :=
  List.any_append

end PyAirtouch.Lemmas.Sock
