import PyAirtouch.Model.Api5
import PyAirtouch.Lemmas.FoldW
/-!
# The AirTouch 5 API model, piece by piece: the object heaps, what one entity update does, the `_process_*` loops as
runs of such updates (last writer wins), set-point arithmetic, what a public call hands to the socket, the zone range and
the forwarders of a new AC object, runs of a script
-/
namespace PyAirtouch.Lemmas.Api5
open PyAirtouch.Model PyAirtouch.Model.Api5 PyAirtouch.Model.At5 PyAirtouch.Model.At5.Registry
open PyAirtouch.Model.TimerCommon (AcTimerState AcTimerStatusData)
open PyAirtouch.Gen PyAirtouch.Gen.Api5

theorem modifyAt_eq_modify {α} (l : List α) (i : Nat) (f : α → α) : modifyAt l i f = l.modify i f := by
  induction l generalizing i with
  | nil => cases i <;> rfl
  | cons x xs ih => cases i with
    | zero => rfl
    | succ i => simp [modifyAt, ih]

theorem modifyAt_length {α} (l : List α) (i : Nat) (f : α → α) : (modifyAt l i f).length = l.length := by
  rw [modifyAt_eq_modify, List.length_modify]

theorem modifyAt_get_same {α} (l : List α) (i : Nat) (f : α → α) : (modifyAt l i f)[i]? = l[i]?.map f := by
  rw [modifyAt_eq_modify, List.getElem?_modify_eq]; rfl

theorem modifyAt_get_other {α} (l : List α) (i j : Nat) (f : α → α) (h : i ≠ j) : (modifyAt l i f)[j]? = l[j]? := by
  rw [modifyAt_eq_modify, List.getElem?_modify_ne _ _ h]

theorem modifyAt_eq {α} (l : List α) (i : Nat) (f : α → α) :
    modifyAt l i f = match l[i]? with
      | some b => l.set i (f b)
      | none => l := by
  rw [modifyAt_eq_modify]
  cases h : l[i]? with
  | none => exact List.modify_eq_self (List.getElem?_eq_none_iff.1 h)
  | some b =>
    obtain ⟨hi, rfl⟩ := List.getElem?_eq_some_iff.1 h
    show _ = l.set i (f l[i])
    rw [List.modify_eq_take_cons_drop hi, List.set_eq_take_append_cons_drop, if_pos hi]

theorem modifyAt_self {α} (l : List α) (i : Nat) (x : α) (h : l[i]? = some x) : modifyAt l i (fun _ => x) = l := by
  obtain ⟨hi, rfl⟩ := List.getElem?_eq_some_iff.1 h
  rw [modifyAt_eq, List.getElem?_eq_getElem hi]; exact List.set_getElem_self hi

theorem modifyAt_const_twice {α} (l : List α) (i : Nat) (x y : α) :
    modifyAt (modifyAt l i (fun _ => x)) i (fun _ => y) = modifyAt l i (fun _ => y) := by
  simp only [modifyAt_eq_modify, List.modify_modify_eq]; rfl

@[simp] theorem andThen_none (r : HR) (f : State → HR) (h : r.exc = none) :
    r.andThen f = { s := (f r.s).s, out := r.out ++ (f r.s).out, exc := (f r.s).exc } := by
  simp [HR.andThen, h]

theorem sendMsg_s (s : State) (p : Policy) (m : Msg) (b : Bool) : (sendMsg s p m b).s = s := by
  unfold sendMsg; split <;> rfl

theorem sendMsg_open (s : State) (p : Policy) (m : Msg) (b : Bool) (hopen : s.sockOpen = true) :
    sendMsg s p m b = { s := s, out := [.send p m b], exc := none } := by
  simp [sendMsg, hopen]

theorem andThen_s (r : HR) (f : State → HR) :
    (r.andThen f).s = r.s ∨ (r.exc = none ∧ (r.andThen f).s = (f r.s).s) := by
  unfold HR.andThen
  split
  · exact .inl rfl
  · rename_i h; exact .inr ⟨h, rfl⟩

theorem andThen_some (r : HR) (f : State → HR) (c : String) (h : r.exc = some c) : r.andThen f = r := by
  simp [HR.andThen, h]

/-- the AC object after `update_ac_status(d)` -/
def acAfterStatus (a : AcObj) (d : C023.AcStatusData) : AcObj :=
  if a.status = d then a
  else if d.error_code ≠ 0 then { a with status := d } else { a with status := d, errInfo := none }

/-- what `update_ac_status(d)` emits -/
def acStatusOut (a : AcObj) (d : C023.AcStatusData) : List Out :=
  if a.status = d then []
  else (if d.error_code ≠ 0 then [.send .connected (msgErrInfoRequest d.ac_number) false] else []) ++
    acNotifyAll (acAfterStatus a d)

theorem updateAcStatus_spec {s : State} {r : Nat} {a : AcObj} (d : C023.AcStatusData)
    (hopen : s.sockOpen = true) (ha : s.aobjs[r]? = some a) :
    updateAcStatus s r d = { s := s.setAc r (acAfterStatus a d), out := acStatusOut a d, exc := none } := by
  unfold updateAcStatus acStatusOut acAfterStatus
  simp only [ha]
  by_cases h1 : a.status = d
  · simp [h1, State.setAc, modifyAt_self _ _ _ ha]
  · by_cases h2 : d.error_code ≠ 0
    · simp [h1, h2, sendMsg, State.setAc, hopen, HR.andThen, AcObj.id]
    · simp [h1, h2]

def acAfterTimer (a : AcObj) (d : AcTimerStatusData) : AcObj := { a with timer := d }
def acTimerOut (a : AcObj) (d : AcTimerStatusData) : List Out :=
  if a.timer = d then [] else acNotifyAll (acAfterTimer a d)

theorem updateAcTimer_spec {s : State} {r : Nat} {a : AcObj} (d : AcTimerStatusData) (ha : s.aobjs[r]? = some a) :
    updateAcTimer s r d = { s := s.setAc r (acAfterTimer a d), out := acTimerOut a d, exc := none } := by
  unfold updateAcTimer acTimerOut acAfterTimer
  simp only [ha]
  by_cases h1 : a.timer = d
  · have : ({ a with timer := d } : AcObj) = a := by cases a; simp_all
    simp [h1, State.setAc, this, modifyAt_self _ _ _ ha]
  · simp [h1]

def acAfterErrInfo (a : AcObj) (e : Option Bytes) : AcObj := { a with errInfo := e }
def acErrInfoOut (a : AcObj) (e : Option Bytes) : List Out :=
  if a.errInfo = e then [] else acNotifyAll (acAfterErrInfo a e)

theorem updateAcErrInfo_spec {s : State} {r : Nat} {a : AcObj} (e : Option Bytes) (ha : s.aobjs[r]? = some a) :
    updateAcErrInfo s r e = { s := s.setAc r (acAfterErrInfo a e), out := acErrInfoOut a e, exc := none } := by
  unfold updateAcErrInfo acErrInfoOut acAfterErrInfo
  simp only [ha]
  by_cases h1 : a.errInfo = e
  · have : ({ a with errInfo := e } : AcObj) = a := by cases a; simp_all
    simp [h1, State.setAc, this, modifyAt_self _ _ _ ha]
  · simp [h1]

def zoneAfterStatus (z : ZoneObj) (d : C021.ZoneStatusData) : ZoneObj := { z with status := d }
def zoneStatusOut (aobjs : List AcObj) (z : ZoneObj) (d : C021.ZoneStatusData) : List Out :=
  if z.status = d then [] else zoneNotify aobjs (zoneAfterStatus z d)

theorem updateZoneStatus_spec {s : State} {r : Nat} {z : ZoneObj} (d : C021.ZoneStatusData) (hz : s.zobjs[r]? = some z) :
    updateZoneStatus s r d = { s := s.setZone r (zoneAfterStatus z d), out := zoneStatusOut s.aobjs z d, exc := none } := by
  unfold updateZoneStatus zoneStatusOut zoneAfterStatus
  simp only [hz]
  by_cases h1 : z.status = d
  · have : ({ z with status := d } : ZoneObj) = z := by cases z; simp_all
    simp [h1, State.setZone, this, modifyAt_self _ _ _ hz]
  · simp [h1]


/-! ### the `_process_*` loops as folds (socket open: no exception) -/

def runSteps {α} (step : State → α → State × List Out) : List α → State → State × List Out
  | [], s => (s, [])
  | x :: xs, s => ((runSteps step xs (step s x).1).1, (step s x).2 ++ (runSteps step xs (step s x).1).2)

theorem forEach_eq_runSteps {α} (f : State → α → HR) (step : State → α → State × List Out) (I : State → Prop)
    (h : ∀ s x, I s → f s x = { s := (step s x).1, out := (step s x).2, exc := none } ∧ I (step s x).1)
    (xs : List α) (s : State) (hI : I s) :
    forEach xs f s = { s := (runSteps step xs s).1, out := (runSteps step xs s).2, exc := none } ∧
      I (runSteps step xs s).1 := by
  induction xs generalizing s with
  | nil => simp [forEach, runSteps, hI]
  | cons x xs ih =>
    obtain ⟨h1, h2⟩ := h s x hI
    obtain ⟨h3, h4⟩ := ih (step s x).1 h2
    simp [forEach, runSteps, h1, HR.andThen, h3, h4]

theorem runSteps_eq {α} (step : State → α → State × List Out) (xs : List α) (s : State) :
    runSteps step xs s = FoldW.foldW step s xs := by
  induction xs generalizing s with
  | nil => rfl
  | cons x xs ih => simp only [runSteps, FoldW.foldW, ih]

theorem runSteps_inv {α} (step : State → α → State × List Out) (R : State → State → Prop)
    (hrefl : ∀ s, R s s) (htrans : ∀ a b c, R a b → R b c → R a c) (hstep : ∀ s x, R s (step s x).1)
    (xs : List α) (s : State) : R s (runSteps step xs s).1 :=
  runSteps_eq step xs s ▸ FoldW.foldW_inv (I := R s) xs s (hrefl s) fun t x _ h => htrans _ _ _ h (hstep t x)

theorem runSteps_out {α} (step : State → α → State × List Out) (O : Out → Prop)
    (hstep : ∀ s x, ∀ o ∈ (step s x).2, O o) (xs : List α) (s : State) : ∀ o ∈ (runSteps step xs s).2, O o := fun o ho =>
  have ⟨_, _, h⟩ := (FoldW.foldW_ind (f := step) (I := fun _ => True) (O := fun _ => O) xs s trivial
    fun t x _ _ => ⟨trivial, hstep t x⟩).2 o (runSteps_eq step xs s ▸ ho)
  h

def acStatusStep (s : State) (d : C023.AcStatusData) : State × List Out :=
  match s.acRef d.ac_number with
  | some r => match s.aobjs[r]? with
    | some a => (s.setAc r (acAfterStatus a d), acStatusOut a d)
    | none => (s, [])
  | none => (s, [])

def acTimerStep (s : State) (d : AcTimerStatusData) : State × List Out :=
  match s.acRef d.ac_number with
  | some r => match s.aobjs[r]? with
    | some a => (s.setAc r (acAfterTimer a d), acTimerOut a d)
    | none => (s, [])
  | none => (s, [])

def zoneStatusStep (s : State) (d : C021.ZoneStatusData) : State × List Out :=
  match s.zones.lookup d.zone_number with
  | some r => match s.zobjs[r]? with
    | some z => (s.setZone r (zoneAfterStatus z d), zoneStatusOut s.aobjs z d)
    | none => (s, [])
  | none => (s, [])

theorem setAc_sockOpen (s : State) (r : Nat) (a : AcObj) : (s.setAc r a).sockOpen = s.sockOpen := rfl
theorem setZone_sockOpen (s : State) (r : Nat) (z : ZoneObj) : (s.setZone r z).sockOpen = s.sockOpen := rfl

theorem acTimerStep_sockOpen (s : State) (d : AcTimerStatusData) : (acTimerStep s d).1.sockOpen = s.sockOpen := by
  unfold acTimerStep; repeat' split
  all_goals rfl

theorem zoneStatusStep_sockOpen (s : State) (d : C021.ZoneStatusData) : (zoneStatusStep s d).1.sockOpen = s.sockOpen := by
  unfold zoneStatusStep; repeat' split
  all_goals rfl

theorem processAcStatus_eq (l : List C023.AcStatusData) (s : State) (hopen : s.sockOpen = true) :
    processAcStatus l s = { s := (runSteps acStatusStep l s).1, out := (runSteps acStatusStep l s).2, exc := none } := by
  unfold processAcStatus
  refine (forEach_eq_runSteps _ acStatusStep (fun s => s.sockOpen = true) (fun s d hs => ⟨?_, ?_⟩) l s hopen).1
  · unfold acStatusStep
    cases hr : s.acRef d.ac_number with
    | none => rfl
    | some r =>
      cases ha : s.aobjs[r]? with
      | none => simp [updateAcStatus, ha]
      | some a => simp [updateAcStatus_spec d hs ha, ha]
  · unfold acStatusStep; repeat' split
    all_goals exact hs

theorem processAcTimer_eq (l : List AcTimerStatusData) (s : State) :
    processAcTimer l s = { s := (runSteps acTimerStep l s).1, out := (runSteps acTimerStep l s).2, exc := none } := by
  unfold processAcTimer
  refine (forEach_eq_runSteps _ acTimerStep (fun _ => True) (fun s d _ => ⟨?_, trivial⟩) l s trivial).1
  unfold acTimerStep
  cases hr : s.acRef d.ac_number with
  | none => rfl
  | some r =>
    cases ha : s.aobjs[r]? with
    | none => simp [updateAcTimer, ha]
    | some a => simp [updateAcTimer_spec d ha, ha]

theorem processZoneStatus_eq (l : List C021.ZoneStatusData) (s : State) :
    processZoneStatus l s = { s := (runSteps zoneStatusStep l s).1, out := (runSteps zoneStatusStep l s).2, exc := none } := by
  unfold processZoneStatus
  refine (forEach_eq_runSteps _ zoneStatusStep (fun _ => True) (fun s d _ => ⟨?_, trivial⟩) l s trivial).1
  unfold zoneStatusStep
  cases hr : s.zones.lookup d.zone_number with
  | none => rfl
  | some r =>
    cases hz : s.zobjs[r]? with
    | none => simp [updateZoneStatus, hz]
    | some z => simp [updateZoneStatus_spec d hz, hz]


/-- `cur` overwritten, in order, by every record of `l` that the dict addresses to object `r` -/
def lastWriter {D} (key : D → Nat) (dict : List (Nat × Nat)) (r : Nat) (l : List D) (cur : D) : D :=
  l.foldl (fun c d => if dict.lookup (key d) = some r then d else c) cur

theorem lastWriter_cons {D} (key : D → Nat) (dict : List (Nat × Nat)) (r : Nat) (d : D) (l : List D) (cur : D) :
    lastWriter key dict r (d :: l) cur = lastWriter key dict r l (if dict.lookup (key d) = some r then d else cur) := rfl

theorem lastWriter_none {D} (key : D → Nat) (dict : List (Nat × Nat)) (r : Nat) (l : List D) (cur : D)
    (h : ∀ d ∈ l, dict.lookup (key d) ≠ some r) : lastWriter key dict r l cur = cur := by
  induction l generalizing cur with
  | nil => rfl
  | cons d l ih =>
    rw [lastWriter_cons, if_neg (h d (by simp))]
    exact ih _ (fun d hd => h d (by simp [hd]))

theorem lastWriter_last {D} (key : D → Nat) (dict : List (Nat × Nat)) (r : Nat) (l1 l2 : List D) (d cur : D)
    (hd : dict.lookup (key d) = some r) (h2 : ∀ e ∈ l2, dict.lookup (key e) ≠ some r) :
    lastWriter key dict r (l1 ++ d :: l2) cur = d := by
  unfold lastWriter
  rw [List.foldl_append, List.foldl_cons, if_pos hd]
  exact lastWriter_none key dict r l2 d h2

theorem acAfterStatus_status (a : AcObj) (d : C023.AcStatusData) : (acAfterStatus a d).status = d := by
  unfold acAfterStatus; repeat' split
  all_goals first | assumption | rfl

/-- the fields of an AC object that no status / timer / error update touches -/
def fixedOf (a : AcObj) :=
  (a.ability, a.zones, a.supportedModes, a.supportedFanSpeeds, a.subs, a.subsState)

theorem acAfterStatus_fixed (a : AcObj) (d : C023.AcStatusData) : fixedOf (acAfterStatus a d) = fixedOf a := by
  unfold acAfterStatus; repeat' split
  all_goals rfl

theorem acAfterStatus_timer (a : AcObj) (d : C023.AcStatusData) : (acAfterStatus a d).timer = a.timer := by
  unfold acAfterStatus; repeat' split
  all_goals rfl

/-- reading a heap after one step of a record loop.  `l` is the heap before, `l'` the heap after; the step replaces the
object that `ref` points to by its image under `g` (`h`), and leaves the heap alone when `ref` is `none` or dangling
(`h0`).  Then the object at `r` is replaced exactly if `ref = some r`. -/
theorem replaced_get {α} {l l' : List α} {ref : Option Nat} {g : α → α} {r : Nat} {x : α} (hx : l[r]? = some x)
    (h : ∀ r' y, ref = some r' → l[r']? = some y → l' = modifyAt l r' (fun _ => g y))
    (h0 : (∀ r' y, ref = some r' → l[r']? = some y → False) → l' = l) :
    l'[r]? = some (if ref = some r then g x else x) := by
  by_cases hr : ref = some r
  · rw [h r x hr hx, modifyAt_get_same, hx, if_pos hr]; rfl
  · rw [if_neg hr]
    cases ref with
    | none => rw [h0 nofun]; exact hx
    | some r' =>
      cases hy : l[r']? with
      | none => rw [h0 (fun _ _ e hy' => by cases e; rw [hy] at hy'; cases hy')]; exact hx
      | some y => rw [h r' y rfl hy, modifyAt_get_other _ _ _ _ (fun e => hr (congrArg some e))]; exact hx

theorem acStatusStep_acs (s : State) (d : C023.AcStatusData) : (acStatusStep s d).1.acs = s.acs := by
  unfold acStatusStep; repeat' split
  all_goals rfl

theorem acStatusStep_get (s : State) (d : C023.AcStatusData) (r : Nat) (a : AcObj) (ha : s.aobjs[r]? = some a) :
    (acStatusStep s d).1.aobjs[r]? =
      some (if s.acRef d.ac_number = some r then acAfterStatus a d else a) := by
  refine replaced_get (g := (acAfterStatus · d)) ha ?_ ?_ <;> unfold acStatusStep
  · intro r' y h1 h2; rw [h1]; dsimp only; rw [h2]; rfl
  · intro h; split
    · split
      · exact absurd ‹_› (h _ _ ‹_›)
      · rfl
    · rfl

/-- a loop of record steps seen from the object `r` of a heap: the dict is kept; the part `cur` of the object that a
record overwrites ends as the last record addressed to `r`; every part `keep` that no record touches stays -/
theorem runSteps_lastWriter {α D} {step : State → D → State × List Out} (heap : State → List α)
    (dict : State → List (Nat × Nat)) (key : D → Nat) (after : α → D → α) (cur : α → D)
    (hdict : ∀ s d, dict (step s d).1 = dict s)
    (hget : ∀ s d r a, (heap s)[r]? = some a →
      (heap (step s d).1)[r]? = some (if (dict s).lookup (key d) = some r then after a d else a))
    (hcur : ∀ a d, cur (after a d) = d)
    (l : List D) (s : State) (r : Nat) (a : α) (ha : (heap s)[r]? = some a) :
    dict (runSteps step l s).1 = dict s ∧
    ∃ a', (heap (runSteps step l s).1)[r]? = some a' ∧ cur a' = lastWriter key (dict s) r l (cur a) ∧
      ∀ (γ : Type) (keep : α → γ), (∀ a d, keep (after a d) = keep a) → keep a' = keep a := by
  induction l generalizing s a with
  | nil => exact ⟨rfl, a, ha, rfl, fun _ _ _ => rfl⟩
  | cons d l ih =>
    obtain ⟨h1, a', h2, h3, h4⟩ := ih (step s d).1 _ (hget s d r a ha)
    rw [hdict] at h1 h3
    refine ⟨h1, a', h2, ?_, fun γ keep hkeep => ?_⟩
    · rw [h3, lastWriter_cons]; split <;> simp only [hcur]
    · rw [h4 γ keep hkeep]; split
      · exact hkeep a d
      · rfl

theorem acTimerStep_acs (s : State) (d : AcTimerStatusData) : (acTimerStep s d).1.acs = s.acs := by
  unfold acTimerStep; repeat' split
  all_goals rfl

theorem acTimerStep_get (s : State) (d : AcTimerStatusData) (r : Nat) (a : AcObj) (ha : s.aobjs[r]? = some a) :
    (acTimerStep s d).1.aobjs[r]? =
      some (if s.acRef d.ac_number = some r then acAfterTimer a d else a) := by
  refine replaced_get (g := (acAfterTimer · d)) ha ?_ ?_ <;> unfold acTimerStep
  · intro r' y h1 h2; rw [h1]; dsimp only; rw [h2]; rfl
  · intro h; split
    · split
      · exact absurd ‹_› (h _ _ ‹_›)
      · rfl
    · rfl

theorem zoneStatusStep_zones (s : State) (d : C021.ZoneStatusData) : (zoneStatusStep s d).1.zones = s.zones := by
  unfold zoneStatusStep; repeat' split
  all_goals rfl

theorem zoneStatusStep_get (s : State) (d : C021.ZoneStatusData) (r : Nat) (z : ZoneObj) (hz : s.zobjs[r]? = some z) :
    (zoneStatusStep s d).1.zobjs[r]? =
      some (if s.zones.lookup d.zone_number = some r then zoneAfterStatus z d else z) := by
  refine replaced_get (g := (zoneAfterStatus · d)) hz ?_ ?_ <;> unfold zoneStatusStep
  · intro r' y h1 h2; rw [h1]; dsimp only; rw [h2]; rfl
  · intro h; split
    · split
      · exact absurd ‹_› (h _ _ ‹_›)
      · rfl
    · rfl

theorem apiStep_acStatus_connected (s : State) (toAddr : Nat) (l : List C023.AcStatusData)
    (hsub : s.sockSubscribed = true) (hst : s.st = .CONNECTED) (hopen : s.sockOpen = true) :
    apiStep s (.msg toAddr (.controlStatus (.acStatus (.status l)))) = runSteps acStatusStep l s := by
  simp [apiStep, doMsg, hsub, handleMessage, hst, isHeartbeatResponse, processAcStatus_eq l s hopen, excOut]

theorem apiStep_acTimer_connected (s : State) (toAddr : Nat) (l : List AcTimerStatusData)
    (hsub : s.sockSubscribed = true) (hst : s.st = .CONNECTED) :
    apiStep s (.msg toAddr (.controlStatus (.acTimerStatus (.status l)))) = runSteps acTimerStep l s := by
  simp [apiStep, doMsg, hsub, handleMessage, hst, isHeartbeatResponse, processAcTimer_eq l s, excOut]

theorem apiStep_zoneStatus_connected (s : State) (toAddr : Nat) (l : List C021.ZoneStatusData)
    (hsub : s.sockSubscribed = true) (hst : s.st = .CONNECTED) :
    apiStep s (.msg toAddr (.controlStatus (.zoneStatus (.status l)))) = runSteps zoneStatusStep l s := by
  simp [apiStep, doMsg, hsub, handleMessage, hst, isHeartbeatResponse, processZoneStatus_eq l s, excOut]


/-- error information is taken in any state -/
theorem apiStep_errInfo (s : State) (toAddr : Nat) (e : FF10.AcErrorInformationMessage) (hsub : s.sockSubscribed = true)
    {r : Nat} {a : AcObj} (hr : s.acRef e.ac_number = some r) (ha : s.aobjs[r]? = some a) :
    apiStep s (.msg toAddr (.extended (.errInfo (.message e)))) =
      (s.setAc r (acAfterErrInfo a e.error_info), acErrInfoOut a e.error_info) := by
  simp [apiStep, doMsg, hsub, handleMessage, isHeartbeatResponse, ExtSub.messageId, processErrInfo, hr,
    updateAcErrInfo_spec _ ha, excOut, Gen.At5.X1FFF10ErrInfo.MESSAGE_ID, Gen.At5.X1FFF30ConsoleVer.MESSAGE_ID]

/-! ### a record that repeats what the object shows -/

theorem runSteps_silent {α} (step : State → α → State × List Out) (l : List α) (s : State)
    (h : ∀ d ∈ l, step s d = (s, [])) : runSteps step l s = (s, []) :=
  (runSteps_eq step l s).trans (FoldW.foldW_noop h)

theorem setAc_self {s : State} {r : Nat} {a : AcObj} (ha : s.aobjs[r]? = some a) : s.setAc r a = s := by
  unfold State.setAc; rw [modifyAt_self _ _ _ ha]

theorem setZone_self {s : State} {r : Nat} {z : ZoneObj} (hz : s.zobjs[r]? = some z) : s.setZone r z = s := by
  unfold State.setZone; rw [modifyAt_self _ _ _ hz]

theorem acStatusStep_same (s : State) (d : C023.AcStatusData)
    (h : ∀ r a, s.acRef d.ac_number = some r → s.aobjs[r]? = some a → a.status = d) : acStatusStep s d = (s, []) := by
  unfold acStatusStep
  split
  · split
    · rename_i r hr _ a ha
      rw [acAfterStatus, acStatusOut, if_pos (h r a hr ha), if_pos (h r a hr ha), setAc_self ha]
    · rfl
  · rfl

theorem acTimerStep_same (s : State) (d : AcTimerStatusData)
    (h : ∀ r a, s.acRef d.ac_number = some r → s.aobjs[r]? = some a → a.timer = d) : acTimerStep s d = (s, []) := by
  unfold acTimerStep
  split
  · split
    · rename_i r hr _ a ha
      have e : acAfterTimer a d = a := by rw [acAfterTimer, ← h r a hr ha]
      rw [e, acTimerOut, if_pos (h r a hr ha), setAc_self ha]
    · rfl
  · rfl

theorem zoneStatusStep_same (s : State) (d : C021.ZoneStatusData)
    (h : ∀ r z, s.zones.lookup d.zone_number = some r → s.zobjs[r]? = some z → z.status = d) :
    zoneStatusStep s d = (s, []) := by
  unfold zoneStatusStep
  split
  · split
    · rename_i r hr _ z hz
      have e : zoneAfterStatus z d = z := by rw [zoneAfterStatus, ← h r z hr hz]
      rw [e, zoneStatusOut, if_pos (h r z hr hz), setZone_self hz]
    · rfl
  · rfl

theorem processConsoleVersionUpdate_spec (v : FF30.ConsoleVersionMessage) (s : State) :
    processConsoleVersionUpdate v s =
      { s := { s with consoleVersion := v }, out := if s.consoleVersion = v then [] else s.subs.map .notifyAt } := by
  unfold processConsoleVersionUpdate
  split
  · rename_i h
    have : ({ s with consoleVersion := v } : State) = s := by cases s; simp_all
    rw [this]
  · rfl

theorem handleMessage_consoleVer_connected (s : State) (toAddr : Nat) (v : FF30.ConsoleVersionMessage)
    (hst : s.st = .CONNECTED) :
    handleMessage s toAddr (.extended (.consoleVer (.message v))) = processConsoleVersionUpdate v s := by
  simp only [handleMessage, hst, reduceCtorEq, if_false, if_true]

theorem roundTenthsNat_close (a : Nat) : 10 * roundTenthsNat a ≤ a + 5 ∧ a ≤ 10 * roundTenthsNat a + 5 := by
  unfold roundTenthsNat
  simp only
  split
  · omega
  · split
    · omega
    · split <;> omega

/-- `round(x, 1)` is within 0.05 of `x` (hundredths vs. tenths) -/
theorem roundTenths_close (h : Int) : 10 * roundTenths h - h ≤ 5 ∧ h - 10 * roundTenths h ≤ 5 := by
  unfold roundTenths
  have := roundTenthsNat_close h.natAbs
  split <;> omega

theorem roundTenths_exact (t : Int) : roundTenths (10 * t) = t := by
  unfold roundTenths
  have h (n : Nat) : roundTenthsNat (10 * n) = n := by simp [roundTenthsNat, Nat.mul_mod_right]
  rw [Int.natAbs_mul, show (10 : Int).natAbs = 10 from rfl, h]
  split <;> omega

/-- `min(max(lo, r), hi)` -/
theorem clip_fst (lo hi : Nat) (r : Int) : (clip lo hi r).1 = min (10 * (hi : Int)) (max r (10 * (lo : Int))) := by
  unfold clip
  by_cases h1 : r > 10 * (lo : Int)
  · rw [if_pos h1, Int.max_eq_left (Int.le_of_lt h1)]
    by_cases h2 : 10 * (hi : Int) < r
    · rw [if_pos h2, Int.min_eq_left (Int.le_of_lt h2)]
    · rw [if_neg h2, Int.min_eq_right (Int.not_lt.1 h2)]
  · rw [if_neg h1, Int.max_eq_right (Int.not_lt.1 h1)]
    by_cases h2 : 10 * (hi : Int) < 10 * (lo : Int)
    · rw [if_pos h2, Int.min_eq_left (Int.le_of_lt h2)]
    · rw [if_neg h2, Int.min_eq_right (Int.not_lt.1 h2)]


theorem zone_power_table_no_toggle (p : ApiEnums.ZonePowerState) (c : Gen.At5.XC020ZoneCtrl.ZonePowerControl)
    (h : API_ZONE_POWER_MAPPING p = some c) : c ≠ .TOGGLE := by
  cases p <;> cases c <;> first | decide | exact absurd h (by decide)

theorem power_table_toggle (p : ApiEnums.AcPowerControl) (c : Gen.At5.XC022AcCtrl.AcPowerControl)
    (h : API_POWER_CONTROL_MAPPING p = some c) : c = .TOGGLE ↔ p = .TOGGLE := by
  cases p <;> cases c <;> first | decide | exact absurd h (by decide)

/-- the setters' guard: `ValueError` for an unsupported value, `KeyError` for a value missing from the table, otherwise
what the table's entry asks for; nothing depends on the state.  `r` is the call as a function of the state; callers
show `hr` by cases on the table entry, since the model's `match` on it does not unfold while the entry is unknown -/
theorem guard_cases {β} (ok : Bool) (tbl : Option β) (r : State → HR) (send : β → State → HR)
    (hr : ∀ s, r s = if ok = true then (match tbl with | some c => send c s | none => raise s "KeyError")
      else raise s "ValueError") :
    (∃ e, (e = "KeyError" ∨ e = "ValueError") ∧ ∀ s, r s = raise s e) ∨ ∃ c, tbl = some c ∧ ∀ s, r s = send c s := by
  cases ok
  · exact .inl ⟨_, .inr rfl, hr⟩
  · cases tbl
    · exact .inl ⟨_, .inl rfl, hr⟩
    · exact .inr ⟨_, rfl, hr⟩

/-- an AC call is refused, or sends one AC control message (with the power field TOGGLE only for `set_power(TOGGLE)`),
or sends one timer message; which, and what is sent, does not depend on the state -/
theorem acCall_cases (a : AcObj) (c : AcCall) :
    (∃ e, (e = "KeyError" ∨ e = "ValueError") ∧ ∀ s, acCall s a c = raise s e) ∨
    (∃ power mode fan sp b, (power = .TOGGLE ↔ c = .setPower .TOGGLE) ∧
      ∀ s, acCall s a c = sendAcControl s a power mode fan sp b) ∨
    (∃ m, (∀ p, c ≠ .setPower p) ∧ ((∃ d, m = msgTimerControl d) ∨ ∃ t n, m = msgQuickTimer a.id t n) ∧
      ∀ s, acCall s a c = sendMsg s .idempotent m) := by
  cases c with
  | setPower p =>
    rcases guard_cases (supportedPowerControls.contains p) (API_POWER_CONTROL_MAPPING p) (acCall · a (.setPower p))
      (fun c s => sendAcControl s a (power := c))
      (fun s => by show (if _ then _ else _) = _; cases API_POWER_CONTROL_MAPPING p <;> rfl) with h | ⟨c, hc, h⟩
    · exact .inl h
    · exact .inr (.inl ⟨c, _, _, _, _, by rw [power_table_toggle p c hc, AcCall.setPower.injEq], h⟩)
  | setMode m po =>
    rcases guard_cases (a.supportedModes.contains m) (API_MODE_CONTROL_MAPPING m) (acCall · a (.setMode m po))
      (fun c s => sendAcControl s a (power := if po then .TURN_ON else .UNCHANGED) (mode := c))
      (fun s => by show (if _ then _ else _) = _; cases API_MODE_CONTROL_MAPPING m <;> rfl) with h | ⟨c, _, h⟩
    · exact .inl h
    · exact .inr (.inl ⟨_, c, _, _, _, ⟨(fun h => by cases po <;> cases h), nofun⟩, h⟩)
  | setFanSpeed f =>
    rcases guard_cases (a.supportedFanSpeeds.contains f) (API_FAN_SPEED_CONTROL_MAPPING f) (acCall · a (.setFanSpeed f))
      (fun c s => sendAcControl s a (fan := c))
      (fun s => by show (if _ then _ else _) = _; cases API_FAN_SPEED_CONTROL_MAPPING f <;> rfl) with h | ⟨c, _, h⟩
    · exact .inl h
    · exact .inr (.inl ⟨.UNCHANGED, _, c, _, _, ⟨nofun, nofun⟩, h⟩)
  | setTargetTemperature h => exact .inr (.inl ⟨.UNCHANGED, _, _, _, _, ⟨nofun, nofun⟩, fun _ => rfl⟩)
  | setQuickTimerTime tt hour minute =>
    by_cases h : hour < 24 ∧ minute < 60
    · exact .inr (.inr ⟨_, nofun, .inl ⟨_, rfl⟩, fun _ => (if_pos h : (if _ then _ else _) = _)⟩)
    · exact .inl ⟨_, .inr rfl, fun _ => (if_neg h : (if _ then _ else _) = _)⟩
  | setQuickTimerDuration tt secs =>
    cases hc : API_TIMER_TYPE_MAPPING tt with
    | some c =>
      refine .inr (.inr ⟨_, nofun, .inr ⟨c, secs, rfl⟩, fun s => ?_⟩)
      show (match API_TIMER_TYPE_MAPPING tt with | some t => _ | none => _) = _
      rw [hc]
    | none =>
      refine .inl ⟨_, .inl rfl, fun s => ?_⟩
      show (match API_TIMER_TYPE_MAPPING tt with | some t => _ | none => _) = _
      rw [hc]
  | clearQuickTimer tt => exact .inr (.inr ⟨_, nofun, .inl ⟨_, rfl⟩, fun _ => rfl⟩)

/-- a zone call is refused, or sends one zone control message that is neither TOGGLE nor a ±step -/
theorem zoneCall_cases (z : ZoneObj) (c : ZoneCall) :
    (∃ e, (e = "KeyError" ∨ e = "ValueError") ∧ ∀ s, zoneCall s z c = raise s e) ∨
    (∃ d, d.zone_power ≠ .TOGGLE ∧ (∀ x, d.zone_setting ≠ some (.incDec x)) ∧
      ∀ s, zoneCall s z c = sendMsg s .idempotent (msgZoneControl d)) := by
  cases c with
  | setPower p =>
    rcases guard_cases (supportedZonePowerStates.contains p) (API_ZONE_POWER_MAPPING p) (zoneCall · z (.setPower p))
      (fun c s => sendZoneControl s z (power := c))
      (fun s => by show (if _ then _ else _) = _; cases API_ZONE_POWER_MAPPING p <;> rfl) with h | ⟨c, hc, h⟩
    · exact .inl h
    · have hne := zone_power_table_no_toggle p c hc
      exact .inr ⟨⟨z.id, c, none⟩, hne, nofun, fun s => by rw [h s]; simp [sendZoneControl, hne]⟩
  | setTargetTemperature h =>
    by_cases hs : z.status.has_sensor = true
    · exact .inr ⟨_, (fun h => by cases h), (fun _ h => by cases h), fun _ => (if_pos hs : (if _ then _ else _) = _)⟩
    · exact .inl ⟨_, .inr rfl, fun _ => (if_neg hs : (if _ then _ else _) = _)⟩
  | setDamperPercentage p =>
    by_cases hp : p < 0 ∨ p > 100
    · exact .inl ⟨_, .inr rfl, fun _ => (if_pos hp : (if _ then _ else _) = _)⟩
    · exact .inr ⟨_, (fun h => by cases h), (fun _ h => by cases h), fun _ => (if_neg hp : (if _ then _ else _) = _)⟩

theorem acCall_uniform (a : AcObj) (c : AcCall) :
    (∃ p m i, ∀ s, acCall s a c = sendMsg s p m i) ∨
    (∃ e, (e = "KeyError" ∨ e = "ValueError") ∧ ∀ s, acCall s a c = raise s e) := by
  rcases acCall_cases a c with ⟨e, he, h⟩ | ⟨_, _, _, _, _, _, h⟩ | ⟨m, _, _, h⟩
  · exact .inr ⟨e, he, h⟩
  · exact .inl ⟨_, _, _, h⟩
  · exact .inl ⟨_, _, _, h⟩

theorem zoneCall_uniform (z : ZoneObj) (c : ZoneCall) :
    (∃ p m i, ∀ s, zoneCall s z c = sendMsg s p m i) ∨
    (∃ e, (e = "KeyError" ∨ e = "ValueError") ∧ ∀ s, zoneCall s z c = raise s e) := by
  rcases zoneCall_cases z c with ⟨e, he, h⟩ | ⟨d, _, _, h⟩
  · exact .inr ⟨e, he, h⟩
  · exact .inl ⟨_, _, _, h⟩

theorem call_shape {s : State} {r : HR}
    (h : (∃ p m b, r = sendMsg s p m b) ∨ ∃ e, (e = "KeyError" ∨ e = "ValueError") ∧ r = raise s e) :
    r.s = s ∧
    ((∃ p m b, r.out = [.send p m b] ∧ r.exc = none) ∨ (∃ e, r.out = [] ∧ r.exc = some e ∧ e ≠ "OK")) := by
  rcases h with ⟨p, m, b, rfl⟩ | ⟨e, he, rfl⟩
  · unfold sendMsg
    split
    · exact ⟨rfl, .inl ⟨_, _, _, rfl, rfl⟩⟩
    · exact ⟨rfl, .inr ⟨_, rfl, rfl, by decide⟩⟩
  · exact ⟨rfl, .inr ⟨e, rfl, rfl, by rcases he with rfl | rfl <;> decide⟩⟩

theorem acCall_shape (s : State) (a : AcObj) (c : AcCall) :
    (acCall s a c).s = s ∧
    ((∃ p m b, (acCall s a c).out = [.send p m b] ∧ (acCall s a c).exc = none) ∨
     (∃ e, (acCall s a c).out = [] ∧ (acCall s a c).exc = some e ∧ e ≠ "OK")) :=
  call_shape ((acCall_uniform a c).imp (fun ⟨p, m, i, h⟩ => ⟨p, m, i, h s⟩) fun ⟨e, he, h⟩ => ⟨e, he, h s⟩)

theorem zoneCall_shape (s : State) (z : ZoneObj) (c : ZoneCall) :
    (zoneCall s z c).s = s ∧
    ((∃ p m b, (zoneCall s z c).out = [.send p m b] ∧ (zoneCall s z c).exc = none) ∨
     (∃ e, (zoneCall s z c).out = [] ∧ (zoneCall s z c).exc = some e ∧ e ≠ "OK")) :=
  call_shape ((zoneCall_uniform z c).imp (fun ⟨p, m, i, h⟩ => ⟨p, m, i, h s⟩) fun ⟨e, he, h⟩ => ⟨e, he, h s⟩)

/-- what the harness prints for a call: the send followed by `RESULT OK`, or `RESULT <exception>` alone (so no exception
may be called "OK") -/
theorem callOut_shape (r : HR)
    (h : (∃ p m b, r.out = [.send p m b] ∧ r.exc = none) ∨ (∃ e, r.out = [] ∧ r.exc = some e ∧ e ≠ "OK")) :
    (∃ p m b, callOut r = [.send p m b, .result "OK"]) ∨ (∃ e, callOut r = [.result e] ∧ e ≠ "OK") := by
  rcases h with ⟨p, m, b, ho, he⟩ | ⟨e, ho, he, hne⟩
  · exact .inl ⟨p, m, b, by simp [callOut, ho, he]⟩
  · exact .inr ⟨e, by simp [callOut, ho, he], hne⟩

/-! ### building an AC object: its zone range, and the zones' forwarders -/

theorem zoneRange_spec (zones : List (Nat × Nat)) (start count : Nat) (refs : List Nat)
    (h : zoneRange zones start count = some refs) :
    refs.length = count ∧ ∀ k, k < count → refs[k]? = zones.lookup (start + k) ∧ (zones.lookup (start + k)).isSome := by
  induction count generalizing start refs with
  | zero =>
    simp only [zoneRange, Option.some.injEq] at h
    subst h
    exact ⟨rfl, fun k hk => absurd hk (Nat.not_lt_zero k)⟩
  | succ c ih =>
    simp only [zoneRange] at h
    split at h
    · rename_i r rs h1 h2
      cases h
      obtain ⟨g1, g2⟩ := ih (start + 1) rs h2
      refine ⟨by simp [g1], ?_⟩
      intro k hk
      cases k with
      | zero => simp [h1]
      | succ k =>
        have := g2 k (by omega)
        have e : start + (k + 1) = start + 1 + k := by omega
        simp only [List.getElem?_cons_succ, e]
        exact this
    · cases h

/-- a zone object that only gained forwarders -/
structure ZExt (z z' : ZoneObj) : Prop where
  name : z'.name = z.name
  status : z'.status = z.status
  subs : z'.subs = z.subs
  fwd : ∀ x ∈ z.fwd, x ∈ z'.fwd

theorem ZExt.refl (z : ZoneObj) : ZExt z z := ⟨rfl, rfl, rfl, fun _ h => h⟩
theorem ZExt.trans {a b c : ZoneObj} (h1 : ZExt a b) (h2 : ZExt b c) : ZExt a c :=
  ⟨h2.name.trans h1.name, h2.status.trans h1.status, h2.subs.trans h1.subs, fun x hx => h2.fwd x (h1.fwd x hx)⟩

theorem subscribeFwd_ext (r : Nat) (z : ZoneObj) : ZExt z (subscribeFwd r z) ∧ r ∈ (subscribeFwd r z).fwd := by
  unfold subscribeFwd
  by_cases h : z.fwd.contains r = true
  · simp only [h, if_true]
    exact ⟨ZExt.refl z, by simpa using h⟩
  · simp only [h]
    exact ⟨⟨rfl, rfl, rfl, fun x hx => by simp [hx]⟩, by simp⟩

theorem attachAc_length (r : Nat) (refs : List Nat) (zobjs : List ZoneObj) :
    (attachAc r refs zobjs).length = zobjs.length := by
  unfold attachAc
  induction refs generalizing zobjs with
  | nil => rfl
  | cons zr refs ih => simp only [List.foldl_cons]; rw [ih, modifyAt_length]

theorem attachAc_get (r : Nat) (refs : List Nat) (zobjs : List ZoneObj) (i : Nat) (z : ZoneObj)
    (hz : zobjs[i]? = some z) :
    ∃ z', (attachAc r refs zobjs)[i]? = some z' ∧ ZExt z z' ∧ (i ∈ refs → r ∈ z'.fwd) := by
  unfold attachAc
  induction refs generalizing zobjs z with
  | nil => exact ⟨z, hz, ZExt.refl z, by simp⟩
  | cons zr refs ih =>
    simp only [List.foldl_cons]
    by_cases he : zr = i
    · subst he
      have h1 : (modifyAt zobjs zr (subscribeFwd r))[zr]? = some (subscribeFwd r z) := by
        simp [modifyAt_get_same, hz]
      obtain ⟨z', g1, g2, g3⟩ := ih _ _ h1
      refine ⟨z', g1, (subscribeFwd_ext r z).1.trans g2, fun _ => g2.fwd r (subscribeFwd_ext r z).2⟩
    · have h1 : (modifyAt zobjs zr (subscribeFwd r))[i]? = some z := by
        rw [modifyAt_get_other _ _ _ _ he]; exact hz
      obtain ⟨z', g1, g2, g3⟩ := ih _ _ h1
      refine ⟨z', g1, g2, ?_⟩
      intro hi
      simp only [List.mem_cons] at hi
      rcases hi with hi | hi
      · exact absurd hi.symm he
      · exact g3 hi

/-! ### runs of a script -/

/-- the state after a list of ops -/
def runS (s : State) (ops : List Op) : State := (Api5.run s ops).1
/-- all outputs of a list of ops, in order -/
def runOut (s : State) (ops : List Op) : List Out := (Api5.run s ops).2.flatten

@[simp] theorem runS_nil (s : State) : runS s [] = s := rfl
@[simp] theorem runS_cons (s : State) (o : Op) (ops : List Op) : runS s (o :: ops) = runS (apiStep s o).1 ops := rfl
@[simp] theorem runOut_nil (s : State) : runOut s [] = [] := rfl
@[simp] theorem runOut_cons (s : State) (o : Op) (ops : List Op) :
    runOut s (o :: ops) = (apiStep s o).2 ++ runOut (apiStep s o).1 ops := by
  simp [runOut, Api5.run]

theorem run5_eq (s : State) (ops : List Op) : (runS s ops, runOut s ops) = FoldW.foldW apiStep s ops := by
  induction ops generalizing s with
  | nil => rfl
  | cons x xs ih => rw [runS_cons, runOut_cons, FoldW.foldW, ← ih]

theorem runS_eq (s : State) (ops : List Op) : runS s ops = (FoldW.foldW apiStep s ops).1 :=
  congrArg Prod.fst (run5_eq s ops)

theorem runOut_eq (s : State) (ops : List Op) : runOut s ops = (FoldW.foldW apiStep s ops).2 :=
  congrArg Prod.snd (run5_eq s ops)

theorem runS_append (s : State) (a b : List Op) : runS s (a ++ b) = runS (runS s a) b := by
  simp only [runS_eq, FoldW.foldW_append]

theorem runOut_append (s : State) (a b : List Op) : runOut s (a ++ b) = runOut s a ++ runOut (runS s a) b := by
  simp only [runS_eq, runOut_eq, FoldW.foldW_append]

end PyAirtouch.Lemmas.Api5
