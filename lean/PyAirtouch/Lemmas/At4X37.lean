import PyAirtouch.Model.At4.X37
import PyAirtouch.Lemmas.TimerCommon
/-! Round trip and length lemmas for the AirTouch 4 AC timer status codec (0x37, positional). -/
namespace PyAirtouch.Lemmas.At4X37
open PyAirtouch.Model PyAirtouch.Model.TimerCommon PyAirtouch.Model.At4.X37
open PyAirtouch.Gen.At4.X37AcTimerStatus PyAirtouch.Lemmas.TimerCommon

theorem putState_length (buf : Bytes) (off : Nat) (t : AcTimerState) :
    (putState buf off t).length = buf.length := by
  simp [putState]

theorem encodeBytes_length (m : Msg) : (encodeBytes m).length = size m := by
  cases m with
  | request => rfl
  | status l =>
    simp only [encodeBytes, size]
    generalize hb : List.replicate (4 * recSize) 0 = buf
    have hl : buf.length = 4 * recSize := by rw [← hb, List.length_replicate]
    clear hb
    induction l generalizing buf with
    | nil => simpa using hl
    | cons d ds ih =>
      simp only [List.foldl_cons]
      exact ih _ (by rw [putState_length, putState_length, hl])

theorem wfList_shape (l : List AcTimerStatusData) (h : WFList l) :
    ∃ on0 off0 on1 off1 on2 off2 on3 off3,
      l = [⟨0, on0, off0⟩, ⟨1, on1, off1⟩, ⟨2, on2, off2⟩, ⟨3, on3, off3⟩] ∧
      WFState on0 ∧ WFState off0 ∧ WFState on1 ∧ WFState off1 ∧
      WFState on2 ∧ WFState off2 ∧ WFState on3 ∧ WFState off3 := by
  obtain ⟨hmap, hwf⟩ := h
  match l, hmap, hwf with
  | [⟨a0, on0, off0⟩, ⟨a1, on1, off1⟩, ⟨a2, on2, off2⟩, ⟨a3, on3, off3⟩], hmap, hwf =>
    simp only [List.map_cons, List.map_nil, List.cons.injEq, and_true] at hmap
    obtain ⟨h0, h1, h2, h3⟩ := hmap
    subst h0 h1 h2 h3
    have w0 := hwf ⟨0, on0, off0⟩ (by simp)
    have w1 := hwf ⟨1, on1, off1⟩ (by simp)
    have w2 := hwf ⟨2, on2, off2⟩ (by simp)
    have w3 := hwf ⟨3, on3, off3⟩ (by simp)
    exact ⟨on0, off0, on1, off1, on2, off2, on3, off3, rfl, w0.1, w0.2, w1.1, w1.2, w2.1, w2.2, w3.1, w3.2⟩

theorem encodeBytes_wf (on0 off0 on1 off1 on2 off2 on3 off3 : AcTimerState) :
    encodeBytes (.status [⟨0, on0, off0⟩, ⟨1, on1, off1⟩, ⟨2, on2, off2⟩, ⟨3, on3, off3⟩]) =
      encTimerState on0 ++ encTimerState off0 ++ [0, 0, 0, 0] ++
      encTimerState on1 ++ encTimerState off1 ++ [0, 0, 0, 0] ++
      encTimerState on2 ++ encTimerState off2 ++ [0, 0, 0, 0] ++
      encTimerState on3 ++ encTimerState off3 ++ [0, 0, 0, 0] := by
  simp [encodeBytes, putState, encTimerState, recSize, TIMER_STATUS_REPEAT_SIZE, TIMER_STATE_STRUCT_size,
    List.replicate]

theorem encodeBytes_allBytes (m : Msg) (hwf : WF m) : AllBytes (encodeBytes m) := by
  cases m with
  | request => exact RegistryCommon.allBytes_nil
  | status l =>
    obtain ⟨on0, off0, on1, off1, on2, off2, on3, off3, rfl, -⟩ := wfList_shape l hwf
    rw [encodeBytes_wf]
    have z : AllBytes [0, 0, 0, 0] := by
      simp only [RegistryCommon.allBytes_cons, RegistryCommon.allBytes_nil, and_true]
      omega
    simp only [RegistryCommon.allBytes_append, allBytes_encTimerState, z, and_self]

/-- one iteration on the four-slot buffer: slot `ac_number` is written if there is one, else `struct.error` -/
theorem encStep_eq (buf : Bytes) (hb : buf.length = 4 * recSize) (d : AcTimerStatusData) :
    encStep buf d = if d.ac_number < 4 then
        .ok (putState (putState buf (d.ac_number * recSize) d.on_timer)
          (d.ac_number * recSize + TIMER_STATE_STRUCT_size) d.off_timer)
      else .error .structError := by
  have h8 : recSize = 8 := rfl
  have h2 : TIMER_STATE_STRUCT_size = 2 := rfl
  rw [h8] at hb
  unfold encStep packTimerState
  by_cases h : d.ac_number < 4
  · have e1 : d.ac_number * recSize + TIMER_STATE_STRUCT_size ≤ buf.length := by rw [h8, h2]; omega
    have e2 : d.ac_number * recSize + TIMER_STATE_STRUCT_size + TIMER_STATE_STRUCT_size ≤
        (putState buf (d.ac_number * recSize) d.on_timer).length := by rw [putState_length, h8, h2]; omega
    simp only [if_pos e1, if_pos e2, if_pos h, bind, Except.bind]
  · have e1 : ¬ d.ac_number * recSize + TIMER_STATE_STRUCT_size ≤ buf.length := by rw [h8, h2]; omega
    simp only [if_neg e1, if_neg h, bind, Except.bind]

/-- **the encoder on any status message**: it writes `encodeBytes` when every entry names one of the four slots and
    raises `struct.error` otherwise - wherever in the list the offending entry stands -/
theorem encode_status_eq (l : List AcTimerStatusData) :
    encode (.status l) =
      if ∀ d ∈ l, d.ac_number < 4 then .ok (encodeBytes (.status l)) else .error .structError := by
  simp only [encode, encodeBytes]
  generalize hbuf : List.replicate (4 * recSize) 0 = buf
  have hb : buf.length = 4 * recSize := by rw [← hbuf, List.length_replicate]
  clear hbuf
  induction l generalizing buf with
  | nil => simp [encLoop]
  | cons d ds ih =>
    rw [encLoop, encStep_eq buf hb d]
    by_cases h : d.ac_number < 4
    · simp only [bind, Except.bind, List.foldl_cons, List.forall_mem_cons, h, true_and, ↓reduceIte]
      exact ih _ (by rw [putState_length, putState_length, hb])
    · simp only [bind, Except.bind, List.forall_mem_cons, h, false_and, ↓reduceIte]

theorem encode_status_error_iff (l : List AcTimerStatusData) :
    encode (.status l) = .error .structError ↔ ∃ d ∈ l, 4 ≤ d.ac_number := by
  rw [encode_status_eq]
  split
  · next h => exact ⟨nofun, fun ⟨d, hd, h4⟩ => absurd (h d hd) (by omega)⟩
  · next h => exact ⟨fun _ => by simpa using h, fun _ => rfl⟩

theorem encode_length (m : Msg) (bs : Bytes) (h : encode m = .ok bs) : bs.length = size m := by
  cases m with
  | request => simp only [encode] at h; cases h; rfl
  | status l =>
    rw [encode_status_eq] at h
    split at h
    · cases h; exact encodeBytes_length _
    · cases h

theorem encode_ok (m : Msg) (h : WF m) : encode m = .ok (encodeBytes m) := by
  cases m with
  | request => rfl
  | status l =>
    refine (encode_status_eq l).trans (if_pos fun d hd => ?_)
    have := List.mem_map_of_mem (f := (·.ac_number)) hd
    rw [h.1] at this
    simp only [List.mem_cons, List.not_mem_nil, or_false] at this
    omega

theorem decode_encode (m : Msg) (h : WF m) (rest : Bytes) :
    decode (encodeBytes m ++ rest) (size m) = .ok (m, rest) := by
  cases m with
  | request => simp [decode, encodeBytes, size]
  | status l =>
    obtain ⟨on0, off0, on1, off1, on2, off2, on3, off3, hl, w0, w0', w1, w1', w2, w2', w3, w3'⟩ :=
      wfList_shape l h
    subst hl
    rw [encodeBytes_wf]
    simp only [decode, size, recSize, TIMER_STATUS_REPEAT_SIZE, TIMER_STATE_STRUCT_size, decRecs,
      decodeTimerState, encTimerState, List.cons_append, List.nil_append, List.drop_succ_cons,
      List.drop_zero, Nat.reduceMul, Nat.reduceAdd, Nat.reduceMod, Nat.reduceDiv, Nat.reduceEqDiff,
      ↓reduceIte, ne_eq, not_true_eq_false,
      decTimerState_enc on0 w0, decTimerState_enc off0 w0', decTimerState_enc on1 w1,
      decTimerState_enc off1 w1', decTimerState_enc on2 w2, decTimerState_enc off2 w2',
      decTimerState_enc on3 w3, decTimerState_enc off3 w3', bind, Except.bind, pure, Except.pure]

theorem wfListBool_iff (l : List AcTimerStatusData) : wfListBool l = true ↔ WFList l := by
  simp only [wfListBool, WFList, Bool.and_eq_true, beq_iff_eq, List.all_eq_true, wfStateBool_iff]

theorem wfBool_iff (m : Msg) : wfBool m = true ↔ WF m := by
  cases m with
  | request => simp only [wfBool, WF]
  | status l => exact wfListBool_iff l

/-! ### why `WF` insists on exactly the ACs 0..3 (these messages are produced by the decoder) -/

/-- a one-AC message (decoded from an 8-byte payload) is re-encoded as four slots and decodes to four ACs -/
theorem roundtrip_fails_one_ac :
    decode (encodeBytes (.status [⟨0, ⟨false, 1, 2⟩, ⟨false, 3, 4⟩⟩])) 32 =
      .ok (.status [⟨0, ⟨false, 1, 2⟩, ⟨false, 3, 4⟩⟩, ⟨1, ⟨false, 0, 0⟩, ⟨false, 0, 0⟩⟩,
        ⟨2, ⟨false, 0, 0⟩, ⟨false, 0, 0⟩⟩, ⟨3, ⟨false, 0, 0⟩, ⟨false, 0, 0⟩⟩], []) := by
  rfl

/-- an entry for AC 4 cannot be encoded: `struct.error`.  Here it stands first; in the five-AC message the decoder makes
    of a 40-byte payload it stands last, which `encode_status_error_iff` covers -/
theorem encode_fails_five_acs (l : List AcTimerStatusData) (on off : AcTimerState) :
    encode (.status (⟨4, on, off⟩ :: l)) = .error .structError :=
  (encode_status_error_iff _).2 ⟨_, List.mem_cons_self, Nat.le_refl 4⟩

end PyAirtouch.Lemmas.At4X37
