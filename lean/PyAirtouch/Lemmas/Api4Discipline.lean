import PyAirtouch.Lemmas.Api4Shutdown
/-!
# The calling discipline of the AirTouch 4 API object: `init()` only on a fresh object or after `shutdown()`

Under it no poll task is ever orphaned (`NoOrphan`); `disciplined_induct` is the induction along a disciplined op list.
-/
namespace PyAirtouch.Lemmas.Api4
open PyAirtouch.Model PyAirtouch.Model.Api4 PyAirtouch.Model.At4 PyAirtouch.Gen

/-- no orphaned poll task, and a current poll task only in state `CONNECTED` -/
structure NoOrphan (s : State) : Prop where
  orphans : s.pollOrphans = []
  cur : s.st ≠ .CONNECTED → s.pollCur = none

/-- `NoOrphan` on the control part: `NoOrphan s` is `NoOrphanC (ctl s)` -/
structure NoOrphanC (c : Ctl) : Prop where
  orphans : c.pollOrphans = []
  cur : c.st ≠ .CONNECTED → c.pollCur = none

theorem NoOrphan.toCtl {s : State} (j : NoOrphan s) : NoOrphanC (ctl s) := ⟨j.orphans, j.cur⟩
theorem NoOrphan.ofCtl {s : State} (j : NoOrphanC (ctl s)) : NoOrphan s := ⟨j.orphans, j.cur⟩

/-- every op keeps the object free of orphaned poll tasks - except `init()` called while a poll task is alive, i.e.
    `init()` on a connected object without `shutdown()` in between -/
theorem NoOrphan_apiStep {s : State} (j : NoOrphan s) (op : Op) (hinit : op = .init → s.pollCur = none) :
    NoOrphan (apiStep s op).1 := by
  by_cases hop : op = .init
  · subst hop
    simp only [apiStep, doInit]
    split <;> exact ⟨j.orphans, fun _ => hinit rfl⟩
  refine .ofCtl (ctl_inv (P := NoOrphanC) s op (fun l c c' hl h j => ?_) j.toCtl)
  obtain ⟨jo, jc⟩ := j
  cases h with
  | init => exact absurd hl hop
  | shutdown => exact ⟨jo, fun _ => rfl⟩
  | conn _ up =>
    refine ⟨jo, fun h => jc fun h' => h ?_⟩
    rcases connStep_st c.subscribed c.st c.sockOpen up with e | ⟨e, _⟩
    · exact e.trans h'
    · rw [h'] at e; cases e
  | answer _ m _ hk => exact ⟨jo, fun _ => jc fun h => by rw [h, answerKind_connected] at hk; cases hk⟩
  | complete _ _ _ hst =>
    exact ⟨by show c.pollOrphans ++ c.pollCur.toList = []; rw [jo, jc (by rw [hst]; nofun)]; rfl, fun h => absurd rfl h⟩
  | rearm =>
    exact ⟨by show c.pollOrphans.map _ = []; rw [jo]; rfl, fun h => by show c.pollCur.map _ = none; rw [jc h]; rfl⟩
  | response => exact ⟨jo, jc⟩
  | tick =>
    exact ⟨by show (c.pollOrphans.map _).filterMap _ = []; rw [jo]; rfl,
      fun h => by show (c.pollCur.map _).bind _ = none; rw [jc h]; rfl⟩

/-- the calling discipline "`init()` only on a fresh object or after `shutdown()`": `c` = the object is closed -/
def disciplined : Bool → List Op → Bool
  | _, [] => true
  | c, .init :: ops => c && disciplined false ops
  | _, .shutdown :: ops => disciplined true ops
  | c, _ :: ops => disciplined c ops

theorem disciplined_induct {P : State → Prop} (hstep : ∀ s op, op ≠ .init → P s → P (apiStep s op).1)
    (hinit : ∀ s, Closed s → P s → P (apiStep s .init).1) {s : State} (h0 : P s) (c : Bool) (hc : c = true → Closed s)
    (ops : List Op) (hd : disciplined c ops = true) : P (run s ops).1 := by
  induction ops generalizing s c with
  | nil => exact h0
  | cons op ops ih =>
    simp only [run]
    cases op with
    | init =>
      simp only [disciplined, Bool.and_eq_true] at hd
      exact ih (hinit s (hc hd.1) h0) false (fun h => by cases h) hd.2
    | shutdown => exact ih (hstep s _ (fun h => by cases h) h0) true (fun _ => (shutdown_state s).1) hd
    | _ => exact ih (hstep s _ (fun h => by cases h) h0) c (fun h => (closed_step (hc h) _ rfl).1) hd

theorem noOrphans_disciplined_from {s : State} (j : NoOrphan s) (c : Bool) (hc : c = true → Closed s) (ops : List Op)
    (hd : disciplined c ops = true) : NoOrphan (run s ops).1 :=
  disciplined_induct (fun _ op hop j => NoOrphan_apiStep j op fun h => absurd h hop)
    (fun _ hcl j => NoOrphan_apiStep j .init fun _ => hcl.pollCur) j c hc ops hd

theorem noOrphans_disciplined (ops : List Op) (hd : disciplined true ops = true) :
    (run State.initial ops).1.pollOrphans = [] :=
  (noOrphans_disciplined_from ⟨rfl, fun _ => rfl⟩ true (fun _ => State.initial_closed) ops hd).orphans

end PyAirtouch.Lemmas.Api4
