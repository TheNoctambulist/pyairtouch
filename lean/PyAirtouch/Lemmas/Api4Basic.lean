import PyAirtouch.Model.Api4
import PyAirtouch.Lemmas.ObjTable
import PyAirtouch.Lemmas.FoldW
/-!
# The object heap of the AirTouch 4 API model: the invariant that ties an object to the number it is stored
under, what replacing one object (`setAc`, `setZone`) changes, and what holds along a loop of record updates (`foldEv`)
or a run
-/
namespace PyAirtouch.Lemmas.Api4
open PyAirtouch.Model PyAirtouch.Model.Api4
open PyAirtouch.Lemmas.Dict (keys_dictInsert)

/-- well-formedness of the object heap: the object stored under a number exists and carries that number
    (so `update_*` never raise their `ValueError`, and two numbers never share an object).  The two fields are
    `ObjTable.Keyed AcNum s.acDict s.acObjs` and `ObjTable.Keyed ZoneNum s.zoneDict s.zoneObjs` unfolded, and are passed
    where a `Keyed` is expected.  `Inv` reads the two dictionaries and the two object lists only: for a state that
    differs from `s` elsewhere (a record update of other fields) `⟨h.acKey, h.zoneKey⟩` proves it from `h : Inv s`. -/
structure Inv (s : State) : Prop where
  acKey : ∀ k i, s.acDict.lookup k = some i →
    ∃ a, s.acObjs[i]? = some a ∧ a.status.ac_number = k ∧ a.timer.ac_number = k
  zoneKey : ∀ k i, s.zoneDict.lookup k = some i →
    ∃ z, s.zoneObjs[i]? = some z ∧ z.status.group_number = k

/-! ### the two object tables

`_air_conditioners` and `_zones` are `ObjTable`s; `Table` is what the record updates and the subscriptions need of
either, so that what is proved about "the object stored under a number" is proved for both at once. -/

/-- the numbers an air-conditioner object carries (its status record and its timer record) are `k` -/
def AcNum (a : AcObj) (k : Nat) : Prop := a.status.ac_number = k ∧ a.timer.ac_number = k
def ZoneNum (z : ZoneObj) (k : Nat) : Prop := z.status.group_number = k

theorem AcNum.inj (a : AcObj) (k k' : Nat) (h : AcNum a k) (h' : AcNum a k') : k = k' := h.1.symm.trans h'.1
theorem ZoneNum.inj (z : ZoneObj) (k k' : Nat) (h : ZoneNum z k) (h' : ZoneNum z k') : k = k' := h.symm.trans h'

theorem setAc_eq (s : State) (k : Nat) (a' : AcObj) :
    s.setAc k a' = { s with acObjs := ObjTable.put s.acDict s.acObjs k a' } := by
  unfold State.setAc ObjTable.put; cases s.acDict.lookup k <;> rfl

theorem setZone_eq (s : State) (k : Nat) (z' : ZoneObj) :
    s.setZone k z' = { s with zoneObjs := ObjTable.put s.zoneDict s.zoneObjs k z' } := by
  unfold State.setZone ObjTable.put; cases s.zoneDict.lookup k <;> rfl

theorem Inv.findAc_number {s : State} (h : Inv s) {k : Nat} {a : AcObj} (hf : s.findAc k = some a) :
    a.status.ac_number = k ∧ a.timer.ac_number = k :=
  ObjTable.Keyed.num_of_find (num := AcNum) h.acKey hf

theorem Inv.zoneOf_number {s : State} (h : Inv s) {k : Nat} {z : ZoneObj} (hf : s.zoneOf k = some z) :
    z.status.group_number = k :=
  ObjTable.Keyed.num_of_find (num := ZoneNum) h.zoneKey hf

theorem setAc_frame (s : State) (k : Nat) (a' : AcObj) :
    s.setAc k a' = { s with acObjs := (s.setAc k a').acObjs } := by
  rw [setAc_eq]

theorem setZone_frame (s : State) (k : Nat) (z' : ZoneObj) :
    s.setZone k z' = { s with zoneObjs := (s.setZone k z').zoneObjs } := by
  rw [setZone_eq]

theorem findAc_setAc {s : State} (hinv : Inv s) {k : Nat} (a' : AcObj) (k' : Nat) :
    (s.setAc k a').findAc k' = if k' = k then (s.findAc k).map (fun _ => a') else s.findAc k' := by
  rw [setAc_eq]; exact ObjTable.find_put AcNum.inj hinv.acKey k a' k'

theorem zoneOf_setZone {s : State} (hinv : Inv s) {k : Nat} (z' : ZoneObj) (k' : Nat) :
    (s.setZone k z').zoneOf k' = if k' = k then (s.zoneOf k).map (fun _ => z') else s.zoneOf k' := by
  rw [setZone_eq]; exact ObjTable.find_put ZoneNum.inj hinv.zoneKey k z' k'

/-- one of the two tables, as a look-up and an in-place replacement on the state -/
structure Table (ω : Type) where
  find : State → Nat → Option ω
  set : State → Nat → ω → State
  /-- the object carries the number `k` in every place the heap invariant looks at -/
  Numbered : ω → Nat → Prop
  numbered : ∀ {s k o}, Inv s → find s k = some o → Numbered o k
  find_set : ∀ {s}, Inv s → ∀ (k : Nat) (o' : ω) (k' : Nat),
    find (set s k o') k' = if k' = k then (find s k).map (fun _ => o') else find s k'
  inv_set : ∀ {s k o'}, Inv s → Numbered o' k → Inv (set s k o')
  /-- replacing an object changes nothing but the two object lists -/
  set_objs : ∀ s k o', set s k o' = { s with acObjs := (set s k o').acObjs, zoneObjs := (set s k o').zoneObjs }

def acTable : Table AcObj where
  find := State.findAc
  set := State.setAc
  Numbered := AcNum
  numbered h hf := h.findAc_number hf
  find_set h k o' k' := findAc_setAc h o' k'
  inv_set h hn := by rw [setAc_eq]; exact ⟨ObjTable.keyed_put AcNum.inj h.acKey hn, h.zoneKey⟩
  set_objs s k o' := by rw [setAc_frame]

def zoneTable : Table ZoneObj where
  find := State.zoneOf
  set := State.setZone
  Numbered := ZoneNum
  numbered h hf := h.zoneOf_number hf
  find_set h k o' k' := zoneOf_setZone h o' k'
  inv_set h hn := by rw [setZone_eq]; exact ⟨h.acKey, ObjTable.keyed_put ZoneNum.inj h.zoneKey hn⟩
  set_objs s k o' := by rw [setZone_frame]


/-- the record loops and the script runner are `FoldW.foldW` -/
theorem foldEv_eq {α} (f : State → α → State × List Ev) (s : State) (l : List α) :
    foldEv f s l = FoldW.foldW f s l := by
  induction l generalizing s with
  | nil => rfl
  | cons x xs ih => simp only [foldEv, FoldW.foldW, ih]

theorem run4_eq (s : State) (ops : List Op) : run s ops = FoldW.foldW apiStep s ops := by
  induction ops generalizing s with
  | nil => rfl
  | cons x xs ih => simp only [run, FoldW.foldW, ih]

theorem foldEv_inv {α} (P : State → Prop) (f : State → α → State × List Ev)
    (hf : ∀ s x, P s → P (f s x).1) (s : State) (l : List α) (h : P s) : P (foldEv f s l).1 :=
  foldEv_eq f s l ▸ FoldW.foldW_inv l s h fun s x _ => hf s x

theorem foldEv_append {α} (f : State → α → State × List Ev) (s : State) (l₁ l₂ : List α) :
    foldEv f s (l₁ ++ l₂) =
      ((foldEv f (foldEv f s l₁).1 l₂).1, (foldEv f s l₁).2 ++ (foldEv f (foldEv f s l₁).1 l₂).2) := by
  simp only [foldEv_eq, FoldW.foldW_append]

theorem foldEv_noop {α} (f : State → α → State × List Ev) (s : State) (l : List α)
    (h : ∀ x ∈ l, f s x = (s, [])) : foldEv f s l = (s, []) :=
  (foldEv_eq f s l).trans (FoldW.foldW_noop h)

theorem foldEv_frame_ac {α} (f : State → α → State × List Ev)
    (hf : ∀ s x, (f s x).1 = { s with acObjs := (f s x).1.acObjs }) (s : State) (l : List α) :
    (foldEv f s l).1 = { s with acObjs := (foldEv f s l).1.acObjs } :=
  foldEv_inv (fun t => t = { s with acObjs := t.acObjs }) f
    (fun t x ht => (hf t x).trans (congrArg (fun u : State => { u with acObjs := (f t x).1.acObjs }) ht)) s l rfl

theorem foldEv_frame_zone {α} (f : State → α → State × List Ev)
    (hf : ∀ s x, (f s x).1 = { s with zoneObjs := (f s x).1.zoneObjs }) (s : State) (l : List α) :
    (foldEv f s l).1 = { s with zoneObjs := (foldEv f s l).1.zoneObjs } :=
  foldEv_inv (fun t => t = { s with zoneObjs := t.zoneObjs }) f
    (fun t x ht => (hf t x).trans (congrArg (fun u : State => { u with zoneObjs := (f t x).1.zoneObjs }) ht)) s l rfl

theorem foldEv_objs {α} (f : State → α → State × List Ev)
    (hf : ∀ s x, (f s x).1 = { s with acObjs := (f s x).1.acObjs, zoneObjs := (f s x).1.zoneObjs }) (s : State)
    (l : List α) :
    (foldEv f s l).1 = { s with acObjs := (foldEv f s l).1.acObjs, zoneObjs := (foldEv f s l).1.zoneObjs } :=
  foldEv_inv (fun t => t = { s with acObjs := t.acObjs, zoneObjs := t.zoneObjs }) f
    (fun t x ht => (hf t x).trans
      (congrArg (fun u : State => { u with acObjs := (f t x).1.acObjs, zoneObjs := (f t x).1.zoneObjs }) ht)) s l rfl

theorem foldEv_single {α} (f : State → α → State × List Ev) (s : State) (x : α) : foldEv f s [x] = f s x :=
  Prod.ext rfl (List.append_nil _)

theorem foldEv_congr {α} {f g : State → α → State × List Ev} (h : ∀ s x, f s x = g s x) (s : State) (l : List α) :
    foldEv f s l = foldEv g s l :=
  congrArg (foldEv · s l) (funext fun s => funext fun x => h s x)

theorem run_append (s : State) (a b : List Op) :
    run s (a ++ b) = ((run (run s a).1 b).1, (run s a).2 ++ (run (run s a).1 b).2) := by
  simp only [run4_eq, FoldW.foldW_append]

theorem keys_processGroupNames_fresh (s : State) (h0 : s.zoneDict = []) (names : List (Nat × Bytes))
    (hnd : (names.map (·.1)).Nodup) : (processGroupNames s names).zoneDict.map (·.1) = names.map (·.1) := by
  have gen : ∀ (names : List (Nat × Bytes)) (t : State), (names.map (·.1)).Nodup →
      (∀ k ∈ names.map (·.1), k ∉ t.zoneDict.map (·.1)) →
      (processGroupNames t names).zoneDict.map (·.1) = t.zoneDict.map (·.1) ++ names.map (·.1) := by
    intro names
    induction names with
    | nil => intro t _ _; simp [processGroupNames]
    | cons q qs ih =>
      intro t hn hd
      simp only [List.map_cons, List.nodup_cons] at hn
      have hq : q.1 ∉ t.zoneDict.map (·.1) := hd q.1 (by simp)
      have hk : (addZone t q).zoneDict.map (·.1) = t.zoneDict.map (·.1) ++ [q.1] := by
        simp only [addZone, keys_dictInsert, hq, ↓reduceIte]
      show (processGroupNames (addZone t q) qs).zoneDict.map (·.1) = _
      rw [ih (addZone t q) hn.2, hk]
      · simp
      · intro k hk' hmem
        rw [hk] at hmem
        rcases List.mem_append.mp hmem with h1 | h1
        · exact hd k (by simp [hk']) h1
        · simp at h1; subst h1; exact hn.1 hk'
  rw [gen names s hnd (by simp [h0]), h0]
  simp

theorem mapM_some_rec {α β} {f : α → Option β} {P : List α → List β → Prop} (nil : P [] [])
    (cons : ∀ a b l vs, f a = some b → P l vs → P (a :: l) (b :: vs)) : ∀ l vs, l.mapM f = some vs → P l vs := by
  intro l
  induction l with
  | nil => intro vs h; cases h; exact nil
  | cons a l ih =>
    intro vs h
    simp only [List.mapM_cons, Option.bind_eq_bind, Option.pure_def, Option.bind_eq_some_iff, Option.some.injEq] at h
    obtain ⟨b, hb, rest, hrest, rfl⟩ := h
    exact cons a b l rest hb (ih rest hrest)

theorem supportedOf_keys {α β} [BEq β] (mapping : List (α × β)) (support : List (β × Bool)) (l : List α)
    (h : supportedOf mapping support = some l) : ∀ x ∈ l, x ∈ mapping.map (·.1) := by
  simp only [supportedOf, Option.map_eq_some_iff] at h
  obtain ⟨r, hm, rfl⟩ := h
  have hkeys : r.map (·.1) = mapping.map (·.1) :=
    mapM_some_rec (P := fun mp r => r.map (·.1) = mp.map (·.1)) rfl
      (fun p q _ _ hq ih => by
        obtain ⟨b, _, rfl⟩ := Option.map_eq_some_iff.mp hq
        simp only [List.map_cons, ih])
      mapping r hm
  intro x hx
  obtain ⟨q, hq, rfl⟩ := List.mem_map.mp hx
  rw [← hkeys]
  exact List.mem_map.mpr ⟨q, (List.mem_filter.mp hq).1, rfl⟩

end PyAirtouch.Lemmas.Api4
