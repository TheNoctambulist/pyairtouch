import PyAirtouch.Lemmas.Api4Inv
/-!
# Messages processed in state `CONNECTED`: what is stored, what cannot change
-/
namespace PyAirtouch.Lemmas.Api4
open PyAirtouch.Model PyAirtouch.Model.Api4 PyAirtouch.Model.At4
open PyAirtouch.Model.TimerCommon (AcTimerState AcTimerStatusData)

/-- how the air-conditioner object numbered `k` evolves when a message is processed in state `CONNECTED` -/
def acStep (k : Nat) : RMsg → AcObj → AcObj
  | .acStatus (.status l), a => acStatusK.run k l a
  | .acTimerStatus (.status l), a => acTimerK.run k l a
  | .acTimerCtrl c, a => acTimerK.run k c.ac_timer_status a
  | .extended (.errInfo (.message e)), a => errInfoK.run k [e] a
  | _, a => a

/-- how the zone object numbered `k` evolves -/
def zoneStep (k : Nat) : RMsg → ZoneObj → ZoneObj
  | .groupStatus (.status l), z => groupK.run k l z
  | _, z => z

/-- the version a message carries -/
def versionOf : RMsg → Option FF30.ConsoleVersionMessage
  | .extended (.consoleVer (.message v)) => some v
  | _ => none

theorem absorb_connected {s : State} (hst : s.st = .CONNECTED) (m : RMsg) :
    (∃ v, m = .extended (.consoleVer (.message v)) ∧ absorb s m = updateVersion s v) ∨
    (∃ (ρ β : Type) (_ : DecidableEq β) (K : Kind ρ AcObj β) (l : List ρ), K.tbl = acTable ∧
      absorb s m = foldEv K.update s l ∧ (∀ k, acStep k m = K.run k l) ∧ (∀ k, zoneStep k m = id) ∧ versionOf m = none) ∨
    (∃ l, m = .groupStatus (.status l) ∧ absorb s m = foldEv groupK.update (rearmPolls s) l) ∨
    (absorb s m = (s, []) ∧ (∀ k, acStep k m = id) ∧ (∀ k, zoneStep k m = id) ∧ versionOf m = none) := by
  unfold absorb
  split
  · exact .inl ⟨_, rfl, if_pos hst⟩
  · exact .inr (.inl ⟨_, _, _, acStatusK, _, rfl, if_pos hst,
      fun _ => rfl, fun _ => rfl, rfl⟩)
  · exact .inr (.inl ⟨_, _, _, acTimerK, _, rfl, if_pos hst,
      fun _ => rfl, fun _ => rfl, rfl⟩)
  · exact .inr (.inl ⟨_, _, _, acTimerK, _, rfl, if_pos hst,
      fun _ => rfl, fun _ => rfl, rfl⟩)
  · exact .inr (.inr (.inl ⟨_, rfl, if_pos hst⟩))
  · exact .inr (.inl ⟨_, _, _, errInfoK, [_], rfl, (foldEv_single _ s _).symm,
      fun _ => rfl, fun _ => rfl, rfl⟩)
  · exact .inr (.inr (.inr ⟨rfl,
      fun k => funext fun a => acStep.eq_5 k _ a (by assumption) (by assumption) (by assumption) (by assumption),
      fun k => funext fun z => zoneStep.eq_2 k _ z (by assumption), versionOf.eq_2 _ (by assumption)⟩))

theorem map_id_of {α} (o : Option α) : o = o.map id := by cases o <;> rfl

theorem findAc_recv_connected {s : State} (hinv : Inv s) (hst : s.st = .CONNECTED) (hsub : s.subscribed = true)
    (m : RMsg) (k : Nat) : (recv s m).1.findAc k = (s.findAc k).map (acStep k m) := by
  rw [recv_connected hst hsub, findAc_hbOnMessage]
  rcases absorb_connected hst m with ⟨v, rfl, e⟩ | ⟨_, _, _, K, l, hK, e, ha, _, _⟩ | ⟨l, rfl, e⟩ | ⟨e, ha, _, _⟩ <;> rw [e]
  · rw [updateVersion_frame]; exact map_id_of _
  · rw [ha, ← acTable_find, ← hK]; exact K.find_fold hinv l k
  · rw [groupK.fold_zoneFrame rfl]; exact map_id_of _
  · rw [ha]; exact map_id_of _

theorem zoneOf_recv_connected {s : State} (hinv : Inv s) (hst : s.st = .CONNECTED) (hsub : s.subscribed = true)
    (m : RMsg) (k : Nat) : (recv s m).1.zoneOf k = (s.zoneOf k).map (zoneStep k m) := by
  rw [recv_connected hst hsub, zoneOf_hbOnMessage]
  rcases absorb_connected hst m with ⟨v, rfl, e⟩ | ⟨_, _, _, K, l, hK, e, _, hz, _⟩ | ⟨l, rfl, e⟩ | ⟨e, _, hz, _⟩ <;> rw [e]
  · rw [updateVersion_frame]; exact map_id_of _
  · rw [K.fold_acFrame hK, hz]; exact map_id_of _
  · exact groupK.find_fold (s := rearmPolls s) ⟨hinv.acKey, hinv.zoneKey⟩ l k
  · rw [hz]; exact map_id_of _

/-- the part of the state that neither status messages nor the clock touch: `Core` (`Api4Inv`, what the clock leaves
    alone) without the version and the two object lists, which status messages write -/
structure Static where
  st : AState
  zoneDict : List (Nat × Nat)
  acDict : List (Nat × Nat)
  subs : List Sub
  initialised : Bool
  sockOpen : Bool
  sockConnected : Bool
  subscribed : Bool
  airtouchId : Bytes

def static (s : State) : Static :=
  { st := s.st, zoneDict := s.zoneDict, acDict := s.acDict, subs := s.subs, initialised := s.initialised,
    sockOpen := s.sockOpen, sockConnected := s.sockConnected, subscribed := s.subscribed, airtouchId := s.airtouchId }

theorem static_recv_connected {s : State} (hst : s.st = .CONNECTED) (m : RMsg) : static (recv s m).1 = static s := by
  rcases recv_cases s m with ⟨_, e⟩ | ⟨_, e⟩ | ⟨_, h, _⟩ | ⟨_, h, _⟩ | ⟨_, h, _⟩
  · rw [e, hbOnMessage_frame]; rfl
  · rw [e, hbOnMessage_frame, absorb_frame]; rfl
  all_goals rw [hst, answerKind_connected] at h; cases h

theorem connected_recv {s : State} (hst : s.st = .CONNECTED) (hsub : s.subscribed = true) (m : RMsg) :
    (recv s m).1.st = .CONNECTED ∧ (recv s m).1.subscribed = true :=
  have hs := static_recv_connected hst m
  ⟨(congrArg Static.st hs).trans hst, (congrArg Static.subscribed hs).trans hsub⟩

theorem recv_twice_connected {s : State} (hst : s.st = .CONNECTED) (hsub : s.subscribed = true) (m : RMsg) :
    (hbOnMessage (absorb s m).1 m).st = .CONNECTED ∧
    (recv (recv s m).1 m).2 = (absorb (hbOnMessage (absorb s m).1 m) m).2 := by
  obtain ⟨h1, h2⟩ := connected_recv hst hsub m
  rw [recv_connected hst hsub] at h1 h2
  exact ⟨h1, by rw [recv_connected hst hsub, recv_connected h1 h2]⟩

/-- `msgs` arrive one after the other -/
def recvAll (s : State) (msgs : List RMsg) : State × List Ev := run s (msgs.map Op.recv)

theorem recvAll_cons (s : State) (m : RMsg) (ms : List RMsg) :
    (recvAll s (m :: ms)).1 = (recvAll (recv s m).1 ms).1 := rfl

theorem connected_recvAll {s : State} (hinv : Inv s) (hst : s.st = .CONNECTED) (msgs : List RMsg) :
    Inv (recvAll s msgs).1 ∧ static (recvAll s msgs).1 = static s := by
  induction msgs generalizing s with
  | nil => exact ⟨hinv, rfl⟩
  | cons m ms ih =>
    have hs := static_recv_connected hst m
    have hst' : (recv s m).1.st = .CONNECTED := (congrArg Static.st hs).trans hst
    obtain ⟨h1, h2⟩ := ih (Inv_recv hinv m) hst'
    exact ⟨h1, h2.trans hs⟩

theorem findAc_recvAll {s : State} (hinv : Inv s) (hst : s.st = .CONNECTED) (hsub : s.subscribed = true)
    (msgs : List RMsg) (k : Nat) :
    (recvAll s msgs).1.findAc k = (s.findAc k).map fun a => msgs.foldl (fun a m => acStep k m a) a := by
  induction msgs generalizing s with
  | nil => simp [recvAll, run]
  | cons m ms ih =>
    obtain ⟨hst', hsub'⟩ := connected_recv hst hsub m
    rw [recvAll_cons, ih (Inv_recv hinv m) hst' hsub', findAc_recv_connected hinv hst hsub, Option.map_map]
    rfl

theorem zoneOf_recvAll {s : State} (hinv : Inv s) (hst : s.st = .CONNECTED) (hsub : s.subscribed = true)
    (msgs : List RMsg) (k : Nat) :
    (recvAll s msgs).1.zoneOf k = (s.zoneOf k).map fun z => msgs.foldl (fun z m => zoneStep k m z) z := by
  induction msgs generalizing s with
  | nil => simp [recvAll, run]
  | cons m ms ih =>
    obtain ⟨hst', hsub'⟩ := connected_recv hst hsub m
    rw [recvAll_cons, ih (Inv_recv hinv m) hst' hsub', zoneOf_recv_connected hinv hst hsub, Option.map_map]
    rfl

theorem version_recv_connected {s : State} (hst : s.st = .CONNECTED) (hsub : s.subscribed = true) (m : RMsg) :
    (recv s m).1.version = (versionOf m).getD s.version := by
  rw [recv_connected hst hsub, hbOnMessage_frame]
  show (absorb s m).1.version = _
  rcases absorb_connected hst m with ⟨v, rfl, e⟩ | ⟨_, _, _, K, l, hK, e, _, _, hv⟩ | ⟨l, rfl, e⟩ | ⟨e, _, _, hv⟩ <;> rw [e]
  · unfold updateVersion; split
    · assumption
    · rfl
  · rw [K.fold_acFrame hK, hv]; rfl
  · rw [groupK.fold_zoneFrame rfl]; rfl
  · rw [hv]; rfl

theorem version_recvAll {s : State} (hst : s.st = .CONNECTED) (hsub : s.subscribed = true) (msgs : List RMsg) :
    (recvAll s msgs).1.version = (msgs.reverse.findSome? versionOf).getD s.version := by
  induction msgs generalizing s with
  | nil => rfl
  | cons m ms ih =>
    obtain ⟨hst', hsub'⟩ := connected_recv hst hsub m
    rw [recvAll_cons, ih hst' hsub',
      version_recv_connected hst hsub, List.reverse_cons, List.findSome?_append, List.findSome?_singleton]
    cases ms.reverse.findSome? versionOf <;> cases versionOf m <;> rfl

def acStatusRecords : RMsg → List X2D.AcStatusData
  | .acStatus (.status l) => l
  | _ => []

/-- `AcTimerControlMessage` is an `AcTimerStatusMessage` -/
def acTimerRecords : RMsg → List AcTimerStatusData
  | .acTimerStatus (.status l) => l
  | .acTimerCtrl c => c.ac_timer_status
  | _ => []

def groupRecords : RMsg → List X2B.GroupStatusData
  | .groupStatus (.status l) => l
  | _ => []

theorem acStep_status (k : Nat) (m : RMsg) (a : AcObj) :
    (acStep k m a).status = (lastFor (·.ac_number) k (acStatusRecords m)).getD a.status := by
  unfold acStep
  split
  · exact acStatusK.get_run_self (fun _ => rfl) k _ a
  · exact acTimerK.proj_run (·.status) (fun _ _ => rfl) k _ a
  · exact acTimerK.proj_run (·.status) (fun _ _ => rfl) k _ a
  · exact errInfoK.proj_run (·.status) (fun _ _ => rfl) k _ a
  · rw [acStatusRecords.eq_2 m (by assumption)]; rfl

theorem acStep_timer (k : Nat) (m : RMsg) (a : AcObj) :
    (acStep k m a).timer = (lastFor (·.ac_number) k (acTimerRecords m)).getD a.timer := by
  unfold acStep
  split
  · exact acStatusK.proj_run (·.timer) (fun _ _ => rfl) k _ a
  · exact acTimerK.get_run_self (fun _ => rfl) k _ a
  · exact acTimerK.get_run_self (fun _ => rfl) k _ a
  · exact errInfoK.proj_run (·.timer) (fun _ _ => rfl) k _ a
  · rw [acTimerRecords.eq_3 m (by assumption) (by assumption)]; rfl

theorem zoneStep_status (k : Nat) (m : RMsg) (z : ZoneObj) :
    (zoneStep k m z).status = (lastFor (·.group_number) k (groupRecords m)).getD z.status := by
  unfold zoneStep
  split
  · exact groupK.get_run_self (fun _ => rfl) k _ z
  · rw [groupRecords.eq_2 m (by assumption)]; rfl

theorem foldl_steps_proj {α β γ} {step : β → α → α} {proj : α → γ} {key : γ → Nat} {k : Nat} {recs : β → List γ}
    (h : ∀ m a, proj (step m a) = (lastFor key k (recs m)).getD (proj a)) (msgs : List β) (a : α) :
    proj (msgs.foldl (fun a m => step m a) a) = (lastFor key k (msgs.flatMap recs)).getD (proj a) := by
  induction msgs generalizing a with
  | nil => rfl
  | cons m ms ih =>
    rw [List.foldl_cons, ih, h, List.flatMap_cons, lastFor_append]
    cases lastFor key k (ms.flatMap recs) <;> cases lastFor key k (recs m) <;> rfl

end PyAirtouch.Lemmas.Api4
