import PyAirtouch.Lemmas.SockHeal
/-!
# Healing of the socket model, part 3: nothing queued is lost silently

`Fate c c'`: the trace of `c'` extends the trace of `c`, and every entry queued in `c` is still queued
in `c'` (same `sid`) or the extension contains an event that says what happened to it: a write attempt
(`wire`, `deadWrite`, `writeFault`) or a drop (`qdrop`, with its reason).  Holds for every primitive change of
`SockDoes.Does` except `open_socket()` on a socket that is not open (`Does.fate`), hence along every run without
`open_socket()` calls (`run_fate`) - in particular along the benign runs of `never_wedges_fate`.

`open_socket()` on a closed socket empties the send queue (`self._message_queue.clear()`) and logs
nothing about the entries it discards; `reopen_not_fate` is the history in which `Fate` fails for that call.
-/
namespace PyAirtouch.Lemmas.SockHeal
open PyAirtouch.Model.Sock PyAirtouch.Spec.Trace PyAirtouch.Lemmas.Sock PyAirtouch.Lemmas.SockConn

/-- `ev` tells what happened to message `sid` -/
def fateEv (sid : Nat) : Ev → Bool
  | .wire _ s _ | .deadWrite _ s _ | .writeFault _ s _ | .qdrop s _ _ => s == sid
  | _ => false

def Kept (q' : List Entry) (evs : List Ev) (e : Entry) : Prop :=
  (∃ e' ∈ q', e'.sid = e.sid) ∨ ∃ ev ∈ evs, fateEv e.sid ev = true

def Fate (c c' : Core) : Prop := ∃ evs, c'.trace = c.trace ++ evs ∧ ∀ e ∈ c.queue, Kept c'.queue evs e

theorem Fate.refl (c : Core) : Fate c c := ⟨[], by simp, fun e he => .inl ⟨e, he, rfl⟩⟩

theorem Fate.trans {a b c : Core} (h1 : Fate a b) (h2 : Fate b c) : Fate a c := by
  obtain ⟨ev1, t1, k1⟩ := h1
  obtain ⟨ev2, t2, k2⟩ := h2
  refine ⟨ev1 ++ ev2, by rw [t2, t1, List.append_assoc], ?_⟩
  intro e he
  rcases k1 e he with ⟨e', he', hs⟩ | ⟨ev, hev, hf⟩
  · rcases k2 e' he' with ⟨e'', he'', hs'⟩ | ⟨ev, hev, hf⟩
    · exact .inl ⟨e'', he'', hs'.trans hs⟩
    · exact .inr ⟨ev, List.mem_append_right _ hev, hs ▸ hf⟩
  · exact .inr ⟨ev, List.mem_append_left _ hev, hf⟩

theorem Fate.of_sub {c c' : Core} (evs : List Ev) (ht : c'.trace = c.trace ++ evs)
    (hq : ∀ e ∈ c.queue, ∃ e' ∈ c'.queue, e'.sid = e.sid) : Fate c c' :=
  ⟨evs, ht, fun e he => .inl (hq e he)⟩

theorem _root_.PyAirtouch.Lemmas.SockDoes.Does.fate {a b : SockDoes.St} (h : SockDoes.Does False a b) :
    Fate a.core b.core := by
  have keep : ∀ {c c' : Core} (evs : List Ev), c'.trace = c.trace ++ evs → c'.queue = c.queue → Fate c c' :=
    fun evs ht hq => Fate.of_sub evs ht (fun y hy => ⟨y, hq ▸ hy, rfl⟩)
  have still : ∀ {c c' : Core}, c'.trace = c.trace → c'.queue = c.queue → Fate c c' :=
    fun ht hq => keep [] (by rw [ht, List.append_nil]) hq
  -- one entry of the queue leaves with the event `ev`
  have leave : ∀ {c c' : Core} {e : Entry} {pre post : List Entry} (ev : Ev), c.queue = pre ++ e :: post →
      c'.queue = pre ++ post → c'.trace = c.trace ++ [ev] → fateEv e.sid ev = true → Fate c c' := by
    intro c c' e pre post ev hq hq' ht hf
    refine ⟨[ev], ht, fun y hy => ?_⟩
    rw [hq] at hy
    rcases List.mem_append.1 hy with hy | hy
    · exact .inl ⟨y, hq' ▸ List.mem_append_left _ hy, rfl⟩
    rcases List.mem_cons.1 hy with rfl | hy
    · exact .inr ⟨ev, List.mem_cons_self, hf⟩
    · exact .inl ⟨y, hq' ▸ List.mem_append_right _ hy, rfl⟩
  induction h with
  | refl => exact .refl _
  | trans _ _ ih1 ih2 => exact ih1.trans ih2
  | tick => exact still rfl rfl
  | lost => exact keep [_] rfl rfl
  | ran | flags => exact still rfl rfl
  | log => exact keep [_] rfl rfl
  | openFresh _ hr => exact hr.elim
  | closeStart => exact keep [_] rfl rfl
  | connecting => exact still rfl rfl
  | opened => exact keep [_] rfl rfl
  | burn => exact still rfl rfl
  | accept a sid r life ok => exact Fate.of_sub [_] rfl (fun y hy => ⟨y, List.mem_append_left _ hy, rfl⟩)
  | discard a e pre post why hq _ => exact leave (.qdrop e.sid a.core.now why) hq rfl rfl (by simp [fateEv])
  | wire a e rest w p hq _ _ => exact leave (pre := []) (.wire w e.sid a.core.now) hq rfl rfl (by simp [fateEv])
  | fault a e rest w p hq _ _ => exact leave (pre := []) (.writeFault w e.sid a.core.now) hq rfl rfl (by simp [fateEv])
  | release | perm => exact still rfl rfl
  | requeue a w e fl' => exact Fate.of_sub [] (by simp) (fun y hy => ⟨y, List.mem_cons_of_mem _ hy, rfl⟩)
  | giveUp | closeConn | disc => exact keep [_] rfl rfl

/-- The history in which `Fate` fails for the re-open of a closed socket: a message is accepted while the link is down,
    the socket is closed (the entry stays queued) and opened again.  The re-open empties the queue and appends nothing
    but its own `apiOpen` event to the trace. -/
theorem reopen_not_fate : ∃ s s', Reachable s ∧ step s .apiOpen = some s' ∧ s.core.queue.map (·.sid) = [1] ∧
    s'.core.queue = [] ∧ ¬ Fate s.core s'.core := by
  refine ⟨_, _, ⟨[.apiOpen, .apiSend 1 2 240 true, .apiClose, .run 3 .go, .run 3 .go], rfl⟩, rfl, by decide, by decide, ?_⟩
  rintro ⟨evs, ht, hk⟩
  have hevs : evs = [.apiOpen 0] := List.append_cancel_left (ht.symm.trans (by decide))
  subst hevs
  rcases hk ⟨1, 2, 240, true, false⟩ (by decide) with ⟨e', he', _⟩ | ⟨ev, hev, hf⟩
  · exact List.not_mem_nil he'
  · rw [List.mem_singleton.1 hev] at hf; cases hf

theorem run_fate (ls : List Label) (s s' : Sys) (hno : ∀ l ∈ ls, l ≠ .apiOpen) (h : run s ls = some s') :
    Fate s.core s'.core :=
  (SockDoes.runX_does (R := False) (ls.map .base) [] s s'
    (.inr fun l hl => by obtain ⟨l0, h0, rfl⟩ := List.mem_map.1 hl; exact fun e => hno l0 h0 (LabelX.base.inj e))
    (SockX.runX_base h)).fate

theorem benignRun_no_open {d : Nat} : ∀ (ls : List Label) (s : Sys), benignRun d s ls = true → ∀ l ∈ ls, l ≠ .apiOpen := by
  intro ls
  induction ls with
  | nil => intro s _ l hl; cases hl
  | cons l0 ls ih =>
    intro s hb l hl
    simp only [benignRun, Bool.and_eq_true] at hb
    rcases List.mem_cons.1 hl with rfl | hl
    · intro hl0; subst hl0; simp [benign] at hb
    · cases hs : step s l0 with
      | none => rw [hs] at hb; simp at hb
      | some s1 => rw [hs] at hb; exact ih s1 hb.2 l hl

theorem fate_suffix {c c' : Core} (h : Fate c c') (hq : c'.queue = []) :
    ∀ e ∈ c.queue, ∃ ev ∈ c'.trace.drop c.trace.length, fateEv e.sid ev = true := by
  obtain ⟨evs, ht, hk⟩ := h
  intro e he
  rw [ht, List.drop_left]
  rcases hk e he with ⟨e', he', _⟩ | h
  · rw [hq] at he'; cases he'
  · exact h

/-- `never_wedges`, with the fate of the queued messages: each entry that was queued has, in the part of
    the trace written during the healing, a write attempt or a drop with its reason -/
theorem never_wedges_fate {s : Sys} (h : ReachableH s) (ho : s.core.isOpen = true) :
    ∃ ls s', benignRun (s.core.now + RETRY_DELAY) s ls = true ∧ run s ls = some s' ∧ Healed s' ∧
      s'.core.now ≤ s.core.now + RETRY_DELAY ∧
      ∀ e ∈ s.core.queue, ∃ ev ∈ s'.core.trace.drop s.core.trace.length, fateEv e.sid ev = true := by
  obtain ⟨ls, s', h1, h2, h3, h4⟩ := never_wedges h ho
  exact ⟨ls, s', h1, h2, h3, h4, fate_suffix (run_fate ls s s' (benignRun_no_open ls s h1) h2) h3.queue⟩

end PyAirtouch.Lemmas.SockHeal
