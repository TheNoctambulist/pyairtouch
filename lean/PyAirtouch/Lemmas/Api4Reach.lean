import PyAirtouch.Lemmas.Api4Discipline
import PyAirtouch.Lemmas.Api4Install
/-!
# Facts about every reachable state of the AirTouch 4 API model

`Reach4 s`: `s` is the state after some op list run on the fresh object `State.initial`; `ReachD4 s`: after an op
list that keeps the calling discipline (`disciplined true`: every `init` is the first op or follows a `shutdown`
with no other `init` in between).

By induction over the ops: the socket-open facts the model file only documents, every pending deadline strictly ahead
of the clock, what the discipline adds, and that under it the object model stays empty until the names answer.
Further: what passive op lists (arriving messages, connection losses) leave alone, and the handshake on scripts from any
of its states (`script_run`, `completion_run`; they use nothing of `Reach4`). First, a condition on the fields of the
names and ability messages alone that implies `Consistent`.
-/
namespace PyAirtouch.Lemmas.Api4Reach
open PyAirtouch.Model PyAirtouch.Model.Api4 PyAirtouch.Model.At4 PyAirtouch.Lemmas.Api4 PyAirtouch.Gen
open PyAirtouch.Model.Heartbeat (HB step)

/-! ## a purely syntactic sufficient condition for `Consistent` -/

/-- the three record formats, each referring only to named groups: a bitmap whose groups are all named; or no bitmap
    and the record is the only one (then it gets every named group); or no bitmap and `start_group … start_group +
    group_count - 1` are all named -/
def RecordNamed (named : List Nat) (single : Bool) (ab : FF11.AcAbility) : Prop :=
  match ab.groups with
  | some gs => ∀ g ∈ gs, g ∈ named
  | none => single = true ∨ ∀ g ∈ List.range' ab.start_group ab.group_count, g ∈ named

instance (named : List Nat) (single : Bool) (ab : FF11.AcAbility) : Decidable (RecordNamed named single ab) := by
  unfold RecordNamed
  split <;> infer_instance

/-- distinct group numbers, distinct AC numbers, complete tables, and every record `RecordNamed` -/
def SyntacticallyConsistent (names : List (Nat × Bytes)) (acs : List FF11.AcAbility) : Prop :=
  (names.map (·.1)).Nodup ∧ (acs.map (·.ac_number)).Nodup ∧
  ∀ ab ∈ acs, (mkAc ab []).isSome = true ∧ RecordNamed (names.map (·.1)) (acs.length == 1) ab

theorem consistent_of_syntactic {names : List (Nat × Bytes)} {acs : List FF11.AcAbility}
    (h : SyntacticallyConsistent names acs) : Consistent names acs := by
  obtain ⟨h1, h2, h3⟩ := h
  refine ⟨h1, h2, fun ab hab => ⟨(h3 ab hab).1, ?_⟩⟩
  have hr := (h3 ab hab).2
  unfold RecordNamed at hr
  unfold describedIds
  cases hg : ab.groups with
  | some gs =>
    rw [hg] at hr
    intro g hgm
    exact hr g (mem_of_mem_pySetOrder gs g hgm)
  | none =>
    rw [hg] at hr
    simp only
    cases hsg : (acs.length == 1) with
    | true => intro g hgm; simpa using hgm
    | false =>
      rw [hsg] at hr
      simp only [Bool.false_eq_true, ↓reduceIte, false_or] at hr ⊢
      exact hr

def Reach4 (s : State) : Prop := ∃ ops, (run State.initial ops).1 = s

def ReachD4 (s : State) : Prop := ∃ ops, disciplined true ops = true ∧ (run State.initial ops).1 = s

theorem ReachD4.reach {s : State} (h : ReachD4 s) : Reach4 s := by
  obtain ⟨ops, _, e⟩ := h; exact ⟨ops, e⟩

theorem Reach4.initial : Reach4 State.initial := ⟨[], rfl⟩

theorem Reach4.step {s : State} (h : Reach4 s) (op : Op) : Reach4 (apiStep s op).1 := by
  obtain ⟨ops, e⟩ := h
  refine ⟨ops ++ [op], ?_⟩
  rw [run_append, e]
  rfl

theorem Reach4.run {s : State} (h : Reach4 s) (ops : List Op) : Reach4 (run s ops).1 :=
  run4_eq s ops ▸ FoldW.foldW_inv ops s h fun _ op _ h => h.step op

theorem Reach4.induct {P : State → Prop} (h0 : P State.initial) (hstep : ∀ s op, Reach4 s → P s → P (apiStep s op).1)
    {s : State} (h : Reach4 s) : P s := by
  obtain ⟨ops, e⟩ := h
  subst e
  have gen : ∀ (ops : List Op) (t : State), Reach4 t → P t → P (Api4.run t ops).1 := by
    intro ops
    induction ops with
    | nil => intro t _ ht; exact ht
    | cons op ops ih => intro t hr ht; exact ih _ (hr.step op) (hstep t op hr ht)
  exact gen ops _ Reach4.initial h0

/-! ## how long the object model stays empty

Up to a stage `k ≤ 3` of the handshake (`3`: the names answer is awaited) nothing creates a zone or an air-conditioner,
and `shutdown()` empties the model: "empty while `stage ≤ k`" is kept by every op that does not go back to an earlier
stage with a full model.  Only `init()` can, and not for `k = 0`: it leaves `CLOSED`. -/

def EmptyUpTo (k : Nat) (s : State) : Prop := stage s.st ≤ k → modelView s = ⟨[], [], [], []⟩

/-- before the names answer has been processed (`CLOSED`, `CONNECTING`, `INIT_VERSION`, `INIT_GROUP_NAMES`) there is
    no zone and no air-conditioner -/
def EarlyEmpty (s : State) : Prop := EmptyUpTo 3 s

theorem emptyUpTo_of {k : Nat} {s t : State} (he : EmptyUpTo k s) (h1 : stage s.st ≤ stage t.st)
    (h2 : modelView t = modelView s) : EmptyUpTo k t := fun h => h2.trans (he (Nat.le_trans h1 h))

theorem emptyUpTo_recv {k : Nat} (hk : k ≤ 3) {s : State} (he : EmptyUpTo k s) (m : RMsg) :
    EmptyUpTo k (recv s m).1 := by
  rcases recv_cases s m with ⟨_, e⟩ | ⟨_, e⟩ | ⟨_, _, _, e⟩ | ⟨_, _, hs, _, e⟩ | ⟨_, hk', hne, _, e⟩ <;>
    rw [e] <;> intro hle <;> rw [st_hbOnMessage] at hle <;> rw [modelView_hbOnMessage]
  · exact he hle
  · rw [absorb_frame] at hle
    have hm0 := he hle
    rw [absorb_early (fun h => by rw [h] at hle; exact absurd (Nat.le_trans hle hk) (by decide))
      (congrArg ModelView.acDict hm0)]
    exact hm0
  · rw [enterConnected_frame] at hle; exact absurd (Nat.le_trans (show 8 ≤ k from hle) hk) (by decide)
  · rw [store_frame] at hle; rw [hs] at hle; exact absurd (Nat.le_trans hle hk) (by decide)
  · -- only the version answer leads to a state before the ability answer, and it stores no object
    rcases answer_cases hk' with ⟨hs, v, _, e'⟩ | ⟨hs, _⟩ | ⟨hs, _⟩ | ⟨h5, _⟩
    · have h23 : stage s.st ≤ stage (nextState s.st) := by rw [hs]; decide
      rw [e' s]; exact he (Nat.le_trans h23 hle)
    -- every later answer leads beyond the names stage
    · dsimp only at hle; rw [hs] at hle; exact absurd (Nat.le_trans hle hk) (by decide)
    · dsimp only at hle; rw [hs] at hle; exact absurd (Nat.le_trans hle hk) (by decide)
    · dsimp only at hle
      have h1 := (answer_stage hk' hne).2.2.1
      omega

theorem emptyUpTo_subUnsub {k : Nat} {s : State} (he : EmptyUpTo k s) (t : Target) (f : List Sub → List Sub) :
    EmptyUpTo k (subUnsub s t f).1 := by
  intro hle
  rw [st_subUnsub] at hle
  have hm := he hle
  have a1 : s.acDict = [] := congrArg ModelView.acDict hm
  cases t with
  | airtouch => exact hm
  | ac i general =>
    have : s.findAc i = none := by simp [State.findAc, a1]
    simp only [subUnsub, this]; exact hm
  | zone i =>
    have : s.findZone i = none := by simp [State.findZone, State.airConditioners, a1]
    simp only [subUnsub, this]; exact hm

theorem emptyUpTo_step {k : Nat} (hk : k ≤ 3) {s : State} (he : EmptyUpTo k s) (op : Op) (hop : op ≠ .init ∨ k = 0) :
    EmptyUpTo k (apiStep s op).1 := by
  cases op with
  | init =>
    obtain rfl : k = 0 := hop.elim (fun h => absurd rfl h) id
    intro hle
    simp only [apiStep, doInit] at hle
    split at hle <;> exact absurd (show 1 ≤ 0 from hle) (by decide)
  | shutdown => intro _; rfl
  | conn up =>
    refine emptyUpTo_of he ?_ (by simp only [apiStep]; rw [onConn_eq]; rfl)
    rcases onConn_st { s with sockConnected := up, hb := hbApply { s.hb with now := s.now } (.conn up) } up
      with h | ⟨h1, h2⟩
    · exact Nat.le_of_eq (congrArg stage h.symm)
    · show stage s.st ≤ stage (onConn _ up).1.st
      rw [h2, show s.st = _ from h1]; decide
  | msg mid payload =>
    simp only [apiStep]
    split
    · exact emptyUpTo_recv hk he _
    · exact he
  | recv m => exact emptyUpTo_recv hk he m
  | call c => exact he
  | callBad c => exact he
  | sub t sid r => exact emptyUpTo_subUnsub he t _
  | unsub t sid => exact emptyUpTo_subUnsub he t _
  | adv n =>
    have hc := core_advance n s
    exact emptyUpTo_of he (Nat.le_of_eq (congrArg (fun c => stage c.st) hc).symm) (modelView_of_core hc)
  | view => simp only [apiStep]; split <;> exact he

theorem earlyEmpty_disciplined_from {s : State} (he : EarlyEmpty s) (c : Bool) (hc : c = true → Closed s)
    (ops : List Op) (hd : disciplined c ops = true) : EarlyEmpty (run s ops).1 := by
  refine disciplined_induct (P := EarlyEmpty) (fun s op hop he => emptyUpTo_step (Nat.le_refl 3) he op (.inl hop))
    (fun s hcl _ _ => ?_) he c hc ops hd
  have : modelView (apiStep s .init).1 = modelView s := by
    simp only [apiStep, doInit]; split <;> rfl
  rw [this]
  exact modelView_empty_iff.mpr ⟨hcl.acDict, hcl.zoneDict, hcl.acObjs, hcl.zoneObjs⟩

theorem reachD_earlyEmpty {s : State} (h : ReachD4 s) : EarlyEmpty s := by
  obtain ⟨ops, hd, e⟩ := h
  rw [← e]
  exact earlyEmpty_disciplined_from (fun _ => rfl) true (fun _ => State.initial_closed) ops hd

/-! ## the heartbeat manager is idle or not -/

theorem tl_waiting_beq (a : Nat) : (Heartbeat.TL.waiting a == Heartbeat.TL.idle) = false := rfl
theorem tl_resetting_beq : (Heartbeat.TL.resetting == Heartbeat.TL.idle) = false := rfl
theorem hl_sleeping_beq (a : Nat) : (Heartbeat.HL.sleeping a == Heartbeat.HL.idle) = false := rfl

theorem hbIdle_now (h : HB) (n : Nat) : hbIdle { h with now := n } = hbIdle h := rfl

theorem hbIdle_startHB (n : Nat) (h : HB) : hbIdle (startHB n h) = false := by
  unfold startHB
  by_cases hi : hbIdle h = true
  · simp only [hi, ↓reduceIte]
    have hi' : hbIdle { h with now := n } = true := hi
    simp [hbIdle, (startedHB_ran hi').1.tl, tl_waiting_beq]
  · simp only [hi, Bool.false_eq_true, ↓reduceIte]

/-! ## the socket-open facts -/

/-- What holds in every reachable state about the stub socket, the handshake state, the initialised event, the
    current poll task, the heartbeat manager and the object model.  In words: the socket is open exactly while the
    state is not `CLOSED`; outside `CLOSED` the callbacks are subscribed; in `CLOSED` the object model is empty;
    the initialised event, the current poll task and the heartbeat manager live and die together (set / created /
    started when `CONNECTED` is entered, cleared / cancelled / stopped only by `shutdown()`), and they imply an open
    socket; `CONNECTED` implies all three; no `init()` call waits while the initialised event is set. -/
structure SockFacts (s : State) : Prop where
  open_iff : s.sockOpen = true ↔ s.st ≠ .CLOSED
  subscribed : s.st ≠ .CLOSED → s.subscribed = true
  closed_empty : s.st = .CLOSED → s.acDict = [] ∧ s.zoneDict = [] ∧ s.acObjs = [] ∧ s.zoneObjs = []
  init_open : s.initialised = true → s.st ≠ .CLOSED
  connected_init : s.st = .CONNECTED → s.initialised = true
  poll_iff : s.pollCur.isSome = s.initialised
  hb_iff : hbIdle s.hb = !s.initialised
  init_nowaits : s.initialised = true → s.initWaits = []

theorem SockFacts.closed {s : State} (f : SockFacts s) (h : s.st = .CLOSED) : Closed s := by
  have hi : s.initialised = false := by
    cases hi : s.initialised with
    | false => rfl
    | true => exact absurd h (f.init_open hi)
  obtain ⟨e1, e2, e3, e4⟩ := f.closed_empty h
  refine ⟨h, hi, e1, e2, e3, e4, ?_, ?_, ?_⟩
  · have := f.poll_iff
    rw [hi] at this
    cases hp : s.pollCur with
    | none => rfl
    | some d => rw [hp] at this; cases this
  · have := f.hb_iff
    rw [hi] at this
    exact this
  · cases ho : s.sockOpen with
    | false => rfl
    | true => exact absurd h (f.open_iff.mp ho)

theorem sockFacts_of_closed {s : State} (c : Closed s) : SockFacts s := by
  refine ⟨?_, ?_, ?_, ?_, ?_, ?_, ?_, ?_⟩
  · constructor
    · intro h; rw [c.sockOpen] at h; cases h
    · intro h; exact absurd c.st h
  · intro h; exact absurd c.st h
  · intro _; exact ⟨c.acDict, c.zoneDict, c.acObjs, c.zoneObjs⟩
  · intro h; rw [c.initialised] at h; cases h
  · intro h; rw [c.st] at h; cases h
  · rw [c.pollCur, c.initialised]; rfl
  · rw [c.idle, c.initialised]; rfl
  · intro h; rw [c.initialised] at h; cases h

/-- the clauses of `SockFacts` that speak of the control part only (all but `closed_empty`), under the same field names -/
structure SockCtl (c : Ctl) : Prop where
  open_iff : c.sockOpen = true ↔ c.st ≠ .CLOSED
  subscribed : c.st ≠ .CLOSED → c.subscribed = true
  init_open : c.initialised = true → c.st ≠ .CLOSED
  connected_init : c.st = .CONNECTED → c.initialised = true
  poll_iff : c.pollCur.isSome = c.initialised
  hb_iff : hbIdle c.hb = !c.initialised
  init_nowaits : c.initialised = true → c.initWaits = []

theorem sockCtl_step {s : State} (op : Op) (f : SockCtl (ctl s)) : SockCtl (ctl (apiStep s op).1) := by
  refine ctl_inv (P := SockCtl) s op (fun l c c' _ h f => ?_) f
  cases h with
  | init =>
    refine ⟨⟨fun _ => nofun, fun _ => rfl⟩, fun _ => rfl, fun _ => nofun, nofun, f.poll_iff, f.hb_iff, fun hi => ?_⟩
    dsimp only at hi ⊢; rw [if_pos hi]; exact f.init_nowaits hi
  | shutdown =>
    exact ⟨⟨nofun, fun h => absurd rfl h⟩, fun h => absurd rfl h, nofun, nofun, rfl,
      (hbIdle_iff _).mpr ⟨(hbApply_stop _).1, (hbApply_stop _).2.1⟩, nofun⟩
  | conn _ up =>
    have hidle : hbIdle (hbApply { c.hb with now := c.now } (.conn up)) = hbIdle c.hb :=
      hbIdle_apply _ _ nofun nofun
    have hst : ((connStep c.subscribed c.st c.sockOpen up).1 ≠ .CLOSED ↔ c.st ≠ .CLOSED) ∧
        ((connStep c.subscribed c.st c.sockOpen up).1 = .CONNECTED → c.st = .CONNECTED) := by
      rcases connStep_st c.subscribed c.st c.sockOpen up with e | ⟨e1, e2⟩
      · rw [e]; exact ⟨Iff.rfl, id⟩
      · rw [e2, e1]; exact ⟨⟨fun _ => nofun, fun _ => nofun⟩, nofun⟩
    exact ⟨f.open_iff.trans hst.1.symm, fun h => f.subscribed (hst.1.mp h), fun h => hst.1.mpr (f.init_open h),
      fun h => f.connected_init (hst.2 h), f.poll_iff, hidle.trans f.hb_iff, f.init_nowaits⟩
  | answer _ m hsub hk hne =>
    have hn := nextState_of_answer hk hne
    exact ⟨⟨fun _ => hn.2.1, fun _ => f.open_iff.mpr hn.1⟩, fun _ => hsub, fun _ => hn.2.1, fun h => absurd h hn.2.2,
      f.poll_iff, f.hb_iff, f.init_nowaits⟩
  | complete _ _ hsub hst =>
    exact ⟨⟨fun _ => nofun, fun _ => f.open_iff.mpr (by rw [hst]; nofun)⟩, fun _ => hsub, fun _ => nofun, fun _ => rfl,
      rfl, hbIdle_startHB _ _, fun _ => rfl⟩
  | rearm =>
    exact ⟨f.open_iff, f.subscribed, f.init_open, f.connected_init,
      (by show (c.pollCur.map _).isSome = _; rw [Option.isSome_map]; exact f.poll_iff), f.hb_iff, f.init_nowaits⟩
  | response =>
    exact ⟨f.open_iff, f.subscribed, f.init_open, f.connected_init, f.poll_iff,
      ((respondedHB_drives _).idle (by rintro _ (rfl | rfl) <;> exact ⟨nofun, nofun⟩)).trans f.hb_iff, f.init_nowaits⟩
  | tick =>
    refine ⟨f.open_iff, f.subscribed, f.init_open, f.connected_init, ?_,
      ((tickHB_drives _ _ _).idle (by rintro _ (rfl | rfl | rfl) <;> exact ⟨nofun, nofun⟩)).trans f.hb_iff, fun hi => ?_⟩
    · show ((c.pollCur.map _).bind _).isSome = c.initialised
      rw [← f.poll_iff]
      cases hp : c.pollCur with
      | none => rfl
      | some d =>
        -- a live poll task means the socket is open, and then the task survives its timeout
        have ho : c.sockOpen = true := f.open_iff.mpr (f.init_open (by rw [← f.poll_iff, hp]; rfl))
        simp only [Option.map_some, Option.bind_some, Option.isSome_some, ho]; exact firePoll_open _ _ _
    · show c.initWaits.filter _ = []; rw [f.init_nowaits hi]; rfl

theorem SockFacts.toCtl {s : State} (f : SockFacts s) : SockCtl (ctl s) :=
  ⟨f.open_iff, f.subscribed, f.init_open, f.connected_init, f.poll_iff, f.hb_iff, f.init_nowaits⟩

theorem SockFacts.ofCtl {s : State} (c : SockCtl (ctl s))
    (h : s.st = .CLOSED → s.acDict = [] ∧ s.zoneDict = [] ∧ s.acObjs = [] ∧ s.zoneObjs = []) : SockFacts s :=
  ⟨c.open_iff, c.subscribed, h, c.init_open, c.connected_init, c.poll_iff, c.hb_iff, c.init_nowaits⟩

theorem SockFacts.emptyUpTo {s : State} (f : SockFacts s) : EmptyUpTo 0 s := fun h =>
  modelView_empty_iff.mpr (f.closed_empty (stage_inj (Nat.le_zero.mp h)))

theorem sockFacts_step {s : State} (f : SockFacts s) (op : Op) : SockFacts (apiStep s op).1 := by
  refine .ofCtl (sockCtl_step op f.toCtl) fun h => ?_
  exact modelView_empty_iff.mp (emptyUpTo_step (Nat.zero_le 3) f.emptyUpTo op (.inr rfl) (by rw [h]; decide))

theorem reach_sockFacts {s : State} (h : Reach4 s) : SockFacts s :=
  Reach4.induct (P := SockFacts) (sockFacts_of_closed State.initial_closed) (fun _ op _ f => sockFacts_step f op) h

theorem reach_inv {s : State} (h : Reach4 s) : Inv s :=
  Reach4.induct (P := Inv) Inv_initial (fun _ op _ i => Inv_apiStep i op) h

theorem reach_hbWf {s : State} (h : Reach4 s) : HbWf s :=
  Reach4.induct (P := HbWf) hbWf_initial (fun _ op _ w => hbWf_apiStep op w) h

/-! ## every pending deadline lies ahead of the clock -/

/-- the deadline of every poll task (current or orphaned) is strictly ahead of the clock and at most 300 s away;
    the deadline of every waiting `init()` is strictly ahead and at most 5 s away -/
structure Ahead (s : State) : Prop where
  poll : ∀ d, s.pollCur = some d → s.now < d ∧ d ≤ s.now + Api4.GROUP_STATUS_TIMEOUT
  orphans : ∀ d ∈ s.pollOrphans, s.now < d ∧ d ≤ s.now + Api4.GROUP_STATUS_TIMEOUT
  waits : ∀ d ∈ s.initWaits, s.now < d ∧ d ≤ s.now + Api4.INIT_TIMEOUT

/-- `Ahead` on the control part: `Ahead s` is `AheadC (ctl s)` -/
structure AheadC (c : Ctl) : Prop where
  poll : ∀ d, c.pollCur = some d → c.now < d ∧ d ≤ c.now + Api4.GROUP_STATUS_TIMEOUT
  orphans : ∀ d ∈ c.pollOrphans, c.now < d ∧ d ≤ c.now + Api4.GROUP_STATUS_TIMEOUT
  waits : ∀ d ∈ c.initWaits, c.now < d ∧ d ≤ c.now + Api4.INIT_TIMEOUT

theorem Ahead.toCtl {s : State} (a : Ahead s) : AheadC (ctl s) := ⟨a.poll, a.orphans, a.waits⟩
theorem Ahead.ofCtl {s : State} (a : AheadC (ctl s)) : Ahead s := ⟨a.poll, a.orphans, a.waits⟩

theorem Ahead.all {s : State} (a : Ahead s) : ∀ d ∈ s.pollOrphans ++ s.pollCur.toList, s.now < d := by
  intro d hd
  rcases List.mem_append.mp hd with h | h
  · exact (a.orphans d h).1
  · exact (a.poll d (Option.mem_toList.mp h)).1

theorem ahead_step {s : State} (a : Ahead s) (op : Op) : Ahead (apiStep s op).1 := by
  have fresh : ∀ n : Nat, n < n + Api4.GROUP_STATUS_TIMEOUT ∧ n + Api4.GROUP_STATUS_TIMEOUT ≤ n + Api4.GROUP_STATUS_TIMEOUT :=
    fun n => ⟨Nat.lt_add_of_pos_right (by decide), Nat.le_refl _⟩
  refine .ofCtl (ctl_inv (P := AheadC) s op (fun l c c' _ h a => ?_) a.toCtl)
  obtain ⟨ap, ao, aw⟩ := a
  cases h with
  | conn | answer | response => exact ⟨ap, ao, aw⟩
  | init =>
    refine ⟨ap, ao, fun d hd => ?_⟩
    dsimp only at hd ⊢
    split at hd
    · exact aw d hd
    · rcases List.mem_append.mp hd with h | h
      · exact aw d h
      · have hT : 0 < Api4.INIT_TIMEOUT := by decide
        simp only [List.mem_singleton] at h
        omega
  | shutdown => exact ⟨fun d h => (by cases h), ao, aw⟩
  | complete =>
    refine ⟨fun d hd => by cases hd; exact fresh _, fun d hd => ?_, fun d hd => by cases hd⟩
    rcases List.mem_append.mp hd with h | h
    · exact ao d h
    · exact ap d (Option.mem_toList.mp h)
  | rearm =>
    refine ⟨fun d hd => ?_, fun d hd => ?_, aw⟩
    · obtain ⟨_, _, rfl⟩ := Option.map_eq_some_iff.mp hd; exact fresh _
    · obtain ⟨_, _, rfl⟩ := List.mem_map.mp hd; exact fresh _
  | tick =>
    refine ⟨fun d hd => ?_, fun d hd => ?_, fun d hd => ?_⟩
    · cases hc : c.pollCur with
      | none => simp only [Ctl.tick, hc] at hd; cases hd
      | some d0 => simp only [Ctl.tick, hc] at hd; exact firePoll_ahead _ _ _ _ _ (ap d0 hc) hd
    · simp only [Ctl.tick, List.mem_filterMap, List.mem_map] at hd
      obtain ⟨x, ⟨d0, hd0, rfl⟩, hx⟩ := hd
      exact firePoll_ahead _ _ _ _ _ (ao d0 hd0) hx
    · simp only [Ctl.tick, List.mem_filter, Bool.not_eq_eq_eq_not, Bool.not_true, decide_eq_false_iff_not] at hd
      have := aw d hd.1
      show c.now + 1 < d ∧ d ≤ c.now + 1 + Api4.INIT_TIMEOUT
      omega

theorem reach_ahead {s : State} (h : Reach4 s) : Ahead s :=
  Reach4.induct (P := Ahead) ⟨fun _ => nofun, fun _ => nofun, fun _ => nofun⟩ (fun _ op _ a => ahead_step a op) h

/-! ## the discipline -/

/-- what the calling discipline adds: no orphaned poll task; the initialised event, the current poll task and the
    running heartbeat exist exactly in state `CONNECTED`.  (`orphans` is `NoOrphan.orphans`, and `NoOrphan.cur` is one
    direction of `poll_iff`.) -/
structure DiscFacts (s : State) : Prop where
  orphans : s.pollOrphans = []
  init_iff : s.initialised = true ↔ s.st = .CONNECTED
  poll_iff : s.pollCur.isSome = true ↔ s.st = .CONNECTED
  hb_iff : hbIdle s.hb = false ↔ s.st = .CONNECTED

theorem reachD_discFacts {s : State} (h : ReachD4 s) : DiscFacts s := by
  have f := reach_sockFacts h.reach
  obtain ⟨ops, hd, e⟩ := h
  have j : NoOrphan s := by
    rw [← e]
    exact noOrphans_disciplined_from ⟨rfl, fun _ => rfl⟩ true (fun _ => State.initial_closed) ops hd
  have hp : s.pollCur.isSome = true ↔ s.st = .CONNECTED := by
    constructor
    · intro hs
      apply Classical.byContradiction
      intro hne
      rw [j.cur hne] at hs; cases hs
    · intro hc
      rw [f.poll_iff]; exact f.connected_init hc
  refine ⟨j.orphans, ?_, hp, ?_⟩
  · rw [← f.poll_iff]; exact hp
  · rw [f.hb_iff, ← hp, f.poll_iff]
    cases s.initialised <;> simp

/-! ## the documented facts, one by one

`Model/Api4.lean` documents: "in reachable states a state `≠ CLOSED`, a running heartbeat, a live current poll task
and a non-empty air-conditioner dictionary all imply an open socket". -/

theorem open_of_hb_running {s : State} (h : Reach4 s) (hr : hbIdle s.hb = false) :
    s.sockOpen = true ∧ s.initialised = true := by
  have f := reach_sockFacts h
  have hi : s.initialised = true := by
    have := f.hb_iff; rw [hr] at this
    cases hi : s.initialised with
    | true => rfl
    | false => rw [hi] at this; cases this
  exact ⟨f.open_iff.mpr (f.init_open hi), hi⟩

/-- what a live current poll task with deadline `d` implies in a reachable state.  NOT `CONNECTED`: see
    `poll_without_connected`. -/
structure PollLive (s : State) (d : Nat) : Prop where
  sockOpen : s.sockOpen = true
  notClosed : s.st ≠ .CLOSED
  initialised : s.initialised = true
  running : hbIdle s.hb = false
  ahead : s.now < d
  within : d ≤ s.now + Api4.GROUP_STATUS_TIMEOUT

theorem open_of_poll {s : State} (h : Reach4 s) {d : Nat} (hp : s.pollCur = some d) : PollLive s d := by
  have f := reach_sockFacts h
  have hi : s.initialised = true := by rw [← f.poll_iff, hp]; rfl
  exact ⟨f.open_iff.mpr (f.init_open hi), f.init_open hi, hi, by rw [f.hb_iff, hi]; rfl,
    ((reach_ahead h).poll d hp).1, ((reach_ahead h).poll d hp).2⟩

theorem open_of_model {s : State} (h : Reach4 s)
    (hm : s.acDict ≠ [] ∨ s.zoneDict ≠ [] ∨ s.acObjs ≠ [] ∨ s.zoneObjs ≠ []) : s.sockOpen = true := by
  have f := reach_sockFacts h
  apply f.open_iff.mpr
  intro hc
  obtain ⟨e1, e2, e3, e4⟩ := f.closed_empty hc
  rcases hm with h | h | h | h
  · exact h e1
  · exact h e2
  · exact h e3
  · exact h e4

theorem open_of_initialised {s : State} (h : Reach4 s) (hi : s.initialised = true) :
    s.sockOpen = true ∧ s.st ≠ .CLOSED ∧ s.initWaits = [] ∧ s.pollCur.isSome = true ∧ hbIdle s.hb = false := by
  have f := reach_sockFacts h
  exact ⟨f.open_iff.mpr (f.init_open hi), f.init_open hi, f.init_nowaits hi, by rw [f.poll_iff, hi],
    by rw [f.hb_iff, hi]; rfl⟩

theorem initialised_of_connected {s : State} (h : Reach4 s) (hc : s.st = .CONNECTED) : s.initialised = true :=
  (reach_sockFacts h).connected_init hc

theorem closed_iff_not_open {s : State} (h : Reach4 s) : s.sockOpen = false ↔ Closed s := by
  have f := reach_sockFacts h
  constructor
  · intro ho
    apply f.closed
    apply Classical.byContradiction
    intro hne
    rw [f.open_iff.mpr hne] at ho; cases ho
  · intro hc; exact hc.sockOpen

/-- "socket connected → socket open" fails exactly in `Closed` states with a stale `conn 1`; everywhere else the
    timers' sends are safe -/
theorem open_or_closed {s : State} (h : Reach4 s) : s.sockOpen = true ∨ Closed s := by
  cases ho : s.sockOpen with
  | true => exact Or.inl rfl
  | false => exact Or.inr ((closed_iff_not_open h).mp ho)

/-- `init()` a second time without `shutdown()` -/
def reinitOps : List Op := demoOps ++ [.init]

/-- **"a live current poll ⇒ `CONNECTED`" and "initialised ⇒ `CONNECTED`" are false** for reachable states in general:
    after `init, conn 1, ⟨six answers⟩, init` the state is `CONNECTING` while the initialised event is set, the poll
    task of the first handshake is alive and the heartbeat runs -/
theorem poll_without_connected :
    Reach4 (run State.initial reinitOps).1 ∧ (run State.initial reinitOps).1.st = .CONNECTING ∧
    (run State.initial reinitOps).1.pollCur = some 2400 ∧ (run State.initial reinitOps).1.initialised = true ∧
    hbIdle (run State.initial reinitOps).1.hb = false ∧ (run State.initial reinitOps).1.acDict ≠ [] ∧
    disciplined true reinitOps = false :=
  ⟨⟨_, rfl⟩, by decide⟩

theorem initialised_without_connected :
    ∃ s, Reach4 s ∧ s.initialised = true ∧ s.st ≠ .CONNECTED :=
  ⟨_, poll_without_connected.1, poll_without_connected.2.2.2.1, by rw [poll_without_connected.2.1]; intro h; cases h⟩

theorem connected_of_initialised_disciplined {s : State} (h : ReachD4 s) (hi : s.initialised = true) :
    s.st = .CONNECTED := (reachD_discFacts h).init_iff.mp hi

theorem connected_of_poll_disciplined {s : State} (h : ReachD4 s) {d : Nat} (hp : s.pollCur = some d) :
    s.st = .CONNECTED := (reachD_discFacts h).poll_iff.mp (by rw [hp]; rfl)

theorem demo_reachD : ReachD4 demo := ⟨demoOps, by decide, rfl⟩

/-! ## passive op lists: the connection flag, the events -/

/-- the op is the loss of the connection -/
def dropsConn : Op → Bool
  | .conn false => true
  | _ => false

theorem sockConnected_passive_step (s : State) (op : Op) (hp : passive op = true) :
    (apiStep s op).1.sockConnected = (s.sockConnected && !dropsConn op) ∧ (apiStep s op).1.now = s.now := by
  have h : (apiStep s op).1.sockConnected = _ := (hbView_apiStep s op).2.2
  have h' : (apiStep s op).1.now = _ := (hbView_apiStep s op).2.1
  cases op with
  | recv m => exact ⟨by simpa [dropsConn] using h, h'⟩
  | msg mid payload => exact ⟨by simpa [dropsConn] using h, h'⟩
  | conn up =>
    cases up with
    | true => simp [passive] at hp
    | false => exact ⟨by simpa [dropsConn] using h, h'⟩
  | _ => simp [passive] at hp

theorem sockConnected_passive_run (s : State) (ops : List Op) (hops : ∀ op ∈ ops, passive op = true) :
    (run s ops).1.sockConnected = (s.sockConnected && !ops.any dropsConn) ∧ (run s ops).1.now = s.now := by
  induction ops generalizing s with
  | nil => simp [run]
  | cons op ops ih =>
    obtain ⟨h1, h2⟩ := sockConnected_passive_step s op (hops op List.mem_cons_self)
    obtain ⟨i1, i2⟩ := ih (apiStep s op).1 (fun o ho => hops o (List.mem_cons_of_mem _ ho))
    simp only [run]
    refine ⟨?_, i2.trans h2⟩
    rw [i1, h1, List.any_cons]
    cases s.sockConnected <;> cases dropsConn op <;> simp

theorem completes_false_of {s : State} {m : RMsg} (hn : answerKind s.st m = false ∨ s.st ≠ .INIT_GROUP_STATUS) :
    (s.subscribed && completes s m) = false := by
  cases hc : completes s m with
  | false => simp
  | true =>
    rcases hn with h | h
    · rw [(completes_answer hc).1] at h; cases h
    · exact absurd (completes_answer hc).2 h

theorem plain_passive_step (s : State) (op : Op) (hp : passive op = true)
    (hn : answers s.st op = false ∨ s.st ≠ .INIT_GROUP_STATUS) : Plain (apiStep s op).2 := by
  rcases passive_cases s op hp with ⟨m, e, ham⟩ | ⟨_, _, e | ⟨c, e⟩⟩ <;> rw [e]
  · exact plain_recv s m (completes_false_of (hn.imp (fun h => (ham _).symm.trans h) id))
  · exact plain_nil
  · exact plain_single rfl

/-- `hle`: the run ends before `CONNECTED`, so the completing message, which starts the heartbeat, is not in it -/
theorem plain_passive_run (s : State) (hsub : s.subscribed = true) (ops : List Op)
    (hops : ∀ op ∈ ops, passive op = true) (hle : stage (run s ops).1.st ≤ 7) : Plain (run s ops).2 := by
  induction ops generalizing s with
  | nil => exact plain_nil
  | cons op ops ih =>
    obtain ⟨hn, hsub1, hle1⟩ := passive_cons_incomplete s hsub op ops hops hle
    exact plain_append (plain_passive_step s op (hops op List.mem_cons_self) hn)
      (ih _ hsub1 (fun o ho => hops o (List.mem_cons_of_mem _ ho)) hle1)

theorem plain_junk_run (s : State) (j : List Op) (hj : Junk s.st j) : Plain (run s j).2 := fun e he =>
  have ⟨_, _, h⟩ := (FoldW.foldW_ind (f := apiStep) (I := fun t : State => t.st = s.st)
    (O := fun _ e => hbRelevant e = false) j s rfl fun t op hop e1 =>
      have ⟨hp, ha⟩ := hj op hop
      ⟨(junk_step t op hp (e1 ▸ ha)).1.trans e1, plain_passive_step t op hp (Or.inl (e1 ▸ ha))⟩).2 e (run4_eq s j ▸ he)
  h

theorem junk_passive {st : AState} {j : List Op} (hj : Junk st j) : ∀ op ∈ j, passive op = true :=
  fun op ho => (hj op ho).1

/-! ## the handshake on scripts, from any of its states -/

theorem passive_hsScript (st : AState) (steps : List (List Op × RMsg)) (hv : ValidSteps st steps) :
    ∀ op ∈ hsScript steps, passive op = true := by
  induction steps generalizing st with
  | nil => intro op h; simp [hsScript] at h
  | cons p rest ih =>
    obtain ⟨j, m⟩ := p
    obtain ⟨hj, _, hr⟩ := hv
    intro op h
    rw [hsScript_cons] at h
    rcases List.mem_append.mp h with h | h
    · exact (hj op h).1
    · rcases List.mem_append.mp h with h | h
      · simp only [List.mem_singleton] at h; subst h; rfl
      · exact ih _ hr op h

theorem script_run (s : State) (hsub : s.subscribed = true) (steps : List (List Op × RMsg)) (j : List Op)
    (hv : ValidSteps s.st steps) (hs2 : 2 ≤ stage s.st) (hlen : stage s.st + steps.length ≤ 7)
    (hab : AbilityOk s steps) (hj : ∀ st, stage st = stage s.st + steps.length → Junk st j) :
    stage (run s (hsScript steps ++ j)).1.st = stage s.st + steps.length ∧
    (run s (hsScript steps ++ j)).1.subscribed = true ∧
    initView (run s (hsScript steps ++ j)).1 = initView s ∧
    (run s (hsScript steps ++ j)).1.sockConnected = (s.sockConnected && !(hsScript steps ++ j).any dropsConn) ∧
    hsSends (run s (hsScript steps ++ j)).2 = (handshakeRequests.drop (stage s.st - 1)).take steps.length ∧
    (∀ c, Ev.subscriberExc c ∉ (run s (hsScript steps ++ j)).2) ∧ Plain (run s (hsScript steps ++ j)).2 := by
  obtain ⟨r1, _, r3, _⟩ := handshake_run s hsub steps hv hs2 (by omega) hab
  have hj' := hj _ r1
  obtain ⟨j1, _, _, _, j5⟩ := junk_run _ j hj'
  have hL : ∀ op ∈ hsScript steps ++ j, passive op = true := fun op ho =>
    (List.mem_append.mp ho).elim (passive_hsScript _ _ hv op) fun h => (hj' op h).1
  have hst : stage (run s (hsScript steps ++ j)).1.st = stage s.st + steps.length := by
    rw [run_append]; exact (congrArg stage j1).trans r1
  have hle : stage (run s (hsScript steps ++ j)).1.st ≤ 7 := by omega
  obtain ⟨_, p2, p3⟩ := passive_run s hsub _ hL
  refine ⟨hst, p2, initView_passive_run s hsub _ hL hle, (sockConnected_passive_run s _ hL).1, ?_, ?_,
    plain_passive_run s hsub _ hL hle⟩
  · rw [p3 hle, hst, Nat.add_sub_cancel_left]
  · rw [run_append]; exact noExc_append r3 j5

theorem completion_run (s : State) (hsub : s.subscribed = true) (hs : s.st = .INIT_GROUP_STATUS)
    (l : List X2B.GroupStatusData) (j : List Op) (hj : Junk .CONNECTED j) :
    (run s (.recv (.groupStatus (.status l)) :: j)).1.st = .CONNECTED ∧
    (run s (.recv (.groupStatus (.status l)) :: j)).1.initialised = true ∧
    hsSends (run s (.recv (.groupStatus (.status l)) :: j)).2 =
      (if hbIdle s.hb && s.sockConnected then [hbMessage] else []) ∧
    (∀ c, Ev.subscriberExc c ∉ (run s (.recv (.groupStatus (.status l)) :: j)).2) ∧
    (run s (.recv (.groupStatus (.status l)) :: j)).2.count (Ev.result "init True") = s.initWaits.length ∧
    (∀ t, Ev.result t ∈ (run s (.recv (.groupStatus (.status l)) :: j)).2 → t = "init True") := by
  obtain ⟨f1, f2, _, _, _, _, f7, f8, f9⟩ := recv_final_answer s hsub l hs
  obtain ⟨E, hE, hev⟩ := recv_completes_events s l hsub hs
  have hj' : Junk (recv s (.groupStatus (.status l))).1.st j := by rw [f1]; exact hj
  obtain ⟨j1, _, j3, j4, j5⟩ := junk_run _ j hj'
  have jpl := plain_junk_run _ j hj'
  show (run (recv s _).1 j).1.st = _ ∧ (run (recv s _).1 j).1.initialised = _ ∧
    hsSends ((recv s _).2 ++ (run (recv s _).1 j).2) = _ ∧ (∀ c, _ ∉ (recv s _).2 ++ (run (recv s _).1 j).2) ∧
    ((recv s _).2 ++ (run (recv s _).1 j).2).count _ = _ ∧ ∀ t, _ ∈ (recv s _).2 ++ (run (recv s _).1 j).2 → _
  refine ⟨j1.trans f1, (congrArg Prod.fst j3).trans f2, by rw [hsSends_append, f8, j4, List.append_nil],
    noExc_append f9 j5, by rw [List.count_append, f7, jpl.count_zero (e := Ev.result "init True") rfl]; rfl,
    fun t ht => ?_⟩
  rcases List.mem_append.mp ht with h | h
  · -- what storing the group status emits is no result; the results are those of the waiting `init()` calls
    rw [hev] at h
    simp only [List.mem_append, List.mem_singleton, List.mem_map, reduceCtorEq, or_false] at h
    rcases h with (h | ⟨_, _, h⟩) | h
    · exact absurd h (hE.not_mem (e := Ev.result t) rfl)
    · cases h; rfl
    · split at h
      · simp [hbEv] at h
      · cases h
  · exact absurd h (jpl.not_mem (e := Ev.result t) rfl)

end PyAirtouch.Lemmas.Api4Reach
