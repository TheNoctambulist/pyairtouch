import PyAirtouch.Model.At5.C033
import PyAirtouch.Lemmas.TimerCommon
import PyAirtouch.Lemmas.Records
/-! Round trip and length lemmas for the AirTouch 5 AC timer status codec (sub-message 0x33). -/
namespace PyAirtouch.Lemmas.At5C033
open PyAirtouch.Model PyAirtouch.Model.TimerCommon PyAirtouch.Model.At5.C033
open PyAirtouch.Gen.At5.XC033AcTimerStatus PyAirtouch.Lemmas.TimerCommon PyAirtouch.Lemmas.Records

theorem encRec_length (d : AcTimerStatusData) : (encRec d).length = recSize := rfl

theorem encodeBytes_length (m : Msg) :
    (encodeBytes m).length = nonRepeatSize m + repeatSize m * repeatCount m := by
  cases m with
  | request => rfl
  | status l => exact (flatMap_length encRec recSize encRec_length l).trans (Nat.zero_add _).symm

theorem encLoop_eq (l : List AcTimerStatusData) (bs : Bytes) (h : encLoop l = .ok bs) :
    bs = l.flatMap encRec := by
  induction l generalizing bs with
  | nil => simp only [encLoop] at h; cases h; rfl
  | cons d ds ih =>
    simp only [encLoop] at h
    split at h
    · cases hds : encLoop ds with
      | error e => rw [hds] at h; cases h
      | ok b =>
        rw [hds] at h
        cases h
        simp only [List.flatMap_cons, ih b hds]
    · cases h

theorem encode_eq (m : Msg) (bs : Bytes) (h : encode m = .ok bs) : bs = encodeBytes m := by
  cases m with
  | request => simp only [encode] at h; cases h; rfl
  | status l => exact encLoop_eq l bs h

theorem encode_length (m : Msg) (bs : Bytes) (h : encode m = .ok bs) :
    bs.length = nonRepeatSize m + repeatSize m * repeatCount m := by
  rw [encode_eq m bs h, encodeBytes_length]

theorem encLoop_ok (l : List AcTimerStatusData) (h : ∀ d ∈ l, WFRec d) :
    encLoop l = .ok (l.flatMap encRec) := by
  induction l with
  | nil => rfl
  | cons d ds ih =>
    have hd : d.ac_number < 256 := (h d (by simp)).1
    simp only [encLoop, hd, ↓reduceIte, ih (fun x hx => h x (by simp [hx])), List.flatMap_cons]
    rfl

theorem encode_ok (m : Msg) (h : WF m) : encode m = .ok (encodeBytes m) := by
  cases m with
  | request => rfl
  | status l => exact encLoop_ok l h

theorem decRec_encRec (d : AcTimerStatusData) (h : WFRec d) (rest : Bytes) :
    decRec (encRec d ++ rest) = .ok d := by
  obtain ⟨_, hon, hoff⟩ := h
  rcases d with ⟨ac, on, off⟩
  simp only at hon hoff
  simp only [encRec, encTimerState, PADDING_BYTES, List.cons_append, List.nil_append, decRec,
    TIMER_STATE_STRUCT_size, List.drop_succ_cons, List.drop_zero, decTimerState_enc on hon,
    decTimerState_enc off hoff, bind, Except.bind, pure, Except.pure]

theorem decode_encode (m : Msg) (h : WF m) (rest : Bytes) :
    decode (encodeBytes m ++ rest) (nonRepeatSize m) (repeatSize m) (repeatCount m) = .ok (m, rest) := by
  cases m with
  | request => simp [decode, encodeBytes, repeatSize, repeatCount]
  | status l =>
    have hrs : recSize ≠ 0 := by decide
    simp only [decode, encodeBytes, repeatSize, repeatCount, hrs, and_false, ↓reduceIte, Nat.lt_irrefl]
    rw [decRecs_stride_flatMap (decRecs := fun n bs => decRecs n recSize bs) (fun _ => rfl) (fun _ _ => rfl)
      encRec_length decRec_encRec l h]
    rfl

theorem wfRecBool_iff (d : AcTimerStatusData) : wfRecBool d = true ↔ WFRec d := by
  simp only [wfRecBool, WFRec, Bool.and_eq_true, decide_eq_true_eq, wfStateBool_iff, and_assoc]

theorem wfBool_iff (m : Msg) : wfBool m = true ↔ WF m := by
  cases m with
  | request => simp only [wfBool, WF]
  | status l => simp only [wfBool, WF, List.all_eq_true, wfRecBool_iff]

end PyAirtouch.Lemmas.At5C033
