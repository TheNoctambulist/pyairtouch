import PyAirtouch.Model.At4.X2D
import PyAirtouch.Lemmas.BitField
import PyAirtouch.Lemmas.Records
/-! Round trip and length lemmas for the AirTouch 4 AC status codec (0x2D). -/
namespace PyAirtouch.Lemmas.At4X2D
open PyAirtouch.Model PyAirtouch.Model.At4.X2D PyAirtouch.Gen.At4.X2DAcStatus PyAirtouch.Lemmas.BitField
  PyAirtouch.Lemmas.Records

theorem encRec_length (a : AcStatusData) : (encRec a).length = recSize := by
  simp [encRec, be16Bytes, recSize, STRUCT_size]

theorem encode_length (m : Msg) (bs : Bytes) (h : encode m = .ok bs) : bs.length = size m := by
  cases m with
  | request => cases h; rfl
  | status acs =>
    simp only [encode] at h
    split at h
    · cases h; exact flatMap_length encRec recSize encRec_length acs
    · cases h

/-- `power << 6` and `mode << 4` fit a byte without the mask; all three enums fit their fields -/
theorem enum_facts (ps : AcPowerState) (md : AcMode) (fs : AcFanSpeed) :
    (ps.toNat * 64 % 256 = ps.toNat * 64 ∧ ps.toNat < 4) ∧
    (md.toNat * 16 % 256 = md.toNat * 16 ∧ md.toNat < 16) ∧ fs.toNat < 16 :=
  ⟨by cases ps <;> decide, by cases md <;> decide, by cases fs <;> decide⟩

theorem encB1_lt (a : AcStatusData) : encB1 a < 256 := by
  have := (enum_facts a.power_state a.mode a.fan_speed).1
  simp only [encB1]
  omega

theorem encB2_lt (a : AcStatusData) : encB2 a < 256 := by
  have := (enum_facts a.power_state a.mode a.fan_speed).2
  simp only [encB2]
  omega

theorem encB3_lt (a : AcStatusData) : encB3 a < 256 := by
  have := a.spill_active.toNat_lt
  have := a.timer_set.toNat_lt
  simp only [encB3, boolToBit_eq]
  omega

theorem encodeTemperature_lt (t : Int) : encodeTemperature t < 65536 := by
  simp only [encodeTemperature]
  omega

/-- only the error code is handed to `struct.pack` unmasked -/
theorem recFits_iff (a : AcStatusData) : recFits a = true ↔ a.error_code < 65536 := by
  simp [recFits, encB1_lt, encB2_lt, encB3_lt, encodeTemperature_lt]

theorem encode_status_ok (acs : List AcStatusData) (h : ∀ a ∈ acs, a.error_code < 65536) :
    encode (.status acs) = .ok (acs.flatMap encRec) := by
  have : acs.all recFits = true := by
    rw [List.all_eq_true]
    intro a ha
    exact (recFits_iff a).2 (h a ha)
  simp [encode, this]

/-- the encoder raises `struct.error` when some error code does not fit 16 bits (and only then: `encode_status_ok`) -/
theorem encode_status_error (acs : List AcStatusData) (h : ∃ a ∈ acs, ¬ a.error_code < 65536) :
    encode (.status acs) = .error .structError := by
  obtain ⟨a, ha, hn⟩ := h
  have : ¬ (acs.all recFits = true) := by
    rw [List.all_eq_true]
    intro hall
    exact hn ((recFits_iff a).1 (hall a ha))
  simp [encode, this]

/-- the temperature word: `t + 500` in bits 5-15 -/
theorem decodeTemperature_encodeTemperature (t : Int) (h1 : -500 ≤ t) (h2 : t ≤ 1547) :
    decodeTemperature (be16 (encodeTemperature t / 256 % 256) (encodeTemperature t % 256)) = t := by
  rw [be16_be16Bytes (encodeTemperature_lt t)]
  simp only [decodeTemperature, encodeTemperature]
  omega

theorem decRec_encRec (a : AcStatusData) (h : WFRec a) (rest : Bytes) :
    decRec (encRec a ++ rest) = .ok (a, rest) := by
  obtain ⟨hac, hsp, hec, ht1, ht2⟩ := h
  rcases a with ⟨ac, ps, md, fs, spill, timer, sp, t, ec⟩
  simp only at hac hsp hec ht1 ht2
  obtain ⟨⟨hps, hps4⟩, ⟨hmd, hmd16⟩, hfs⟩ := enum_facts ps md fs
  have hps' : AcPowerState.ofNat? ps.toNat = some ps := by cases ps <;> rfl
  have hmd' : AcMode.ofNat? md.toNat = some md := by cases md <;> rfl
  have hfs' : AcFanSpeed.ofNat? fs.toNat = some fs := by cases fs <;> rfl
  obtain ⟨f1, f2, f3⟩ := flags_field6 spill.toNat_lt timer.toNat_lt hsp
  -- byte 1 by `pack_* hac` (the mask `hps` first), byte 2 by `pack_* hfs` (`hmd`), byte 3 by `f1`-`f3`, then the
  -- temperature word and the error-code word
  simp only [encRec, encB1, encB2, encB3, be16Bytes, List.cons_append, List.nil_append, decRec, boolToBit_eq,
    Nat.reducePow, hps, hmd, Nat.mod_eq_of_lt hac, Nat.mod_eq_of_lt hsp, Nat.mod_eq_of_lt hfs,
    pack_div_mod hac hps4, pack_mod hac, pack_div_mod hfs hmd16, pack_mod hfs, hps', hmd', hfs',
    bitToBool_of_toNat (k := 7) f1, bitToBool_of_toNat (k := 6) f2, f3,
    decodeTemperature_encodeTemperature t ht1 ht2, be16_be16Bytes hec]

theorem encode_ok (m : Msg) (h : WF m) :
    encode m = .ok (match m with | .request => [] | .status acs => acs.flatMap encRec) := by
  cases m with
  | request => rfl
  | status acs => exact encode_status_ok acs (fun a ha => (h.2 a ha).2.2.1)

theorem decode_encode (m : Msg) (h : WF m) (rest : Bytes) :
    ∃ bs, encode m = .ok bs ∧ decode (bs ++ rest) (size m) = .ok (m, rest) := by
  refine ⟨_, encode_ok m h, ?_⟩
  cases m with
  | request => simp [decode, size]
  | status acs =>
    obtain ⟨hne, hwf⟩ := h
    have hlen : acs.length ≠ 0 := by simpa using hne
    have hsz : recSize * acs.length ≠ 0 := by simp only [recSize, STRUCT_size]; omega
    simp only [decode, size, hsz, ↓reduceIte, Nat.mul_mod_right, ne_eq, not_true_eq_false]
    have hdiv : recSize * acs.length / recSize = acs.length := by simp [recSize, STRUCT_size]
    rw [hdiv, decRecs_flatMap (decRecs := decRecs) (fun _ => rfl) (fun _ _ => rfl) decRec_encRec acs hwf]
    rfl

/-- a status message without any AC is announced with length 0 and read back as the request
    (the reason for `acs ≠ []` in `WF`) -/
theorem decode_encode_empty_status (rest : Bytes) :
    encode (.status []) = .ok [] ∧ decode ([] ++ rest) (size (.status [])) = .ok (.request, rest) := by
  constructor <;> rfl

theorem wfRecBool_iff (a : AcStatusData) : wfRecBool a = true ↔ WFRec a := by
  simp [wfRecBool, WFRec, and_assoc]

theorem wfBool_iff (m : Msg) : wfBool m = true ↔ WF m := by
  cases m with
  | request => simp [wfBool, WF]
  | status acs =>
    simp only [wfBool, WF, Bool.and_eq_true, Bool.not_eq_true', List.all_eq_true, wfRecBool_iff]
    cases acs <;> simp

end PyAirtouch.Lemmas.At4X2D
