import PyAirtouch.Model.At5.C022
import PyAirtouch.Lemmas.At5Utils
import PyAirtouch.Lemmas.Records
/-! Round trip and length lemmas for the AirTouch 5 AC control codec (0xC022). -/
namespace PyAirtouch.Lemmas.At5C022
open PyAirtouch.Model PyAirtouch.Model.At5.Utils PyAirtouch.Model.At5.C022 PyAirtouch.Gen.At5.XC022AcCtrl
open PyAirtouch.Lemmas.BitField PyAirtouch.Lemmas.At5Utils PyAirtouch.Lemmas.Records

/-- what `struct.pack` produces for a well-formed record -/
def recBytes (c : AcControlData) : Bytes :=
  [c.ac_number % 16 + c.power.toNat % 16 * 16, c.mode.toNat % 16 * 16 + c.fan_speed.toNat % 16,
   (encSetPoint c.set_point).1, (encSetPoint c.set_point).2.toNat]

theorem encRec_length (c : AcControlData) (bs : Bytes) (h : encRec c = .ok bs) : bs.length = recSize := by
  simp only [encRec, bind, Except.bind, pure, Except.pure] at h
  split at h
  · cases h
  · cases h; rfl

theorem encode_length (m : Msg) (bs : Bytes) (h : encode m = .ok bs) :
    bs.length = nonRepeatSize m + repeatSize m * repeatCount m := by
  simp only [nonRepeatSize, repeatSize, repeatCount, Nat.zero_add]
  exact Records.encRecs_length (encRecs := encRecs) rfl (fun _ _ => rfl) encRec_length m.ac_control bs h

/-- bytes 3-4, for the encoder and for the decoder: `struct.pack` accepts the value byte; the decoder tests the
    control code against "unchanged" first and against "change" second, hence both facts about it -/
theorem setPoint_facts (sp : Option Int) (hs : ∀ v, sp = some v → 100 ≤ v ∧ v ≤ 355) :
    packB (encSetPoint sp).2 = .ok (encSetPoint sp).2.toNat ∧
    (((encSetPoint sp).1 = SET_POINT_UNCHANGED ∧ sp = none) ∨
     ((encSetPoint sp).1 ≠ SET_POINT_UNCHANGED ∧ (encSetPoint sp).1 = SET_POINT_CHANGE ∧
      sp = some (decodeSetPoint (encSetPoint sp).2.toNat))) := by
  cases sp with
  | none => exact ⟨rfl, .inl ⟨rfl, rfl⟩⟩
  | some v =>
    obtain ⟨h1, h2⟩ := hs v rfl
    have hv : v ≠ 0 := by omega
    rw [show encSetPoint (some v) = (SET_POINT_CHANGE, encodeSetPoint v) from if_neg hv]
    exact ⟨packB_encodeSetPoint h1 h2, .inr ⟨(by decide : SET_POINT_CHANGE ≠ SET_POINT_UNCHANGED), rfl,
      by rw [decodeSetPoint_encodeSetPoint h1]⟩⟩

theorem encRec_ok (c : AcControlData) (h : WFRec c) : encRec c = .ok (recBytes c) := by
  simp only [encRec, (setPoint_facts c.set_point h.2).1, bind, Except.bind, pure, Except.pure, recBytes]

theorem decRec_recBytes (c : AcControlData) (h : WFRec c) (rest : Bytes) :
    decRec (recBytes c ++ rest) = .ok (c, rest) := by
  obtain ⟨hn, hs⟩ := h
  have hsp := (setPoint_facts c.set_point hs).2
  rcases c with ⟨n, pw, md, fs, sp⟩
  simp only at hn hsp
  have hp : AcPowerControl.ofNat? (pw.toNat % 16) = some pw := by cases pw <;> rfl
  have hm : AcModeControl.ofNat? (md.toNat % 16) = some md := by cases md <;> rfl
  have hf : AcFanSpeedControl.ofNat? (fs.toNat % 16) = some fs := by cases fs <;> rfl
  have h16 (x : Nat) : x % 16 < 16 := Nat.mod_lt _ (by decide)
  simp only [recBytes, List.cons_append, List.nil_append, decRec, Nat.mod_eq_of_lt hn, pack_div_mod' hn (h16 _),
    pack_mod' hn, pack_div_mod (h16 _) (h16 _), pack_mod (h16 _), hp, hm, hf]
  rcases hsp with ⟨h1, rfl⟩ | ⟨h1, h2, h3⟩
  · rw [if_pos h1]
  · rw [if_neg h1, if_pos h2, ← h3]

theorem encRecs_ok (cs : List AcControlData) (h : ∀ c ∈ cs, WFRec c) :
    encRecs cs = .ok (cs.flatMap recBytes) :=
  Records.encRecs_ok (encRecs := encRecs) rfl (fun _ _ => rfl) encRec_ok cs h

theorem encode_ok (m : Msg) (h : WF m) : ∃ bs, encode m = .ok bs :=
  ⟨_, encRecs_ok m.ac_control h⟩

theorem decode_encode (m : Msg) (h : WF m) (rest : Bytes) :
    ∃ bs, encode m = .ok bs ∧
      decode (bs ++ rest) (nonRepeatSize m) (repeatSize m) (repeatCount m) = .ok (m, rest) := by
  refine ⟨_, encRecs_ok m.ac_control h, ?_⟩
  simp only [decode, repeatCount]
  rw [decRecs_flatMap (decRecs := decRecs) (fun _ => rfl) (fun _ _ => rfl) decRec_recBytes m.ac_control h]
  rfl

theorem wfRecBool_iff (c : AcControlData) : wfRecBool c = true ↔ WFRec c := by
  rcases c with ⟨n, pw, md, fs, sp⟩
  cases sp with
  | none => simp [wfRecBool, WFRec]
  | some v => simp [wfRecBool, WFRec]

theorem wfBool_iff (m : Msg) : wfBool m = true ↔ WF m := by
  simp only [wfBool, WF, List.all_eq_true, wfRecBool_iff]

end PyAirtouch.Lemmas.At5C022
