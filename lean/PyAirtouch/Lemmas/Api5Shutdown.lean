import PyAirtouch.Lemmas.Api5Heartbeat
/-!
# `shutdown()` in the AirTouch 5 API model

What every state is after `shutdown` (`Closed`) and what each op does and outputs in a closed state; then the
observational relation between an object that was shut down and a fresh one, which is a simulation: a later `init()`
behaves as on a new object.
-/
namespace PyAirtouch.Lemmas.Api5
open PyAirtouch.Model PyAirtouch.Model.Api5 PyAirtouch.Model.At5 PyAirtouch.Model.At5.Registry
open PyAirtouch.Model.TimerCommon (AcTimerState AcTimerStatusData)
open PyAirtouch.Model.Heartbeat PyAirtouch.Lemmas.Heartbeat
open PyAirtouch.Gen PyAirtouch.Gen.Api5

/-- state machine `CLOSED`, initialised event clear, both dictionaries and both object heaps empty, stub socket
closed, heartbeat manager stopped (no pending beat, no pending deadline) -/
structure Closed (s : State) : Prop where
  st : s.st = .CLOSED
  ninit : s.initialised = false
  zones : s.zones = []
  acs : s.acs = []
  zobjs : s.zobjs = []
  aobjs : s.aobjs = []
  sockOpen : s.sockOpen = false
  idle : HbIdle s.hb

theorem hbFeed_params (s : State) (i : HIn) :
    (hbFeed s i).1.st = s.st ∧ (hbFeed s i).1.initialised = s.initialised ∧ (hbFeed s i).1.zones = s.zones ∧
    (hbFeed s i).1.acs = s.acs ∧ (hbFeed s i).1.zobjs = s.zobjs ∧ (hbFeed s i).1.aobjs = s.aobjs ∧
    (hbFeed s i).1.sockOpen = s.sockOpen ∧ (hbFeed s i).1.now = s.now :=
  ⟨rfl, rfl, rfl, rfl, rfl, rfl, rfl, rfl⟩

theorem shutdown_closed (s : State) : Closed (apiStep s .shutdown).1 := by
  rw [show apiStep s .shutdown = _ from doShutdown_eq s]
  exact ⟨rfl, rfl, rfl, rfl, rfl, rfl, rfl, hbStep_stop_conn_idle _ _ _ _⟩

theorem doShutdown_spec (s : State) :
    Closed (apiStep s .shutdown).1 ∧
    (apiStep s .shutdown).2 = [.hbStop, .closed, .result "shutdown OK"] ∧
    (apiStep s .shutdown).1.hb.connected = false ∧
    -- what persists
    (apiStep s .shutdown).1.subs = s.subs ∧ (apiStep s .shutdown).1.consoleVersion = s.consoleVersion ∧
    (apiStep s .shutdown).1.pendingInits = s.pendingInits ∧ (apiStep s .shutdown).1.sockSubscribed = s.sockSubscribed ∧
    (apiStep s .shutdown).1.now = s.now ∧ (apiStep s .shutdown).1.airtouchId = s.airtouchId ∧
    (apiStep s .shutdown).1.serial = s.serial ∧ (apiStep s .shutdown).1.name = s.name ∧
    (apiStep s .shutdown).1.host = s.host ∧
    (apiStep s .shutdown).1.hb.interval = s.hb.interval ∧ (apiStep s .shutdown).1.hb.timeout = s.hb.timeout := by
  obtain ⟨p1, p2⟩ := hb_params_const s .shutdown
  have e : apiStep s .shutdown = _ := doShutdown_eq s
  refine ⟨shutdown_closed s, ?_⟩
  rw [e] at p1 p2 ⊢
  exact ⟨rfl, feed_conn_connected _ _ _ _,
    rfl, rfl, rfl, rfl, rfl, rfl, rfl, rfl, rfl, p1, p2⟩

theorem closed_hb {s : State} (h : Closed s) (hb' : HB) (hi : HbIdle hb') : Closed { s with hb := hb' } :=
  ⟨h.st, h.ninit, h.zones, h.acs, h.zobjs, h.aobjs, h.sockOpen, hi⟩

theorem closed_ac? {s : State} (h : Closed s) (id : Nat) : s.ac? id = none := by
  simp [State.ac?, State.acRef, h.acs]

theorem closed_zone? {s : State} (h : Closed s) (id : Nat) : s.zone? id = none := by
  simp [State.zone?, State.zoneRefOf, State.zoneList, h.acs]

theorem closed_handleMessage {s : State} (h : Closed s) (toAddr : Nat) (m : Msg) :
    handleMessage s toAddr m = { s := s, out := [], exc := none } := by
  have he : ∀ e, processErrInfo e s = { s := s } := fun e => by simp [processErrInfo, State.acRef, h.acs]
  -- in state `CLOSED` every test of the state machine fails; the error information finds no air-conditioner
  simp only [handleMessage, h.st, reduceCtorEq, if_false, Bool.and_false, decide_false, Bool.false_eq_true, he]
  split <;> rfl

theorem closed_handleConnection {s : State} (h : Closed s) (up : Bool) :
    handleConnection s up = { s := s, out := [], exc := if up then some "NotOpenError" else none } := by
  cases up <;> simp [handleConnection, h.st, sendMsg, h.sockOpen, HR.andThen]

/-- the view of a closed object: no air-conditioner -/
def closedView (s : State) : String :=
  "AirTouch(" ++ ",".intercalate [
    "initialised=" ++ cBool false, "airtouch_id=" ++ cStr s.airtouchId, "serial=" ++ cStr s.serial,
    "name=" ++ cStr s.name, "host=" ++ cStr s.host, "model=" ++ MODEL.name,
    "update_available=" ++ cBool s.consoleVersion.update_available,
    "console_versions=" ++ cList cStr s.consoleVersion.versions,
    "air_conditioners=[" ++ ",".intercalate [] ++ "]"] ++ ")"

theorem closed_viewAt {s : State} (h : Closed s) : viewAt s = .ok (closedView s) := by
  simp [viewAt, State.airConditioners, h.acs, h.ninit, closedView, bind, Except.bind, pure, Except.pure]

def Op.isView : Op → Bool
  | .view => true
  | _ => false

def Op.notInit : Op → Bool
  | .init => false
  | _ => true

/-- what an op outputs in the closed state `s` -/
def closedOut (s : State) : Op → List Out
  | .init => [.opened]
  | .shutdown => [.hbStop, .closed, .result "shutdown OK"]
  | .conn up => if up && s.sockSubscribed then [.subscriberExc "NotOpenError"] else []
  | .msg _ _ => []
  | .undecodable c => [.undecodable c]
  | .callAt => [.result "NotOpenError"]
  | .callAc _ _ => [.result "KeyError"]
  | .callZone _ _ => [.result "KeyError"]
  | .sub .at _ _ => []
  | .sub _ _ _ => [.result "KeyError"]
  | .unsub .at _ => []
  | .unsub _ _ => [.result "KeyError"]
  | .adv n => (s.pendingInits.filter (· ≤ s.now + n)).map fun _ => .result "init False"
  | .view => [.view (closedView s)]

/-- `adv` drops the `init()` calls that have timed out; nothing else touches the list of waiters -/
def pendingAfter (s : State) : Op → List Nat
  | .adv n => s.pendingInits.filter (s.now + n < ·)
  | _ => s.pendingInits

/-- the AirTouch-level subscribers are only changed by `sub at` / `unsub at` -/
def subsAfter (s : State) : Op → List Sub
  | .sub .at sid _ => subAdd s.subs sid
  | .unsub .at sid => subDel s.subs sid
  | _ => s.subs

/-- the parts of the state that survive `shutdown()`, and what the ops allowed while closed do to them -/
structure ClosedFrame (s : State) (op : Op) (s' : State) : Prop where
  airtouchId : s'.airtouchId = s.airtouchId
  serial : s'.serial = s.serial
  name : s'.name = s.name
  host : s'.host = s.host
  consoleVersion : s'.consoleVersion = s.consoleVersion
  sockSubscribed : s'.sockSubscribed = s.sockSubscribed
  now : s'.now = s.now + Op.ticks op
  pendingInits : s'.pendingInits = pendingAfter s op
  subs : s'.subs = subsAfter s op
  interval : s'.hb.interval = s.hb.interval
  timeout : s'.hb.timeout = s.hb.timeout

/-- by cases on the op and not on `Step`: the result is exact for the calls too (see the head of `Api5Step`).  `closed_step`
is this, unpacked for `Props/C15At5` -/
theorem closed_apiStep {s : State} (h : Closed s) (op : Op) (hop : Op.notInit op = true) :
    ∃ hb', HbIdle hb' ∧ apiStep s op =
      ({ s with hb := hb', now := s.now + Op.ticks op, pendingInits := pendingAfter s op, subs := subsAfter s op },
       closedOut s op) := by
  -- an op that leaves the state as it is
  have same : ∀ o, apiStep s op = (s, o) → ∃ hb', HbIdle hb' ∧ apiStep s op = ({ s with hb := hb' }, o) :=
    fun _ e => ⟨s.hb, h.idle, e⟩
  cases op with
  | init => cases hop
  | shutdown =>
    refine ⟨hbStep (hbStep s.hb (.stop s.now)) (.conn false s.now), hbStep_stop_conn_idle _ _ _ _,
      (doShutdown_eq s).trans ?_⟩
    obtain ⟨h1, h2, h3, h4, h5, h6, h7, _⟩ := h
    cases s
    simp only at h1 h2 h3 h4 h5 h6 h7
    subst h1 h2 h3 h4 h5 h6 h7
    rfl
  | conn up =>
    have hi : HbIdle (hbStep s.hb (.conn up s.now)) := (hbStep_idle (.conn up s.now) h.idle nofun).1
    refine ⟨_, hi, ?_⟩
    show doConn s up = _
    rw [doConn_eq, closed_handleConnection (closed_hb h _ hi) up]
    simp only [closedOut]
    cases hss : s.sockSubscribed <;> cases up <;> rfl
  | msg toAddr m =>
    show ∃ hb', _ ∧ doMsg s toAddr m = _
    rw [doMsg_eq, closed_handleMessage h]
    split
    · split
      · exact ⟨_, (hbStep_idle (.resp s.now) h.idle nofun).1, Prod.ext rfl (hbStep_idle (.resp s.now) h.idle nofun).2⟩
      · exact ⟨s.hb, h.idle, rfl⟩
    · exact ⟨s.hb, h.idle, rfl⟩
  | undecodable cls => exact same _ rfl
  | callAt => exact same _ (by simp [apiStep, sendMsg, h.sockOpen, callOut, closedOut])
  | callAc id c => exact same _ (by simp [apiStep, closed_ac? h, closedOut])
  | callZone id c => exact same _ (by simp [apiStep, closed_zone? h, closedOut])
  | sub t sid r =>
    cases t with
    | «at» => exact ⟨s.hb, h.idle, rfl⟩
    | ac id st => exact same _ (by simp [apiStep, subTarget, closed_ac? h, closedOut])
    | zone id => exact same _ (by simp [apiStep, subTarget, closed_zone? h, closedOut])
  | unsub t sid =>
    cases t with
    | «at» => exact ⟨s.hb, h.idle, rfl⟩
    | ac id st => exact same _ (by simp [apiStep, subTarget, closed_ac? h, closedOut])
    | zone id => exact same _ (by simp [apiStep, subTarget, closed_zone? h, closedOut])
  | adv n =>
    show ∃ hb', _ ∧ doAdv s n = _
    rw [doAdv_eq]
    exact ⟨_, (advOut_idle h.idle _ _).2, Prod.ext rfl (advOut_idle h.idle _ _).1⟩
  | view => exact same _ (by simp [apiStep, closed_viewAt h, closedOut])

theorem closed_step {s : State} (h : Closed s) (op : Op) (hop : Op.notInit op = true) :
    Closed (apiStep s op).1 ∧ (apiStep s op).2 = closedOut s op ∧ ClosedFrame s op (apiStep s op).1 := by
  obtain ⟨hb', hi, e⟩ := closed_apiStep h op hop
  obtain ⟨p1, p2⟩ := hb_params_const s op
  rw [e] at p1 p2 ⊢
  exact ⟨⟨h.st, h.ninit, h.zones, h.acs, h.zobjs, h.aobjs, h.sockOpen, hi⟩, rfl,
    ⟨rfl, rfl, rfl, rfl, rfl, rfl, rfl, rfl, rfl, p1, p2⟩⟩

theorem closed_out {s : State} (h : Closed s) (op : Op) (hop : Op.notInit op = true) : (apiStep s op).2 = closedOut s op :=
  (closed_step h op hop).2.1

/-- an output that shows no activity of the client: not a `SEND`, not a `NOTIFY`, not `OPEN`, `RESET`, `HBSTART`, and
not `RESULT init True` -/
def QuietOut : Out → Prop
  | .send _ _ _ | .notifyAt _ | .notifyAc _ _ _ | .notifyZone _ _ | .opened | .reset | .hbStart => False
  | .result t => t ≠ "init True"
  | _ => True

theorem closedOut_spec (s : State) (op : Op) (hop : Op.notInit op = true) :
    ∀ o ∈ closedOut s op, QuietOut o ∧ (o = .result "init False" → s.pendingInits ≠ []) := by
  intro o ho
  cases op with
  | init => cases hop
  | conn up => simp only [closedOut] at ho; split at ho <;> simp at ho; subst ho; simp [QuietOut]
  | sub t sid r => cases t <;> simp [closedOut] at ho <;> subst ho <;> simp [QuietOut]
  | unsub t sid => cases t <;> simp [closedOut] at ho <;> subst ho <;> simp [QuietOut]
  | adv n =>
    simp only [closedOut, List.mem_map] at ho
    obtain ⟨d, hd, rfl⟩ := ho
    exact ⟨by simp [QuietOut], fun _ e => by rw [e] at hd; cases hd⟩
  | _ =>
    (simp [closedOut] at ho) <;> first
      | (subst ho; simp [QuietOut])
      | (rcases ho with rfl | rfl | rfl <;> simp [QuietOut])

theorem closedOut_quiet (s : State) (op : Op) (hop : Op.notInit op = true) : ∀ o ∈ closedOut s op, QuietOut o :=
  fun o ho => (closedOut_spec s op hop o ho).1

/-- **quiet after shutdown**: whatever arrives, however much time passes, whatever is called (short of `init()`), a
closed object stays closed and shows no activity -/
theorem closed_run {s : State} (h : Closed s) (ops : List Op) (hops : ∀ op ∈ ops, Op.notInit op = true) :
    Closed (runS s ops) ∧ ∀ o ∈ runOut s ops, QuietOut o := by
  have := FoldW.foldW_ind (I := Closed) (O := fun _ o => QuietOut o) ops s h fun s op hop hc =>
    have st := closed_step hc op (hops op hop)
    ⟨st.1, fun o ho => closedOut_quiet s op (hops op hop) o (st.2.1 ▸ ho)⟩
  rw [runS_eq, runOut_eq]
  exact ⟨this.1, fun o ho => (this.2 o ho).elim fun _ h => h.2⟩

theorem closed_run_noWaiters {s : State} (h : Closed s) (hp : s.pendingInits = []) (ops : List Op)
    (hops : ∀ op ∈ ops, Op.notInit op = true) :
    (runS s ops).pendingInits = [] ∧ ∀ o ∈ runOut s ops, o ≠ .result "init True" ∧ o ≠ .result "init False" := by
  have := FoldW.foldW_ind (I := fun s => Closed s ∧ s.pendingInits = [])
    (O := fun _ o => o ≠ Out.result "init True" ∧ o ≠ .result "init False") ops s ⟨h, hp⟩ fun s op hop ⟨hc, hp⟩ =>
    have st := closed_step hc op (hops op hop)
    ⟨⟨st.1, by rw [st.2.2.pendingInits]; cases op <;> simp [pendingAfter, hp]⟩, fun o ho =>
      have ⟨q, w⟩ := closedOut_spec s op (hops op hop) o (st.2.1 ▸ ho)
      ⟨fun e => by subst e; exact q rfl, fun e => w e hp⟩⟩
  rw [runS_eq, runOut_eq]
  exact ⟨this.1.2, fun o ho => (this.2 o ho).elim fun _ h => h.2⟩

/-! ### an object that was shut down and a fresh object

What `shutdown()` leaves behind that a fresh object does not have: the console version of the previous session
(overwritten by the first answer of the next handshake, read before that only by `view`), and stale values in fields of
the stopped heartbeat manager that nothing reads (`HbEquiv`).  Everything else that survives - the AirTouch-level
subscribers, the clock, the registration of the callbacks, `init()` callers still waiting - is kept *equal* by the
relation. -/

/-- the state without the heartbeat manager and the console version -/
def coreOf (s : State) : State :=
  { s with hb := Heartbeat.init 0 0, consoleVersion := { update_available := false, versions := [] } }

/-- the states in which the console version of the object has not been read by anything but `view` since the last
`init()`, and will be overwritten before anything else reads it -/
def earlySt (st : AirTouchState) : Prop := st = .CLOSED ∨ st = .CONNECTING ∨ st = .INIT_VERSION

/-- equal in everything but (1) unread fields of the heartbeat manager, (2) the console version as long as the next
handshake has not got its first answer.  `k = true` switches exception (2) off: the versions must agree -/
structure FreshSimG (k : Bool) (a b : State) : Prop where
  core : coreOf a = coreOf b
  hb : HbEquiv a.hb b.hb
  version : a.consoleVersion = b.consoleVersion ∨ (k = false ∧ earlySt a.st)

/-- the relation between an object that was shut down and a fresh one -/
abbrev FreshSim := FreshSimG false
/-- … once the console versions agree -/
abbrev FreshSimV := FreshSimG true

namespace FreshSimG
variable {k : Bool} {a b : State} (h : FreshSimG k a b)
include h
theorem airtouchId : a.airtouchId = b.airtouchId := (congrArg State.airtouchId h.core :)
theorem serial : a.serial = b.serial := (congrArg State.serial h.core :)
theorem name : a.name = b.name := (congrArg State.name h.core :)
theorem host : a.host = b.host := (congrArg State.host h.core :)
theorem st : a.st = b.st := (congrArg State.st h.core :)
theorem zobjs : a.zobjs = b.zobjs := (congrArg State.zobjs h.core :)
theorem aobjs : a.aobjs = b.aobjs := (congrArg State.aobjs h.core :)
theorem zones : a.zones = b.zones := (congrArg State.zones h.core :)
theorem acs : a.acs = b.acs := (congrArg State.acs h.core :)
theorem subs : a.subs = b.subs := (congrArg State.subs h.core :)
theorem initialised : a.initialised = b.initialised := (congrArg State.initialised h.core :)
theorem pendingInits : a.pendingInits = b.pendingInits := (congrArg State.pendingInits h.core :)
theorem sockOpen : a.sockOpen = b.sockOpen := (congrArg State.sockOpen h.core :)
theorem sockSubscribed : a.sockSubscribed = b.sockSubscribed := (congrArg State.sockSubscribed h.core :)
theorem now : a.now = b.now := (congrArg State.now h.core :)
end FreshSimG

theorem FreshSimG.refl (k : Bool) (s : State) : FreshSimG k s s := ⟨rfl, HbEquiv.refl _, .inl rfl⟩

theorem freshSim_iff (k : Bool) (a b : State) : FreshSimG k a b ↔
    (a.airtouchId = b.airtouchId ∧ a.serial = b.serial ∧ a.name = b.name ∧ a.host = b.host ∧ a.st = b.st ∧
     a.zobjs = b.zobjs ∧ a.aobjs = b.aobjs ∧ a.zones = b.zones ∧ a.acs = b.acs ∧ a.subs = b.subs ∧
     a.initialised = b.initialised ∧ a.pendingInits = b.pendingInits ∧ a.sockOpen = b.sockOpen ∧
     a.sockSubscribed = b.sockSubscribed ∧ a.now = b.now) ∧
    HbEquiv a.hb b.hb ∧ (a.consoleVersion = b.consoleVersion ∨ (k = false ∧ earlySt a.st)) := by
  constructor
  · intro h
    exact ⟨⟨h.airtouchId, h.serial, h.name, h.host, h.st, h.zobjs, h.aobjs, h.zones, h.acs, h.subs, h.initialised,
      h.pendingInits, h.sockOpen, h.sockSubscribed, h.now⟩, h.hb, h.version⟩
  · rintro ⟨⟨h1, h2, h3, h4, h5, h6, h7, h8, h9, h10, h11, h12, h13, h14, h15⟩, hb, hv⟩
    refine ⟨?_, hb, hv⟩
    cases a; cases b
    simp only [coreOf] at *
    simp_all

/-- an update of both states that touches neither the heartbeat manager nor the console version nor the state
machine.  `hc` says that `f` does not read the manager or the console version either for what it does to the rest of the
state, so that equal cores stay equal; for a record update all side conditions hold by unfolding -/
theorem FreshSimG.map {k : Bool} {a b : State} (h : FreshSimG k a b) (f : State → State)
    (hc : ∀ s, coreOf (f s) = coreOf (f (coreOf s)) := by intro; rfl) (hhb : ∀ s, (f s).hb = s.hb := by intro; rfl)
    (hv : ∀ s, (f s).consoleVersion = s.consoleVersion := by intro; rfl) (hst : ∀ s, (f s).st = s.st := by intro; rfl) :
    FreshSimG k (f a) (f b) :=
  ⟨by rw [hc a, hc b, h.core], by rw [hhb, hhb]; exact h.hb, by rw [hv, hv, hst]; exact h.version⟩

/-- … or sets the state machine to a state that is still early, or when the versions already agree -/
theorem FreshSimG.mapSt {k : Bool} {a b : State} (h : FreshSimG k a b) (f : State → State)
    (hst : a.consoleVersion = b.consoleVersion ∨ (k = false ∧ earlySt (f a).st))
    (hc : ∀ s, coreOf (f s) = coreOf (f (coreOf s)) := by intro; rfl) (hhb : ∀ s, (f s).hb = s.hb := by intro; rfl)
    (hv : ∀ s, (f s).consoleVersion = s.consoleVersion := by intro; rfl) : FreshSimG k (f a) (f b) :=
  ⟨by rw [hc a, hc b, h.core], by rw [hhb, hhb]; exact h.hb, by rw [hv, hv]; exact hst⟩

theorem FreshSimG.setAc {k : Bool} {a b : State} (h : FreshSimG k a b) (r : Nat) (x : AcObj) : FreshSimG k (a.setAc r x) (b.setAc r x) :=
  h.map (fun s => s.setAc r x)

theorem FreshSimG.setZone {k : Bool} {a b : State} (h : FreshSimG k a b) (r : Nat) (x : ZoneObj) : FreshSimG k (a.setZone r x) (b.setZone r x) :=
  h.map (fun s => s.setZone r x)

structure HRSim (k : Bool) (ra rb : HR) : Prop where
  out : ra.out = rb.out
  exc : ra.exc = rb.exc
  s : FreshSimG k ra.s rb.s

theorem HRSim.ret {k : Bool} {a b : State} (h : FreshSimG k a b) (o : List Out) (e : Option String) :
    HRSim k { s := a, out := o, exc := e } { s := b, out := o, exc := e } := ⟨rfl, rfl, h⟩

theorem sendMsg_sim {k : Bool} {a b : State} (h : FreshSimG k a b) (p : Policy) (m : Msg) (i : Bool) :
    HRSim k (sendMsg a p m i) (sendMsg b p m i) := by
  unfold sendMsg
  rw [← h.sockOpen]
  split <;> exact HRSim.ret h _ _

theorem andThen_sim {k : Bool} {ra rb : HR} {f g : State → HR} (h : HRSim k ra rb)
    (hf : ∀ a b, FreshSimG k a b → HRSim k (f a) (g b)) : HRSim k (ra.andThen f) (rb.andThen g) := by
  unfold HR.andThen
  rw [← h.exc]
  split
  · exact h
  · have := hf _ _ h.s
    exact ⟨by simp [h.out, this.out], this.exc, this.s⟩

theorem FreshSimG.eq_over {k : Bool} {a b : State} (h : FreshSimG k a b) : b = a.over b.hb b.consoleVersion := by
  have := h.core
  cases a; cases b
  simp only [coreOf, State.mk.injEq] at this
  simp only [State.over, State.mk.injEq]
  simp_all

/-- **an entity handler maps related states to related results**: it reads neither of the two fields in which the states
differ, and writes neither of them nor the state machine -/
theorem Ent.sim {O : Out → Prop} {f : State → HR} (hf : ∀ s, Ent O f s) {k : Bool} {a b : State} (h : FreshSimG k a b) :
    HRSim k (f a) (f b) := by
  -- commuting with the overwriting of a field by its own value: the field is not written
  have keep := (hf a).2 a.hb a.consoleVersion
  rw [show a.over a.hb a.consoleVersion = a from by cases a; rfl] at keep
  rw [h.eq_over, (hf a).2]
  exact ⟨rfl, rfl, rfl, by rw [show (f a).s.hb = a.hb from congrArg (·.s.hb) keep]; exact h.hb,
    by rw [show (f a).s.consoleVersion = a.consoleVersion from congrArg (·.s.consoleVersion) keep,
         show (f a).s.st = a.st from (hf a).1.ctl.st]
       exact h.version⟩

/-! in a state beyond the first answer of the handshake the relation is the strict one: the console versions agree -/

theorem FreshSimG.cv {a b : State} (h : FreshSimG true a b) : a.consoleVersion = b.consoleVersion :=
  h.version.elim id (fun x => by simp at x)

theorem FreshSimG.weaken {k : Bool} {a b : State} (h : FreshSimG true a b) : FreshSimG k a b := ⟨h.core, h.hb, .inl h.cv⟩

theorem FreshSimG.strict_of_late {k : Bool} {a b : State} (h : FreshSimG k a b) (hl : ¬ earlySt a.st) :
    FreshSimG true a b := ⟨h.core, h.hb, .inl (h.version.elim id (fun e => absurd e.2 hl))⟩

theorem HRSim.weaken {k : Bool} {ra rb : HR} (h : HRSim true ra rb) : HRSim k ra rb := ⟨h.out, h.exc, h.s.weaken⟩

theorem FreshSimG.setSt {a b : State} (h : FreshSimG true a b) (x : AirTouchState) :
    FreshSimG true { a with st := x } { b with st := x } :=
  h.mapSt (fun s => { s with st := x }) (.inl h.cv)

theorem processConsoleVersionUpdate_sim {a b : State} (h : FreshSimG true a b) (m : FF30.ConsoleVersionMessage) :
    HRSim true (processConsoleVersionUpdate m a) (processConsoleVersionUpdate m b) := by
  unfold processConsoleVersionUpdate
  rw [← h.cv]
  split
  · exact HRSim.ret h _ _
  · refine ⟨?_, rfl, ⟨?_, h.hb, .inl rfl⟩⟩
    · show List.map _ a.subs = List.map _ b.subs
      rw [h.subs]
    · show coreOf a = coreOf b
      exact h.core

theorem processZoneNames_sim {k : Bool} {a b : State} (h : FreshSimG k a b) (names : List (Nat × Bytes)) :
    FreshSimG k (processZoneNames names a) (processZoneNames names b) := by
  unfold processZoneNames
  induction names generalizing a b with
  | nil => exact h
  | cons p ps ih =>
    simp only [List.foldl_cons]
    exact ih (h.map (fun s => addZone s p))

theorem FreshSimG.of_eq {k : Bool} {a b a' b' : State} (h : FreshSimG k a' b') (ea : a = a') (eb : b = b') : FreshSimG k a b := by
  subst ea eb; exact h

theorem hbStep_sim {k : Bool} {a b : State} (h : FreshSimG k a b) (i : HIn) :
    FreshSimG k { a with hb := hbStep a.hb i } { b with hb := hbStep b.hb i } :=
  ⟨h.core, (HbEquiv.feed_cleared 0 h.hb i).1, h.version⟩

theorem hbRep_sim {g h : HB} (e : HbEquiv g h) (i : HIn) : hbRep g i = hbRep h i :=
  congrArg (List.filterMap hbOut) (HbEquiv.feed_cleared 0 e i).2

theorem hbFeed_sim {k : Bool} {a b : State} (h : FreshSimG k a b) (i : HIn) :
    (hbFeed a i).2 = (hbFeed b i).2 ∧ FreshSimG k (hbFeed a i).1 (hbFeed b i).1 :=
  ⟨by simp only [hbFeed, (HbEquiv.feed_cleared 0 h.hb i).2], hbStep_sim h i⟩

theorem finishInit_sim {a b : State} (h : FreshSimG true a b) : HRSim true (finishInit a) (finishInit b) := by
  obtain ⟨e, _⟩ := HbEquiv.feed_cleared 0 h.hb (.start a.now)
  have hs : HIn.start b.now = HIn.start a.now := by rw [h.now]
  rw [finishInit_eq, finishInit_eq, hs, ← h.pendingInits]
  refine ⟨by rw [hbRep_sim h.hb], rfl, ?_, e, .inl h.cv⟩
  exact congrArg (fun s : State => { s with st := .CONNECTED, initialised := true, pendingInits := [] }) h.core

theorem sameCtl_cv {s : State} {r : HR} (h : SameCtl s r.s) : r.s.consoleVersion = s.consoleVersion := h.consoleVersion

theorem digest_sim {a b : State} (h : FreshSimG true a b) (m : Msg) : HRSim true (digest m a) (digest m b) := by
  unfold digest
  split
  · exact ⟨rfl, rfl, h.core, h.hb, .inl rfl⟩
  · exact HRSim.ret (processZoneNames_sim h _) _ _
  · exact Ent.sim (ent_processAcAbility _) h
  · exact Ent.sim (ent_processAcStatus _) h
  · exact Ent.sim (ent_processAcTimer _) h
  · exact Ent.sim (ent_processAcTimer _) h
  · exact Ent.sim (ent_processZoneStatus _) h
  · exact HRSim.ret h _ _

theorem proceed_sim {a b : State} (h : FreshSimG true a b) (st : AirTouchState) :
    HRSim true (proceed st a) (proceed st b) := by
  unfold proceed
  split
  · exact sendMsg_sim (h.setSt _) _ _ _
  · exact finishInit_sim h

theorem report_sim {a b : State} (h : FreshSimG true a b) (st : AirTouchState) (m : Msg) :
    HRSim true (report st m a) (report st m b) := by
  unfold report
  split
  · exact Ent.sim (fun s => (ent_processErrInfo _ s).1) h
  · split
    · exact processConsoleVersionUpdate_sim h _
    · exact HRSim.ret h _ _
  · exact HRSim.ret h _ _
  · split
    · exact digest_sim h _
    · exact HRSim.ret h _ _

theorem answers_early {st : AirTouchState} {toAddr : Nat} {m : Msg} (he : earlySt st) (ha : answers st toAddr m = true) :
    st = .INIT_VERSION ∧ ∃ v, m = .extended (.consoleVer (.message v)) := by
  unfold answers at ha
  split at ha
  case h_1 => exact ⟨rfl, _, rfl⟩
  -- every other answer is for a later state, and no frame answers in `CLOSED` or `CONNECTING`
  all_goals first
    | (cases ha; done)
    | (exfalso; rcases he with e | e | e <;> cases e)

theorem handleMessage_sim {k : Bool} {a b : State} (h : FreshSimG k a b) (toAddr : Nat) (m : Msg) :
    HRSim k (handleMessage a toAddr m) (handleMessage b toAddr m) := by
  rw [handleMessage_eq, handleMessage_eq, ← h.st]
  by_cases he : earlySt a.st
  · split
    · -- the first answer: both objects take the console's version, after which the versions agree
      rename_i ha
      obtain ⟨_, v, rfl⟩ := answers_early he ha
      exact HRSim.weaken (andThen_sim ⟨rfl, rfl, h.core, h.hb, .inl rfl⟩ fun _ _ s' => proceed_sim s' _)
    · -- before it, only error information is acted upon
      have hne : a.st ≠ .CONNECTED := fun e => by rcases he with e' | e' | e' <;> rw [e] at e' <;> cases e'
      unfold report
      split
      · exact Ent.sim (fun s => (ent_processErrInfo _ s).1) h
      · rw [if_neg hne, if_neg hne]; exact HRSim.ret h _ _
      · exact HRSim.ret h _ _
      · rw [if_neg hne, if_neg hne]; exact HRSim.ret h _ _
  · -- afterwards the console versions agree, and digesting an answer, proceeding and a report keep them equal
    have s := h.strict_of_late he
    refine HRSim.weaken ?_
    split
    · exact andThen_sim (digest_sim s m) fun _ _ s' => proceed_sim s' _
    · exact report_sim s _ m

theorem FreshSimG.setEarly {k : Bool} {a b : State} (h : FreshSimG k a b) (f : State → State) (he : earlySt (f a).st)
    (hc : ∀ s, coreOf (f s) = coreOf (f (coreOf s)) := by intro; rfl) (hhb : ∀ s, (f s).hb = s.hb := by intro; rfl)
    (hv : ∀ s, (f s).consoleVersion = s.consoleVersion := by intro; rfl) : FreshSimG k (f a) (f b) :=
  h.mapSt f (h.version.elim .inl (fun hk => .inr ⟨hk.1, he⟩)) hc hhb hv

theorem handleConnection_sim {k : Bool} {a b : State} (h : FreshSimG k a b) (up : Bool) :
    HRSim k (handleConnection a up) (handleConnection b up) := by
  have hst : b.st = a.st := h.st.symm
  unfold handleConnection
  simp only [hst]
  split
  · exact sendMsg_sim (h.setEarly (fun s => { s with st := .INIT_VERSION }) (.inr (.inr rfl))) _ _ _
  · split
    · exact andThen_sim (sendMsg_sim h _ _ _) (fun a' b' h' => sendMsg_sim h' _ _ _)
    · exact HRSim.ret h _ _

theorem excOut_sim {k : Bool} {ra rb : HR} (h : HRSim k ra rb) : excOut ra = excOut rb := by
  unfold excOut
  rw [h.out, h.exc]

theorem doInit_sim {k : Bool} {a b : State} (h : FreshSimG k a b) :
    (doInit a).2 = (doInit b).2 ∧ FreshSimG k (doInit a).1 (doInit b).1 := by
  unfold doInit
  simp only
  by_cases hi : a.initialised = true
  · rw [if_pos hi, if_pos (h.initialised ▸ hi)]
    exact ⟨rfl, h.setEarly (fun s => { s with st := .CONNECTING, sockSubscribed := true, sockOpen := true })
      (.inr (.inl rfl))⟩
  · rw [if_neg hi, if_neg (h.initialised ▸ hi)]
    exact ⟨rfl, h.setEarly (fun s => { s with st := .CONNECTING, sockSubscribed := true, sockOpen := true
                                              pendingInits := s.pendingInits ++ [s.now + initTimeout] })
      (.inr (.inl rfl))⟩

theorem doShutdown_sim {k : Bool} {a b : State} (h : FreshSimG k a b) :
    (doShutdown a).2 = (doShutdown b).2 ∧ FreshSimG k (doShutdown a).1 (doShutdown b).1 := by
  have e1 : HIn.stop b.now = .stop a.now := by rw [h.now]
  have e2 : HIn.conn false b.now = .conn false a.now := by rw [h.now]
  rw [doShutdown_eq, doShutdown_eq, e1, e2]
  exact ⟨rfl, (hbStep_sim (hbStep_sim h (.stop a.now)) (.conn false a.now)).setEarly
    (fun s => { s with st := .CLOSED, initialised := false, sockOpen := false, zobjs := [], aobjs := [], zones := [], acs := [] })
    (.inl rfl)⟩

theorem doConn_sim {k : Bool} {a b : State} (h : FreshSimG k a b) (up : Bool) :
    (doConn a up).2 = (doConn b up).2 ∧ FreshSimG k (doConn a up).1 (doConn b up).1 := by
  have e : HIn.conn up b.now = .conn up a.now := by rw [h.now]
  have h1 := hbStep_sim h (.conn up a.now)
  rw [doConn_eq, doConn_eq, e]
  by_cases hs : a.sockSubscribed = true
  · rw [if_pos hs, if_pos (h.sockSubscribed ▸ hs)]
    have := handleConnection_sim h1 up
    exact ⟨excOut_sim this, this.s⟩
  · rw [if_neg hs, if_neg (h.sockSubscribed ▸ hs)]
    exact ⟨rfl, h1⟩

theorem doMsg_sim {k : Bool} {a b : State} (h : FreshSimG k a b) (toAddr : Nat) (m : Msg) :
    (doMsg a toAddr m).2 = (doMsg b toAddr m).2 ∧ FreshSimG k (doMsg a toAddr m).1 (doMsg b toAddr m).1 := by
  have hm := handleMessage_sim h toAddr m
  rw [doMsg_eq, doMsg_eq, ← h.sockSubscribed, ← hm.s.now, ← excOut_sim hm]
  split
  · split
    · have := hbFeed_sim hm.s (.resp (handleMessage a toAddr m).s.now)
      exact ⟨by rw [hbRep_sim hm.s.hb], this.2⟩
    · exact ⟨rfl, hm.s⟩
  · exact ⟨rfl, h⟩

theorem ac?_sim {k : Bool} {a b : State} (h : FreshSimG k a b) (id : Nat) : b.ac? id = a.ac? id := by
  simp only [State.ac?, State.acRef, ← h.acs, ← h.aobjs]

theorem zone?_sim {k : Bool} {a b : State} (h : FreshSimG k a b) (id : Nat) : b.zone? id = a.zone? id := by
  have e : b.zoneHasId id = a.zoneHasId id := by
    funext r; simp only [State.zoneHasId, ← h.zobjs]
  simp only [State.zone?, State.zoneRefOf, State.zoneList, e, ← h.acs, ← h.aobjs, ← h.zobjs]

theorem subTarget_sim {k : Bool} {a b : State} (h : FreshSimG k a b) (t : Target) (f : List Sub → List Sub) :
    (subTarget a t f).2 = (subTarget b t f).2 ∧ FreshSimG k (subTarget a t f).1 (subTarget b t f).1 := by
  unfold subTarget
  cases t with
  | «at» =>
    exact ⟨rfl, h.map (fun s => { s with subs := f s.subs })⟩
  | ac id st =>
    simp only [ac?_sim h]
    split
    · exact ⟨rfl, h.setAc _ _⟩
    · exact ⟨rfl, h⟩
  | zone id =>
    simp only [zone?_sim h]
    split
    · exact ⟨rfl, h.setZone _ _⟩
    · exact ⟨rfl, h⟩

theorem advOut_sim {g h : HB} (e : HbEquiv g h) (due : List Nat) (t : Nat) :
    advOut g due t = advOut h due t ∧
    HbEquiv (hbSteps g (due.map .finish ++ [.finish t])).1 (hbSteps h (due.map .finish ++ [.finish t])).1 := by
  induction due generalizing g h with
  | nil =>
    obtain ⟨e', _⟩ := HbEquiv.feed_cleared 0 e (.finish t)
    exact ⟨by rw [advOut, advOut, hbRep_sim e], e'⟩
  | cons d due ih =>
    obtain ⟨e', _⟩ := HbEquiv.feed_cleared 0 e (.finish d)
    obtain ⟨o, e2⟩ := ih (g := hbStep g (.finish d)) (h := hbStep h (.finish d)) e'
    exact ⟨by rw [advOut, advOut, hbRep_sim e, o], e2⟩

theorem doAdv_sim {k : Bool} {a b : State} (h : FreshSimG k a b) (n : Nat) :
    (doAdv a n).2 = (doAdv b n).2 ∧ FreshSimG k (doAdv a n).1 (doAdv b n).1 := by
  rw [doAdv_eq, doAdv_eq, ← h.pendingInits, ← h.now]
  obtain ⟨o, e⟩ := advOut_sim h.hb (a.pendingInits.filter (· ≤ a.now + n)) (a.now + n)
  refine ⟨o, ?_, e, h.version⟩
  exact congrArg (fun s : State => { s with now := a.now + n, pendingInits := a.pendingInits.filter (a.now + n < ·) }) h.core

theorem acCall_sim {k : Bool} {a b : State} (h : FreshSimG k a b) (x : AcObj) (c : AcCall) :
    HRSim k (acCall a x c) (acCall b x c) := by
  rcases acCall_uniform x c with ⟨p, m, i, e⟩ | ⟨e', _, e⟩ <;> rw [e, e]
  · exact sendMsg_sim h p m i
  · exact HRSim.ret h _ _

theorem zoneCall_sim {k : Bool} {a b : State} (h : FreshSimG k a b) (z : ZoneObj) (c : ZoneCall) :
    HRSim k (zoneCall a z c) (zoneCall b z c) := by
  rcases zoneCall_uniform z c with ⟨p, m, i, e⟩ | ⟨e', _, e⟩ <;> rw [e, e]
  · exact sendMsg_sim h p m i
  · exact HRSim.ret h _ _

theorem callOut_sim {k : Bool} {ra rb : HR} (h : HRSim k ra rb) : callOut ra = callOut rb := by
  unfold callOut; rw [h.out, h.exc]

theorem viewAt_sim {a b : State} (h : FreshSimG true a b) : viewAt a = viewAt b := by
  simp only [viewAt, State.airConditioners, ← h.acs, ← h.aobjs, ← h.zobjs, ← h.initialised, ← h.airtouchId, ← h.serial,
    ← h.name, ← h.host, h.cv]

/-- **the simulation**: related states, any op: equal outputs (for `view`: when the console versions agree) and related
successors -/
theorem apiStep_sim {k : Bool} {a b : State} (h : FreshSimG k a b) (op : Op) :
    FreshSimG k (apiStep a op).1 (apiStep b op).1 ∧
    ((k = true ∨ Op.isView op = false) → (apiStep a op).2 = (apiStep b op).2) := by
  cases op with
  | init => exact ⟨(doInit_sim h).2, fun _ => (doInit_sim h).1⟩
  | shutdown => exact ⟨(doShutdown_sim h).2, fun _ => (doShutdown_sim h).1⟩
  | conn up => exact ⟨(doConn_sim h up).2, fun _ => (doConn_sim h up).1⟩
  | msg toAddr m => exact ⟨(doMsg_sim h toAddr m).2, fun _ => (doMsg_sim h toAddr m).1⟩
  | undecodable cls => exact ⟨h, fun _ => rfl⟩
  | callAt =>
    have := sendMsg_sim h .idempotent msgConsoleVersionRequest false
    exact ⟨this.s, fun _ => callOut_sim this⟩
  | callAc id c =>
    simp only [apiStep, ac?_sim h]
    split
    · have := acCall_sim h ‹_› c
      exact ⟨this.s, fun _ => callOut_sim this⟩
    · exact ⟨h, fun _ => rfl⟩
  | callZone id c =>
    simp only [apiStep, zone?_sim h]
    split
    · have := zoneCall_sim h ‹_› c
      exact ⟨this.s, fun _ => callOut_sim this⟩
    · exact ⟨h, fun _ => rfl⟩
  | sub t sid r => exact ⟨(subTarget_sim h t _).2, fun _ => (subTarget_sim h t _).1⟩
  | unsub t sid => exact ⟨(subTarget_sim h t _).2, fun _ => (subTarget_sim h t _).1⟩
  | adv n => exact ⟨(doAdv_sim h n).2, fun _ => (doAdv_sim h n).1⟩
  | view =>
    have hs : (apiStep a .view).1 = a ∧ (apiStep b .view).1 = b := by
      simp only [apiStep]; constructor <;> split <;> rfl
    refine ⟨by rw [hs.1, hs.2]; exact h, ?_⟩
    intro hk
    rcases hk with rfl | hk
    · simp only [apiStep, viewAt_sim h]
      split <;> rfl
    · cases hk

theorem run_sim {k : Bool} {a b : State} (h : FreshSimG k a b) (ops : List Op)
    (hv : k = true ∨ ∀ op ∈ ops, Op.isView op = false) :
    (Api5.run a ops).2 = (Api5.run b ops).2 ∧ FreshSimG k (runS a ops) (runS b ops) := by
  induction ops generalizing a b with
  | nil => exact ⟨rfl, h⟩
  | cons op ops ih =>
    obtain ⟨h1, h2⟩ := apiStep_sim h op
    have h2' := h2 (hv.imp id (fun f => f op (by simp)))
    obtain ⟨g1, g2⟩ := ih h1 (hv.imp id (fun f o ho => f o (by simp [ho])))
    refine ⟨?_, g2⟩
    simp only [Api5.run]
    rw [h2']
    have e1 : (Api5.run (apiStep a op).1 ops).2 = (Api5.run (apiStep b op).1 ops).2 := g1
    rw [e1]

theorem run_sim_then {a b : State} (h : FreshSimG false a b) (ops1 ops2 : List Op)
    (hv : ∀ op ∈ ops1, Op.isView op = false) (hl : ¬ earlySt (runS a ops1).st) :
    (Api5.run a ops1).2 = (Api5.run b ops1).2 ∧
    (Api5.run (runS a ops1) ops2).2 = (Api5.run (runS b ops1) ops2).2 ∧
    FreshSimG true (runS a (ops1 ++ ops2)) (runS b (ops1 ++ ops2)) := by
  obtain ⟨o1, s1⟩ := run_sim h ops1 (.inr hv)
  obtain ⟨o2, s2⟩ := run_sim (s1.strict_of_late hl) ops2 (.inl rfl)
  refine ⟨o1, o2, ?_⟩
  rw [runS_append, runS_append]
  exact s2

/-- a fresh object with the identity of `c`, on which as much time has passed (on both clocks), with the same
AirTouch-level subscribers, the same `init()` callers still waiting and the same `is_connected` of the stub socket
(`hb.connected`).  Whether the API listens to the socket (`sockSubscribed`) is not copied: `init()` sets it before
anything reads it -/
def freshAt (c : State) : State :=
  { State.new c.airtouchId c.serial c.name c.host with
    subs := c.subs, now := c.now, pendingInits := c.pendingInits
    hb := { Heartbeat.init Api5.heartbeatInterval Api5.heartbeatTimeout with now := c.hb.now, connected := c.hb.connected } }

theorem reinit_as_fresh {c : State} (h : Closed c) (hi : c.hb.interval = Api5.heartbeatInterval)
    (ht : c.hb.timeout = Api5.heartbeatTimeout) :
    (apiStep c .init).2 = [.opened] ∧ (apiStep (freshAt c) .init).2 = [.opened] ∧
    FreshSim (apiStep c .init).1 (apiStep (freshAt c) .init).1 := by
  have e1 : apiStep c .init = doInit { c with sockSubscribed := true } := rfl
  have e2 : apiStep (freshAt c) .init = doInit { freshAt c with sockSubscribed := true } := rfl
  have hs : FreshSimG false { c with sockSubscribed := true } { freshAt c with sockSubscribed := true } := by
    rw [freshSim_iff]
    refine ⟨⟨rfl, rfl, rfl, rfl, h.st, h.zobjs, h.aobjs, h.zones, h.acs, rfl, h.ninit, rfl, h.sockOpen, rfl, rfl⟩, ?_, ?_⟩
    · exact ⟨rfl, hi, ht, h.idle.1, h.idle.2, rfl, fun hn => absurd h.idle.1 hn, fun hr => by rw [h.idle.1] at hr; cases hr⟩
    · exact .inr ⟨rfl, .inl h.st⟩
  obtain ⟨o, s⟩ := doInit_sim hs
  rw [e1, e2]
  refine ⟨?_, ?_, s⟩
  · simp [doInit, h.ninit]
  · simp [doInit, freshAt, State.new]

theorem new_adv (a b c d : Bytes) (n : Nat) :
    apiStep (State.new a b c d) (.adv n) =
      ({ State.new a b c d with now := n
                                hb := { Heartbeat.init Api5.heartbeatInterval Api5.heartbeatTimeout with now := n } }, []) := by
  have e : hbStep (Heartbeat.init Api5.heartbeatInterval Api5.heartbeatTimeout) (.finish n) = _ :=
    finish_nothing ⟨rfl, nofun, Nat.zero_le _, nofun, nofun⟩ nofun nofun
  show doAdv (State.new a b c d) n = _
  rw [doAdv_running _ n rfl]
  simp only [State.new, Nat.zero_add, e]
  rfl

theorem freshAt_is_new_adv {c : State} (hs : c.subs = []) (hp : c.pendingInits = []) (hn : c.hb.now = c.now)
    (hc : c.hb.connected = false) :
    freshAt c = (apiStep (State.new c.airtouchId c.serial c.name c.host) (.adv c.now)).1 := by
  rw [new_adv]
  simp only [freshAt, hs, hp, hn, hc, State.new, Heartbeat.init]

end PyAirtouch.Lemmas.Api5
