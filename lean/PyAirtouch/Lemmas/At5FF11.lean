import PyAirtouch.Model.At5.FF11
import PyAirtouch.Lemmas.BitField
import PyAirtouch.Lemmas.Dict
import PyAirtouch.Lemmas.Records
import PyAirtouch.Lemmas.Part3Text
import PyAirtouch.Lemmas.RegistryCommon
/-!
Round trip and length lemmas for the AirTouch 5 AC Ability codec (`at5/comms/x1FFF11_ac_ability.py`).

`decode_cases` and `decRec_cases` take the decoder apart once: for what holds of every decoded message (`decode_spec`)
here and for the agreement with the vendor reader in `Lemmas/SpecAgree5.lean`.
-/
namespace PyAirtouch.Lemmas.At5FF11
open PyAirtouch.Model PyAirtouch.Model.At5.FF11 PyAirtouch.Gen.At5.X1FFF11AcAbility
open PyAirtouch.Gen.At5.XC022AcCtrl (AcModeControl AcFanSpeedControl)
open PyAirtouch.Lemmas.BitField PyAirtouch.Lemmas.Dict PyAirtouch.Lemmas.Records PyAirtouch.Lemmas.RegistryCommon
open PyAirtouch.Lemmas.Part3Text (encodeCString_length decodeCString_encodeCString allBytes_encodeCString
  decodeCString_ok)

theorem encRec_length (ac : AcAbility) : (encRec ac).length = recSize := by
  simp only [encRec, recSize, List.length_append, List.length_cons, List.length_nil,
    encodeCString_length, nameLen, STRUCT_size]

theorem encode_length (m : Msg) : (encode m).length = size m := by
  cases m with
  | request n => cases n <;> rfl
  | ability acs => exact flatMap_length encRec recSize encRec_length acs

theorem encModeSupport_eq (d : List (AcModeControl × Bool)) :
    encModeSupport d = packBits [get d .AUTO, get d .HEAT, get d .DRY, get d .FAN, get d .COOL] := by
  simp only [encModeSupport, boolToBit_eq, packBits]
  omega

theorem encFanSpeedSupport_eq (d : List (AcFanSpeedControl × Bool)) : encFanSpeedSupport d =
    packBits [get d .AUTO, get d .QUIET, get d .LOW, get d .MEDIUM, get d .HIGH, get d .POWERFUL, get d .TURBO,
      get d .INTELLIGENT_AUTO] := by
  simp only [encFanSpeedSupport, boolToBit_eq, packBits]
  omega

theorem decModeSupport_enc (d : List (AcModeControl × Bool)) (hk : d.map (·.1) = modeKeys)
    (hu : d.lookup .UNCHANGED = some true) : decModeSupport (encModeSupport d) = d := by
  refine Eq.trans ?_ (eq_map_lookup false hk (by decide)).symm
  simp only [encModeSupport_eq, decModeSupport, bitToBool_packBits, List.getD_cons_succ, List.getD_cons_zero,
    modeKeys, List.map_cons, List.map_nil, hu, Option.getD_some]
  rfl

theorem decFanSpeedSupport_enc (d : List (AcFanSpeedControl × Bool)) (hk : d.map (·.1) = fanKeys)
    (hu : d.lookup .UNCHANGED = some true) : decFanSpeedSupport (encFanSpeedSupport d) = d := by
  refine Eq.trans ?_ (eq_map_lookup false hk (by decide)).symm
  simp only [encFanSpeedSupport_eq, decFanSpeedSupport, bitToBool_packBits, List.getD_cons_succ,
    List.getD_cons_zero, fanKeys, List.map_cons, List.map_nil, hu, Option.getD_some]
  rfl

theorem encModeSupport_lt (d : List (AcModeControl × Bool)) : encModeSupport d < 256 :=
  encModeSupport_eq d ▸ packBits_lt_256 _ (by decide : 5 ≤ 8)

theorem encFanSpeedSupport_lt (d : List (AcFanSpeedControl × Bool)) : encFanSpeedSupport d < 256 :=
  encFanSpeedSupport_eq d ▸ packBits_lt_256 _ (by decide : 8 ≤ 8)

theorem decRec_encRec (ac : AcAbility) (h : WFRec ac) (rest : Bytes) (remaining : Nat) (hav : recSize ≤ remaining) :
    decRec (encRec ac ++ rest) remaining = .ok (ac, followingLength) := by
  obtain ⟨_, _, _, _, _, _, _, ⟨hnl, hn0, hnu, _⟩, ⟨hmk, hmu⟩, ⟨hfk, hfu⟩⟩ := h
  have hlen := encodeCString_length ac.ac_name nameLen
  have hchk : ¬ (2 + followingLength < STRUCT_size ∨ remaining < 2 + followingLength) := by
    simp only [recSize, STRUCT_size] at hav
    simp only [followingLength, STRUCT_size]
    omega
  simp only [encRec, List.cons_append, List.nil_append, List.append_assoc, decRec,
    List.drop_left' hlen, List.take_left' hlen, hchk, ↓reduceIte,
    decodeCString_encodeCString ac.ac_name nameLen hnl (fun h => hn0 0 h rfl) hnu,
    decModeSupport_enc _ hmk hmu, decFanSpeedSupport_enc _ hfk hfu]

theorem decLoop_encode (acs : List AcAbility) (h : ∀ ac ∈ acs, WFRec ac) (rest : Bytes) :
    decLoop (acs.flatMap encRec ++ rest) (recSize * acs.length) = .ok (acs, rest) := by
  induction acs with
  | nil => rw [decLoop]; simp
  | cons ac acs ih =>
    have hpos : 0 < recSize * (ac :: acs).length := by simp [recSize, STRUCT_size]
    have hav : recSize ≤ recSize * (ac :: acs).length := by
      simp only [List.length_cons, Nat.mul_succ]; omega
    have hnext : recSize * (ac :: acs).length - (2 + followingLength) = recSize * acs.length := by
      simp only [List.length_cons, Nat.mul_succ, recSize, STRUCT_size, followingLength]; omega
    have hdrop : (encRec ac ++ (acs.flatMap encRec ++ rest)).drop (2 + followingLength)
        = acs.flatMap encRec ++ rest :=
      List.drop_left' (by rw [encRec_length]; rfl)
    rw [decLoop]
    simp only [hpos, ↓reduceDIte, List.flatMap_cons, List.append_assoc]
    rw [decRec_encRec ac (h ac (by simp)) _ _ hav]
    simp only [hnext, hdrop]
    rw [ih (fun x hx => h x (by simp [hx]))]

theorem decode_encode (m : Msg) (h : WF m) (rest : Bytes) :
    decode (encode m ++ rest) (size m) = .ok (m, rest) := by
  cases m with
  | request n => cases n <;> rfl
  | ability acs =>
    obtain ⟨hne, hwf⟩ := h
    have hlen : acs.length ≠ 0 := by simpa using hne
    have h0 : recSize * acs.length ≠ 0 := by simp only [recSize, STRUCT_size]; omega
    have h1 : recSize * acs.length ≠ 1 := by simp only [recSize, STRUCT_size]; omega
    simp only [decode, encode, size, h0, h1, ↓reduceIte, decLoop_encode acs hwf]

theorem encRecErr_none (ac : AcAbility) (h : WFRec ac) : encRecErr ac = none := by
  obtain ⟨h1, h2, h3, h4, h5, h6, h7, _, ⟨hmk, _⟩, ⟨hfk, _⟩⟩ := h
  have hmode := any_lookup_isNone (d := ac.ac_mode_support) (l := [.AUTO, .HEAT, .DRY, .FAN, .COOL])
    (by rw [hmk]; decide)
  have hfan := any_lookup_isNone (d := ac.fan_speed_support)
    (l := [.AUTO, .QUIET, .LOW, .MEDIUM, .HIGH, .POWERFUL, .TURBO, .INTELLIGENT_AUTO]) (by rw [hfk]; decide)
  have hrange : ¬ (256 ≤ ac.ac_number ∨ 256 ≤ ac.start_zone ∨ 256 ≤ ac.zone_count ∨
      256 ≤ ac.min_cool_set_point ∨ 256 ≤ ac.max_cool_set_point ∨
      256 ≤ ac.min_heat_set_point ∨ 256 ≤ ac.max_heat_set_point) := by omega
  simp only [encRecErr, hmode, hfan, hrange, Bool.false_eq_true, ↓reduceIte]

theorem encodeE_ok (m : Msg) (h : WF m) : encodeE m = .ok (encode m) := by
  cases m with
  | request n =>
    cases n with
    | none => rfl
    | some n => exact if_neg (Nat.not_le.mpr h)
  | ability acs =>
    have hnone : acs.findSome? encRecErr = none := by
      rw [List.findSome?_eq_none_iff]
      exact fun ac hac => encRecErr_none ac (h.2 ac hac)
    simp only [encodeE, hnone, encode]

theorem encRec_allBytes (ac : AcAbility) (h : WFRec ac) : AllBytes (encRec ac) := by
  obtain ⟨h1, h2, h3, h4, h5, h6, h7, ⟨_, _, _, hnb⟩, _, _⟩ := h
  have hmode := encModeSupport_lt ac.ac_mode_support
  have hfan := encFanSpeedSupport_lt ac.fan_speed_support
  have hfl : followingLength < 256 := by decide
  simp only [encRec, allBytes_append, allBytes_cons, allBytes_nil, h1, h2, h3, h4, h5, h6, h7, hmode, hfan, hfl,
    allBytes_encodeCString _ _ hnb, and_self]

theorem encode_allBytes (m : Msg) (h : WF m) : AllBytes (encode m) := by
  cases m with
  | request n =>
    cases n with
    | none => exact allBytes_nil
    | some n => exact allBytes_cons.mpr ⟨h, allBytes_nil⟩
  | ability acs => exact allBytes_flatMap _ _ fun ac hac => encRec_allBytes ac (h.2 ac hac)

theorem decRec_cases (bs : Bytes) (remaining : Nat) (a : AcAbility) (fl : Nat)
    (h : decRec bs remaining = .ok (a, fl)) :
    ∃ ac r sz zc b23 b24 mnc mxc mnh mxh after name, bs = ac :: fl :: r ∧
      r.drop nameLen = sz :: zc :: b23 :: b24 :: mnc :: mxc :: mnh :: mxh :: after ∧ STRUCT_size ≤ 2 + fl ∧
      2 + fl ≤ remaining ∧ decodeCString (r.take nameLen) = .ok name ∧
      a = { ac_number := ac, ac_name := name, start_zone := sz, zone_count := zc,
            ac_mode_support := decModeSupport b23, fan_speed_support := decFanSpeedSupport b24,
            min_cool_set_point := mnc, max_cool_set_point := mxc, min_heat_set_point := mnh,
            max_heat_set_point := mxh } := by
  unfold decRec at h
  split at h
  · split at h
    · rename_i hdrop
      split at h
      · cases h
      · rename_i hchk
        split at h
        · cases h
        · rename_i hname
          cases h
          exact ⟨_, _, _, _, _, _, _, _, _, _, _, _, rfl, hdrop, by omega, by omega, hname, rfl⟩
    · cases h
  · cases h

theorem decRec_ok (bs : Bytes) (remaining : Nat) (ac : AcAbility) (fl : Nat)
    (h : decRec bs remaining = .ok (ac, fl)) : (recSize ≤ 2 + fl ∧ 2 + fl ≤ remaining) ∧ (AllBytes bs → WFRec ac) := by
  obtain ⟨acN, r, sz, zc, b23, b24, mnc, mxc, mnh, mxh, after, name, rfl, hdrop, hsz, hfit, hname, rfl⟩ :=
    decRec_cases bs remaining ac fl h
  refine ⟨⟨hsz, hfit⟩, fun hb => ?_⟩
  have hr : ∀ x ∈ r, x < 256 := fun x hx => hb x (by simp [hx])
  have hd : ∀ x ∈ r.drop nameLen, x < 256 := fun x hx => hr x (List.mem_of_mem_drop hx)
  rw [hdrop] at hd
  exact ⟨hb _ (by simp), hd _ (by simp), hd _ (by simp), hd _ (by simp), hd _ (by simp), hd _ (by simp),
    hd _ (by simp), decodeCString_ok hname hr, ⟨rfl, rfl⟩, ⟨rfl, rfl⟩⟩

theorem decLoop_spec (bs : Bytes) (remaining : Nat) : ∀ acs rest, decLoop bs remaining = .ok (acs, rest) →
    recSize * acs.length ≤ remaining ∧ rest = bs.drop remaining ∧ (0 < remaining → acs ≠ []) ∧
    (AllBytes bs → ∀ ac ∈ acs, WFRec ac) := by
  fun_induction decLoop bs remaining with
  | case1 bs remaining hpos e hrec => intro acs rest h; cases h
  | case2 bs remaining hpos ac fl hrec e hloop ih => intro acs rest h; cases h
  | case3 bs remaining hpos ac fl hrec acs' rest' hloop ih =>
    intro acs rest h
    cases h
    obtain ⟨⟨hge, hle⟩, hac⟩ := decRec_ok bs remaining ac fl hrec
    obtain ⟨hsz, hr, _, hwf⟩ := ih acs' rest' hloop
    refine ⟨by simp only [List.length_cons, Nat.mul_succ]; omega, ?_, fun _ => by simp, fun hb x hx => ?_⟩
    · rw [hr, List.drop_drop]
      congr 1
      omega
    · rcases List.mem_cons.mp hx with rfl | hx
      · exact hac hb
      · exact hwf (fun b hbm => hb b (List.mem_of_mem_drop hbm)) x hx
  | case4 bs remaining hnpos =>
    intro acs rest h
    cases h
    have : remaining = 0 := by omega
    subst this
    exact ⟨by simp, by simp, fun hc => absurd hc hnpos, fun _ x hx => nomatch hx⟩

theorem decode_cases (b : Bytes) (msgLen : Nat) (m : Msg) (rest : Bytes) (h : decode b msgLen = .ok (m, rest)) :
    (msgLen = 0 ∧ m = .request none ∧ rest = b) ∨ (msgLen = 1 ∧ ∃ g, b = g :: rest ∧ m = .request (some g)) ∨
      (msgLen ≠ 0 ∧ ∃ acs, decLoop b msgLen = .ok (acs, rest) ∧ m = .ability acs) := by
  unfold decode at h
  split at h
  · cases h; exact .inl ⟨‹_›, rfl, rfl⟩
  · split at h
    · split at h
      · cases h
      · cases h; exact .inr (.inl ⟨‹_›, _, rfl, rfl⟩)
    · split at h
      · cases h
      · rename_i acs rest' hd
        cases h; exact .inr (.inr ⟨‹_›, acs, hd, rfl⟩)

/-- The encoder's `size` of the decoded message is smaller than the announced length exactly when a record carried
    bytes after the known ones, which the decoder skips: `00 32 <50 bytes>` with announced length 52 decodes to one AC
    whose encoding has 26 bytes. -/
theorem decode_spec (buffer : Bytes) (hb : AllBytes buffer) (msgLen : Nat) (m : Msg) (rest : Bytes)
    (h : decode buffer msgLen = .ok (m, rest)) : WF m ∧ size m ≤ msgLen ∧ rest = buffer.drop msgLen := by
  obtain ⟨rfl, rfl, rfl⟩ | ⟨rfl, g, rfl, rfl⟩ | ⟨h0, acs, hloop, rfl⟩ := decode_cases buffer msgLen m rest h
  · exact ⟨trivial, Nat.le_refl _, rfl⟩
  · exact ⟨hb g (by simp), Nat.le_refl _, rfl⟩
  · obtain ⟨hsz, hr, hne, hwf⟩ := decLoop_spec buffer msgLen acs rest hloop
    exact ⟨⟨hne (by omega), hwf hb⟩, by simpa only [size] using hsz, hr⟩

/-- re-encoding any decoded message and decoding it again gives the same message (the re-encoding is not
    longer than the payload it was decoded from) -/
theorem decode_reencode (buffer : Bytes) (hb : AllBytes buffer) (msgLen : Nat) (m : Msg) (rest : Bytes)
    (h : decode buffer msgLen = .ok (m, rest)) (rest' : Bytes) :
    encodeE m = .ok (encode m) ∧ (encode m).length ≤ msgLen ∧
    decode (encode m ++ rest') (size m) = .ok (m, rest') := by
  obtain ⟨hwf, hsz, _⟩ := decode_spec buffer hb msgLen m rest h
  exact ⟨encodeE_ok m hwf, by rw [encode_length]; exact hsz, decode_encode m hwf rest'⟩

end PyAirtouch.Lemmas.At5FF11
