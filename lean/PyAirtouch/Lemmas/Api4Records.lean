import PyAirtouch.Lemmas.Api4Basic
/-!
# Under the record updates of the AirTouch 4 API model: the last record for a number (`lastFor`), a loop of updates
seen through an observation (`obs_foldEv`), what the heartbeat's message hook leaves alone
-/
namespace PyAirtouch.Lemmas.Api4
open PyAirtouch.Model PyAirtouch.Model.Api4 PyAirtouch.Model.At4
open PyAirtouch.Model.TimerCommon (AcTimerState AcTimerStatusData)

/-- the last element of `l` whose key is `k` -/
def lastFor {α} (key : α → Nat) (k : Nat) : List α → Option α
  | [] => none
  | r :: rs =>
    match lastFor key k rs with
    | some x => some x
    | none => if key r = k then some r else none

theorem lastFor_eq_find? {α} (key : α → Nat) (k : Nat) (l : List α) :
    lastFor key k l = l.reverse.find? (fun x => key x = k) := by
  induction l with
  | nil => rfl
  | cons r rs ih =>
    rw [lastFor, ih, List.reverse_cons, List.find?_append]
    cases rs.reverse.find? (fun x => decide (key x = k)) with
    | some x => rfl
    | none => by_cases h : key r = k <;> simp [h]

theorem lastFor_append {α} (key : α → Nat) (k : Nat) (l₁ l₂ : List α) :
    lastFor key k (l₁ ++ l₂) = (lastFor key k l₂).or (lastFor key k l₁) := by
  simp only [lastFor_eq_find?, List.reverse_append, List.find?_append]

theorem lastFor_mem {α} (key : α → Nat) (k : Nat) (l : List α) (x : α) (h : lastFor key k l = some x) :
    x ∈ l ∧ key x = k := by
  rw [lastFor_eq_find?] at h
  exact ⟨List.mem_reverse.mp (List.mem_of_find?_eq_some h), by simpa using List.find?_some h⟩

theorem lastFor_none {α} (key : α → Nat) (k : Nat) (l : List α) (h : ∀ x ∈ l, key x ≠ k) :
    lastFor key k l = none := by
  rw [lastFor_eq_find?, List.find?_eq_none]
  intro x hx; simpa using h x (List.mem_reverse.mp hx)

theorem lastFor_of_nodup {α} (key : α → Nat) (l : List α) (hnd : (l.map key).Nodup) (r : α) (hr : r ∈ l) :
    lastFor key (key r) l = some r := by
  induction l with
  | nil => cases hr
  | cons x xs ih =>
    simp only [List.map_cons, List.nodup_cons] at hnd
    simp only [lastFor]
    rcases List.mem_cons.mp hr with rfl | hmem
    · have : lastFor key (key r) xs = none := by
        apply lastFor_none
        intro y hy heq
        exact hnd.1 (List.mem_map.mpr ⟨y, hy, heq⟩)
      simp [this]
    · rw [ih hnd.2 hmem]

/-- the object after `update_ac_status(r)` -/
def acAfterStatus (r : X2D.AcStatusData) (a : AcObj) : AcObj :=
  if a.status = r then a else { a with status := r, errInfo := if r.error_code ≠ 0 then a.errInfo else none }

theorem obs_foldEv {α β} (f : State → α → State × List Ev) (obs : State → Option β) (g : α → β → β)
    (hI : ∀ s x, Inv s → Inv (f s x).1)
    (hg : ∀ s x, Inv s → obs (f s x).1 = (obs s).map (g x))
    (s : State) (hinv : Inv s) (l : List α) :
    obs (foldEv f s l).1 = (obs s).map fun a => l.foldl (fun a x => g x a) a := by
  induction l generalizing s with
  | nil => simp [foldEv]
  | cons x xs ih =>
    show obs (foldEv f (f s x).1 xs).1 = _
    rw [ih _ (hI s x hinv), hg s x hinv, Option.map_map]
    rfl

theorem hbOnMessage_frame (s : State) (m : RMsg) : hbOnMessage s m = { s with hb := (hbOnMessage s m).hb } := by
  unfold hbOnMessage; split <;> rfl

theorem findAc_hbOnMessage (s : State) (m : RMsg) (k : Nat) : (hbOnMessage s m).findAc k = s.findAc k := by
  rw [hbOnMessage_frame]; rfl

theorem zoneOf_hbOnMessage (s : State) (m : RMsg) (k : Nat) : (hbOnMessage s m).zoneOf k = s.zoneOf k := by
  rw [hbOnMessage_frame]; rfl

theorem Inv_hbOnMessage {s : State} (h : Inv s) (m : RMsg) : Inv (hbOnMessage s m) := by
  rw [hbOnMessage_frame]; exact ⟨h.acKey, h.zoneKey⟩

end PyAirtouch.Lemmas.Api4
