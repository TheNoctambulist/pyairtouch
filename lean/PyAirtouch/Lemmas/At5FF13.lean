import PyAirtouch.Model.At5.FF13
import PyAirtouch.Lemmas.Part3Text
import PyAirtouch.Lemmas.Dict
/-!
# Length and round trip lemmas for the AirTouch 5 zone names codec (`size` counts two bytes per zone)
-/
namespace PyAirtouch.Lemmas.At5FF13
open PyAirtouch.Model PyAirtouch.Model.At5.FF13 PyAirtouch.Lemmas.Part3Text

def nameBytes (ns : List (Nat × Bytes)) : Nat := (ns.map (fun p => p.2.length)).sum

theorem sumNameLengths_eq (ns : List (Nat × Bytes)) :
    ∀ start, sumNameLengths start ns = start + nameBytes ns := by
  induction ns with
  | nil => intro start; simp [sumNameLengths, nameBytes]
  | cons p ps ih =>
    intro start
    have := ih (start + p.2.length)
    simp only [sumNameLengths, List.foldl_cons, nameBytes, List.map_cons, List.sum_cons] at this ⊢
    omega

theorem flatMap_length (ns : List (Nat × Bytes)) :
    (ns.flatMap encEntry).length = 2 * ns.length + nameBytes ns := by
  induction ns with
  | nil => simp [nameBytes]
  | cons p ps ih =>
    simp only [List.flatMap_cons, List.length_append, ih, encEntry, List.length_cons, nameBytes,
      List.map_cons, List.sum_cons]
    omega

theorem encode_length (m : Msg) : (encode m).length = size m := by
  cases m with
  | request r => rcases r with ⟨_ | n⟩ <;> rfl
  | message m => simp only [encode, size, flatMap_length, sumNameLengths_eq]

theorem encodeE_ok (m : Msg) (h : WF m) : encodeE m = .ok (encode m) := by
  cases m with
  | request r =>
    rcases r with ⟨_ | n⟩
    · rfl
    · have : n < 256 := h n rfl
      simp [encodeE, encode, this]
  | message m =>
    have : m.zone_names.all (fun p => decide (p.1 < 256) && decide (p.2.length < 256)) = true := by
      rw [List.all_eq_true]
      intro p hp
      obtain ⟨h1, h2, _⟩ := h.2.2 p hp
      simp [h1]; omega
    simp [encodeE, this]

theorem decNames_encode (ns : List (Nat × Bytes)) :
    ∀ (acc : List (Nat × Bytes)) (rest : Bytes), (dictKeys (acc ++ ns)).Nodup →
      (∀ p ∈ ns, utf8Valid p.2 = true) →
      decNames (ns.flatMap encEntry ++ rest) (ns.flatMap encEntry).length acc = .ok (acc ++ ns, rest) := by
  induction ns with
  | nil => intro acc rest _ _; rw [decNames.eq_def]; simp
  | cons p ps ih =>
    intro acc rest hnd hv
    rcases p with ⟨z, name⟩
    have hvn : utf8Valid name = true := hv (z, name) (by simp)
    obtain ⟨hins, hnd'⟩ := Dict.dictInsert_next acc z name ps hnd
    rw [decNames.eq_def]
    have hlen : ((z, name) :: ps).flatMap encEntry = z :: name.length :: (name ++ ps.flatMap encEntry) := by
      simp [List.flatMap_cons, encEntry]
    rw [hlen]
    have hne : (z :: name.length :: (name ++ ps.flatMap encEntry)).length ≠ 0 := by simp
    have hfit : ¬ (2 + name.length > (z :: name.length :: (name ++ ps.flatMap encEntry)).length) := by
      simp only [List.length_cons, List.length_append]; omega
    have hrem : (z :: name.length :: (name ++ ps.flatMap encEntry)).length - (2 + name.length)
        = (ps.flatMap encEntry).length := by
      simp only [List.length_cons, List.length_append]; omega
    simp only [hne, ↓reduceIte, List.cons_append, List.append_assoc, hfit, List.take_left',
      List.drop_left', hvn, hrem, hins]
    simpa using ih (acc ++ [(z, name)]) rest hnd' (fun q hq => hv q (by simp [hq]))

theorem decode_encode (m : Msg) (h : WF m) (rest : Bytes) :
    decode (encode m ++ rest) (size m) = .ok (m, rest) := by
  rw [← encode_length m]
  cases m with
  | request r =>
    rcases r with ⟨_ | n⟩
    · simp [decode, encode]
    · simp [decode, encode]
  | message m =>
    rcases m with ⟨ns⟩
    obtain ⟨hne, hnd, hwf⟩ := h
    have hl := flatMap_length ns
    have hlen : ns.length ≠ 0 := by simpa using hne
    have h0 : (ns.flatMap encEntry).length ≠ 0 := by omega
    have h1 : (ns.flatMap encEntry).length ≠ 1 := by omega
    simp only [decode, encode, h0, h1, ↓reduceIte]
    rw [decNames_encode ns [] rest (by simpa using hnd) (fun p hp => (hwf p hp).2.2)]
    simp

theorem wfBool_iff (m : Msg) : wfBool m = true ↔ WF m := by
  cases m with
  | request r => rcases r with ⟨_ | n⟩ <;> simp [wfBool, WF]
  | message m =>
    simp only [wfBool, WF, Bool.and_eq_true, nodupBool_iff, List.all_eq_true, decide_eq_true_eq,
      Bool.not_eq_true', List.isEmpty_eq_false_iff, ne_eq, and_assoc]

/-- the case excluded by `WF`: an empty mapping is sent with no content, which is the "ALL" request -/
theorem empty_mapping_not_preserved (rest : Bytes) :
    decode (encode (.message ⟨[]⟩) ++ rest) (size (.message ⟨[]⟩)) = .ok (.request ⟨none⟩, rest) := by
  simp [decode, encode, size, sumNameLengths]

end PyAirtouch.Lemmas.At5FF13
