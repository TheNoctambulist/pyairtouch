import PyAirtouch.Lemmas.Api4Handshake
/-!
# What the names and ability messages build: zones, air-conditioners, which zone under which air-conditioner;
and that what the exposed installation depends on (`Shape`) does not change once the ability answer is in

At the end, in namespace `Api4Reach` because the statements of `Props/C09At4b` name them so: the object model stays empty
while only junk arrives; the object model the handshake builds from a consistent installation description
(`model_of_description`); CPython's set order lists only elements of the set.
-/
namespace PyAirtouch.Lemmas.Api4
open PyAirtouch.Model PyAirtouch.Model.Api4 PyAirtouch.Model.At4 PyAirtouch.Gen
open PyAirtouch.Model.TimerCommon (AcTimerState AcTimerStatusData)
open PyAirtouch.Lemmas.Dict (lookup_dictInsert lookup_of_mem_nodup lookup_isSome nodup_keys_dictInsert)

/-- the group number of the zone object `zi` -/
def zoneIdAt (s : State) (zi : Nat) : Option Nat := (s.zoneObjs[zi]?).map (·.status.group_number)

/-- the zone ids an ability record describes: the bitmap (in CPython set order), all named zones for a single
    air-conditioner without bitmap, otherwise `start_group … start_group + group_count - 1` -/
def describedIds (named : List Nat) (single : Bool) (ab : FF11.AcAbility) : List Nat :=
  match ab.groups with
  | some gs => pySetOrder gs
  | none => if single then named else List.range' ab.start_group ab.group_count

theorem mapM_lookup_ids {s : State} (hinv : Inv s) (l : List Nat) (zs : List Nat)
    (h : l.mapM (fun g => s.zoneDict.lookup g) = some zs) : zs.map (zoneIdAt s) = l.map some := by
  induction l generalizing zs with
  | nil => simp [List.mapM_nil] at h; subst h; rfl
  | cons g gs ih =>
    rw [List.mapM_cons] at h
    cases hg : s.zoneDict.lookup g with
    | none => simp [hg] at h
    | some i =>
      cases hr : gs.mapM (fun g => s.zoneDict.lookup g) with
      | none => simp [hg, hr] at h
      | some rest =>
        simp [hg, hr] at h
        subst h
        obtain ⟨z, hz, hzn⟩ := hinv.zoneKey _ _ hg
        simp [zoneIdAt, hz, hzn, ih rest hr]

theorem dict_values_ids {s : State} (hinv : Inv s) (hnd : (s.zoneDict.map (·.1)).Nodup) :
    (s.zoneDict.map (·.2)).map (zoneIdAt s) = (s.zoneDict.map (·.1)).map some := by
  have : ∀ p ∈ s.zoneDict, zoneIdAt s p.2 = some p.1 := by
    intro p hp
    obtain ⟨k, i⟩ := p
    obtain ⟨z, hz, hzn⟩ := hinv.zoneKey _ _ (lookup_of_mem_nodup _ hnd k i hp)
    simp [zoneIdAt, hz, hzn]
  simp only [List.map_map]
  apply List.map_congr_left
  intro p hp
  simp [this p hp]

theorem zonesForAbility_ids {s : State} (hinv : Inv s) (hnd : (s.zoneDict.map (·.1)).Nodup) (single : Bool)
    (ab : FF11.AcAbility) (zs : List Nat) (h : zonesForAbility s single ab = some zs) :
    zs.map (zoneIdAt s) = (describedIds (s.zoneDict.map (·.1)) single ab).map some := by
  unfold zonesForAbility at h
  unfold describedIds
  cases hg : ab.groups with
  | some gs =>
    simp only [hg] at h ⊢
    exact mapM_lookup_ids hinv _ _ h
  | none =>
    simp only [hg] at h ⊢
    cases single with
    | true =>
      simp only [↓reduceIte, Option.some.injEq] at h ⊢
      subst h
      exact dict_values_ids hinv hnd
    | false =>
      simp only [Bool.false_eq_true, ↓reduceIte] at h ⊢
      exact mapM_lookup_ids hinv _ _ h

theorem zonesForAbility_none_iff {s : State} (single : Bool) (ab : FF11.AcAbility) :
    zonesForAbility s single ab = none ↔
      ∃ g ∈ describedIds (s.zoneDict.map (·.1)) single ab, s.zoneDict.lookup g = none := by
  have key : ∀ l : List Nat, l.mapM (fun g => s.zoneDict.lookup g) = none ↔ ∃ g ∈ l, s.zoneDict.lookup g = none := by
    intro l
    induction l with
    | nil => simp
    | cons g gs ih =>
      simp only [List.mapM_cons, List.mem_cons, exists_eq_or_imp, ← ih]
      cases s.zoneDict.lookup g <;> cases gs.mapM (fun g => s.zoneDict.lookup g) <;> simp
  unfold zonesForAbility describedIds
  cases hg : ab.groups with
  | some gs => simp only [key]
  | none =>
    cases single with
    | true =>
      simp only [↓reduceIte, reduceCtorEq, false_iff]
      rintro ⟨g, hg', hn⟩
      obtain ⟨p, hp, rfl⟩ := List.mem_map.mp hg'
      have : (s.zoneDict.lookup p.1).isSome := by
        rw [lookup_isSome]
        exact decide_eq_true (List.mem_map.2 ⟨p, hp, rfl⟩)
      rw [hn] at this; cases this
    | false => simp only [Bool.false_eq_true, ↓reduceIte, key]

theorem addAc_spec {s s1 : State} (hinv : Inv s) {single : Bool} {ab : FF11.AcAbility} (h : addAc s single ab = some s1) :
    s1.zoneDict = s.zoneDict ∧ s1.zoneObjs = s.zoneObjs ∧ s1.st = s.st ∧
    (∃ a zs, s1.findAc ab.ac_number = some a ∧ a.ability = ab ∧ a.zones = zs ∧ a.subs = [] ∧ a.stateSubs = [] ∧
      zonesForAbility s single ab = some zs) ∧
    (∀ k, k ≠ ab.ac_number → s1.findAc k = s.findAc k) := by
  obtain ⟨zs, a, hz, hm, rfl⟩ := addAc_eq_some h
  obtain ⟨_, _, hzs, hs1, hs2, hab⟩ := mkAc_number hm
  have hfind := ObjTable.find_alloc hinv.acKey ab.ac_number a
  exact ⟨rfl, rfl, rfl, ⟨a, zs, (hfind _).trans (if_pos rfl), hab, hzs, hs1, hs2, hz⟩,
    fun k hk => (hfind k).trans (if_neg hk)⟩

theorem findAc_processAbility_other {s : State} (hinv : Inv s) (single : Bool) (l : List FF11.AcAbility)
    (hok : (processAbility s single l).2 = true) (k : Nat) (hk : k ∉ l.map (·.ac_number)) :
    (processAbility s single l).1.findAc k = s.findAc k := by
  induction l generalizing s with
  | nil => rfl
  | cons y ys ih =>
    simp only [processAbility] at hok ⊢
    cases hy : addAc s single y with
    | none => simp [hy] at hok
    | some s1 =>
      simp only [hy] at hok ⊢
      simp only [List.map_cons, List.mem_cons, not_or] at hk
      rw [ih (Inv_addAc hinv hy) hok hk.2, (addAc_spec hinv hy).2.2.2.2 k hk.1]

theorem processAbility_spec {s : State} (hinv : Inv s) (hnd : (s.zoneDict.map (·.1)).Nodup) (single : Bool)
    (acs : List FF11.AcAbility) (hnum : (acs.map (·.ac_number)).Nodup)
    (hok : (processAbility s single acs).2 = true) (ab : FF11.AcAbility) (hab : ab ∈ acs) :
    (processAbility s single acs).1.zoneDict = s.zoneDict ∧ (processAbility s single acs).1.zoneObjs = s.zoneObjs ∧
    ∃ a, (processAbility s single acs).1.findAc ab.ac_number = some a ∧ a.ability = ab ∧
      a.subs = [] ∧ a.stateSubs = [] ∧
      a.zones.map (zoneIdAt s) = (describedIds (s.zoneDict.map (·.1)) single ab).map some := by
  refine ⟨by rw [processAbility_frame], by rw [processAbility_frame], ?_⟩
  induction acs generalizing s with
  | nil => cases hab
  | cons x xs ih =>
    simp only [processAbility] at hok ⊢
    cases ha : addAc s single x with
    | none => simp [ha] at hok
    | some s1 =>
      simp only [ha] at hok ⊢
      obtain ⟨e1, e2, _, ⟨a, zs, f1, f2, f3, f4, f5, f6⟩, _⟩ := addAc_spec hinv ha
      have hinv1 : Inv s1 := Inv_addAc hinv ha
      simp only [List.map_cons, List.nodup_cons] at hnum
      rcases List.mem_cons.mp hab with rfl | hmem
      · refine ⟨a, ?_, f2, f4, f5, ?_⟩
        · rw [findAc_processAbility_other hinv1 single xs hok _ hnum.1, f1]
        · rw [f3]; exact zonesForAbility_ids hinv hnd single ab zs f6
      · obtain ⟨b, q3, q4, q5, q6, q7⟩ := ih hinv1 (by rw [e1]; exact hnd) hnum.2 hok hmem
        refine ⟨b, q3, q4, q5, q6, ?_⟩
        have : zoneIdAt s1 = zoneIdAt s := by funext zi; simp [zoneIdAt, e2]
        rw [← this, q7, e1]

/-- the loop stops with `KeyError` exactly when some record describes a group without a name, or its mode /
    fan-speed dictionaries lack a key of the API tables (the decoder's dictionaries have every key; not proved here) -/
theorem processAbility_fails_iff (s : State) (hinv : Inv s) (single : Bool) (acs : List FF11.AcAbility) :
    (processAbility s single acs).2 = false ↔
      ∃ ab ∈ acs, (∃ g ∈ describedIds (s.zoneDict.map (·.1)) single ab, s.zoneDict.lookup g = none) ∨
        (mkAc ab []).isNone := by
  have mk_indep : ∀ (ab : FF11.AcAbility) (zs : List Nat), (mkAc ab zs).isNone = (mkAc ab []).isNone := by
    intro ab zs
    unfold mkAc
    cases supportedOf Api4.API_MODE_CONTROL_MAPPING ab.ac_mode_support <;>
      cases supportedOf Api4.API_FAN_SPEED_CONTROL_MAPPING ab.fan_speed_support <;> rfl
  induction acs generalizing s with
  | nil => simp [processAbility]
  | cons x xs ih =>
    simp only [processAbility]
    cases ha : addAc s single x with
    | none =>
      simp only [true_iff]
      refine ⟨x, List.mem_cons_self, ?_⟩
      unfold addAc at ha
      cases hz : zonesForAbility s single x with
      | none => exact Or.inl ((zonesForAbility_none_iff single x).mp hz)
      | some zs =>
        cases hm : mkAc x zs with
        | none => right; rw [← mk_indep x zs, hm]; rfl
        | some a => simp [hz, hm] at ha
    | some s1 =>
      simp only
      obtain ⟨e1, _, _, ⟨a, zs, _, _, _, _, _, f6⟩, _⟩ := addAc_spec hinv ha
      refine Iff.trans (ih s1 (Inv_addAc hinv ha)) ?_
      rw [e1]
      have hx : ¬ ((∃ g ∈ describedIds (s.zoneDict.map (·.1)) single x, s.zoneDict.lookup g = none) ∨ (mkAc x []).isNone) := by
        intro hcon
        rcases hcon with hcon | hcon
        · have := (zonesForAbility_none_iff single x).mpr hcon
          rw [f6] at this; cases this
        · unfold addAc at ha
          rw [f6] at ha
          cases hm : mkAc x zs with
          | none => simp [hm] at ha
          | some a' =>
            rw [← mk_indep x zs, hm] at hcon; cases hcon
      constructor
      · rintro ⟨ab, hab, h⟩; exact ⟨ab, List.mem_cons_of_mem _ hab, h⟩
      · rintro ⟨ab, hab, h⟩
        rcases List.mem_cons.mp hab with rfl | hm
        · exact absurd h hx
        · exact ⟨ab, hm, h⟩

theorem nodup_keys_processGroupNames (s : State) (names : List (Nat × Bytes)) (h : (s.zoneDict.map (·.1)).Nodup) :
    ((processGroupNames s names).zoneDict.map (·.1)).Nodup := by
  unfold processGroupNames
  induction names generalizing s with
  | nil => exact h
  | cons p ps ih => exact ih (addZone s p) (nodup_keys_dictInsert _ _ _ h)

theorem zoneOf_addZone {s : State} (hinv : Inv s) (p : Nat × Bytes) (g : Nat) :
    (addZone s p).zoneOf g = if g = p.1 then some (mkZone p.1 p.2) else s.zoneOf g :=
  ObjTable.find_alloc hinv.zoneKey p.1 (mkZone p.1 p.2) g

theorem zoneOf_processGroupNames_other {s : State} (hinv : Inv s) (names : List (Nat × Bytes)) (g : Nat)
    (hg : g ∉ names.map (·.1)) : (processGroupNames s names).zoneOf g = s.zoneOf g := by
  unfold processGroupNames
  induction names generalizing s with
  | nil => rfl
  | cons p ps ih =>
    simp only [List.map_cons, List.mem_cons, not_or] at hg
    rw [List.foldl_cons, ih (Inv_addZone hinv p) hg.2, zoneOf_addZone hinv, if_neg hg.1]

theorem processGroupNames_spec {s : State} (hinv : Inv s) (names : List (Nat × Bytes))
    (hnd : (names.map (·.1)).Nodup) (p : Nat × Bytes) (hp : p ∈ names) :
    (processGroupNames s names).zoneOf p.1 = some (mkZone p.1 p.2) := by
  induction names generalizing s with
  | nil => cases hp
  | cons q qs ih =>
    simp only [List.map_cons, List.nodup_cons] at hnd
    rcases List.mem_cons.mp hp with rfl | hm
    · show (processGroupNames (addZone s p) qs).zoneOf p.1 = _
      rw [zoneOf_processGroupNames_other (Inv_addZone hinv p) qs p.1 hnd.1, zoneOf_addZone hinv, if_pos rfl]
    · exact ih (Inv_addZone hinv q) hnd.2 hm

/-- everything `exposedModel` depends on (`exposedModel_shape`): the two dictionaries with their heap positions, each zone
    object's id and name, each air-conditioner object's id, whole ability record and zone list -/
structure Shape where
  zoneDict : List (Nat × Nat)
  acDict : List (Nat × Nat)
  zones : List (Nat × Bytes)
  acs : List (Nat × FF11.AcAbility × List Nat)

def shape (s : State) : Shape :=
  { zoneDict := s.zoneDict, acDict := s.acDict
    zones := s.zoneObjs.map fun z => (z.status.group_number, z.name)
    acs := s.acObjs.map fun a => (a.status.ac_number, a.ability, a.zones) }

theorem shape_setAc {s : State} (k : Nat) (a a' : AcObj) (hf : s.findAc k = some a)
    (h : (a'.status.ac_number, a'.ability, a'.zones) = (a.status.ac_number, a.ability, a.zones)) :
    shape (s.setAc k a') = shape s := by
  rw [setAc_eq]
  simp only [shape]
  rw [ObjTable.map_put_same (fun a : AcObj => (a.status.ac_number, a.ability, a.zones)) hf h]

theorem shape_setZone {s : State} (k : Nat) (z z' : ZoneObj) (hf : s.zoneOf k = some z)
    (h : (z'.status.group_number, z'.name) = (z.status.group_number, z.name)) :
    shape (s.setZone k z') = shape s := by
  rw [setZone_eq]
  simp only [shape]
  rw [ObjTable.map_put_same (fun z : ZoneObj => (z.status.group_number, z.name)) hf h]

/-- no kind of record changes what the installation exposes of an object: the numbers stay by the heap invariant,
    names, ability records and zone lists are not touched -/
theorem StatusKind.shape_update {ρ ω β : Type} [DecidableEq β] {K : Kind ρ ω β} (hK : StatusKind K) {s : State}
    (hinv : Inv s) (r : ρ) : shape (K.update s r).1 = shape s := by
  rcases K.update_cases s r with e | ⟨o, hf, _, e⟩ <;> rw [e]
  have hn := K.tbl.numbered hinv hf
  cases hK
  · exact shape_setAc _ o _ hf (congrArg (·, o.ability, o.zones) hn.1.symm)
  · exact shape_setAc _ o _ hf rfl
  · exact shape_setAc _ o _ hf rfl
  · exact shape_setZone _ o _ hf (congrArg (·, o.name) (Eq.symm hn))

theorem StatusKind.shape_fold {ρ ω β : Type} [DecidableEq β] {K : Kind ρ ω β} (hK : StatusKind K) {s : State}
    (hinv : Inv s) (l : List ρ) : shape (foldEv K.update s l).1 = shape s :=
  (foldEv_inv (fun t => Inv t ∧ shape t = shape s) _
    (fun _ x h => ⟨K.inv_update h.1 x, (hK.shape_update h.1 x).trans h.2⟩) s l ⟨hinv, rfl⟩).2

theorem shape_hbOnMessage (s : State) (m : RMsg) : shape (hbOnMessage s m) = shape s := by
  rw [hbOnMessage_frame]; rfl

theorem shape_absorb {s : State} (hinv : Inv s) (m : RMsg) : shape (absorb s m).1 = shape s := by
  rcases absorb_kinds s m with e | ⟨_, e⟩ | ⟨_, _, _, _, K, l, t, hK, ht, e⟩ <;> rw [e]
  · rw [updateVersion_frame]; rfl
  · rcases ht with rfl | rfl
    · exact hK.shape_fold hinv l
    · exact hK.shape_fold (s := rearmPolls s) ⟨hinv.acKey, hinv.zoneKey⟩ l

theorem shape_store {s : State} (hinv : Inv s) (h5 : 5 ≤ stage s.st) {m : RMsg} (hk : answerKind s.st m = true) :
    shape (store s m).1 = shape s := by
  rcases answer_cases hk with ⟨hs, _⟩ | ⟨hs, _⟩ | ⟨hs, _⟩ | ⟨_, _, _, _, _, K, l, hK, e⟩
  -- the version, names and ability answers arrive before stage 5; the later ones are loops of one `update_*` method
  iterate 3 rw [hs] at h5; exact absurd h5 (by decide)
  rw [e]; exact hK.shape_fold hinv l

theorem shape_recv {s : State} (hinv : Inv s) (h5 : 5 ≤ stage s.st) (m : RMsg) : shape (recv s m).1 = shape s := by
  rcases recv_cases s m with ⟨_, e⟩ | ⟨_, e⟩ | ⟨_, hk, _, e⟩ | ⟨_, _, hs, _⟩ | ⟨_, hk, _, _, e⟩ <;>
    try rw [e, shape_hbOnMessage]
  · exact shape_absorb hinv m
  · rw [enterConnected_frame]; exact shape_store hinv h5 hk
  · rw [hs] at h5; exact absurd h5 (by decide)
  · exact shape_store hinv h5 hk

theorem shape_passive_run {s : State} (hinv : Inv s) (hsub : s.subscribed = true) (h5 : 5 ≤ stage s.st)
    (ops : List Op) (hops : ∀ op ∈ ops, passive op = true) : shape (run s ops).1 = shape s :=
  have := run4_eq s ops ▸ FoldW.foldW_inv (f := apiStep)
    (I := fun t => Inv t ∧ t.subscribed = true ∧ 5 ≤ stage t.st ∧ shape t = shape s) ops s ⟨hinv, hsub, h5, rfl⟩
    fun t op hop ⟨ti, tsub, t5, tsh⟩ => by
      obtain ⟨hsub1, hstep⟩ := passive_step t tsub op (hops op hop)
      have hmono : stage t.st ≤ stage (apiStep t op).1.st := by
        rcases hstep with ⟨h, _⟩ | ⟨h, _⟩ | ⟨h, h'⟩
        · rw [h]; exact Nat.le_refl _
        · rw [h]; exact Nat.le_succ _
        · rw [h, h']; decide
      refine ⟨Inv_apiStep ti op, hsub1, Nat.le_trans t5 hmono, Eq.trans ?_ tsh⟩
      rcases passive_cases t op (hops op hop) with ⟨m, e, _⟩ | ⟨_, e, _⟩ <;> rw [e]
      · exact shape_recv ti t5 m
      · rfl
  this.2.2.2

end PyAirtouch.Lemmas.Api4

namespace PyAirtouch.Lemmas.Api4Reach
open PyAirtouch.Model PyAirtouch.Model.Api4 PyAirtouch.Model.At4 PyAirtouch.Lemmas.Api4 PyAirtouch.Gen
open PyAirtouch.Lemmas.Dict (keys_dictInsert lookup_of_mem_nodup lookup_isSome)

/-! ## the object model before the ability answer -/

/-- the dictionaries and the object heap: the part of `Core` (Api4Inv) that holds the object model; `Shape` above is
    this modulo statuses and subscribers -/
structure ModelView where
  zoneDict : List (Nat × Nat)
  acDict : List (Nat × Nat)
  zoneObjs : List ZoneObj
  acObjs : List AcObj

def modelView (s : State) : ModelView :=
  { zoneDict := s.zoneDict, acDict := s.acDict, zoneObjs := s.zoneObjs, acObjs := s.acObjs }

theorem modelView_empty_iff {s : State} :
    modelView s = ⟨[], [], [], []⟩ ↔ s.acDict = [] ∧ s.zoneDict = [] ∧ s.acObjs = [] ∧ s.zoneObjs = [] :=
  ⟨fun h => ⟨congrArg ModelView.acDict h, congrArg ModelView.zoneDict h, congrArg ModelView.acObjs h,
    congrArg ModelView.zoneObjs h⟩, fun ⟨e1, e2, e3, e4⟩ => by simp only [modelView, e1, e2, e3, e4]⟩

theorem modelView_of_core {s t : State} (h : core s = core t) : modelView s = modelView t :=
  congrArg (fun c : Core => (⟨c.zoneDict, c.acDict, c.zoneObjs, c.acObjs⟩ : ModelView)) h

theorem modelView_hbOnMessage (s : State) (m : RMsg) : modelView (hbOnMessage s m) = modelView s := by
  rw [hbOnMessage_frame]; rfl

theorem modelView_recv_version (s : State) (hsub : s.subscribed = true) (hst : s.st = .INIT_VERSION)
    (v : FF30.ConsoleVersionMessage) :
    modelView (recv s (.extended (.consoleVer (.message v)))).1 = modelView s := by
  simp only [recv, hsub, ↓reduceIte, onMessage, hst, modelView_hbOnMessage]
  rfl

theorem modelView_recv_names (s : State) (hsub : s.subscribed = true) (hst : s.st = .INIT_GROUP_NAMES)
    (n : FF12.GroupNamesMessage) :
    modelView (recv s (.extended (.groupNames (.message n)))).1 = modelView (processGroupNames s n.group_names) := by
  simp only [recv, hsub, ↓reduceIte, onMessage, hst, modelView_hbOnMessage]
  rfl

theorem modelView_junk_step (s : State) (op : Op) (hp : passive op = true) (ha : answers s.st op = false)
    (hc : s.st ≠ .CONNECTED) (h0 : s.acDict = []) : modelView (apiStep s op).1 = modelView s := by
  rcases passive_cases s op hp with ⟨m, e, ham⟩ | ⟨_, e, _⟩
  · rw [e]
    unfold recv
    rw [modelView_hbOnMessage]
    split
    · rw [onMessage_of_not_answer ((ham s.st).symm.trans ha), absorb_early hc h0]
    · rfl
  · rw [e]; rfl

theorem modelView_junk_run (s : State) (j : List Op) (hj : Junk s.st j) (hc : s.st ≠ .CONNECTED) (h0 : s.acDict = []) :
    modelView (run s j).1 = modelView s :=
  have := run4_eq s j ▸ FoldW.foldW_inv (f := apiStep) (I := fun t : State => t.st = s.st ∧ modelView t = modelView s) j s
    ⟨rfl, rfl⟩ fun t op hop ⟨e1, e2⟩ =>
      have ⟨hp, ha⟩ := hj op hop
      ⟨(junk_step t op hp (e1 ▸ ha)).1.trans e1,
        (modelView_junk_step t op hp (e1 ▸ ha) (e1 ▸ hc) ((congrArg ModelView.acDict e2).trans h0)).trans e2⟩
  this.2

/-! ## the object model the handshake builds from a fresh object -/

/-- what the API exposes of the installation: the air-conditioners (`air_conditioners`, in dictionary order), each
    with `ac_id`, `name` and its `zones` (in list order), each zone with `zone_id` and `name` -/
def exposedModel (s : State) : List (Nat × Bytes × List (Nat × Bytes)) :=
  s.airConditioners.map fun a =>
    (a.acId, a.ability.ac_name, (a.zones.filterMap (s.zoneObjs[·]?)).map fun z => (z.zoneId, z.name))

/-- the name the names message gives group `g` -/
def nameOf (names : List (Nat × Bytes)) (g : Nat) : Bytes := (names.lookup g).getD []

/-- the installation the names message and the ability message describe: one air-conditioner per ability record, in
    message order, with the record's number and name; its zones are the groups `describedIds` lists for the record
    (the bitmap in CPython set order `pySetOrder`; for a single record without bitmap every named group in names-message
    order; otherwise `start_group … start_group + group_count - 1`), each with its name from the names message -/
def describedModel (names : List (Nat × Bytes)) (acs : List FF11.AcAbility) : List (Nat × Bytes × List (Nat × Bytes)) :=
  acs.map fun ab =>
    (ab.ac_number, ab.ac_name,
      (describedIds (names.map (·.1)) (acs.length == 1) ab).map fun g => (g, nameOf names g))

/-- a consistent installation description: the names message names distinct groups, the ability records carry
    distinct numbers, complete mode / fan-speed tables (every decoded record does), and refer only to named groups -/
def Consistent (names : List (Nat × Bytes)) (acs : List FF11.AcAbility) : Prop :=
  (names.map (·.1)).Nodup ∧ (acs.map (·.ac_number)).Nodup ∧
  ∀ ab ∈ acs, (mkAc ab []).isSome = true ∧
    ∀ g ∈ describedIds (names.map (·.1)) (acs.length == 1) ab, g ∈ names.map (·.1)

theorem processGroupNames_model (s : State) (names : List (Nat × Bytes)) :
    (processGroupNames s names).zoneObjs = s.zoneObjs ++ names.map (fun p => mkZone p.1 p.2) ∧
    (processGroupNames s names).acDict = s.acDict ∧ (processGroupNames s names).acObjs = s.acObjs := by
  unfold processGroupNames
  induction names generalizing s with
  | nil => simp
  | cons p ps ih =>
    rw [List.foldl_cons]
    obtain ⟨i1, i2, i3⟩ := ih (addZone s p)
    refine ⟨?_, i2, i3⟩
    rw [i1]
    simp [addZone]

theorem keys_processAbility (s : State) (single : Bool) (acs : List FF11.AcAbility)
    (hok : (processAbility s single acs).2 = true) (hnum : (acs.map (·.ac_number)).Nodup)
    (hd : ∀ k ∈ acs.map (·.ac_number), k ∉ s.acDict.map (·.1)) :
    (processAbility s single acs).1.acDict.map (·.1) = s.acDict.map (·.1) ++ acs.map (·.ac_number) := by
  induction acs generalizing s with
  | nil => simp [processAbility]
  | cons x xs ih =>
    simp only [processAbility] at hok ⊢
    cases ha : addAc s single x with
    | none => simp [ha] at hok
    | some s1 =>
      simp only [ha] at hok ⊢
      simp only [List.map_cons, List.nodup_cons] at hnum
      have hk : s1.acDict.map (·.1) = s.acDict.map (·.1) ++ [x.ac_number] := by
        obtain ⟨zs, a, _, _, rfl⟩ := addAc_eq_some ha
        simp only [keys_dictInsert, hd x.ac_number (by simp), ↓reduceIte]
      rw [ih s1 hok hnum.2, hk]
      · simp
      · intro k hk' hmem
        rw [hk] at hmem
        rcases List.mem_append.mp hmem with h1 | h1
        · exact hd k (by simp [hk']) h1
        · simp at h1; subst h1; exact hnum.1 hk'

theorem airConditioners_eq (s : State) (hnd : (s.acDict.map (·.1)).Nodup) :
    s.airConditioners = (s.acDict.map (·.1)).filterMap s.findAc := by
  unfold State.airConditioners
  rw [List.filterMap_map]
  have gen : ∀ l : List (Nat × Nat), (∀ p ∈ l, p ∈ s.acDict) →
      l.filterMap (fun p => s.acObjs[p.2]?) = l.filterMap (s.findAc ∘ fun p => p.1) := by
    intro l
    induction l with
    | nil => intro _; rfl
    | cons p ps ih =>
      intro hl
      obtain ⟨k, i⟩ := p
      have hp : (k, i) ∈ s.acDict := hl _ List.mem_cons_self
      rw [List.filterMap_cons, List.filterMap_cons, ih (fun q hq => hl q (List.mem_cons_of_mem _ hq))]
      simp only [Function.comp, State.findAc, lookup_of_mem_nodup _ hnd k i hp, Option.bind_some]
  exact gen _ (fun _ h => h)

theorem filterMap_eq_map_of {α β} (f : α → Option β) (g : α → β) (l : List α) (h : ∀ x ∈ l, f x = some (g x)) :
    l.filterMap f = l.map g := by
  induction l with
  | nil => rfl
  | cons x xs ih =>
    rw [List.filterMap_cons, h x List.mem_cons_self, List.map_cons,
      ih (fun y hy => h y (List.mem_cons_of_mem _ hy))]

theorem zones_named (names : List (Nat × Bytes)) (hnd : (names.map (·.1)).Nodup) (zs ids : List Nat)
    (h : zs.map (fun zi => ((names.map (fun p => mkZone p.1 p.2))[zi]?).map (·.status.group_number)) = ids.map some) :
    (zs.filterMap ((names.map (fun p => mkZone p.1 p.2))[·]?)).map (fun z => (z.zoneId, z.name)) =
      ids.map (fun g => (g, nameOf names g)) := by
  induction zs generalizing ids with
  | nil =>
    cases ids with
    | nil => rfl
    | cons g gs => simp at h
  | cons zi zs ih =>
    cases ids with
    | nil => simp at h
    | cons g gs =>
      simp only [List.map_cons, List.cons.injEq] at h
      obtain ⟨h1, h2⟩ := h
      rw [List.getElem?_map] at h1
      cases hp : names[zi]? with
      | none => rw [hp] at h1; cases h1
      | some p =>
        rw [hp] at h1
        simp only [Option.map_some, Option.some.injEq] at h1
        have hmem : p ∈ names := List.mem_of_getElem? hp
        rw [List.filterMap_cons, List.getElem?_map, hp]
        simp only [Option.map_some, List.map_cons, ih gs h2]
        have hg : (mkZone p.1 p.2).status.group_number = p.1 := rfl
        rw [hg] at h1
        subst h1
        unfold nameOf
        rw [lookup_of_mem_nodup names hnd p.1 p.2 hmem]
        rfl

def exposedOfShape (sh : Shape) : List (Nat × Bytes × List (Nat × Bytes)) :=
  (sh.acDict.filterMap fun p => sh.acs[p.2]?).map fun x => (x.1, x.2.1.ac_name, x.2.2.filterMap (sh.zones[·]?))

theorem exposedModel_shape (s : State) : exposedModel s = exposedOfShape (shape s) := by
  unfold exposedModel exposedOfShape State.airConditioners shape
  simp only [List.getElem?_map]
  rw [show (fun p : Nat × Nat => Option.map (fun a : AcObj => (a.status.ac_number, a.ability, a.zones)) s.acObjs[p.2]?) =
      (fun p => (s.acObjs[p.2]?).map (fun a : AcObj => (a.status.ac_number, a.ability, a.zones))) from rfl,
    ← List.map_filterMap, List.map_map]
  apply List.map_congr_left
  intro a _
  simp only [Function.comp, AcObj.acId, Prod.mk.injEq, true_and]
  rw [show (fun x => Option.map (fun z : ZoneObj => (z.status.group_number, z.name)) s.zoneObjs[x]?) =
      (fun x => (s.zoneObjs[x]?).map (fun z : ZoneObj => (z.status.group_number, z.name))) from rfl,
    ← List.map_filterMap]
  rfl

theorem exposedModel_of_shape {s t : State} (h : shape s = shape t) : exposedModel s = exposedModel t := by
  rw [exposedModel_shape, exposedModel_shape, h]

/-- **the model built by the names answer followed by the ability answer**: from a state whose model is empty, a
    consistent description yields no `KeyError` and exactly the described installation.  Two states: `s` receives the
    names answer, `t` the ability answer; the junk in between changes the state outside the model, so `t` is only known
    to have the model of `processGroupNames s names` -/
theorem model_of_description (s : State) (h0 : modelView s = ⟨[], [], [], []⟩)
    (names : List (Nat × Bytes)) (acs : List FF11.AcAbility) (hc : Consistent names acs) (t : State)
    (ht : modelView t = modelView (processGroupNames s names)) (hinvt : Inv t) :
    (processAbility t (acs.length == 1) acs).2 = true ∧
    exposedModel (processAbility t (acs.length == 1) acs).1 = describedModel names acs := by
  obtain ⟨hn1, hn2, hn3⟩ := hc
  have z1 : s.zoneDict = [] := congrArg ModelView.zoneDict h0
  have z2 : s.acDict = [] := congrArg ModelView.acDict h0
  have z3 : s.zoneObjs = [] := congrArg ModelView.zoneObjs h0
  have z4 : s.acObjs = [] := congrArg ModelView.acObjs h0
  obtain ⟨g1, g2, g3⟩ := processGroupNames_model s names
  have t1 : t.zoneDict = (processGroupNames s names).zoneDict := congrArg ModelView.zoneDict ht
  have t2 : t.acDict = [] := (congrArg ModelView.acDict ht).trans (g2.trans z2)
  have t3 : t.zoneObjs = names.map (fun p => mkZone p.1 p.2) := by
    have : t.zoneObjs = (processGroupNames s names).zoneObjs := congrArg ModelView.zoneObjs ht
    rw [this, g1, z3]; rfl
  have tk : t.zoneDict.map (·.1) = names.map (·.1) := by
    rw [t1]; exact keys_processGroupNames_fresh s z1 names hn1
  have tnd : (t.zoneDict.map (·.1)).Nodup := by rw [tk]; exact hn1
  have hok : (processAbility t (acs.length == 1) acs).2 = true := by
    cases hp : (processAbility t (acs.length == 1) acs).2 with
    | true => rfl
    | false =>
      obtain ⟨ab, hab, hbad⟩ := (processAbility_fails_iff t hinvt _ acs).mp hp
      obtain ⟨c1, c2⟩ := hn3 ab hab
      rcases hbad with ⟨g, hg, hl⟩ | hbad
      · rw [tk] at hg
        have := c2 g hg
        rw [← tk] at this
        exact absurd hl (Option.isSome_iff_ne_none.1 (by rw [lookup_isSome, decide_eq_true this]))
      · rw [Option.isNone_iff_eq_none] at hbad
        rw [hbad] at c1; cases c1
  refine ⟨hok, ?_⟩
  have hkeys := keys_processAbility t _ acs hok hn2 (by rw [t2]; simp)
  rw [t2] at hkeys
  simp only [List.map_nil, List.nil_append] at hkeys
  have hinv' : Inv (processAbility t (acs.length == 1) acs).1 := Inv_processAbility hinvt _ acs
  unfold exposedModel describedModel
  rw [airConditioners_eq _ (by rw [hkeys]; exact hn2), hkeys, List.filterMap_map, List.map_filterMap]
  have hspec := fun ab hab => processAbility_spec hinvt tnd (acs.length == 1) acs hn2 hok ab hab
  apply filterMap_eq_map_of
  intro ab hab
  obtain ⟨_, e2, a, f1, f2, _, _, f5⟩ := hspec ab hab
  simp only [Function.comp, f1, Option.map_some, Option.some.injEq, Prod.mk.injEq]
  refine ⟨(hinv'.findAc_number f1).1, by rw [f2], ?_⟩
  rw [e2, t3]
  apply zones_named names hn1
  rw [← tk]
  rw [← f5]
  apply List.map_congr_left
  intro zi _
  simp [zoneIdAt, t3]

/-! ## `pySetOrder` lists only elements of the set -/

theorem mem_setInsert8 (fuel : Nat) (tbl : List (Option Nat)) (i v x : Nat)
    (h : some x ∈ setInsert8 fuel tbl i v) : some x ∈ tbl ∨ x = v := by
  induction fuel generalizing i with
  | zero => exact Or.inl h
  | succ n ih =>
    unfold setInsert8 at h
    split at h
    · rcases List.mem_or_eq_of_mem_set h with h | h
      · exact Or.inl h
      · exact Or.inr (Option.some.inj h)
    · split at h
      · exact Or.inl h
      · exact ih _ h

theorem mem_of_mem_pySetOrder (gs : List Nat) (g : Nat) (h : g ∈ pySetOrder gs) : g ∈ gs := by
  unfold pySetOrder at h
  split at h
  · have gen : ∀ (l : List Nat) (t : List (Option Nat)),
        some g ∈ l.foldl (fun t v => setInsert8 8 t (v % 8) v) t → some g ∈ t ∨ g ∈ l := by
      intro l
      induction l with
      | nil => intro t h; exact Or.inl h
      | cons x xs ih =>
        intro t h
        rw [List.foldl_cons] at h
        rcases ih _ h with h | h
        · rcases mem_setInsert8 _ _ _ _ _ h with h | h
          · exact Or.inl h
          · exact Or.inr (by rw [h]; exact List.mem_cons_self)
        · exact Or.inr (List.mem_cons_of_mem _ h)
    have hm : some g ∈ gs.foldl (fun t v => setInsert8 8 t (v % 8) v) (List.replicate 8 none) := by
      simpa [List.mem_filterMap] using h
    rcases gen _ _ hm with h | h
    · simp [] at h
    · exact h
  · exact h

end PyAirtouch.Lemmas.Api4Reach
