import PyAirtouch.Model.Sock
import PyAirtouch.Lemmas.RunWith
/-!
# A step of the socket model in normal form: the environment moves, or one task runs one block

`step` is one function with a case for every label and, under `run`, for every program counter and
answer.  Invariant proofs need the opposite view: given `step s l = some s'`, which block ran and
what does `s'` look like.  `step_block` gives it: a step is a change of the socket fields by the environment with the
task table as it was (`EnvStep`, the five labels with their exact changes; `EnvRel`: what they have in common), or ONE
task - a new one for an API call, or the resumed one - runs ONE block `out : Out` from a state `s0` (the state itself;
for `close()` on an open socket, the state with `is_open` cleared and the background tasks cancelled, `Block.start`).
`Block` lists the blocks, one constructor per code path with the guard of the path as hypothesis (`ExecCase`: the
resumed tasks that run `exec`), and says nothing of the state after it: that is `⟨out.core, ts'⟩` with the table `ts'`
given up to order (`Ran`, with the lemmas through which invariants read it).  What holds of every block without any
invariant stands beside it (`Block.start`, `Block.spawned`, `Block.resumed`, `Block.notEnv`).

An invariant `I` over the table then has a structure `IBlock` of what a block must supply, one lemma `IBlock.ran` over
`Ran`, one lemma about `EnvRel` or a relation it implies (the cases of `EnvStep` where the exact change matters), one
about the table `close()` starts on, and a step theorem that applies `IBlock.ran` once and goes through the
constructors of `Block` with facts about `out` only; a result about one label reads the block off `step_block_of`.

The file is also the base vocabulary of the socket lemma files: `liveAt`, `pcAt_eq`, `connPc` / `spawnPc`, the socket
fields at three points of `send` and `close` (`purgedCore`, `acceptedCore`, `closingCore`), `exec_spawned` with the key
to the case numbers of `fun_induction exec`, and `run_eq` / `run_inv`.  It opens the namespace
`PyAirtouch.Lemmas.SockConn`, which `Lemmas/SockConn.lean` continues.
-/
namespace PyAirtouch.Lemmas.SockConn
open PyAirtouch.Model.Sock PyAirtouch.Spec.Trace

/-- transport `i` exists, the client has not closed it and it has not been lost -/
def liveAt (c : Core) (i : Nat) : Prop := (c.conns[i]?.map ConnSt.isLive) = some true

/-- the model's own test (`writer is not None and not writer.is_closing()`) -/
theorem liveAt_iff_getD {c : Core} {i : Nat} : liveAt c i ↔ (c.conns[i]?.map ConnSt.isLive).getD false = true := by
  unfold liveAt; cases c.conns[i]?.map ConnSt.isLive <;> simp

theorem not_liveAt_iff_getD {c : Core} {i : Nat} :
    ¬ liveAt c i ↔ (c.conns[i]?.map ConnSt.isLive).getD false = false := by
  rw [liveAt_iff_getD, Bool.not_eq_true]

theorem liveAt_iff_live {c : Core} {i : Nat} : liveAt c i ↔ ∃ p f, c.conns[i]? = some (.live p f) := by
  unfold liveAt
  cases c.conns[i]? with
  | none => simp
  | some x => cases x <;> simp [ConnSt.isLive]

theorem pcAt_eq {s : Sys} {t : Nat} {p : Pc} : pcAt s t = some p ↔ ∃ k, s.tasks[t]? = some k ∧ k.pc = p := by
  unfold pcAt; cases s.tasks[t]? <;> simp

theorem modify_perm {α : Type} (f : α → α) : ∀ (l : List α) (t : Nat) (x : α), l[t]? = some x →
    l.Perm (x :: l.eraseIdx t) ∧ (l.modify t f).Perm (f x :: l.eraseIdx t) := by
  intro l
  induction l with
  | nil => intro t x h; simp at h
  | cons a l ih =>
    intro t x h
    cases t with
    | zero =>
      simp only [List.getElem?_cons_zero, Option.some.injEq] at h; subst h
      exact ⟨.refl _, .refl _⟩
    | succ t =>
      simp only [List.getElem?_cons_succ] at h
      obtain ⟨h1, h2⟩ := ih t x h
      exact ⟨(h1.cons a).trans (.swap ..), (h2.cons a).trans (.swap ..)⟩

/-- a background task scheduled by a block -/
def bgTask (p : Pc) : Model.Sock.Task := ⟨p, true⟩

/-- `ts'` is `ts` after a task has run a block, up to order: the rows `old` (none for a new task) have become `new`,
    the rows `rest` are as they were, the background tasks `sp` have been scheduled -/
structure Ran (ts ts' old : List Model.Sock.Task) (new : Model.Sock.Task) (sp : List Pc)
    (rest : List Model.Sock.Task) : Prop where
  before : ts.Perm (old ++ rest)
  after : ts'.Perm (new :: (rest ++ sp.map bgTask))

theorem upd_ran {s : Sys} {t : Nat} {k : Model.Sock.Task} (out : Out) (hk : s.tasks[t]? = some k) :
    Ran s.tasks (upd s t out).tasks [k] { k with pc := out.pc } out.spawned (s.tasks.eraseIdx t) :=
  have ⟨h1, h2⟩ := modify_perm (fun k : Model.Sock.Task => ({ k with pc := out.pc } : Model.Sock.Task)) s.tasks t k hk
  ⟨h1, h2.append_right (out.spawned.map bgTask)⟩

theorem spawnApi_ran (s : Sys) (out : Out) : Ran s.tasks (spawnApi s out).tasks [] ⟨out.pc, false⟩ out.spawned s.tasks :=
  ⟨.refl _, show (s.tasks ++ [(⟨out.pc, false⟩ : Model.Sock.Task)] ++ out.spawned.map bgTask).Perm _ from by
    rw [List.append_assoc]; exact List.perm_middle⟩

section
variable {ts ts' old rest : List Model.Sock.Task} {new : Model.Sock.Task} {sp : List Pc}

theorem Ran.mem_before (h : Ran ts ts' old new sp rest) {k : Model.Sock.Task} (hk : k ∈ ts) : k ∈ old ∨ k ∈ rest :=
  List.mem_append.1 (h.before.mem_iff.1 hk)

theorem Ran.rest_mem_before (h : Ran ts ts' old new sp rest) {k : Model.Sock.Task} (hk : k ∈ rest) : k ∈ ts :=
  h.before.mem_iff.2 (List.mem_append_right _ hk)

theorem Ran.rest_none (h : Ran ts ts' old new sp rest) {p : Model.Sock.Task → Bool} (hc : ts.countP p ≤ 1)
    {k0 : Model.Sock.Task} (h0 : k0 ∈ old) (hp : p k0 = true) : ∀ k ∈ rest, p k = false := by
  rw [h.before.countP_eq, List.countP_append] at hc
  have : 0 < old.countP p := List.countP_pos_iff.2 ⟨k0, h0, hp⟩
  intro k hk
  cases hx : p k with
  | false => rfl
  | true => have : 0 < rest.countP p := List.countP_pos_iff.2 ⟨k, hk, hx⟩; omega

theorem Ran.countP_rest_le (h : Ran ts ts' old new sp rest) (p : Model.Sock.Task → Bool) :
    rest.countP p ≤ ts.countP p := by
  rw [h.before.countP_eq, List.countP_append]; exact Nat.le_add_left ..

theorem Ran.new_mem (h : Ran ts ts' old new sp rest) : new ∈ ts' := h.after.mem_iff.2 List.mem_cons_self

theorem Ran.rest_mem_after (h : Ran ts ts' old new sp rest) {k : Model.Sock.Task} (hk : k ∈ rest) : k ∈ ts' :=
  h.after.mem_iff.2 (List.mem_cons_of_mem _ (List.mem_append_left _ hk))

theorem Ran.spawned_mem (h : Ran ts ts' old new sp rest) {p : Pc} (hp : p ∈ sp) : bgTask p ∈ ts' :=
  h.after.mem_iff.2 (List.mem_cons_of_mem _ (List.mem_append_right _ (List.mem_map.2 ⟨p, hp, rfl⟩)))

theorem Ran.mem_after (h : Ran ts ts' old new sp rest) {k : Model.Sock.Task} (hk : k ∈ ts') :
    k = new ∨ k ∈ rest ∨ ∃ p ∈ sp, k = bgTask p := by
  rcases List.mem_cons.1 (h.after.mem_iff.1 hk) with e | hk
  · exact .inl e
  · exact .inr ((List.mem_append.1 hk).imp id fun hk => have ⟨p, hp, e⟩ := List.mem_map.1 hk; ⟨p, hp, e.symm⟩)

theorem Ran.forall_pc (h : Ran ts ts' old new sp rest) {P : Pc → Prop} (hts : ∀ k ∈ ts, P k.pc) (hpc : P new.pc)
    (hsp : ∀ p ∈ sp, P p) : ∀ k ∈ ts', P k.pc := by
  intro k hk
  rcases h.mem_after hk with rfl | hk | ⟨p, hp, rfl⟩
  · exact hpc
  · exact hts k (h.rest_mem_before hk)
  · exact hsp p hp

theorem Ran.countP_after (h : Ran ts ts' old new sp rest) {p : Model.Sock.Task → Bool}
    (hsp : ∀ q ∈ sp, p (bgTask q) = false) :
    ts'.countP p = rest.countP p + (if p new = true then 1 else 0) := by
  have hz : (sp.map bgTask).countP p = 0 := List.countP_eq_zero.2 fun k hk => by
    obtain ⟨q, hq, rfl⟩ := List.mem_map.1 hk; simp [hsp q hq]
  rw [h.after.countP_eq, List.countP_cons, List.countP_append, hz, Nat.add_zero]

theorem Ran.sum_map (h : Ran ts ts' old new sp rest) (g : Model.Sock.Task → Nat) :
    (ts'.map g).sum + (old.map g).sum = (ts.map g).sum + g new + (sp.map fun p => g (bgTask p)).sum := by
  rw [(h.after.map g).sum_nat, (h.before.map g).sum_nat]
  simp only [List.map_cons, List.sum_cons, List.map_append, List.sum_append, List.map_map, Function.comp_def]
  omega
end

theorem modify_ran {ts : List Model.Sock.Task} {t : Nat} {k : Model.Sock.Task} (f : Model.Sock.Task → Model.Sock.Task)
    (hk : ts[t]? = some k) :
    Ran ts (ts.modify t f) [k] (f k) [] (ts.eraseIdx t) :=
  have ⟨h1, h2⟩ := modify_perm f ts t k hk
  ⟨h1, by simpa using h2⟩

theorem forall_pc_cancel {P : Pc → Prop} (ts : List Model.Sock.Task) (h : ∀ k ∈ ts, P k.pc) (hf : P .finished)
    (hc : P .cancelledOpening) : ∀ k ∈ ts.map cancelTask, P k.pc := by
  intro k hk
  obtain ⟨k0, hk0, rfl⟩ := List.mem_map.1 hk
  have := h k0 hk0
  unfold cancelTask
  split
  · split <;> first | exact hf | exact hc | exact this
  · exact this

/-- the resumed tasks whose block consists of running `exec`: program counter of the task, the answer it is resumed with, the
    core it starts from and the continuation it runs -/
inductive ExecCase (s : Sys) : Pc → Answer → Core → Kont → Prop
  | drainOk (w : Nat) (e : Entry) (r : Ret) : ExecCase s (.drainAwait w e r) .drainOk s.core (.drain r)
  | drainErr (w : Nat) (e : Entry) (r : Ret) : ¬ liveAt s.core w →
      ExecCase s (.drainAwait w e r) .drainErr (requeue s.core e) (.disconnect (.resetTail r))
  | closed (w : Nat) (r : Ret) (exc : Bool) : s.core.conns[w]? = some (.dead exc) →
      ExecCase s (.discWait w r) .go s.core (.discTail (some w) r)
  | notified (r : Ret) : ExecCase s (.notifyWait r) .go s.core (.ret r)
  | readStart : ExecCase s .readStart .go s.core (.ret .readLoop)
  | readBad (c : Nat) : ExecCase s (.readWait c) .readBad s.core (.disconnect (.resetTail .readLoop))
  | readFail (c : Nat) (a : Answer) : a = .readEof ∨ a = .readErr →
      (a = .readEof → ∃ w, s.core.rw = some w ∧ liveAt s.core w) →
      ExecCase s (.readWait c) a s.core (.disconnect (.resetTail .done))
  | gathered : (∀ k ∈ s.tasks, k.pc ≠ .cancelledOpening) → ExecCase s .closeGather .go s.core (.disconnect .closeTail)

theorem ExecCase.not_frame {s : Sys} {pc : Pc} {a : Answer} {c0 : Core} {kont : Kont} (h : ExecCase s pc a c0 kont)
    (tag : Nat) : a ≠ .readMsg tag := by
  cases h with
  | readFail c a h => rcases h with rfl | rfl <;> nofun
  | _ => nofun

theorem ExecCase.not_finished {s : Sys} {pc : Pc} {a : Answer} {c0 : Core} {kont : Kont} (h : ExecCase s pc a c0 kont) :
    pc ≠ .finished := by cases h <;> nofun

/-- a connection attempt that has not started: just spawned, or waiting for the retry timer; resuming it runs
    `connectBlock` -/
def connPc : Pc → Bool
  | .connStart | .connDelay _ => true
  | _ => false

/-- program counters of freshly scheduled background tasks -/
def spawnPc : Pc → Bool
  | .connStart | .readStart | .connDelay _ => true
  | _ => false

theorem connPc_spawnPc {p : Pc} (h : connPc p = true) : spawnPc p = true := by
  cases p <;> first | rfl | cases h

/- The cases of `fun_induction exec fuel c sp k`, in the order of the arms of `exec` in `Model/Sock.lean`:
   1 no fuel; `.drain`: 2 not connected, 3 no current transport, 4 / 5 / 6 the drain loop stopped with the queue
   empty / suspended / raised (6 does not occur: `SockDrain.drainLoop_not_raised`); `.disconnect`: 7 closes the
   current transport and suspends, 8 no current transport; `.discTail`: 9 clears `is_connected` and the transport
   and notifies, 10 the transport has been replaced; `.ret`: 11 `done`, 12 `closeTail` (logs `apiCloseDone`),
   13 `connAfterNotify`, 14 `connAfterDrain` (spawns the reader and perhaps the retry timer), 15 `resetTail`
   (spawns a connection attempt if open), 16 / 17 `readLoop` with / without a current transport.
   Cases 2, 3, 4, 6, 8, 10, 13, 15 continue with `exec` and have an induction hypothesis; the others return. -/

theorem exec_spawned (fuel : Nat) (c : Core) (sp : List Pc) (k : Kont) :
    ∀ p ∈ (exec fuel c sp k).spawned, p ∈ sp ∨ spawnPc p = true := by
  fun_induction exec fuel c sp k
  case case14 =>
    -- the end of `_connect`: the reader, and the retry timer if the connection is already gone
    intro p hp
    rcases List.mem_append.1 hp with hp | hp
    · exact (List.mem_append.1 hp).imp_right fun h => by rw [List.mem_singleton.1 h]; rfl
    · split at hp
      · exact .inr (List.mem_singleton.1 hp ▸ rfl)
      · cases hp
  case case15 ih =>
    refine fun p hp => (ih p hp).elim (fun h => ?_) .inr
    split at h
    · exact (List.mem_append.1 h).imp_right fun h => by rw [List.mem_singleton.1 h]; rfl
    · exact .inl h
  all_goals first | exact fun _ h => .inl h | assumption

theorem exec_spawned_start (c : Core) (k : Kont) : ∀ p ∈ (exec FUEL c [] k).spawned, spawnPc p = true :=
  fun p hp => (exec_spawned _ _ _ _ p hp).resolve_left List.not_mem_nil

/-- what a refused connection attempt schedules: the retry timer, or nothing -/
theorem refused_spawned {P : Pc → Prop} (b : Bool) (d : Nat) (h : P (.connDelay d)) :
    ∀ p ∈ (if b then [Pc.connDelay d] else []), P p := by
  cases b
  · exact List.forall_mem_nil _
  · exact List.forall_mem_singleton.2 h

/-- the queue and the log after the purge at the head of `_enqueue_message` -/
def purgedCore (c : Core) : Core :=
  { c with queue := purged c.now c.queue, trace := c.trace ++ purgeEvents c.now c.queue }

/-- the socket fields after `_enqueue_message` has queued and logged a message -/
def acceptedCore (c : Core) (sid r life : Nat) (ok : Bool) : Core :=
  { purgedCore c with queue := (purgedCore c).queue ++ [(⟨sid, r, c.now + life, ok, false⟩ : Entry)] }.emit
    (.accept sid c.now (c.now + life) r ok)

/-- the socket fields at the moment `close()` has cleared `_is_open` -/
def closingCore (c : Core) : Core := { c.emit (.apiClose c.now) with isOpen := false }

/-- what the environment can do to one transport: reset it, run its pending `connection_lost`, change its flags -/
inductive ConnMove : ConnSt → ConnSt → Prop
  | lost (p f : Bool) : ConnMove (.live p f) (.dying true)
  | lostRan (e : Bool) : ConnMove (.dying e) (.dead e)
  | flags (p f p' f' : Bool) : ConnMove (.live p f) (.live p' f')

/-- what all environment labels have in common -/
structure EnvRel (c c' : Core) : Prop where
  now : c.now ≤ c'.now
  isOpen : c'.isOpen = c.isOpen
  isConnected : c'.isConnected = c.isConnected
  connecting : c'.connecting = c.connecting
  rw : c'.rw = c.rw
  queue : c'.queue = c.queue
  len : c'.conns.length = c.conns.length
  conns : ∀ i : Nat, c'.conns[i]? = c.conns[i]? ∨ ∃ x y, c.conns[i]? = some x ∧ c'.conns[i]? = some y ∧ ConnMove x y
  trace : c'.trace = c.trace ∨ ∃ cid, c'.trace = c.trace ++ [.lost cid c.now]

theorem getElem?_set_cases {α : Type} {l : List α} {cid : Nat} {x : α} (y : α) (hx : l[cid]? = some x) (i : Nat) :
    (l.set cid y)[i]? = l[i]? ∨ (l[i]? = some x ∧ (l.set cid y)[i]? = some y) := by
  rw [List.getElem?_set]
  split
  · rename_i h
    subst h
    exact .inr ⟨hx, by rw [if_pos (List.getElem?_eq_some_iff.1 hx).1]⟩
  · exact .inl rfl

def isEnv : Label → Bool
  | .advance _ | .envLost _ | .envLostRan _ | .envPause _ _ | .envFailWrites _ _ => true
  | _ => false

/-- the five environment labels, on the socket fields -/
inductive EnvStep (c : Core) : Label → Core → Prop
  | advance (t : Nat) : c.now ≤ t → EnvStep c (.advance t) { c with now := t }
  | lost (cid : Nat) (p f : Bool) : c.conns[cid]? = some (.live p f) →
      EnvStep c (.envLost cid) ({ c with conns := c.conns.set cid (.dying true) }.emit (.lost cid c.now))
  | lostRan (cid : Nat) (e : Bool) : c.conns[cid]? = some (.dying e) →
      EnvStep c (.envLostRan cid) { c with conns := c.conns.set cid (.dead e) }
  | pause (cid : Nat) (b p f : Bool) : c.conns[cid]? = some (.live p f) →
      EnvStep c (.envPause cid b) { c with conns := c.conns.set cid (.live b f) }
  | failWrites (cid : Nat) (b p f : Bool) : c.conns[cid]? = some (.live p f) →
      EnvStep c (.envFailWrites cid b) { c with conns := c.conns.set cid (.live p b) }

theorem EnvStep.isEnv {c c' : Core} {l : Label} (h : EnvStep c l c') : isEnv l = true := by cases h <;> rfl

theorem EnvStep.rel {c c' : Core} {l : Label} (h : EnvStep c l c') : EnvRel c c' := by
  have set : ∀ {cid : Nat} {x : ConnSt} (y : ConnSt), c.conns[cid]? = some x → ConnMove x y → ∀ i : Nat,
      (c.conns.set cid y)[i]? = c.conns[i]? ∨
        ∃ x' y', c.conns[i]? = some x' ∧ (c.conns.set cid y)[i]? = some y' ∧ ConnMove x' y' :=
    fun y hx hm i => (getElem?_set_cases y hx i).imp id (fun ⟨h1, h2⟩ => ⟨_, _, h1, h2, hm⟩)
  cases h with
  | advance t hle => exact ⟨hle, rfl, rfl, rfl, rfl, rfl, rfl, fun _ => .inl rfl, .inl rfl⟩
  | lost cid p f hc =>
    exact ⟨Nat.le_refl _, rfl, rfl, rfl, rfl, rfl, List.length_set, set _ hc (.lost p f), .inr ⟨cid, rfl⟩⟩
  | lostRan cid e hc =>
    exact ⟨Nat.le_refl _, rfl, rfl, rfl, rfl, rfl, List.length_set, set _ hc (.lostRan e), .inl rfl⟩
  | pause cid b p f hc | failWrites cid b p f hc =>
    exact ⟨Nat.le_refl _, rfl, rfl, rfl, rfl, rfl, List.length_set, set _ hc (.flags ..), .inl rfl⟩

theorem EnvRel.live {c c' : Core} (h : EnvRel c c') (i : Nat) (hl : liveAt c' i) : liveAt c i := by
  unfold liveAt at *
  rcases h.conns i with e | ⟨x, y, hx, hy, hm⟩
  · rw [← e]; exact hl
  · rw [hy] at hl; rw [hx]
    cases hm <;> first | rfl | cases hl

theorem EnvRel.trace_ext {c c' : Core} (h : EnvRel c c') :
    ∃ evs, c'.trace = c.trace ++ evs ∧ ∀ ev ∈ evs, ∃ cid t, ev = .lost cid t := by
  rcases h.trace with e | ⟨cid, e⟩
  · exact ⟨[], by rw [e, List.append_nil], fun _ h => nomatch h⟩
  · exact ⟨_, e, fun ev hev => ⟨cid, c.now, List.mem_singleton.1 hev⟩⟩

/-- `Block s l s0 old b out`: under label `l` the rows `old` of the table of `s0` (none, and `b = false`: the new task of
    an API call; one, and `b` its `bg`: the resumed task) run the block `out` -/
inductive Block (s : Sys) : Label → Sys → List Model.Sock.Task → Bool → Out → Prop
  | openAgain : s.core.isOpen = true →
      Block s .apiOpen s [] false ⟨s.core.emit (.apiOpen s.core.now), .finished, []⟩
  | openFresh : s.core.isOpen = false →
      Block s .apiOpen s [] false
        ⟨{ s.core.emit (.apiOpen s.core.now) with isOpen := true, queue := [] }, .finished, [.connStart]⟩
  | closeAgain : s.core.isOpen = false →
      Block s .apiClose s [] false
        ⟨(s.core.emit (.apiClose s.core.now)).emit (.apiCloseDone s.core.now), .finished, []⟩
  | closeGather : s.core.isOpen = true → (∃ k ∈ s.tasks, k.bg = true ∧ k.pc ≠ .finished) →
      Block s .apiClose ⟨closingCore s.core, s.tasks.map cancelTask⟩ [] false ⟨closingCore s.core, .closeGather, []⟩
  | closeNow : s.core.isOpen = true → (∀ k ∈ s.tasks, k.bg = true → k.pc = .finished) →
      Block s .apiClose ⟨closingCore s.core, s.tasks.map cancelTask⟩ [] false
        (exec FUEL (closingCore s.core) [] (.disconnect .closeTail))
  | reset :
      Block s .apiReset s [] false
        (exec FUEL (s.core.emit (.apiReset s.core.now)) [] (.disconnect (.resetTail .done)))
  | sendClosed (sid r life : Nat) (ok : Bool) : s.core.isOpen = false →
      Block s (.apiSend sid r life ok) s [] false ⟨s.core.emit (.reject sid s.core.now .notOpen), .finished, []⟩
  | sendFull (sid r life : Nat) (ok : Bool) : s.core.isOpen = true → CAP ≤ (purged s.core.now s.core.queue).length →
      Block s (.apiSend sid r life ok) s [] false
        ⟨(purgedCore s.core).emit (.reject sid s.core.now .overflow), .finished, []⟩
  | sendOk (sid r life : Nat) (ok : Bool) : s.core.isOpen = true → (purged s.core.now s.core.queue).length < CAP →
      Block s (.apiSend sid r life ok) s [] false (exec FUEL (acceptedCore s.core sid r life ok) [] (.drain .done))
  | exec (t : Nat) (a : Answer) (k0 : Model.Sock.Task) (c0 : Core) (kont : Kont) : s.tasks[t]? = some k0 →
      ExecCase s k0.pc a c0 kont → Block s (.run t a) s [k0] k0.bg (exec FUEL c0 [] kont)
  | connect (t : Nat) (a : Answer) (k0 : Model.Sock.Task) : s.tasks[t]? = some k0 → connPc k0.pc = true → a = .go →
      (∀ due, k0.pc = .connDelay due → due ≤ s.core.now) → Block s (.run t a) s [k0] k0.bg (connectBlock s.core)
  | openOk (t : Nat) (k0 : Model.Sock.Task) : s.tasks[t]? = some k0 → k0.pc = .connOpening →
      Block s (.run t .openOk) s [k0] k0.bg
        ⟨({ s.core with conns := s.core.conns ++ [ConnSt.live false false], rw := some s.core.conns.length,
                        connecting := false, isConnected := true }.emit
            (.opened s.core.conns.length s.core.now)).emit (.notify true s.core.now),
         .notifyWait .connAfterNotify, []⟩
  | openRefused (t : Nat) (a : Answer) (k0 : Model.Sock.Task) : s.tasks[t]? = some k0 → k0.pc = .connOpening →
      a = .openRefused → Block s (.run t a) s [k0] k0.bg
        ⟨{ s.core with connecting := false }.emit (.refused s.core.now), .finished,
         if !s.core.isConnected && s.core.isOpen then [.connDelay (s.core.now + RETRY_DELAY)] else []⟩
  | cancelled (t : Nat) (a : Answer) (k0 : Model.Sock.Task) : s.tasks[t]? = some k0 → k0.pc = .cancelledOpening →
      a = .go → Block s (.run t a) s [k0] k0.bg ⟨{ s.core with connecting := false }, .finished, []⟩
  | readMsg (t : Nat) (k0 : Model.Sock.Task) (c tag : Nat) : s.tasks[t]? = some k0 → k0.pc = .readWait c →
      Block s (.run t (.readMsg tag)) s [k0] k0.bg
        ⟨s.core.emit (.deliver (s.core.rw.getD 0) tag s.core.now), .notifyWait .readLoop, []⟩
  | readEof (t : Nat) (k0 : Model.Sock.Task) (c : Nat) : s.tasks[t]? = some k0 → k0.pc = .readWait c →
      (∀ w, s.core.rw = some w → ¬ liveAt s.core w) →
      Block s (.run t .readEof) s [k0] k0.bg ⟨s.core, .finished, []⟩

theorem Block.notEnv {s s0 : Sys} {l : Label} {old : List Model.Sock.Task} {b : Bool} {out : Out}
    (h : Block s l s0 old b out) : isEnv l = false := by cases h <;> rfl

/-- A proof that knows `s0 = s` keeps `s0` a variable until it has taken the cases of the block: with `s` in its place
    the two constructors of `close()` do not unify. -/
theorem Block.start {s s0 : Sys} {l : Label} {old : List Model.Sock.Task} {b : Bool} {out : Out}
    (hb : Block s l s0 old b out) :
    s0 = s ∨ (s.core.isOpen = true ∧ s0 = ⟨closingCore s.core, s.tasks.map cancelTask⟩) := by
  cases hb with
  | closeGather ho | closeNow ho => exact .inr ⟨ho, rfl⟩
  | _ => exact .inl rfl

theorem Block.spawned {s s0 : Sys} {l : Label} {old : List Model.Sock.Task} {b : Bool} {out : Out}
    (hb : Block s l s0 old b out) : ∀ p ∈ out.spawned, spawnPc p = true := by
  cases hb with
  | openFresh => exact List.forall_mem_singleton.2 rfl
  | closeNow | reset | sendOk | exec => exact exec_spawned_start _ _
  | connect => unfold connectBlock; split <;> exact List.forall_mem_nil _
  | openRefused => exact refused_spawned _ _ rfl
  | _ => exact List.forall_mem_nil _

theorem Block.resumed {s s0 : Sys} {t : Nat} {a : Answer} {old : List Model.Sock.Task} {b : Bool} {out : Out}
    (h : Block s (.run t a) s0 old b out) : ∃ k0, s.tasks[t]? = some k0 ∧ k0.pc ≠ .finished := by
  cases h with
  | exec _ _ k0 c0 kont hk0 hc => exact ⟨k0, hk0, hc.not_finished⟩
  | connect _ _ k0 hk0 hpc | openOk _ k0 hk0 hpc | openRefused _ _ k0 hk0 hpc | cancelled _ _ k0 hk0 hpc
  | readMsg _ k0 _ _ hk0 hpc | readEof _ k0 _ hk0 hpc => exact ⟨k0, hk0, fun e => by rw [e] at hpc; cases hpc⟩

theorem run_block {s s' : Sys} {t : Nat} {a : Answer} (h : step s (.run t a) = some s') :
    ∃ k0 out, s.tasks[t]? = some k0 ∧ Block s (.run t a) s [k0] k0.bg out ∧ s' = upd s t out := by
  simp only [step] at h
  split at h
  case h_16 => cases h
  all_goals (rename_i heq; rw [pcAt_eq] at heq; obtain ⟨k0, hk0, hpc⟩ := heq)
  -- arm: connDelay, go
  · split at h
    · rename_i hd; cases h
      exact ⟨k0, _, hk0, .connect t _ k0 hk0 (by rw [hpc]; rfl) rfl (fun d e => by rw [hpc] at e; cases e; exact hd), rfl⟩
    · cases h
  -- arm: connStart, go
  · cases h
    exact ⟨k0, _, hk0, .connect t _ k0 hk0 (by rw [hpc]; rfl) rfl (fun d e => by rw [hpc] at e; cases e), rfl⟩
  -- arm: connOpening, openOk
  · cases h; exact ⟨k0, _, hk0, .openOk t k0 hk0 hpc, rfl⟩
  -- arm: connOpening, openRefused
  · cases h; exact ⟨k0, _, hk0, .openRefused t _ k0 hk0 hpc rfl, rfl⟩
  -- arm: cancelledOpening, go
  · cases h; exact ⟨k0, _, hk0, .cancelled t _ k0 hk0 hpc rfl, rfl⟩
  -- arm: drainAwait, drainOk
  · cases h; exact ⟨k0, _, hk0, .exec t _ k0 _ _ hk0 (hpc ▸ .drainOk _ _ _), rfl⟩
  -- arm: drainAwait, drainErr
  · split at h
    · cases h
    · rename_i hl
      cases h
      refine ⟨k0, _, hk0, .exec t _ k0 _ _ hk0 (hpc ▸ .drainErr _ _ _ ?_), rfl⟩
      intro hlive; unfold liveAt at hlive; rw [hlive] at hl; exact hl rfl
  -- arm: discWait, go
  · split at h
    · rename_i exc hd; cases h; exact ⟨k0, _, hk0, .exec t _ k0 _ _ hk0 (hpc ▸ .closed _ _ exc hd), rfl⟩
    · cases h
  -- arm: notifyWait, go
  · cases h; exact ⟨k0, _, hk0, .exec t _ k0 _ _ hk0 (hpc ▸ .notified _), rfl⟩
  -- arm: readStart, go
  · cases h; exact ⟨k0, _, hk0, .exec t _ k0 _ _ hk0 (hpc ▸ .readStart), rfl⟩
  -- arm: readWait, readMsg
  · cases h; exact ⟨k0, _, hk0, .readMsg t k0 _ _ hk0 hpc, rfl⟩
  -- arm: readWait, readBad
  · cases h; exact ⟨k0, _, hk0, .exec t _ k0 _ _ hk0 (hpc ▸ .readBad _), rfl⟩
  -- arm: readWait, readEof
  · split at h
    · split at h
      · rename_i w hw hl; cases h
        exact ⟨k0, _, hk0, .exec t _ k0 _ _ hk0 (hpc ▸ .readFail _ _ (.inl rfl) fun _ => ⟨w, hw, liveAt_iff_getD.2 hl⟩), rfl⟩
      · rename_i w hw hl
        cases h
        refine ⟨k0, _, hk0, .readEof t k0 _ hk0 hpc ?_, rfl⟩
        intro w' hw' hlive
        rw [hw] at hw'; cases hw'
        unfold liveAt at hlive; rw [hlive] at hl; exact hl rfl
    · rename_i hw
      cases h
      refine ⟨k0, _, hk0, .readEof t k0 _ hk0 hpc ?_, rfl⟩
      intro w' hw'; rw [hw] at hw'; cases hw'
  -- arm: readWait, readErr
  · cases h; exact ⟨k0, _, hk0, .exec t _ k0 _ _ hk0 (hpc ▸ .readFail _ _ (.inr rfl) nofun), rfl⟩
  -- arm: closeGather, go
  · split at h
    · cases h
    · rename_i hc; cases h
      refine ⟨k0, _, hk0, .exec t _ k0 _ _ hk0 (hpc ▸ .gathered fun k hk e => hc ?_), rfl⟩
      simp only [anyCancelPending, List.any_eq_true]
      exact ⟨k, hk, by simp [e]⟩

theorem step_block {s s' : Sys} {l : Label} (h : step s l = some s') :
    (∃ c', s' = { s with core := c' } ∧ EnvStep s.core l c') ∨
    ∃ s0 old b out rest ts', Block s l s0 old b out ∧ s' = ⟨out.core, ts'⟩ ∧
      Ran s0.tasks ts' old ⟨out.pc, b⟩ out.spawned rest := by
  have open_iff : ∀ e, (s.core.emit e).isOpen = s.core.isOpen := fun _ => rfl
  have api : ∀ {s0 : Sys} {out : Out}, Block s l s0 [] false out →
      ∃ s1 old b out' rest ts', Block s l s1 old b out' ∧ spawnApi s0 out = ⟨out'.core, ts'⟩ ∧
        Ran s1.tasks ts' old ⟨out'.pc, b⟩ out'.spawned rest :=
    fun hb => ⟨_, _, _, _, _, _, hb, rfl, spawnApi_ran _ _⟩
  cases l with
  | advance t =>
    simp only [step] at h
    split at h
    · rename_i ht; cases h; exact .inl ⟨_, rfl, .advance t ht⟩
    · cases h
  | envLost cid =>
    simp only [step] at h
    split at h
    · rename_i p f hc; cases h; exact .inl ⟨_, rfl, .lost cid p f hc⟩
    · cases h
  | envLostRan cid =>
    simp only [step] at h
    split at h
    · rename_i e hc; cases h; exact .inl ⟨_, rfl, .lostRan cid e hc⟩
    · cases h
  | envPause cid b =>
    simp only [step] at h
    split at h
    · rename_i p f hc; cases h; exact .inl ⟨_, rfl, .pause cid b p f hc⟩
    · cases h
  | envFailWrites cid b =>
    simp only [step] at h
    split at h
    · rename_i p f hc; cases h; exact .inl ⟨_, rfl, .failWrites cid b p f hc⟩
    · cases h
  | apiOpen =>
    simp only [step, open_iff] at h
    split at h
    · rename_i ho; cases h; exact .inr (api (.openAgain ho))
    · rename_i ho; cases h; exact .inr (api (.openFresh (by simpa using ho)))
  | apiClose =>
    simp only [step, open_iff] at h
    split at h
    · rename_i ho; cases h; exact .inr (api (.closeAgain (by simpa using ho)))
    · rename_i ho
      have ho : s.core.isOpen = true := by simpa using ho
      split at h
      · rename_i hbg; cases h; exact .inr (api (.closeGather ho (by simpa using hbg)))
      · rename_i hbg; cases h; exact .inr (api (.closeNow ho (by simpa using hbg)))
  | apiReset => cases h; exact .inr (api .reset)
  | apiSend sid r life ok =>
    simp only [step] at h
    split at h
    · rename_i ho; cases h; exact .inr (api (.sendClosed sid r life ok (by simpa using ho)))
    · rename_i ho
      have ho : s.core.isOpen = true := by simpa using ho
      split at h
      · rename_i hcap; cases h; exact .inr (api (.sendFull sid r life ok ho hcap))
      · rename_i hcap; cases h; exact .inr (api (.sendOk sid r life ok ho (Nat.lt_of_not_le hcap)))
  | run t a =>
    obtain ⟨k0, out, hk0, hb, rfl⟩ := run_block h
    exact .inr ⟨_, _, _, _, _, _, hb, rfl, upd_ran _ hk0⟩

theorem step_block_of {s s' : Sys} {l : Label} (hl : isEnv l = false) (h : step s l = some s') :
    ∃ s0 old b out rest ts', Block s l s0 old b out ∧ s' = ⟨out.core, ts'⟩ ∧
      Ran s0.tasks ts' old ⟨out.pc, b⟩ out.spawned rest :=
  (step_block h).resolve_left fun ⟨_, _, e⟩ => Bool.noConfusion (hl.symm.trans e.isEnv)

open PyAirtouch.Lemmas.RunWith in
theorem run_eq : run = runW always step := by
  funext s ls
  induction ls generalizing s with
  | nil => rfl
  | cons l ls ih => simp only [run, runW, always, ↓reduceIte, ih]

theorem run_inv {P : Sys → Prop} (hstep : ∀ s l s', P s → step s l = some s' → P s')
    (ls : List Label) (s s' : Sys) (hp : P s) (h : run s ls = some s') : P s' :=
  RunWith.runW_induction (P := fun _ s => P s) hp (fun _ m l m' _ hpm _ hst => hstep m l m' hpm hst) ls s'
    (run_eq ▸ h)

end PyAirtouch.Lemmas.SockConn
