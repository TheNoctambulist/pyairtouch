import PyAirtouch.Lemmas.SockStepRel
import PyAirtouch.Lemmas.SockDrain
/-!
# What one block does to the socket fields; connection-level invariants

The file has two parts (its namespace begins in `SockStepRel.lean`).

The first is used by every file about the socket model.  What one block (`exec`) may do to the socket's own fields
is a sequence of primitive changes (`Ops`, `exec_ops`); `Shrink` and `Frame` are the two weaker summaries most users
need (which fields are unchanged, and that no transport becomes live; `exec_frame`), and `exec_pc` and `exec_api`
say where a block stops and which tasks it spawns.  Proofs by `fun_induction exec` name
their cases by number; the key is at `exec_spawned` (in `SockStepRel.lean`).

The second part is the invariants behind C07 and C15, each proved once per kind of change and once for the task table
after a block: a structure that says what the block must supply (`InvBlock`, `CInvBlock`, `ClosedBlock`) with its lemma
`.ran` on `Ran`; the step theorems take the step in block normal form (`step_block`) and
supply it per block.  `Inv` (every reachable state) says which transport is held open and who is inside
`open_connection`; `CInv` and `ClosedState` describe `close()` under the calling discipline "no `open_socket()` /
`close()` while a `close()` is in progress", from which the specification's C15 monitor accepts every trace.
-/
namespace PyAirtouch.Lemmas.SockConn
open PyAirtouch.Model.Sock PyAirtouch.Spec.Trace

/-- the part of `Inv` that speaks of the socket's own fields only; every block keeps it -/
structure CoreInv (c : Core) : Prop where
  live_rw : ∀ i, liveAt c i → c.rw = some i
  conn_rw : c.isConnected = c.rw.isSome
  connecting : c.connecting = true → c.isConnected = false

/-- `c'` differs from `c` only by queue / trace changes and connections that stopped being live -/
structure Shrink (c c' : Core) : Prop where
  now : c'.now = c.now
  isOpen : c'.isOpen = c.isOpen
  isConnected : c'.isConnected = c.isConnected
  connecting : c'.connecting = c.connecting
  rw : c'.rw = c.rw
  len : c'.conns.length = c.conns.length
  live : ∀ i, liveAt c' i → liveAt c i

theorem Shrink.refl (c : Core) : Shrink c c := ⟨rfl, rfl, rfl, rfl, rfl, rfl, fun _ h => h⟩

theorem Shrink.trans {a b c : Core} (h1 : Shrink a b) (h2 : Shrink b c) : Shrink a c :=
  ⟨h2.now.trans h1.now, h2.isOpen.trans h1.isOpen, h2.isConnected.trans h1.isConnected,
   h2.connecting.trans h1.connecting, h2.rw.trans h1.rw, h2.len.trans h1.len,
   fun i h => h1.live i (h2.live i h)⟩

theorem shrink_emit (c : Core) (e : Ev) : Shrink c (c.emit e) := ⟨rfl, rfl, rfl, rfl, rfl, rfl, fun _ h => h⟩

theorem liveAt_set_notLive (c : Core) (w i : Nat) (x : ConnSt) (hx : x.isLive = false)
    (h : liveAt { c with conns := c.conns.set w x } i) : liveAt c i ∧ i ≠ w := by
  unfold liveAt at *
  simp only [List.getElem?_set] at h
  grind

/-- like `Shrink`, but the client may also have let go of its current connection -/
structure Frame (c c' : Core) : Prop where
  now : c'.now = c.now
  isOpen : c'.isOpen = c.isOpen
  connecting : c'.connecting = c.connecting
  len : c'.conns.length = c.conns.length
  live : ∀ i, liveAt c' i → liveAt c i
  rw : c'.rw = c.rw ∨ c'.rw = none
  isConnected : c'.isConnected = c.isConnected ∨ c'.isConnected = false

theorem Shrink.frame {c c' : Core} (h : Shrink c c') : Frame c c' :=
  ⟨h.now, h.isOpen, h.connecting, h.len, h.live, .inl h.rw, .inl h.isConnected⟩

theorem Frame.refl (c : Core) : Frame c c := (Shrink.refl c).frame

theorem Frame.trans {a b c : Core} (h1 : Frame a b) (h2 : Frame b c) : Frame a c :=
  ⟨h2.now.trans h1.now, h2.isOpen.trans h1.isOpen, h2.connecting.trans h1.connecting, h2.len.trans h1.len,
   fun i h => h1.live i (h2.live i h),
   by rcases h2.rw with h | h
      · rw [h]; exact h1.rw
      · exact .inr h,
   by rcases h2.isConnected with h | h
      · rw [h]; exact h1.isConnected
      · exact .inr h⟩

/-! ### what one block may do to the socket fields -/

/-- continuations of `send`, `reset_connection` and `close` -/
def apiRet : Ret → Bool
  | .done | .closeTail => true
  | .resetTail r => apiRet r
  | _ => false

/-- continuations that end in the tail of `close` -/
def closeRet : Ret → Bool
  | .closeTail => true
  | .resetTail r => closeRet r
  | _ => false

def apiPc : Pc → Bool
  | .drainAwait _ _ r => apiRet r && !closeRet r
  | .discWait _ r | .notifyWait r => apiRet r
  | .closeGather | .finished => true
  | _ => false

/-- the task is executing `close` -/
def closePc : Pc → Bool
  | .drainAwait _ _ r | .discWait _ r | .notifyWait r => closeRet r
  | .closeGather => true
  | _ => false

def kApi : Kont → Bool
  | .drain r => apiRet r && !closeRet r
  | .ret r | .disconnect r | .discTail _ r => apiRet r

def kClose : Kont → Bool
  | .drain r | .ret r | .disconnect r | .discTail _ r => closeRet r

def openStep (s : List Nat) : Ev → List Nat
  | .opened c _ => s ++ [c]
  | .clientClose c _ | .lost c _ => s.filter (· ≠ c)
  | _ => s

/-- events that do not change the set of open connections -/
def neutralEv : Ev → Bool
  | .opened _ _ | .clientClose _ _ | .lost _ _ => false
  | _ => true

/-- events that matter to `closedNow` / `closing` -/
def apiEv : Ev → Bool
  | .apiOpen _ | .apiClose _ | .apiCloseDone _ => true
  | _ => false

/-- The code between two suspension points changes the socket fields by a sequence of primitive steps of
    four kinds: it logs an event that concerns neither the `open_socket` / `close` status nor the set of
    open transports; it lets go of a transport and logs that; it replaces the queue; and, where `x` is set
    (the tail of a disconnect), it clears `is_connected` and the current transport.  What a block
    preserves is proved once per kind of step. -/
inductive Ops : Bool → Core → Core → Prop
  | refl {x : Bool} (c : Core) : Ops x c c
  | trans {x : Bool} {a b c : Core} : Ops x a b → Ops x b c → Ops x a c
  | log {x : Bool} (c : Core) (e : Ev) : apiEv e = false → neutralEv e = true → Ops x c (c.emit e)
  | kill {x : Bool} (c : Core) (w : Nat) (y : ConnSt) (e : Ev) : y.isLive = false → apiEv e = false →
      (∀ s, openStep s e = s.filter (· ≠ w)) → Ops x c ({ c with conns := c.conns.set w y }.emit e)
  | queue {x : Bool} (c : Core) (q : List Entry) : Ops x c { c with queue := q }
  | drop (c : Core) : Ops true c { c with isConnected := false, rw := none }

theorem ops_drainLoop' {x : Bool} {c c' : Core} {w : Nat} {q : List Entry} {st : DrainStop}
    (h : drainLoop c w q = (c', st)) : Ops x c c' := by
  have := SockDrain.drainLoop_induction w (motive := fun c _ r => Ops x c r.1) (fun c => .queue c [])
    (fun c e rest _ => .queue c _) (fun c e rest why r _ ih => (Ops.log c _ rfl rfl).trans ih)
    (fun c e rest r _ _ ih => (Ops.log c _ rfl rfl).trans ih)
    (fun c e rest _ _ => (Ops.log c _ rfl rfl).trans (.queue _ rest))
    (fun c e rest p _ _ => ((Ops.log c (.writeFault w e.sid c.now) rfl rfl).trans
      (.kill _ w (.dying true) (.lost w c.now) rfl rfl (fun _ => rfl))).trans (.queue _ rest)) q c
  rwa [h] at this

theorem ops_requeue {x : Bool} (c : Core) (e : Entry) : Ops x c (requeue c e) := by
  unfold requeue; split
  · exact .log _ _ rfl rfl
  · exact .queue c _

theorem ops_closeConn {x : Bool} (c : Core) (w : Nat) : Ops x c (closeConn c w) := by
  unfold closeConn; split
  · exact .kill c w (.dying false) (.clientClose w c.now) rfl rfl (fun _ => rfl)
  · exact .refl _

/-- `exec` logs the return of `close()`, if it gets that far, last of all -/
theorem exec_ops (fuel : Nat) (c : Core) (sp : List Pc) (k : Kont) :
    ∃ c1, Ops true c c1 ∧ ((exec fuel c sp k).core = c1 ∨
      (kClose k = true ∧ (exec fuel c sp k).core = c1.emit (.apiCloseDone c1.now))) := by
  have pre : ∀ {a b : Core} {P : Core → Prop}, Ops true a b → (∃ c1, Ops true b c1 ∧ P c1) → ∃ c1, Ops true a c1 ∧ P c1 :=
    fun h ⟨c1, h1, h2⟩ => ⟨c1, h.trans h1, h2⟩
  fun_induction exec fuel c sp k
  case case4 c' hd ih => exact pre (ops_drainLoop' hd) ih
  case case5 c' e hd => exact ⟨_, ops_drainLoop' hd, .inl rfl⟩
  case case6 hd _ => exact absurd hd SockDrain.drainLoop_not_raised
  case case7 => exact ⟨_, ops_closeConn _ _, .inl rfl⟩
  case case9 => exact ⟨_, (Ops.drop _).trans (.log _ (.notify false _) rfl rfl), .inl rfl⟩
  case case12 => exact ⟨_, .refl _, .inr ⟨rfl, rfl⟩⟩
  all_goals first | exact ⟨_, .refl _, .inl rfl⟩ | (rename_i ih; exact ih)

theorem Ops.frame {x : Bool} {c c' : Core} (h : Ops x c c') :
    Frame c c' ∧ (x = false → c'.rw = c.rw ∧ c'.isConnected = c.isConnected) := by
  induction h with
  | refl c => exact ⟨Frame.refl c, fun _ => ⟨rfl, rfl⟩⟩
  | trans _ _ ih1 ih2 =>
    exact ⟨ih1.1.trans ih2.1, fun hx => ⟨(ih2.2 hx).1.trans (ih1.2 hx).1, (ih2.2 hx).2.trans (ih1.2 hx).2⟩⟩
  | log c e _ _ => exact ⟨(shrink_emit c e).frame, fun _ => ⟨rfl, rfl⟩⟩
  | kill c w y e hy _ _ =>
    exact ⟨⟨rfl, rfl, rfl, List.length_set .., fun i h => (liveAt_set_notLive c w i y hy h).1, .inl rfl, .inl rfl⟩,
      fun _ => ⟨rfl, rfl⟩⟩
  | queue c q => exact ⟨⟨rfl, rfl, rfl, rfl, fun _ h => h, .inl rfl, .inl rfl⟩, fun _ => ⟨rfl, rfl⟩⟩
  | drop c => exact ⟨⟨rfl, rfl, rfl, rfl, fun _ h => h, .inr rfl, .inr rfl⟩, nofun⟩

theorem Ops.shrink {c c' : Core} (h : Ops false c c') : Shrink c c' :=
  have ⟨f, e⟩ := h.frame
  ⟨f.now, f.isOpen, (e rfl).2, f.connecting, (e rfl).1, f.len, f.live⟩

def Ext (p : Ev → Prop) (c c' : Core) : Prop := ∃ evs, c'.trace = c.trace ++ evs ∧ ∀ e ∈ evs, p e

theorem Ext.of_trace_eq {p : Ev → Prop} {c c' : Core} (h : c'.trace = c.trace) : Ext p c c' :=
  ⟨[], by rw [h, List.append_nil], List.forall_mem_nil _⟩

theorem Ext.refl {p : Ev → Prop} (c : Core) : Ext p c c := .of_trace_eq rfl

theorem Ext.single {p : Ev → Prop} {c c' : Core} {e : Ev} (h : c'.trace = c.trace ++ [e]) (he : p e) : Ext p c c' :=
  ⟨[e], h, fun _ h' => List.mem_singleton.1 h' ▸ he⟩

theorem Ext.trans {p : Ev → Prop} {a b c : Core} : Ext p a b → Ext p b c → Ext p a c
  | ⟨e1, h1, q1⟩, ⟨e2, h2, q2⟩ =>
    ⟨e1 ++ e2, by rw [h2, h1, List.append_assoc], fun e he => (List.mem_append.1 he).elim (q1 e) (q2 e)⟩

theorem Ops.trace {x : Bool} {c c' : Core} (h : Ops x c c') : Ext (apiEv · = false) c c' := by
  induction h with
  | trans _ _ ih1 ih2 => exact ih1.trans ih2
  | log c e he _ => exact .single rfl he
  | kill c w y e _ he _ => exact .single rfl he
  | _ => exact .refl _

theorem shrink_drainLoop' {c c' : Core} {w : Nat} {q : List Entry} {st : DrainStop}
    (h : drainLoop c w q = (c', st)) : Shrink c c' := (ops_drainLoop' h).shrink

theorem shrink_requeue (c : Core) (e : Entry) : Shrink c (requeue c e) := (ops_requeue c e).shrink

theorem shrink_closeConn (c : Core) (w : Nat) : Shrink c (closeConn c w) := (ops_closeConn c w).shrink

theorem exec_frame (fuel : Nat) (c : Core) (sp : List Pc) (k : Kont) : Frame c (exec fuel c sp k).core := by
  obtain ⟨c1, h, e | ⟨_, e⟩⟩ := exec_ops fuel c sp k <;> rw [e]
  · exact h.frame.1
  · exact h.frame.1.trans (shrink_emit _ _).frame

theorem closeConn_notLive (c : Core) (w : Nat) : ¬ liveAt (closeConn c w) w := by
  unfold closeConn; split
  · intro h; exact (liveAt_set_notLive c w w (.dying false) rfl h).2 rfl
  · rename_i h; unfold liveAt; intro h'
    cases hc : c.conns[w]? with
    | none => simp [hc] at h'
    | some x => cases x <;> simp_all [ConnSt.isLive]

theorem CoreInv.shrink {c c' : Core} (h : CoreInv c) (hs : Shrink c c') : CoreInv c' :=
  ⟨fun i hi => by rw [hs.rw]; exact h.live_rw i (hs.live i hi),
   by rw [hs.isConnected, hs.rw]; exact h.conn_rw,
   by rw [hs.isConnected, hs.connecting]; exact h.connecting⟩

/-- side condition on the continuation: a disconnect that resumes after `wait_closed(w)` relies on
    `w` not being held open -/
def KontOk (c : Core) : Kont → Prop
  | .discTail (some w) _ => ¬ liveAt c w
  | _ => True

theorem exec_inv (fuel : Nat) (c : Core) (sp : List Pc) (k : Kont) (h : CoreInv c) (hk : KontOk c k) :
    CoreInv (exec fuel c sp k).core := by
  fun_induction exec fuel c sp k
  case case4 c' hd ih =>
    exact ih (h.shrink (shrink_drainLoop' hd)) trivial
  case case5 c' e hd => exact h.shrink (shrink_drainLoop' hd)
  case case6 hd _ => exact absurd hd SockDrain.drainLoop_not_raised
  case case7 => exact h.shrink (shrink_closeConn _ _)
  case case9 =>
    refine ⟨?_, rfl, fun _ => rfl⟩
    intro i hi
    have hi' : liveAt _ i := hi
    have hrw := h.live_rw i hi'
    rw [hrw] at hk
    exact absurd hi' hk
  all_goals first | exact h | exact h.shrink (shrink_emit _ _) | (rename_i ih; exact ih h trivial)

/-- program counters at which `exec` can leave a task -/
def suspPc : Pc → Bool
  | .drainAwait _ _ _ | .discWait _ _ | .notifyWait _ | .readWait _ | .finished => true
  | _ => false

theorem exec_pc (fuel : Nat) (c : Core) (sp : List Pc) (k : Kont) : suspPc (exec fuel c sp k).pc = true := by
  fun_induction exec fuel c sp k <;> first | rfl | assumption

/-- a block run by an API call ends at a program counter of an API call, and schedules nothing but a
    reconnect (`resetTail`, on an open socket): the continuation keeps its kind down every path, and the
    paths that start the reader or the retry timer belong to the connect task -/
theorem exec_api (fuel : Nat) (c : Core) (sp : List Pc) (k : Kont) (hk : kApi k = true) :
    apiPc (exec fuel c sp k).pc = true ∧
      ∀ p ∈ (exec fuel c sp k).spawned, p ∈ sp ∨ (p = .connStart ∧ c.isOpen = true) := by
  have hdrain : ∀ {r : Ret}, kApi (.drain r) = true → apiRet r = true := fun h => (Bool.and_eq_true_iff.1 h).1
  fun_induction exec fuel c sp k
  case case2 ih | case3 ih => exact ih (hdrain hk)
  case case4 c' hd ih => rw [← (shrink_drainLoop' hd).isOpen]; exact ih (hdrain hk)
  case case6 hd _ => exact absurd hd SockDrain.drainLoop_not_raised
  case case15 ih =>
    obtain ⟨h1, h2⟩ := ih hk
    refine ⟨h1, fun p hp => (h2 p hp).elim (fun h => ?_) .inr⟩
    split at h
    · exact (List.mem_append.1 h).imp_right fun h => ⟨List.mem_singleton.1 h, ‹_›⟩
    · exact .inl h
  all_goals first
    | exact ⟨hk, fun _ h => .inl h⟩ | exact ⟨rfl, fun _ h => .inl h⟩
    | (rename_i ih; exact ih hk) | cases hk

theorem exec_api_spawn {c : Core} {k : Kont} (hk : kApi k = true) :
    (∀ p ∈ (exec FUEL c [] k).spawned, p = .connStart) ∧ (c.isOpen = false → (exec FUEL c [] k).spawned = []) :=
  have h := fun p hp => ((exec_api FUEL c [] k hk).2 p hp).resolve_left List.not_mem_nil
  ⟨fun p hp => (h p hp).1, fun ho => List.eq_nil_iff_forall_not_mem.2 fun p hp =>
    Bool.noConfusion (ho.symm.trans (h p hp).2)⟩

/-- `closeRet` sees through `resetTail`, so every path of `exec` hands the status of its continuation on
    unchanged: to the program counter it stops at, or to the continuation it goes on with -/
theorem exec_noClose (fuel : Nat) (c : Core) (sp : List Pc) (k : Kont) (hk : kClose k = false) :
    closePc (exec fuel c sp k).pc = false := by
  fun_induction exec fuel c sp k <;> first | exact hk | rfl | (rename_i ih; exact ih hk)

/-! ### the system invariant (every reachable state) -/

/-- program counters inside `open_connection` (possibly with a cancellation pending) -/
def openingPc : Pc → Bool
  | .connOpening | .cancelledOpening => true
  | _ => false

/-- what `close()` leaves of a background task -/
def cancelledPc : Pc → Bool
  | .finished | .cancelledOpening => true
  | _ => false

def opening (k : Task) : Bool := openingPc k.pc

/-- `count`: `_connecting` is set exactly while a task is inside `open_connection`, and at most one task is -/
structure Inv (s : Sys) : Prop where
  core : CoreInv s.core
  count : s.tasks.countP opening = s.core.connecting.toNat
  api_mem : ∀ k ∈ s.tasks, k.bg = false → apiPc k.pc = true
  closed_mem : s.core.isOpen = false → ∀ k ∈ s.tasks, k.bg = true → cancelledPc k.pc = true

theorem Inv.opening_connecting {s : Sys} (h : Inv s) {k : Model.Sock.Task} (hk : k ∈ s.tasks)
    (hop : openingPc k.pc = true) : s.core.connecting = true := by
  have hpos : 0 < s.tasks.countP opening := List.countP_pos_iff.2 ⟨k, hk, hop⟩
  cases hc : s.core.connecting with
  | true => rfl
  | false => exact absurd (h.count.trans (by rw [hc]; rfl)) (Nat.ne_of_gt hpos)

theorem Inv.connecting_opening {s : Sys} (h : Inv s) (hc : s.core.connecting = true) :
    ∃ k ∈ s.tasks, openingPc k.pc = true := by
  have hpos : 0 < s.tasks.countP opening := by rw [h.count, hc]; exact Nat.one_pos
  exact List.countP_pos_iff.1 hpos

theorem index_unique {α : Type} (p : α → Bool) : ∀ (l : List α) (i j : Nat) (a b : α), l.countP p ≤ 1 →
    l[i]? = some a → l[j]? = some b → p a = true → p b = true → i = j := by
  intro l
  induction l with
  | nil => intro i j a b _ h; simp at h
  | cons x xs ih =>
    intro i j a b hc hi hj ha hb
    have none : ∀ {n : Nat} {y : α}, p x = true → xs[n]? = some y → p y = true → False := fun hx hn hy => by
      have : 0 < xs.countP p := List.countP_pos_iff.2 ⟨_, List.mem_of_getElem? hn, hy⟩
      rw [List.countP_cons_of_pos hx] at hc; omega
    cases i with
    | zero =>
      cases j with
      | zero => rfl
      | succ j => exact (none (by simp at hi; exact hi ▸ ha) (by simpa using hj) hb).elim
    | succ i =>
      cases j with
      | zero => exact (none (by simp at hj; exact hj ▸ hb) (by simpa using hi) ha).elim
      | succ j =>
        exact congrArg _ (ih i j a b (Nat.le_trans (List.countP_cons .. ▸ Nat.le_add_right ..) hc) (by simpa using hi)
          (by simpa using hj) ha hb)

theorem Inv.opening_unique {s : Sys} (h : Inv s) (i j : Nat) (k k' : Model.Sock.Task) (hk : s.tasks[i]? = some k)
    (hk' : s.tasks[j]? = some k') (hop : openingPc k.pc = true) (hop' : openingPc k'.pc = true) : i = j :=
  index_unique opening s.tasks i j k k' (by rw [h.count]; cases s.core.connecting <;> decide) hk hk' hop hop'

theorem spawnPc_not_opening {p : Pc} (h : spawnPc p = true) : openingPc p = false := by
  cases p <;> simp_all [spawnPc, openingPc]

theorem bg_of_not_api {s : Sys} {k0 : Task} (hinv : Inv s) (hk : k0 ∈ s.tasks) (h : apiPc k0.pc = false) :
    k0.bg = true := by
  cases hb : k0.bg with
  | true => rfl
  | false => have := hinv.api_mem k0 hk hb; rw [h] at this; cases this

theorem spawnPc_not_api {p : Pc} (h : spawnPc p = true) : apiPc p = false := by
  cases p <;> first | rfl | cases h

theorem openingPc_not_api {p : Pc} (h : openingPc p = true) : apiPc p = false := by
  cases p <;> first | rfl | cases h

theorem suspPc_not_opening {p : Pc} (h : suspPc p = true) : openingPc p = false := by
  cases p <;> simp_all [suspPc, openingPc]

/-- what `Inv` asks of a block that starts in `s`, run by the rows `old` (with `bg = b`); `count`: it changes
    `_connecting` exactly as the task enters or leaves `open_connection` -/
structure InvBlock (s : Sys) (old : List Task) (b : Bool) (out : Out) : Prop where
  core : CoreInv out.core
  count : (openingPc out.pc).toNat + s.core.connecting.toNat = old.countP opening + out.core.connecting.toNat
  api : b = false → apiPc out.pc = true
  closed : out.core.isOpen = false → s.core.isOpen = false ∧ (b = true → cancelledPc out.pc = true) ∧ out.spawned = []

theorem InvBlock.ran {s : Sys} {out : Out} {ts' old rest : List Task} {b : Bool} (hf : InvBlock s old b out) (h : Inv s)
    (hran : Ran s.tasks ts' old ⟨out.pc, b⟩ out.spawned rest) (hsp : ∀ p ∈ out.spawned, spawnPc p = true) :
    Inv ⟨out.core, ts'⟩ := by
  refine ⟨hf.core, ?_, ?_, ?_⟩
  · have hc := h.count
    have hcount := hf.count
    rw [hran.before.countP_eq, List.countP_append] at hc
    show ts'.countP opening = out.core.connecting.toNat
    rw [hran.countP_after fun q hq => spawnPc_not_opening (hsp q hq), show opening ⟨out.pc, b⟩ = openingPc out.pc from rfl]
    revert hcount
    cases openingPc out.pc <;> simp <;> omega
  · intro k hk hb
    rcases hran.mem_after hk with rfl | hk | ⟨p, _, rfl⟩
    · exact hf.api hb
    · exact h.api_mem k (hran.rest_mem_before hk) hb
    · cases hb
  · intro ho k hk hb
    rcases hran.mem_after hk with rfl | hk | ⟨p, hp, rfl⟩
    · exact (hf.closed ho).2.1 hb
    · exact h.closed_mem (hf.closed ho).1 k (hran.rest_mem_before hk) hb
    · rw [(hf.closed ho).2.2] at hp; cases hp

theorem shrink_set (c : Core) (w : Nat) (x : ConnSt) (h : x.isLive = true → liveAt c w) :
    Shrink c { c with conns := c.conns.set w x } := by
  refine ⟨rfl, rfl, rfl, rfl, rfl, by simp, ?_⟩
  intro i hi
  unfold liveAt at *
  simp only [List.getElem?_set] at hi
  grind

theorem CoreInv.none_live {c : Core} (h : CoreInv c) (hc : c.connecting = true) (i : Nat) : ¬ liveAt c i := by
  intro hi
  have h1 := h.conn_rw
  rw [h.connecting hc, h.live_rw i hi] at h1
  cases h1

theorem coreInv_openOk {c : Core} (h : CoreInv c) (hc : c.connecting = true) (evs : List Ev) :
    CoreInv { c with conns := c.conns ++ [ConnSt.live false false], rw := some c.conns.length, connecting := false,
                     isConnected := true, trace := evs } := by
  refine ⟨?_, rfl, fun h => by cases h⟩
  intro i hi
  unfold liveAt at hi
  simp only [List.getElem?_append] at hi
  split at hi
  · exact (h.none_live hc i hi).elim
  · rename_i hge
    cases hlen : i - c.conns.length with
    | zero => show some c.conns.length = some i; congr 1; omega
    | succ m => simp [hlen] at hi

theorem cancelTask_spec (k : Task) :
    (cancelTask k).bg = k.bg ∧ openingPc (cancelTask k).pc = openingPc k.pc ∧
    (k.bg = false → cancelTask k = k) ∧ (k.bg = true → cancelledPc (cancelTask k).pc = true) := by
  obtain ⟨pc, bg⟩ := k
  cases bg <;> cases pc <;> simp [cancelTask, openingPc, cancelledPc]

theorem inv_cancel {s : Sys} {c' : Core} (hinv : Inv s) (hs : Shrink s.core c') :
    Inv { core := { c' with isOpen := false }, tasks := s.tasks.map cancelTask } := by
  have hci := hinv.core.shrink hs
  refine ⟨⟨hci.live_rw, hci.conn_rw, hci.connecting⟩, ?_, ?_, ?_⟩
  · show (s.tasks.map cancelTask).countP opening = c'.connecting.toNat
    rw [List.countP_map, hs.connecting, ← hinv.count]
    exact List.countP_congr fun k _ => by simp [opening, (cancelTask_spec k).2.1]
  · intro k hk hb
    obtain ⟨k1, hk1, rfl⟩ := List.mem_map.1 hk
    rw [(cancelTask_spec k1).1] at hb
    rw [(cancelTask_spec k1).2.2.1 hb]
    exact hinv.api_mem k1 hk1 hb
  · intro _ k hk hb
    obtain ⟨k1, hk1, rfl⟩ := List.mem_map.1 hk
    exact (cancelTask_spec k1).2.2.2 ((cancelTask_spec k1).1.symm.trans hb)

theorem inv_init : Inv init :=
  ⟨⟨fun i h => by simp [liveAt, init] at h, rfl, nofun⟩, rfl, List.forall_mem_nil _, fun _ => List.forall_mem_nil _⟩

theorem ExecCase.ops {s : Sys} {pc : Pc} {a : Answer} {c0 : Core} {kont : Kont} (h : ExecCase s pc a c0 kont) :
    Ops false s.core c0 := by
  cases h <;> first | exact .refl _ | exact ops_requeue _ _

theorem ExecCase.shrink {s : Sys} {pc : Pc} {a : Answer} {c0 : Core} {kont : Kont} (h : ExecCase s pc a c0 kont) :
    Shrink s.core c0 := h.ops.shrink

theorem ExecCase.kontOk {s : Sys} {pc : Pc} {a : Answer} {c0 : Core} {kont : Kont} (h : ExecCase s pc a c0 kont) :
    KontOk c0 kont := by
  cases h <;> try trivial
  rename_i hd
  show ¬ liveAt _ _
  unfold liveAt; rw [hd]; simp [ConnSt.isLive]

theorem ExecCase.pc_ok {s : Sys} {pc : Pc} {a : Answer} {c0 : Core} {kont : Kont} (h : ExecCase s pc a c0 kont) :
    openingPc pc = false ∧ pc ≠ .finished ∧ (apiPc pc = true → kApi kont = true) ∧ closePc pc = kClose kont := by
  cases h <;> simp [openingPc, apiPc, kApi, apiRet, closePc, kClose, closeRet]
  intro h _; exact h

theorem shrink_purge (c : Core) : Shrink c (purgedCore c) := ⟨rfl, rfl, rfl, rfl, rfl, rfl, fun _ h => h⟩

theorem shrink_accepted (c : Core) (sid r life : Nat) (ok : Bool) : Shrink c (acceptedCore c sid r life ok) :=
  ⟨rfl, rfl, rfl, rfl, rfl, rfl, fun _ h => h⟩

theorem mem_purgeEvents {now : Nat} {q : List Entry} {ev : Ev} (h : ev ∈ purgeEvents now q) :
    ∃ e ∈ q, e.expiry ≤ now ∧ ev = .qdrop e.sid now .expired := by
  simp only [purgeEvents, List.mem_map, List.mem_filter, List.mem_reverse, decide_eq_true_eq] at h
  obtain ⟨e, ⟨he, hx⟩, rfl⟩ := h
  exact ⟨e, he, hx, rfl⟩

theorem Inv.env {s : Sys} {c' : Core} (h : Inv s) (hr : EnvRel s.core c') : Inv { s with core := c' } :=
  ⟨⟨fun i hi => hr.rw ▸ h.core.live_rw i (hr.live i hi), by rw [hr.isConnected, hr.rw]; exact h.core.conn_rw,
    by rw [hr.isConnected, hr.connecting]; exact h.core.connecting⟩,
   h.count.trans (congrArg Bool.toNat hr.connecting.symm), h.api_mem, fun ho => h.closed_mem (hr.isOpen ▸ ho)⟩

theorem invBlock_exec {s : Sys} {old : List Task} {b : Bool} {c0 : Core} {kont : Kont} (h : Inv s)
    (hs : Shrink s.core c0) (hk : KontOk c0 kont) (hold : old.countP opening = 0)
    (hapi : b = false → kApi kont = true) (hbg : s.core.isOpen = false → b = false) :
    InvBlock s old b (exec FUEL c0 [] kont) := by
  have hfr := exec_frame FUEL c0 [] kont
  refine ⟨exec_inv _ _ _ _ (h.core.shrink hs) hk, ?_, fun hb => (exec_api _ _ _ _ (hapi hb)).1, fun ho => ?_⟩
  · rw [suspPc_not_opening (exec_pc _ _ _ _), hold, hfr.connecting.trans hs.connecting]; rfl
  · have ho' : s.core.isOpen = false := by rw [← hs.isOpen, ← hfr.isOpen]; exact ho
    have hb := hbg ho'
    exact ⟨ho', fun e => (by rw [hb] at e; cases e), (exec_api_spawn (hapi hb)).2 (hs.isOpen.trans ho')⟩

theorem inv_step {s s' : Sys} {l : Label} (h : Inv s) (hst : step s l = some s') : Inv s' := by
  rcases step_block hst with ⟨c', rfl, hr⟩ | ⟨s0, old, b, out, rest, ts', hb, rfl, hran⟩
  · exact h.env hr.rel
  have h0 : Inv s0 := by
    rcases hb.start with rfl | ⟨_, rfl⟩
    · exact h
    · exact inv_cancel h (shrink_emit s.core (.apiClose s.core.now))
  suffices hf : InvBlock s0 old b out from hf.ran h0 hran hb.spawned
  clear hran hst
  -- a new API-call task that only logs and finishes at once
  have plain : ∀ {c' : Core}, Shrink s.core c' → InvBlock s [] false ⟨c', .finished, []⟩ := fun hs =>
    ⟨h.core.shrink hs, (by rw [hs.connecting]; rfl), fun _ => rfl, fun ho => ⟨hs.isOpen ▸ ho, nofun, rfl⟩⟩
  -- the resumed task, one at a program counter that is not one of an API call, is a background task
  have bgOf : ∀ {t : Nat} {k0 : Task}, s.tasks[t]? = some k0 → apiPc k0.pc = false → k0.bg = true :=
    fun hk0 hn => bg_of_not_api h (List.mem_of_getElem? hk0) hn
  have openBg : ∀ {t : Nat} {k0 : Task}, s.tasks[t]? = some k0 → k0.bg = true → cancelledPc k0.pc = false →
      s.core.isOpen = true := fun hk0 hb hn => by
    cases ho : s.core.isOpen with
    | true => rfl
    | false => have := h.closed_mem ho _ (List.mem_of_getElem? hk0) hb; rw [hn] at this; cases this
  have one : ∀ k0 : Task, [k0].countP opening = (openingPc k0.pc).toNat := fun k0 => by
    cases hx : openingPc k0.pc <;> simp [opening, hx]
  cases hb with
  | openAgain | sendClosed => exact plain (shrink_emit _ _)
  | openFresh =>
    have hci := h.core.shrink (shrink_emit s.core (.apiOpen s.core.now))
    exact ⟨⟨hci.live_rw, hci.conn_rw, hci.connecting⟩, rfl, fun _ => rfl, nofun⟩
  | closeAgain => exact plain ((shrink_emit _ _).trans (shrink_emit _ _))
  | closeGather => exact ⟨h0.core, rfl, fun _ => rfl, fun _ => ⟨rfl, nofun, rfl⟩⟩
  | closeNow => exact invBlock_exec h0 (Shrink.refl _) trivial rfl (fun _ => rfl) (fun _ => rfl)
  | reset => exact invBlock_exec h (shrink_emit _ _) trivial rfl (fun _ => rfl) (fun _ => rfl)
  | sendFull => exact plain ((shrink_purge _).trans (shrink_emit _ _))
  | sendOk => exact invBlock_exec h (shrink_accepted ..) trivial rfl (fun _ => rfl) (fun _ => rfl)
  | exec t a k0 c0 kont hk0 hc =>
    obtain ⟨h1, h2, h3, _⟩ := hc.pc_ok
    refine invBlock_exec h hc.shrink hc.kontOk ((one k0).trans (by rw [h1]; rfl))
      (fun hb => h3 (h.api_mem k0 (List.mem_of_getElem? hk0) hb)) fun ho => ?_
    cases hb : k0.bg with
    | false => rfl
    | true =>
      have := openBg hk0 hb (by revert h1 h2; cases k0.pc <;> simp [cancelledPc, openingPc])
      rw [ho] at this; cases this
  | connect t a k0 hk0 hpc =>
    have hsp := connPc_spawnPc hpc
    have hbg := bgOf hk0 (spawnPc_not_api hsp)
    have hno : [k0].countP opening = 0 := (one k0).trans (by rw [spawnPc_not_opening hsp]; rfl)
    unfold connectBlock
    split
    · exact ⟨h.core, (by rw [hno]; rfl), fun _ => rfl, fun ho => ⟨ho, fun _ => rfl, rfl⟩⟩
    · rename_i hcond
      simp only [Bool.or_eq_true, Bool.not_eq_eq_eq_not, Bool.not_true, not_or, Bool.not_eq_true,
        Bool.not_eq_false] at hcond
      have hci := h.core.shrink (shrink_emit s.core (.attempt s.core.now))
      refine ⟨⟨hci.live_rw, hci.conn_rw, fun _ => hcond.1.1⟩, (by rw [hno, hcond.1.2]; rfl),
        fun hb => (by rw [hbg] at hb; cases hb), fun ho => ?_⟩
      rw [show s.core.isOpen = true from hcond.2] at ho; cases ho
  | openOk t k0 hk0 hpc =>
    have hop : openingPc k0.pc = true := by rw [hpc]; rfl
    have hbg := bgOf hk0 (openingPc_not_api hop)
    have hcg := h.opening_connecting (List.mem_of_getElem? hk0) hop
    refine ⟨coreInv_openOk h.core hcg _, (by rw [one, hop, hcg]; rfl), fun hb => (by rw [hbg] at hb; cases hb),
      fun ho => ?_⟩
    exact Bool.noConfusion ((openBg hk0 hbg (by rw [hpc]; rfl)).symm.trans ho)
  | openRefused t a k0 hk0 hpc =>
    have hop : openingPc k0.pc = true := by rw [hpc]; rfl
    have hcg := h.opening_connecting (List.mem_of_getElem? hk0) hop
    refine ⟨⟨h.core.live_rw, h.core.conn_rw, nofun⟩, (by rw [one, hop, hcg]; rfl), fun _ => rfl,
      fun ho => ⟨ho, fun _ => rfl, ?_⟩⟩
    have ho' : s.core.isOpen = false := ho
    simp [ho']
  | cancelled t a k0 hk0 hpc =>
    have hop : openingPc k0.pc = true := by rw [hpc]; rfl
    have hcg := h.opening_connecting (List.mem_of_getElem? hk0) hop
    exact ⟨⟨h.core.live_rw, h.core.conn_rw, nofun⟩, (by rw [one, hop, hcg]; rfl), fun _ => rfl,
      fun ho => ⟨ho, fun _ => rfl, rfl⟩⟩
  | readMsg t k0 c tag hk0 hpc =>
    have hbg := bgOf hk0 (by rw [hpc]; rfl)
    refine ⟨h.core.shrink (shrink_emit _ _), (by rw [one, hpc]; rfl), fun hb => (by rw [hbg] at hb; cases hb),
      fun ho => ?_⟩
    exact Bool.noConfusion ((openBg hk0 hbg (by rw [hpc]; rfl)).symm.trans ho)
  | readEof t k0 c hk0 hpc =>
    exact ⟨h.core, (by rw [one, hpc]; rfl), fun _ => rfl, fun ho => ⟨ho, fun _ => rfl, rfl⟩⟩

theorem inv_reachable {s : Sys} (h : Reachable s) : Inv s :=
  have ⟨ls, h⟩ := h
  run_inv (fun _ _ _ hp hs => inv_step hp hs) ls _ _ inv_init h

/-! ### the observable trace and the set of live connections -/

/-- indices of the connections the client holds open, in increasing order -/
def liveIdx (conns : List ConnSt) : List Nat :=
  (List.range conns.length).filter (fun i => (conns[i]?.map ConnSt.isLive) == some true)

theorem openSet_concat (tr : List Ev) (e : Ev) : openSet (tr ++ [e]) = openStep (openSet tr) e :=
  by rw [openSet, List.foldl_append]; rfl

theorem scp_concat (xs : List Ev) (e : Ev) : ∀ pre : List Ev,
    singleConnectionPrefixes pre (xs ++ [e]) =
      (singleConnectionPrefixes pre xs && decide ((openSet (pre ++ xs ++ [e])).length ≤ 1)) := by
  induction xs with
  | nil => intro pre; simp [singleConnectionPrefixes]
  | cons x xs ih =>
    intro pre
    simp only [List.cons_append, singleConnectionPrefixes, ih, Bool.and_assoc, List.append_assoc, List.nil_append]

theorem atMostOne_concat (tr : List Ev) (e : Ev) :
    atMostOneConnection (tr ++ [e]) = (atMostOneConnection tr && decide ((openSet (tr ++ [e])).length ≤ 1)) := by
  simpa [atMostOneConnection] using scp_concat tr e []

/-- the trace never showed two transports open; the transports it shows as open now are the live ones, at most one -/
structure TrInv (tr : List Ev) (conns : List ConnSt) : Prop where
  single : atMostOneConnection tr = true
  open_eq : openSet tr = liveIdx conns
  le_one : (liveIdx conns).length ≤ 1

theorem TrInv.neutral {tr : List Ev} {conns : List ConnSt} (h : TrInv tr conns) {e : Ev} (he : neutralEv e = true) :
    TrInv (tr ++ [e]) conns := by
  have hs : openSet (tr ++ [e]) = openSet tr := by
    rw [openSet_concat]; cases e <;> first | rfl | cases he
  refine ⟨?_, by rw [hs]; exact h.open_eq, h.le_one⟩
  rw [atMostOne_concat, hs, h.single, h.open_eq]; simpa using h.le_one

theorem append_keeps {P : List Ev → Prop} {p : Ev → Prop} (hstep : ∀ tr e, p e → P tr → P (tr ++ [e])) :
    ∀ (evs tr : List Ev), (∀ e ∈ evs, p e) → P tr → P (tr ++ evs)
  | [], tr, _, h => by rwa [List.append_nil]
  | e :: evs, tr, he, h => by
    have := append_keeps hstep evs (tr ++ [e]) (fun e' h' => he e' (List.mem_cons_of_mem _ h'))
      (hstep tr e (he e List.mem_cons_self) h)
    rwa [List.append_assoc] at this

theorem TrInv.neutrals {conns : List ConnSt} (evs : List Ev) {tr : List Ev} (h : TrInv tr conns)
    (he : ∀ e ∈ evs, neutralEv e = true) : TrInv (tr ++ evs) conns :=
  append_keeps (P := fun tr => TrInv tr conns) (fun _ _ he h => h.neutral he) evs tr he h

theorem liveIdx_set_notLive (conns : List ConnSt) (w : Nat) (x : ConnSt) (hx : x.isLive = false) :
    liveIdx (conns.set w x) = (liveIdx conns).filter (· ≠ w) := by
  unfold liveIdx
  rw [List.filter_filter, List.length_set]
  apply List.filter_congr
  intro i hi
  simp only [List.getElem?_set]
  grind

theorem liveIdx_set_same (conns : List ConnSt) (w : Nat) (x y : ConnSt) (hy : conns[w]? = some y)
    (hx : x.isLive = y.isLive) : liveIdx (conns.set w x) = liveIdx conns := by
  unfold liveIdx
  rw [List.length_set]
  apply List.filter_congr
  intro i hi
  simp only [List.getElem?_set]
  grind

theorem liveIdx_append_live (conns : List ConnSt) (p f : Bool) :
    liveIdx (conns ++ [ConnSt.live p f]) = liveIdx conns ++ [conns.length] := by
  unfold liveIdx
  simp only [List.length_append, List.length_singleton, List.range_succ, List.filter_append]
  congr 1
  · apply List.filter_congr
    intro i hi
    have : i < conns.length := List.mem_range.mp hi
    simp [List.getElem?_append, this]
  · simp [ConnSt.isLive]

theorem TrInv.remove {tr : List Ev} {conns : List ConnSt} (h : TrInv tr conns) (w : Nat) (x : ConnSt)
    (hx : x.isLive = false) {e : Ev} (he : ∀ s, openStep s e = s.filter (· ≠ w)) :
    TrInv (tr ++ [e]) (conns.set w x) := by
  have hs : openSet (tr ++ [e]) = liveIdx (conns.set w x) := by
    rw [openSet_concat, he, h.open_eq, liveIdx_set_notLive _ _ _ hx]
  have hl : (liveIdx (conns.set w x)).length ≤ 1 := by
    rw [liveIdx_set_notLive _ _ _ hx]
    exact Nat.le_trans (List.length_filter_le _ _) h.le_one
  refine ⟨?_, hs, hl⟩
  rw [atMostOne_concat, hs, h.single]; simpa using hl

theorem TrInv.set_same {tr : List Ev} {conns : List ConnSt} (h : TrInv tr conns) {w : Nat} {x y : ConnSt}
    (hy : conns[w]? = some y) (hx : x.isLive = y.isLive) : TrInv tr (conns.set w x) :=
  ⟨h.single, by rw [liveIdx_set_same _ _ _ _ hy hx]; exact h.open_eq,
   by rw [liveIdx_set_same _ _ _ _ hy hx]; exact h.le_one⟩

def CTr (c : Core) : Prop := TrInv c.trace c.conns

theorem CTr.emit {c : Core} (h : CTr c) {e : Ev} (he : neutralEv e = true) : CTr (c.emit e) :=
  TrInv.neutral h he

theorem Ops.ctr {x : Bool} {c c' : Core} (h : Ops x c c') (ht : CTr c) : CTr c' := by
  induction h with
  | refl => exact ht
  | trans _ _ ih1 ih2 => exact ih2 (ih1 ht)
  | log c e _ hn => exact ht.emit hn
  | kill c w y e hy _ he => exact TrInv.remove ht w y hy he
  | queue => exact ht
  | drop => exact ht

theorem ctr_exec (fuel : Nat) (c : Core) (sp : List Pc) (k : Kont) (h : CTr c) : CTr (exec fuel c sp k).core := by
  obtain ⟨c1, ho, e | ⟨_, e⟩⟩ := exec_ops fuel c sp k <;> rw [e]
  · exact ho.ctr h
  · exact (ho.ctr h).emit rfl

theorem liveIdx_nil_of {c : Core} (h : ∀ i, ¬ liveAt c i) : liveIdx c.conns = [] := by
  unfold liveIdx
  apply List.filter_eq_nil_iff.mpr
  intro i _ hi
  exact h i (by simpa [liveAt] using hi)

theorem ctr_step {s s' : Sys} {l : Label} (hinv : Inv s) (ht : CTr s.core) (h : step s l = some s') :
    CTr s'.core := by
  have hpurge : CTr (purgedCore s.core) := by
    apply TrInv.neutrals _ ht
    intro e he
    obtain ⟨_, _, _, rfl⟩ := mem_purgeEvents he; rfl
  have one : ∀ e, neutralEv e = true → TrInv (s.core.trace ++ [e]) s.core.conns := fun _ => ht.neutral
  rcases step_block h with ⟨c', rfl, he⟩ | ⟨s0, old, b, out, rest, ts', hb, rfl, -⟩
  · cases he with
    | advance t _ => exact ht
    | lost cid p f _ => exact TrInv.remove ht cid (.dying true) rfl (fun _ => rfl)
    | lostRan cid e hc | pause cid b p f hc | failWrites cid b p f hc => exact TrInv.set_same ht hc rfl
  clear h
  cases hb with
  | openAgain | openFresh | closeGather | sendClosed => exact one _ rfl
  | closeAgain => exact (one _ rfl).neutral rfl
  | closeNow | reset => exact ctr_exec _ _ _ _ (one _ rfl)
  | sendFull => exact hpurge.neutral rfl
  | sendOk => exact ctr_exec _ _ _ _ (hpurge.neutral (e := .accept _ _ _ _ _) rfl)
  | exec t a k0 c0 kont hk0 hc => exact ctr_exec _ _ _ _ (hc.ops.ctr ht)
  | connect =>
    unfold connectBlock; split
    · exact ht
    · exact one _ rfl
  | openRefused | readMsg => exact one _ rfl
  | cancelled | readEof => exact ht
  | openOk t k0 hk0 hpc =>
    have hnil : liveIdx s.core.conns = [] :=
      liveIdx_nil_of (hinv.core.none_live (hinv.opening_connecting (List.mem_of_getElem? hk0) (by rw [hpc]; rfl)))
    have h1 : TrInv (s.core.trace ++ [.opened s.core.conns.length s.core.now])
        (s.core.conns ++ [ConnSt.live false false]) := by
      have hs : openSet (s.core.trace ++ [.opened s.core.conns.length s.core.now]) =
          liveIdx (s.core.conns ++ [ConnSt.live false false]) := by
        rw [openSet_concat, liveIdx_append_live, ht.open_eq]; rfl
      have hl : (liveIdx (s.core.conns ++ [ConnSt.live false false])).length ≤ 1 := by
        rw [liveIdx_append_live, hnil]; simp
      refine ⟨?_, hs, hl⟩
      rw [atMostOne_concat, hs, ht.single]; simpa using hl
    exact h1.neutral (e := .notify true _) rfl

theorem ctr_reachable {s : Sys} (h : Reachable s) : CTr s.core :=
  have ⟨ls, h⟩ := h
  (run_inv (P := fun s => Inv s ∧ CTr s.core) (fun _ _ _ hp hs => ⟨inv_step hp.1 hs, ctr_step hp.1 hp.2 hs⟩)
    ls _ _ ⟨inv_init, rfl, rfl, by simp [liveIdx, init]⟩ h).2

/-! ### `close()`: what the trace says about it -/

/-- `close()` has returned and `open_socket()` has not been called since: the last `apiOpen` /
    `apiCloseDone` event of the trace is an `apiCloseDone` -/
def closedNow (tr : List Ev) : Bool :=
  tr.foldl (fun b ev => match ev with
    | .apiCloseDone _ => true
    | .apiOpen _ => false
    | _ => b) false

/-- a `close()` call is in progress: the last `apiOpen` / `apiClose` / `apiCloseDone` event of the
    trace is an `apiClose` -/
def closing (tr : List Ev) : Bool :=
  tr.foldl (fun b ev => match ev with
    | .apiClose _ => true
    | .apiCloseDone _ | .apiOpen _ => false
    | _ => b) false

theorem closedNow_concat (tr : List Ev) (e : Ev) :
    closedNow (tr ++ [e]) = match e with
      | .apiCloseDone _ => true
      | .apiOpen _ => false
      | _ => closedNow tr := by
  simp only [closedNow, List.foldl_append, List.foldl_cons, List.foldl_nil]

theorem closing_concat (tr : List Ev) (e : Ev) :
    closing (tr ++ [e]) = match e with
      | .apiClose _ => true
      | .apiCloseDone _ | .apiOpen _ => false
      | _ => closing tr := by
  simp only [closing, List.foldl_append, List.foldl_cons, List.foldl_nil]

structure SameFlags (c c' : Core) : Prop where
  closing : closing c'.trace = closing c.trace
  closedNow : closedNow c'.trace = closedNow c.trace

theorem SameFlags.refl (c : Core) : SameFlags c c := ⟨rfl, rfl⟩
theorem SameFlags.trans {a b c : Core} (h1 : SameFlags a b) (h2 : SameFlags b c) : SameFlags a c :=
  ⟨h2.closing.trans h1.closing, h2.closedNow.trans h1.closedNow⟩

theorem flags_snoc (tr : List Ev) {e : Ev} (he : apiEv e = false) :
    closing (tr ++ [e]) = closing tr ∧ closedNow (tr ++ [e]) = closedNow tr := by
  rw [closing_concat, closedNow_concat]
  cases e <;> first | exact ⟨rfl, rfl⟩ | cases he

theorem sameFlags_append {c c' : Core} (evs : List Ev) (ht : c'.trace = c.trace ++ evs)
    (he : ∀ e ∈ evs, apiEv e = false) : SameFlags c c' :=
  have h := append_keeps (P := fun t => closing t = closing c.trace ∧ closedNow t = closedNow c.trace)
    (fun t _ he h => ⟨(flags_snoc t he).1.trans h.1, (flags_snoc t he).2.trans h.2⟩) evs c.trace he ⟨rfl, rfl⟩
  ⟨ht ▸ h.1, ht ▸ h.2⟩

theorem sameFlags_snoc {c c' : Core} {e : Ev} (h : c'.trace = c.trace ++ [e]) (he : apiEv e = false) :
    SameFlags c c' := sameFlags_append [e] h (List.forall_mem_singleton.2 he)

theorem sameFlags_emit (c : Core) {e : Ev} (he : apiEv e = false) : SameFlags c (c.emit e) := sameFlags_snoc rfl he

theorem Ops.sameFlags {x : Bool} {c c' : Core} (h : Ops x c c') : SameFlags c c' :=
  have ⟨evs, ht, he⟩ := h.trace
  sameFlags_append evs ht he

/-- what the tail of `close` needs to know when it resumes -/
def CloseOk (c : Core) : Kont → Prop
  | .ret _ => c.rw = none
  | .discTail w _ => c.rw = none ∨ c.rw = w
  | .disconnect _ => True
  | .drain _ => False

/-- `exec` and the end of `close()`: either the `closing` / `closedNow` status is unchanged (and a task
    left inside `close` still knows enough about `rw`), or `close()` has just returned, after
    clearing `rw` -/
def CloseRes (c : Core) (cl : Bool) (out : Out) : Prop :=
  (closing out.core.trace = closing c.trace ∧ closedNow out.core.trace = closedNow c.trace ∧
    (∀ w r, out.pc = .discWait w r → closeRet r = true → out.core.rw = none ∨ out.core.rw = some w) ∧
    (∀ r, out.pc = .notifyWait r → closeRet r = true → out.core.rw = none)) ∨
  (cl = true ∧ out.pc = .finished ∧ closing out.core.trace = false ∧
    closedNow out.core.trace = true ∧ out.core.rw = none)

theorem exec_close (fuel : Nat) (c : Core) (sp : List Pc) (k : Kont) (hok : kClose k = true → CloseOk c k) :
    CloseRes c (kClose k) (exec fuel c sp k) := by
  cases hk : kClose k with
  | false =>
    -- not the tail of `close`: `apiCloseDone` is not logged, and the task does not end up inside `close`
    obtain ⟨c1, ho, e | ⟨h, _⟩⟩ := exec_ops fuel c sp k
    · have hpc := exec_noClose fuel c sp k hk
      have hf := ho.sameFlags
      rw [← e] at hf
      exact .inl ⟨hf.closing, hf.closedNow, fun w r h hr => by rw [h] at hpc; exact Bool.noConfusion (hr.symm.trans hpc),
        fun r h hr => by rw [h] at hpc; exact Bool.noConfusion (hr.symm.trans hpc)⟩
    · exact Bool.noConfusion (hk.symm.trans h)
  | true =>
    -- the tail of `close` never enters the drain loop; it knows enough about `rw` to clear it before it returns
    replace hok := hok hk
    unfold CloseRes
    fun_induction exec fuel c sp k
    case case1 => exact .inl ⟨rfl, rfl, nofun, nofun⟩
    case case7 fuel c sp r w hw =>
      have hf := (ops_closeConn (x := false) c w).sameFlags
      exact .inl ⟨hf.closing, hf.closedNow, fun w' r h _ => .inr (by cases h; exact (shrink_closeConn c w).rw.trans hw), nofun⟩
    case case8 hw ih => exact ih hk (.inl hw)
    case case9 fuel c sp r =>
      have hf := sameFlags_emit { c with isConnected := false, rw := none } (e := .notify false c.now) rfl
      exact .inl ⟨hf.closing, hf.closedNow, nofun, fun _ _ _ => rfl⟩
    case case10 hne ih => exact ih hk (hok.resolve_right hne)
    case case12 => exact .inr ⟨rfl, rfl, closing_concat _ _, closedNow_concat _ _, hok⟩
    case case15 ih => exact ih hk hok
    all_goals first | exact hok.elim | cases hk

/-! ### the invariant of histories in which `open_socket` / `close` are not called during a `close` -/

def AllBgDone (s : Sys) : Prop :=
  ∀ (i : Nat) (k : Model.Sock.Task), s.tasks[i]? = some k → k.bg = true → k.pc = .finished

theorem allBgDone_iff {s : Sys} : AllBgDone s ↔ ∀ k ∈ s.tasks, k.bg = true → k.pc = .finished :=
  ⟨fun h k hk hb => have ⟨i, hi⟩ := List.getElem?_of_mem hk; h i k hi hb,
   fun h _ k hk hb => h k (List.mem_of_getElem? hk) hb⟩

def inClose (k : Task) : Bool := closePc k.pc

/-- `close()` under the calling discipline.  `excl`, `closing_open`, `closed_open`: a `close()` in progress and a
    `close()` that has returned exclude each other, and either means `is_open` is clear.  `close_api`, `none_closing`,
    `count`: only API-call tasks are inside `close`, none while no `close()` is in progress, and at most one.
    `close_disc` / `close_notify`: a `close()` past its `gather` (waiting for its transport to finish closing, or for
    the notification) knows that `rw` is its own transport or none / is none, and every background task has finished.
    `idle`: a socket that is not open and on which no `close()` is running has no current transport and no background
    task left. -/
structure CInv (s : Sys) : Prop where
  excl : closing s.core.trace = true → closedNow s.core.trace = false
  closing_open : closing s.core.trace = true → s.core.isOpen = false
  closed_open : closedNow s.core.trace = true → s.core.isOpen = false
  close_api : ∀ k ∈ s.tasks, closePc k.pc = true → k.bg = false
  none_closing : closing s.core.trace = false → ∀ k ∈ s.tasks, closePc k.pc = false
  count : s.tasks.countP inClose ≤ 1
  close_disc : ∀ k ∈ s.tasks, ∀ (w : Nat) (r : Ret), k.pc = .discWait w r → closeRet r = true →
    (s.core.rw = none ∨ s.core.rw = some w) ∧ AllBgDone s
  close_notify : ∀ k ∈ s.tasks, ∀ r : Ret, k.pc = .notifyWait r → closeRet r = true → s.core.rw = none ∧ AllBgDone s
  idle : s.core.isOpen = false → closing s.core.trace = false → s.core.rw = none ∧ AllBgDone s

theorem spawnPc_not_close {p : Pc} (h : spawnPc p = true) : closePc p = false := by
  cases p <;> simp_all [spawnPc, closePc]

theorem Ran.allBgDone {s s' : Sys} {old rest : List Task} {new : Task} {sp : List Pc}
    (hr : Ran s.tasks s'.tasks old new sp rest) (h : AllBgDone s) (hbg : new.bg = false) (hsp : sp = []) :
    AllBgDone s' := by
  refine allBgDone_iff.2 fun k hk hb => ?_
  rcases hr.mem_after hk with rfl | hk | ⟨p, hp, rfl⟩
  · rw [hbg] at hb; cases hb
  · exact allBgDone_iff.1 h k (hr.rest_mem_before hk) hb
  · rw [hsp] at hp; cases hp

theorem allBgDone_upd {s : Sys} {t : Nat} {k0 : Task} {out : Out} (h : AllBgDone s) (ht : s.tasks[t]? = some k0)
    (hbg : k0.bg = false) (hsp : out.spawned = []) : AllBgDone (upd s t out) :=
  (upd_ran out ht).allBgDone h hbg hsp

theorem allBgDone_spawnApi {s : Sys} {out : Out} (h : AllBgDone s) (hsp : out.spawned = []) :
    AllBgDone (spawnApi s out) :=
  (spawnApi_ran s out).allBgDone h rfl hsp

theorem cinv_of_no_close {s : Sys} (hno : ∀ k ∈ s.tasks, closePc k.pc = false)
    (h1 : closing s.core.trace = true → closedNow s.core.trace = false)
    (h2 : closing s.core.trace = true → s.core.isOpen = false)
    (h3 : closedNow s.core.trace = true → s.core.isOpen = false)
    (h9 : s.core.isOpen = false → closing s.core.trace = false → s.core.rw = none ∧ AllBgDone s) : CInv s :=
  have no : ∀ {k : Model.Sock.Task} {P : Prop}, k ∈ s.tasks → closePc k.pc = true → P :=
    fun hk hcp => Bool.noConfusion ((hno _ hk).symm.trans hcp)
  ⟨h1, h2, h3, fun _ hk hcp => no hk hcp, fun _ => hno,
    Nat.le_trans (Nat.le_of_eq (List.countP_eq_zero.2 fun k hk => by simp [inClose, hno k hk])) (Nat.zero_le _),
    fun _ hk _ _ hp hr => no hk (by rw [hp]; exact hr), fun _ hk _ hp hr => no hk (by rw [hp]; exact hr), h9⟩

theorem cinv_core {s : Sys} {c' : Core} (hc : CInv s) (hf : SameFlags s.core c') (hrw : c'.rw = s.core.rw)
    (ho : c'.isOpen = s.core.isOpen) : CInv { s with core := c' } := by
  obtain ⟨h1, h2, h3, h4, h5, h6, h7, h8, h9⟩ := hc
  rw [← hf.closing] at h1 h2 h5 h9
  rw [← hf.closedNow] at h1 h3
  rw [← ho] at h2 h3 h9
  rw [← hrw] at h7 h8 h9
  exact ⟨h1, h2, h3, h4, h5, h6, h7, h8, h9⟩

theorem cinv_core_idle {s : Sys} {c' : Core} (hc : CInv s) (hcl : closing s.core.trace = false)
    (hcl' : closing c'.trace = false) (hco : closedNow c'.trace = true → c'.isOpen = false)
    (hidle : c'.isOpen = false → s.core.isOpen = false ∧ c'.rw = s.core.rw) : CInv { s with core := c' } := by
  refine cinv_of_no_close (s := { s with core := c' }) (hc.none_closing hcl)
    (fun h => Bool.noConfusion (hcl'.symm.trans h)) (fun h => Bool.noConfusion (hcl'.symm.trans h)) hco ?_
  intro ho _
  obtain ⟨h1, h2⟩ := hidle ho
  show c'.rw = none ∧ AllBgDone s
  rw [h2]; exact hc.idle h1 hcl

/-- what `CInv` asks of a block that starts in `s`, run by the rows `old` (with `bg = b`); `cl`: they are executing
    `close()`.  `done`: if every background task has finished, the block keeps or clears the current transport and, on
    a socket that is not open, it is the block of an API call and schedules nothing (a background task that runs
    refutes the premise).  `others`: `close()` is executed by a row of `old`, or no row of the table is inside it.
    `isOpen` and `res` say that `is_open` and the two flags read off the trace stay, or a `close()` has just returned;
    for the three blocks that do neither see `cinv_step`. -/
structure CInvBlock (s : Sys) (old : List Task) (b : Bool) (out : Out) (cl : Bool) : Prop where
  isOpen : out.core.isOpen = s.core.isOpen
  done : AllBgDone s →
    (out.core.rw = s.core.rw ∨ out.core.rw = none) ∧ (s.core.isOpen = false → b = false ∧ out.spawned = [])
  stays : closePc out.pc = true → cl = true ∧ b = false
  isClosing : cl = true → closing s.core.trace = true
  others : cl = true → (∃ k0 ∈ old, closePc k0.pc = true) ∨ ∀ k ∈ s.tasks, closePc k.pc = false
  all : cl = true → out.pc ≠ .closeGather → AllBgDone s
  res : CloseRes s.core cl out

theorem CInvBlock.ran {s : Sys} {out : Out} {ts' old rest : List Task} {b cl : Bool} (hf : CInvBlock s old b out cl)
    (hc : CInv s) (hran : Ran s.tasks ts' old ⟨out.pc, b⟩ out.spawned rest)
    (hsp : ∀ p ∈ out.spawned, spawnPc p = true) : CInv ⟨out.core, ts'⟩ := by
  have hspn : ∀ p ∈ out.spawned, closePc p = false := fun p hp => spawnPc_not_close (hsp p hp)
  obtain ⟨hopen, hdone, hnc, hcl_closing, hothers, hAll, hres⟩ := hf
  have hcl_others : cl = true → ∀ k ∈ rest, closePc k.pc = false := fun hcl k hk =>
    (hothers hcl).elim (fun ⟨_, h0, hp⟩ => hran.rest_none hc.count h0 hp k hk) fun h => h k (hran.rest_mem_before hk)
  have hAllNew : AllBgDone s → s.core.isOpen = false → AllBgDone ⟨out.core, ts'⟩ := fun h ho =>
    hran.allBgDone (s' := ⟨out.core, ts'⟩) h ((hdone h).2 ho).1 ((hdone h).2 ho).2
  have hact : cl = true → out.pc ≠ .closeGather → AllBgDone ⟨out.core, ts'⟩ :=
    fun hcl hne => hAllNew (hAll hcl hne) (hc.closing_open (hcl_closing hcl))
  -- a task inside `close` witnesses that the socket is not open
  have hcls : ∀ {k : Model.Sock.Task}, k ∈ s.tasks → closePc k.pc = true → s.core.isOpen = false := by
    intro k hk hcp
    cases hx : closing s.core.trace with
    | true => exact hc.closing_open hx
    | false => have := hc.none_closing hx k hk; rw [hcp] at this; cases this
  have hrwP : AllBgDone s → ∀ P : Option Nat → Prop, P s.core.rw → P none → P out.core.rw :=
    fun h P h1 h2 => (hdone h).1.elim (fun h => h ▸ h1) (fun h => h ▸ h2)
  -- where a task inside `close` in the new table comes from
  have hclose : ∀ k ∈ ts', closePc k.pc = true →
      (k = ⟨out.pc, b⟩ ∧ cl = true ∧ b = false) ∨ (k ∈ s.tasks ∧ k ∈ rest ∧ cl = false) := by
    intro k hk hcp
    rcases hran.mem_after hk with rfl | h | ⟨p, hp, rfl⟩
    · exact .inl ⟨rfl, hnc hcp⟩
    · refine .inr ⟨hran.rest_mem_before h, h, ?_⟩
      cases hcl : cl with
      | false => rfl
      | true => have := hcl_others hcl k h; rw [hcp] at this; cases this
    · rw [show closePc (bgTask p).pc = false from hspn p hp] at hcp; cases hcp
  have hcount : ts'.countP inClose ≤ 1 := by
    rw [hran.countP_after (fun q hq => hspn q hq)]
    cases hcp : closePc out.pc with
    | false =>
      rw [show inClose ⟨out.pc, b⟩ = false from hcp]
      exact Nat.le_trans (hran.countP_rest_le _) hc.count
    | true =>
      rw [List.countP_eq_zero.2 fun k hk => by simp [inClose, hcl_others (hnc hcp).1 k hk]]
      simp [inClose, hcp]
  rcases hres with ⟨hf1, hf2, hd, hn⟩ | ⟨hcl, hfin, hf1, hf2, hrw0⟩
  · refine ⟨fun h => hf2.trans (hc.excl (hf1.symm.trans h)), fun h => hopen.trans (hc.closing_open (hf1.symm.trans h)),
      fun h => hopen.trans (hc.closed_open (hf2.symm.trans h)), ?_, ?_, hcount, ?_, ?_, ?_⟩
    · intro k hk hcp
      rcases hclose k hk hcp with ⟨rfl, _, hb⟩ | ⟨h', _, _⟩
      · exact hb
      · exact hc.close_api k h' hcp
    · intro hcl' k hk
      have hcl'' : closing s.core.trace = false := by rw [← hf1]; exact hcl'
      cases hcp : closePc k.pc with
      | false => rfl
      | true =>
        rcases hclose k hk hcp with ⟨_, hcl, _⟩ | ⟨h', _, _⟩
        · rw [hcl_closing hcl] at hcl''; cases hcl''
        · rw [← hcp]; exact hc.none_closing hcl'' k h'
    · intro k hk w r hp hr
      have hcp : closePc k.pc = true := by rw [hp]; exact hr
      show (out.core.rw = none ∨ out.core.rw = some w) ∧ AllBgDone _
      rcases hclose k hk hcp with ⟨rfl, hcl, _⟩ | ⟨h', _, _⟩
      · exact ⟨hd w r hp hr, hact hcl (by rw [show out.pc = _ from hp]; exact nofun)⟩
      · obtain ⟨h1, h2⟩ := hc.close_disc k h' w r hp hr
        exact ⟨hrwP h2 (fun x => x = none ∨ x = some w) h1 (.inl rfl), hAllNew h2 (hcls h' hcp)⟩
    · intro k hk r hp hr
      have hcp : closePc k.pc = true := by rw [hp]; exact hr
      show out.core.rw = none ∧ AllBgDone _
      rcases hclose k hk hcp with ⟨rfl, hcl, _⟩ | ⟨h', _, _⟩
      · exact ⟨hn r hp hr, hact hcl (by rw [show out.pc = _ from hp]; exact nofun)⟩
      · obtain ⟨h1, h2⟩ := hc.close_notify k h' r hp hr
        exact ⟨hrwP h2 (· = none) h1 rfl, hAllNew h2 (hcls h' hcp)⟩
    · intro ho hcl'
      have ho' : s.core.isOpen = false := by rw [← hopen]; exact ho
      obtain ⟨h1, h2⟩ := hc.idle ho' (by rw [← hf1]; exact hcl')
      exact ⟨hrwP h2 (· = none) h1 rfl, hAllNew h2 ho'⟩
  · have ho := hc.closing_open (hcl_closing hcl)
    have hno : ∀ k ∈ ts', closePc k.pc = false := by
      intro k hk
      cases hcp : closePc k.pc with
      | false => rfl
      | true =>
        rcases hclose k hk hcp with ⟨rfl, _, _⟩ | ⟨_, _, hcl'⟩
        · rw [show closePc out.pc = false by rw [hfin]; rfl] at hcp; cases hcp
        · rw [hcl] at hcl'; cases hcl'
    exact cinv_of_no_close hno (fun h => Bool.noConfusion (hf1.symm.trans h)) (fun h => Bool.noConfusion (hf1.symm.trans h))
      (fun _ => hopen.trans ho) fun _ _ => ⟨hrw0, hact hcl (by rw [hfin]; exact nofun)⟩

theorem cinvBlock_act {s : Sys} {old : List Task} {out : Out} (cl : Bool) (hopen : out.core.isOpen = s.core.isOpen)
    (hrw : out.core.rw = s.core.rw ∨ out.core.rw = none)
    (hsp0 : s.core.isOpen = false → out.spawned = []) (hnc : closePc out.pc = true → cl = true)
    (hcl : cl = true → closing s.core.trace = true)
    (hothers : cl = true → (∃ k0 ∈ old, closePc k0.pc = true) ∨ ∀ k ∈ s.tasks, closePc k.pc = false)
    (hAll : cl = true → out.pc ≠ .closeGather → AllBgDone s) (hres : CloseRes s.core cl out) :
    CInvBlock s old false out cl :=
  ⟨hopen, fun _ => ⟨hrw, fun ho => ⟨rfl, hsp0 ho⟩⟩, fun h => ⟨hnc h, rfl⟩, hcl,
    hothers, hAll, hres⟩

theorem cinvBlock_plain {s : Sys} {old : List Task} {b : Bool} {out : Out} (hf : SameFlags s.core out.core)
    (ho : out.core.isOpen = s.core.isOpen) (hpc : closePc out.pc = false)
    (hdone : AllBgDone s →
      (out.core.rw = s.core.rw ∨ out.core.rw = none) ∧ (s.core.isOpen = false → b = false ∧ out.spawned = [])) :
    CInvBlock s old b out false :=
  ⟨ho, hdone, fun h => Bool.noConfusion (hpc.symm.trans h), nofun, nofun, nofun,
    .inl ⟨hf.closing, hf.closedNow, fun w r h hr => by rw [h] at hpc; simp [closePc, hr] at hpc,
      fun r h hr => by rw [h] at hpc; simp [closePc, hr] at hpc⟩⟩

theorem cinvBlock_exec {s : Sys} {old : List Task} {b : Bool} {c0 : Core} {kont : Kont} (hs : Shrink s.core c0)
    (hf : SameFlags s.core c0) (hk : kClose kont = false) (hdone : AllBgDone s → b = false ∧ kApi kont = true) :
    CInvBlock s old b (exec FUEL c0 [] kont) false := by
  have hfr := exec_frame FUEL c0 [] kont
  refine cinvBlock_plain ?_ (hfr.isOpen.trans hs.isOpen) (exec_noClose _ _ _ _ hk) fun h => ?_
  · rcases exec_close FUEL c0 [] kont (fun h => by rw [hk] at h; cases h) with ⟨h1, h2, _⟩ | ⟨h1, _⟩
    · exact hf.trans ⟨h1, h2⟩
    · rw [hk] at h1; cases h1
  · obtain ⟨hb, hapi⟩ := hdone h
    exact ⟨hfr.rw.imp_left (·.trans hs.rw), fun ho => ⟨hb, (exec_api_spawn hapi).2 (hs.isOpen.trans ho)⟩⟩

theorem cinvBlock_run_exec {s : Sys} {t : Nat} {k0 : Task} {pc : Pc} {c0 : Core} {kont : Kont} (hinv : Inv s)
    (hc : CInv s) (ht : s.tasks[t]? = some k0) (hpc : k0.pc = pc) (hcase : ExecCase s pc a c0 kont) :
    ∃ cl, CInvBlock s [k0] k0.bg (exec FUEL c0 [] kont) cl := by
  obtain ⟨hno, hnf, hapi, hcp⟩ := hcase.pc_ok
  have hfr := exec_frame FUEL c0 [] kont
  have hsh := hcase.shrink
  have hsf := hcase.ops.sameFlags
  cases hbg : k0.bg with
  | true =>
    have hk : kClose kont = false := by
      rw [← hcp]
      cases hx : closePc pc with
      | false => rfl
      | true => have := hc.close_api k0 (List.mem_of_getElem? ht) (by rw [hpc]; exact hx); rw [hbg] at this; cases this
    exact ⟨false, cinvBlock_exec hsh hsf hk fun h => absurd (h t k0 ht hbg) (by rw [hpc]; exact hnf)⟩
  | false =>
    have hapi0 : apiPc pc = true := by rw [← hpc]; exact hinv.api_mem k0 (List.mem_of_getElem? ht) hbg
    have hka := hapi hapi0
    have hcls : closePc pc = true → closing s.core.trace = true := by
      intro hx
      cases hy : closing s.core.trace with
      | true => rfl
      | false => have := hc.none_closing hy k0 (List.mem_of_getElem? ht); rw [hpc, hx] at this; cases this
    -- the task executing `close()` is past `gather`, or about to pass it, and knows what it has to about `rw`
    have hcl : closePc pc = true → AllBgDone s ∧ CloseOk c0 kont := by
      intro hx
      cases hcase with
      | closed w r exc hd => exact (hc.close_disc k0 (List.mem_of_getElem? ht) w r hpc hx).symm
      | notified r => exact (hc.close_notify k0 (List.mem_of_getElem? ht) r hpc hx).symm
      | gathered hg =>
        refine ⟨fun i k hk hb => ?_, trivial⟩
        have h1 := hinv.closed_mem (hc.closing_open (hcls hx)) k (List.mem_of_getElem? hk) hb
        have h2 : ¬ (k.pc = .cancelledOpening) := hg k (List.mem_of_getElem? hk)
        revert h1 h2; cases k.pc <;> simp [cancelledPc]
      | drainOk w e r | drainErr w e r _ => simp [apiPc, closePc] at hapi0 hx; rw [hx] at hapi0; simp at hapi0
      | readStart | readBad c | readFail c => cases hx
    have hAll := fun hx => (hcl hx).1
    have hok : kClose kont = true → CloseOk c0 kont := fun hx => (hcl (hcp ▸ hx)).2
    have hres := exec_close FUEL c0 [] kont hok
    refine ⟨closePc pc, cinvBlock_act _ (hfr.isOpen.trans hsh.isOpen) (hfr.rw.imp_left (·.trans hsh.rw))
      (fun ho => (exec_api_spawn hka).2 (hsh.isOpen.trans ho)) ?_ hcls
      (fun hx => .inl ⟨k0, List.mem_singleton.2 rfl, by rw [hpc]; exact hx⟩) (fun h _ => hAll h) ?_⟩
    · intro hx
      cases hy : kClose kont with
      | true => rw [hcp]; exact hy
      | false => rw [exec_noClose _ _ _ _ hy] at hx; cases hx
    · exact hres.imp (fun h => ⟨h.1.trans hsf.closing, h.2.1.trans hsf.closedNow, h.2.2⟩) fun h => ⟨hcp ▸ h.1, h.2⟩

theorem cinv_cancel {s : Sys} {c' : Core} (hc : CInv s) (hcl : closing s.core.trace = false)
    (ho : s.core.isOpen = true) (hcl' : closing c'.trace = true) (hco : closedNow c'.trace = closedNow s.core.trace) :
    CInv { core := { c' with isOpen := false }, tasks := s.tasks.map cancelTask } ∧
    ∀ k ∈ s.tasks.map cancelTask, closePc k.pc = false := by
  have hno : ∀ k ∈ s.tasks.map cancelTask, closePc k.pc = false := by
    intro k hk
    obtain ⟨k1, hk1, rfl⟩ := List.mem_map.1 hk
    have h1 := hc.none_closing hcl k1 hk1
    obtain ⟨pc, bg⟩ := k1
    revert h1
    cases bg <;> cases pc <;> simp [cancelTask, closePc]
  refine ⟨cinv_of_no_close hno ?_ (fun _ => rfl) (fun _ => rfl) ?_, hno⟩
  · intro _
    show closedNow c'.trace = false
    rw [hco]
    cases hx : closedNow s.core.trace with
    | false => rfl
    | true => have := hc.closed_open hx; rw [ho] at this; cases this
  · exact fun _ h => Bool.noConfusion (hcl'.symm.trans h)

/-- the calling discipline: `open_socket()` and `close()` are not called while a `close()` is in progress -/
def disciplined (s : Sys) : Label → Bool
  | .apiOpen | .apiClose => !closing s.core.trace
  | _ => true

theorem purgeEvents_not_api (now : Nat) (q : List Entry) : ∀ e ∈ purgeEvents now q, apiEv e = false := by
  intro e he
  obtain ⟨_, _, _, rfl⟩ := mem_purgeEvents he; rfl

theorem sameFlags_purge (c : Core) : SameFlags c (purgedCore c) :=
  sameFlags_append _ rfl (purgeEvents_not_api c.now c.queue)

theorem CInv.env {s : Sys} {c' : Core} (hc : CInv s) (hr : EnvRel s.core c') : CInv { s with core := c' } :=
  have ⟨evs, ht, he⟩ := hr.trace_ext
  cinv_core hc (sameFlags_append evs ht fun e h => by obtain ⟨_, _, rfl⟩ := he e h; rfl) hr.rw hr.isOpen

theorem cinv_step {s s' : Sys} {l : Label} (hinv : Inv s) (hc : CInv s) (hd : disciplined s l = true)
    (h : step s l = some s') : CInv s' := by
  rcases step_block h with ⟨c', rfl, hr⟩ | ⟨s0, old, b, out, rest, ts', hb, rfl, hran⟩
  · exact hc.env hr.rel
  -- `CInvBlock` speaks of blocks that leave `is_open` and the two flags alone or end a `close()`.  The three blocks that
  -- log `apiOpen` / `apiClose` themselves and finish at once (`openAgain`, `openFresh`, `closeAgain`) do neither: they
  -- are taken as a change of the socket fields (`cinv_core_idle`) followed by a block that changes nothing; hence the
  -- state `⟨c1, s0.tasks⟩` the block is judged from, with `c1` the fields of `s0` or, for those three, the fields they leave.
  -- `Ran` speaks of the tables only, so it is the same for both.
  suffices hf : ∃ c1 cl, CInv ⟨c1, s0.tasks⟩ ∧ CInvBlock ⟨c1, s0.tasks⟩ old b out cl from
    have ⟨_, _, h1, hf⟩ := hf
    hf.ran h1 hran hb.spawned
  clear hran h
  have hcl : l = .apiOpen ∨ l = .apiClose → closing s.core.trace = false := by
    rintro (rfl | rfl) <;> simpa [disciplined] using hd
  -- an API call on a socket that is not in the middle of a `close()` logs and returns at once
  have idle : ∀ (c' : Core) (sp : List Pc), closing s.core.trace = false → closing c'.trace = false →
      (closedNow c'.trace = true → c'.isOpen = false) → (c'.isOpen = false → s.core.isOpen = false ∧ c'.rw = s.core.rw) →
      (c'.isOpen = false → sp = []) →
      ∃ c1 cl, CInv ⟨c1, s.tasks⟩ ∧ CInvBlock ⟨c1, s.tasks⟩ [] false ⟨c', .finished, sp⟩ cl :=
    fun c' sp h1 h2 h3 h4 h6 => ⟨c', false, cinv_core_idle hc h1 h2 h3 h4,
      cinvBlock_plain (SameFlags.refl _) rfl rfl fun _ => ⟨.inl rfl, fun ho => ⟨rfl, h6 ho⟩⟩⟩
  -- an API call that logs, leaves the flags alone and finishes at once
  have plain : ∀ {c' : Core}, SameFlags s.core c' → c'.rw = s.core.rw → c'.isOpen = s.core.isOpen →
      ∃ c1 cl, CInv ⟨c1, s.tasks⟩ ∧ CInvBlock ⟨c1, s.tasks⟩ [] false ⟨c', .finished, []⟩ cl :=
    fun hf hrw ho => ⟨_, _, hc, cinvBlock_plain hf ho rfl
      fun _ => ⟨.inl hrw, fun _ => ⟨rfl, rfl⟩⟩⟩
  -- a background task (its program counter is not one of an API call) runs a block that is not `exec`
  have bg : ∀ {t : Nat} {k0 : Model.Sock.Task} {o : Out}, s.tasks[t]? = some k0 → apiPc k0.pc = false →
      SameFlags s.core o.core → o.core.isOpen = s.core.isOpen → closePc o.pc = false →
      ∃ c1 cl, CInv ⟨c1, s.tasks⟩ ∧ CInvBlock ⟨c1, s.tasks⟩ [k0] k0.bg o cl :=
    fun hk0 hna hf ho hpc => ⟨_, _, hc, cinvBlock_plain hf ho hpc
      fun h => absurd (h _ _ hk0 (bg_of_not_api hinv (List.mem_of_getElem? hk0) hna))
        (fun e => by rw [e] at hna; cases hna)⟩
  have hcl1 : closing (closingCore s.core).trace = true := closing_concat _ _
  have hcan := fun ho hcl => cinv_cancel (c' := s.core.emit (.apiClose s.core.now)) hc hcl ho hcl1 (closedNow_concat _ _)
  cases hb with
  | openAgain ho =>
    exact idle _ _ (hcl (.inl rfl)) (closing_concat _ _) (fun h => Bool.noConfusion ((closedNow_concat _ _).symm.trans h))
      (fun h => Bool.noConfusion (ho.symm.trans h)) (fun _ => rfl)
  | openFresh _ =>
    exact idle _ _ (hcl (.inl rfl)) (closing_concat _ _) (fun h => Bool.noConfusion ((closedNow_concat _ _).symm.trans h))
      nofun nofun
  | closeAgain ho =>
    exact idle _ _ (hcl (.inr rfl)) (closing_concat _ _) (fun _ => ho) (fun _ => ⟨ho, rfl⟩) (fun _ => rfl)
  | closeGather ho _ =>
    obtain ⟨hc1, hno⟩ := hcan ho (hcl (.inr rfl))
    exact ⟨_, true, hc1, cinvBlock_act true rfl (.inl rfl) (fun _ => rfl) (fun _ => rfl)
      (fun _ => hcl1) (fun _ => .inr hno) (fun _ h => absurd rfl h) (.inl ⟨rfl, rfl, nofun, nofun⟩)⟩
  | closeNow ho hbg =>
    obtain ⟨hc1, hno⟩ := hcan ho (hcl (.inr rfl))
    have hall : AllBgDone { core := closingCore s.core, tasks := s.tasks.map cancelTask } := by
      intro i k hk hb
      simp only [List.getElem?_map, Option.map_eq_some_iff] at hk
      obtain ⟨k1, hk1, rfl⟩ := hk
      have hb1 : k1.bg = true := (cancelTask_spec k1).1.symm.trans hb
      have : k1.pc = .finished := hbg k1 (List.mem_of_getElem? hk1) hb1
      obtain ⟨pc, bg⟩ := k1
      cases this; cases hb1; rfl
    have hfr := exec_frame FUEL (closingCore s.core) [] (.disconnect .closeTail)
    exact ⟨_, true, hc1, cinvBlock_act true hfr.isOpen hfr.rw
      (fun _ => (exec_api_spawn rfl).2 rfl) (fun _ => rfl) (fun _ => hcl1) (fun _ => .inr hno) (fun _ _ => hall)
      (exec_close FUEL (closingCore s.core) [] (.disconnect .closeTail) (fun _ => trivial))⟩
  | reset => exact ⟨_, _, hc, cinvBlock_exec (shrink_emit _ _) (sameFlags_emit _ rfl) rfl fun _ => ⟨rfl, rfl⟩⟩
  | sendClosed => exact plain (sameFlags_emit _ rfl) rfl rfl
  | sendFull => exact plain ((sameFlags_purge _).trans (sameFlags_emit _ rfl)) rfl rfl
  | sendOk sid r life ok =>
    exact ⟨_, _, hc, cinvBlock_exec (shrink_accepted ..)
      ((sameFlags_purge _).trans (sameFlags_snoc (e := .accept sid s.core.now (s.core.now + life) r ok) rfl rfl)) rfl
      fun _ => ⟨rfl, rfl⟩⟩
  | exec t a k0 c0 kont hk0 hcase =>
    have ⟨cl, hf⟩ := cinvBlock_run_exec hinv hc hk0 rfl hcase
    exact ⟨_, cl, hc, hf⟩
  | connect t a k0 hk0 hpc =>
    have hna := spawnPc_not_api (connPc_spawnPc hpc)
    unfold connectBlock
    split
    · exact bg hk0 hna (SameFlags.refl _) rfl rfl
    · exact bg hk0 hna (sameFlags_snoc (e := .attempt s.core.now) rfl rfl) rfl rfl
  | openOk t k0 hk0 hpc =>
    exact bg hk0 (by rw [hpc]; rfl)
      ((sameFlags_snoc (e := .opened s.core.conns.length s.core.now) rfl rfl).trans (sameFlags_emit _ rfl)) rfl rfl
  | openRefused t a k0 hk0 hpc =>
    exact bg hk0 (by rw [hpc]; rfl) (sameFlags_snoc (e := .refused s.core.now) rfl rfl) rfl rfl
  | cancelled t a k0 hk0 hpc | readEof t k0 c hk0 hpc =>
    exact bg hk0 (by rw [hpc]; rfl) ⟨rfl, rfl⟩ rfl rfl
  | readMsg t k0 c tag hk0 hpc => exact bg hk0 (by rw [hpc]; rfl) (sameFlags_emit _ rfl) rfl rfl

/-- run a label sequence, refusing those that break the calling discipline -/
def runD (s : Sys) : List Label → Option Sys
  | [] => some s
  | l :: ls => if disciplined s l then (step s l).bind (fun s' => runD s' ls) else none

/-- states reachable by histories that respect the calling discipline (every schedule, every
    environment behaviour, every other use of the API) -/
def ReachableD (s : Sys) : Prop := ∃ ls, runD init ls = some s

open PyAirtouch.Lemmas.RunWith in
theorem runD_eq : runD = runW disciplined step := by
  funext s ls
  induction ls generalizing s with
  | nil => rfl
  | cons l ls ih => simp only [runD, runW, ih]

theorem runD_inv {P : Sys → Prop} (hstep : ∀ s l s', P s → disciplined s l = true → step s l = some s' → P s')
    (ls : List Label) (s s' : Sys) (hp : P s) (h : runD s ls = some s') : P s' :=
  RunWith.runW_induction (P := fun _ s => P s) hp (fun _ m l m' _ hpm hok hst => hstep m l m' hpm hok hst) ls s'
    (runD_eq ▸ h)

theorem ReachableD.reachable {s : Sys} (h : ReachableD s) : Reachable s :=
  have ⟨ls, h⟩ := h
  ⟨ls, run_eq ▸ RunWith.runW_mono (fun _ _ _ => rfl) (runD_eq ▸ h)⟩

theorem cinv_init : CInv init :=
  cinv_of_no_close (fun _ hk => nomatch hk) nofun nofun nofun fun _ _ => ⟨rfl, fun _ _ hk => by simp [init] at hk⟩

theorem cinv_reachableD {s : Sys} (h : ReachableD s) : CInv s :=
  have ⟨ls, h⟩ := h
  (runD_inv (P := fun s => Inv s ∧ CInv s) (fun _ _ _ hp hd hs => ⟨inv_step hp.1 hs, cinv_step hp.1 hp.2 hd hs⟩)
    ls _ _ ⟨inv_init, cinv_init⟩ h).2

/-- what a socket looks like between the return of `close()` and the next `open_socket()` -/
structure ClosedState (s : Sys) : Prop where
  isOpen : s.core.isOpen = false
  isConnected : s.core.isConnected = false
  rw : s.core.rw = none
  connecting : s.core.connecting = false
  no_live : ∀ i : Nat, (s.core.conns[i]?.map ConnSt.isLive) ≠ some true
  bg_done : ∀ k ∈ s.tasks, k.bg = true → k.pc = .finished
  api : ∀ k ∈ s.tasks, k.bg = false → apiPc k.pc = true

theorem ClosedState.not_liveAt {s : Sys} (h : ClosedState s) (i : Nat) : ¬ liveAt s.core i := h.no_live i

theorem closedState_of {s : Sys} (hinv : Inv s) (hc : CInv s) (h : closedNow s.core.trace = true) :
    ClosedState s := by
  have ho := hc.closed_open h
  have hcl : closing s.core.trace = false := by
    cases hx : closing s.core.trace with
    | false => rfl
    | true => have := hc.excl hx; rw [h] at this; cases this
  obtain ⟨hrw, hall⟩ := hc.idle ho hcl
  have hbg := allBgDone_iff.1 hall
  refine ⟨ho, by rw [hinv.core.conn_rw, hrw]; rfl, hrw, ?_, ?_, hbg, ?_⟩
  · cases hx : s.core.connecting with
    | false => rfl
    | true =>
      obtain ⟨k, hk, hop⟩ := hinv.connecting_opening hx
      have hb := bg_of_not_api hinv hk (openingPc_not_api hop)
      have := hbg k hk hb
      rw [this] at hop; cases hop
  · intro i hi
    have := hinv.core.live_rw i hi
    rw [hrw] at this; cases this
  · exact hinv.api_mem

/-! ### after `close()` has returned -/

/-- the only events a closed socket can still produce (`qdrop _ _ maxRetries`: a `send` that was suspended in
    `drain()` when the socket was closed gives up) -/
def quietEv : Ev → Bool
  | .apiClose _ | .apiCloseDone _ | .apiReset _ => true
  | .reject _ _ .notOpen => true
  | .qdrop _ _ .maxRetries => true
  | .notify false _ => true
  | _ => false

abbrev QuietExt : Core → Core → Prop := Ext (quietEv · = true)

theorem quietExt_emit (c : Core) {e : Ev} (he : quietEv e = true) : QuietExt c (c.emit e) := .single rfl he

theorem exec_closed (fuel : Nat) (c : Core) (sp : List Pc) (k : Kont) (hconn : c.isConnected = false)
    (hrw : c.rw = none) :
    (exec fuel c sp k).core.isConnected = false ∧ (exec fuel c sp k).core.rw = none ∧
    (exec fuel c sp k).core.queue = c.queue ∧ (exec fuel c sp k).core.conns = c.conns ∧
    QuietExt c (exec fuel c sp k).core := by
  fun_induction exec fuel c sp k
  case case7 hw => rw [hrw] at hw; cases hw
  case case16 hw => rw [hrw] at hw; cases hw
  case case9 => exact ⟨rfl, rfl, rfl, rfl, [_], rfl, by simp [quietEv]⟩
  case case12 => exact ⟨hconn, hrw, rfl, rfl, quietExt_emit _ rfl⟩
  -- the drain loop is not entered
  case case3 h _ _ | case4 h _ _ _ _ _ | case5 h _ _ _ _ _ | case6 h _ _ _ _ _ _ => simp [hconn] at h
  all_goals first | exact ⟨hconn, hrw, rfl, rfl, Ext.refl _⟩ | (rename_i ih; exact ih hconn hrw)

/-- what a block run on a closed socket has to be: the block of an API call (`b = false`) that leaves the socket
    closed, the transports alone, schedules nothing and logs quiet events only -/
structure ClosedBlock (s : Sys) (b : Bool) (out : Out) : Prop where
  api : b = false
  isOpen : out.core.isOpen = false
  isConnected : out.core.isConnected = false
  rw : out.core.rw = none
  connecting : out.core.connecting = false
  conns : out.core.conns = s.core.conns
  pc : apiPc out.pc = true
  spawn : out.spawned = []
  quiet : QuietExt s.core out.core

theorem ClosedBlock.ran {s : Sys} {out : Out} {ts' old rest : List Task} {b : Bool} (hf : ClosedBlock s b out)
    (hcs : ClosedState s) (hran : Ran s.tasks ts' old ⟨out.pc, b⟩ out.spawned rest) :
    ClosedState ⟨out.core, ts'⟩ ∧ QuietExt s.core out.core := by
  obtain ⟨rfl, ho, hc, hrw, hcg, hconns, hpc, hsp, hq⟩ := hf
  refine ⟨⟨ho, hc, hrw, hcg, ?_, ?_, ?_⟩, hq⟩
  · show ∀ i : Nat, (out.core.conns[i]?.map ConnSt.isLive) ≠ some true
    rw [hconns]; exact hcs.no_live
  · intro k hk hb
    rcases hran.mem_after hk with rfl | h | ⟨p, hp, rfl⟩
    · cases hb
    · exact hcs.bg_done k (hran.rest_mem_before h) hb
    · rw [hsp] at hp; cases hp
  · intro k hk hb
    rcases hran.mem_after hk with rfl | h | ⟨p, _, rfl⟩
    · exact hpc
    · exact hcs.api k (hran.rest_mem_before h) hb
    · cases hb

theorem closedBlock_exec {s : Sys} {c0 : Core} {kont : Kont} (hcs : ClosedState s) (hs : Shrink s.core c0)
    (hconns : c0.conns = s.core.conns) (hq : QuietExt s.core c0) (hapi : kApi kont = true) :
    ClosedBlock s false (exec FUEL c0 [] kont) := by
  have hfr := exec_frame FUEL c0 [] kont
  have ho := hs.isOpen.trans hcs.isOpen
  obtain ⟨h1, h2, _, h4, h5⟩ := exec_closed FUEL c0 [] kont (hs.isConnected.trans hcs.isConnected) (hs.rw.trans hcs.rw)
  exact ⟨rfl, hfr.isOpen.trans ho, h1, h2, hfr.connecting.trans (hs.connecting.trans hcs.connecting), h4.trans hconns,
    (exec_api FUEL c0 [] kont hapi).1, (exec_api_spawn hapi).2 ho, hq.trans h5⟩

/-- **close is final**: from a closed socket every label other than `open_socket()` leads to a closed
    socket again and produces quiet events only -/
theorem closed_step {s s' : Sys} {l : Label} (hcs : ClosedState s) (hl : l ≠ .apiOpen) (h : step s l = some s') :
    ClosedState s' ∧ QuietExt s.core s'.core := by
  have hnl : ∀ {cid : Nat} {p f : Bool}, s.core.conns[cid]? = some (.live p f) → False :=
    fun hc => hcs.not_liveAt _ (liveAt_iff_live.2 ⟨_, _, hc⟩)
  have hopen : s.core.isOpen = true → False := fun ho => Bool.noConfusion (hcs.isOpen.symm.trans ho)
  rcases step_block h with ⟨c', rfl, he⟩ | ⟨s0, old, b, out, rest, ts', hb, rfl, hran⟩
  · cases he with
    | advance t _ =>
      exact ⟨⟨hcs.isOpen, hcs.isConnected, hcs.rw, hcs.connecting, hcs.no_live, hcs.bg_done, hcs.api⟩, Ext.refl _⟩
    | lost cid p f hc | pause cid b p f hc | failWrites cid b p f hc => exact (hnl hc).elim
    | lostRan cid e _ =>
      refine ⟨⟨hcs.isOpen, hcs.isConnected, hcs.rw, hcs.connecting, ?_, hcs.bg_done, hcs.api⟩, Ext.refl _⟩
      exact fun i hi => hcs.not_liveAt i (liveAt_set_notLive s.core cid i (.dead e) rfl hi).1
  -- a closed socket is not open: no `close()` starts from another state
  have hs0 : s0 = s := hb.start.resolve_right fun ⟨ho, _⟩ => hopen ho
  suffices hf : ClosedBlock s0 b out from by subst hs0; exact hf.ran hcs hran
  clear hran h hs0
  -- only API-call tasks are left, and they are at program counters `exec` left them at
  have hbgc : ∀ {t : Nat} {k0 : Model.Sock.Task}, s.tasks[t]? = some k0 → k0.pc ≠ .finished → k0.bg = false := by
    intro t k0 hk0 hnf
    cases hb : k0.bg with
    | false => rfl
    | true => exact absurd (hcs.bg_done k0 (List.mem_of_getElem? hk0) hb) hnf
  have hapic : ∀ {t : Nat} {k0 : Model.Sock.Task}, s.tasks[t]? = some k0 → k0.pc ≠ .finished → apiPc k0.pc = true :=
    fun hk0 hnf => hcs.api _ (List.mem_of_getElem? hk0) (hbgc hk0 hnf)
  have hbg : ∀ {t : Nat} {k0 : Model.Sock.Task} {P : Prop}, s.tasks[t]? = some k0 → k0.pc ≠ .finished →
      apiPc k0.pc = false → P := fun hk0 hnf hna => Bool.noConfusion (hna.symm.trans (hapic hk0 hnf))
  have leaf : ∀ {c' : Core}, c'.isOpen = false → c'.isConnected = false → c'.rw = none → c'.connecting = false →
      c'.conns = s.core.conns → QuietExt s.core c' → ClosedBlock s false ⟨c', .finished, []⟩ :=
    fun h1 h2 h3 h4 h5 h6 => ⟨rfl, h1, h2, h3, h4, h5, rfl, rfl, h6⟩
  cases hb with
  | openAgain | openFresh => exact absurd rfl hl
  | closeAgain =>
    exact leaf hcs.isOpen hcs.isConnected hcs.rw hcs.connecting rfl
      ((quietExt_emit s.core (e := .apiClose s.core.now) rfl).trans (quietExt_emit _ rfl))
  | closeGather ho | closeNow ho | sendFull _ _ _ _ ho | sendOk _ _ _ _ ho => exact (hopen ho).elim
  | reset => exact closedBlock_exec hcs (shrink_emit _ (.apiReset s.core.now)) rfl (quietExt_emit _ rfl) rfl
  | sendClosed => exact leaf hcs.isOpen hcs.isConnected hcs.rw hcs.connecting rfl (quietExt_emit _ rfl)
  | exec t a k0 c0 kont hk0 hcase =>
    obtain ⟨_, hnf, hapi, _⟩ := hcase.pc_ok
    have hq0 : QuietExt s.core c0 ∧ c0.conns = s.core.conns := by
      generalize k0.pc = pc at hcase
      cases hcase with
      | drainErr w e r _ =>
        unfold requeue; split
        · exact ⟨quietExt_emit _ rfl, rfl⟩
        · exact ⟨Ext.of_trace_eq rfl, rfl⟩
      | _ => exact ⟨Ext.refl _, rfl⟩
    rw [hbgc hk0 hnf]
    exact closedBlock_exec hcs hcase.shrink hq0.2 hq0.1 (hapi (hapic hk0 hnf))
  | connect t a k0 hk0 hpc =>
    exact hbg hk0 (fun e => by rw [e] at hpc; cases hpc) (spawnPc_not_api (connPc_spawnPc hpc))
  | openOk t k0 hk0 hpc | openRefused t a k0 hk0 hpc | cancelled t a k0 hk0 hpc | readMsg t k0 c tag hk0 hpc
  | readEof t k0 c hk0 hpc => exact hbg hk0 (by rw [hpc]; nofun) (by rw [hpc]; rfl)

theorem send_not_open {s s' : Sys} {sid retries life : Nat} {encOk : Bool} (hclosed : s.core.isOpen = false)
    (h : step s (.apiSend sid retries life encOk) = some s') :
    s'.core.queue = s.core.queue ∧ s'.core.trace = s.core.trace ++ [.reject sid s.core.now .notOpen] := by
  obtain ⟨s0, old, b, out, rest, ts', hb, rfl, -⟩ := step_block_of rfl h
  cases hb with
  | sendClosed => exact ⟨rfl, rfl⟩
  | sendFull _ _ _ _ ho | sendOk _ _ _ _ ho => exact Bool.noConfusion (hclosed.symm.trans ho)

theorem closed_run {ls : List Label} : ∀ {s s' : Sys}, ClosedState s → (∀ l ∈ ls, l ≠ .apiOpen) →
    run s ls = some s' → ClosedState s' ∧ QuietExt s.core s'.core := by
  induction ls with
  | nil => intro s s' hcs _ h; cases h; exact ⟨hcs, Ext.refl _⟩
  | cons l ls ih =>
    intro s s' hcs hl h
    obtain ⟨s1, hs, h⟩ := Option.bind_eq_some_iff.1 h
    obtain ⟨h1, h2⟩ := closed_step hcs (hl l List.mem_cons_self) hs
    obtain ⟨h3, h4⟩ := ih h1 (fun l' hl' => hl l' (List.mem_cons_of_mem _ hl')) h
    exact ⟨h3, h2.trans h4⟩

/-- why the calling discipline also has to exclude a second `close()` during a `close()`: the
    second call returns at once, so `closedNow` holds, but the first call has not yet closed the
    transport (it is still held open and current) -/
theorem closedNow_needs_discipline :
    ∃ s, run init [.apiOpen, .run 1 .go, .run 1 .openOk, .apiClose, .apiClose] = some s ∧
      closedNow s.core.trace = true ∧ s.core.isConnected = true ∧ s.core.rw = some 0 ∧
      (s.core.conns[0]?.map ConnSt.isLive) = some true := by
  refine ⟨_, rfl, ?_⟩
  decide

/-! ### the C15 monitor of the specification on the traces of the model -/

/-- `closedNow`, started from an arbitrary status -/
def closedFrom (b : Bool) (tr : List Ev) : Bool :=
  tr.foldl (fun b ev => match ev with
    | .apiCloseDone _ => true
    | .apiOpen _ => false
    | _ => b) b

theorem closedNow_eq (tr : List Ev) : closedNow tr = closedFrom false tr := rfl

/-- what the monitor demands of one event, given whether the socket is closed -/
def evOk (closed : Bool) (e : Ev) : Bool := quietAfterClose closed [e]

theorem quietAfterClose_cons (b : Bool) (e : Ev) (tr : List Ev) :
    quietAfterClose b (e :: tr) = (evOk b e && quietAfterClose (closedFrom b [e]) tr) := by
  cases e with
  | reject sid t why => cases why <;> cases b <;> rfl
  | notify c t => cases c <;> cases b <;> rfl
  | census t tasks timers conns leaked => simp only [quietAfterClose, evOk, closedFrom, List.foldl, Bool.and_true]
  | _ => cases b <;> rfl

theorem quietAfterClose_concat (tr : List Ev) (e : Ev) : ∀ b : Bool,
    quietAfterClose b (tr ++ [e]) = (quietAfterClose b tr && evOk (closedFrom b tr) e) := by
  induction tr with
  | nil => intro b; simp [evOk, closedFrom, quietAfterClose]
  | cons x tr ih =>
    intro b
    rw [List.cons_append, quietAfterClose_cons, quietAfterClose_cons, ih, Bool.and_assoc]
    rfl

theorem c15_concat (tr : List Ev) (e : Ev) : c15 (tr ++ [e]) = (c15 tr && evOk (closedNow tr) e) :=
  quietAfterClose_concat tr e false

theorem evOk_open (e : Ev) : evOk false e = true := by
  cases e with
  | reject sid t why => cases why <;> rfl
  | notify c t => cases c <;> rfl
  | _ => rfl

theorem evOk_quiet {e : Ev} (b : Bool) (h : quietEv e = true) : evOk b e = true := by
  cases e with
  | reject sid t why => cases why <;> first | rfl | cases h
  | notify c t => cases c <;> first | rfl | cases h
  | qdrop sid t why => rfl
  | apiClose t => rfl
  | apiCloseDone t => rfl
  | apiReset t => rfl
  | _ => cases h

/-- the monitor accepts the trace so far and the socket is not closed: any event may follow -/
structure MonOpen (c : Core) : Prop where
  ok : c15 c.trace = true
  notClosed : closedNow c.trace = false

theorem c15_emit_open {c : Core} (h : MonOpen c) (e : Ev) : c15 (c.emit e).trace = true := by
  show c15 (c.trace ++ [e]) = true
  rw [c15_concat, h.ok, h.notClosed, evOk_open]; rfl

theorem MonOpen.emit {c : Core} (h : MonOpen c) {e : Ev} (he : apiEv e = false) : MonOpen (c.emit e) :=
  ⟨c15_emit_open h e, by rw [(sameFlags_emit c he).closedNow]; exact h.notClosed⟩

theorem MonOpen.of_trace_eq {c c' : Core} (h : MonOpen c) (ht : c'.trace = c.trace) : MonOpen c' :=
  ⟨by rw [ht]; exact h.ok, by rw [ht]; exact h.notClosed⟩

theorem MonOpen.append {c c' : Core} (h : MonOpen c) (evs : List Ev) (ht : c'.trace = c.trace ++ evs)
    (he : ∀ e ∈ evs, apiEv e = false) : MonOpen c' :=
  have hm := append_keeps (P := fun t => MonOpen { c with trace := t }) (fun _ _ he h => h.emit he) evs c.trace he h
  ⟨ht ▸ hm.ok, ht ▸ hm.notClosed⟩

theorem Ops.monOpen {x : Bool} {c c' : Core} (h : Ops x c c') (hm : MonOpen c) : MonOpen c' :=
  have ⟨evs, ht, he⟩ := h.trace
  hm.append evs ht he

/-- while the socket is not closed, whatever `exec` appends is accepted by the monitor (the only
    event that changes the status, `apiCloseDone`, is the last thing `exec` does) -/
theorem c15_exec (fuel : Nat) (c : Core) (sp : List Pc) (k : Kont) (h : MonOpen c) :
    c15 (exec fuel c sp k).core.trace = true := by
  obtain ⟨c1, ho, e | ⟨_, e⟩⟩ := exec_ops fuel c sp k <;> rw [e]
  · exact (ho.monOpen h).ok
  · exact c15_emit_open (ho.monOpen h) _

theorem c15_quietExt {c c' : Core} (h : c15 c.trace = true) (hq : QuietExt c c') : c15 c'.trace = true := by
  obtain ⟨evs, he, hq⟩ := hq
  rw [he]
  exact append_keeps (P := fun t => c15 t = true)
    (fun t e hq h => by rw [c15_concat, h, evOk_quiet _ hq]; rfl) evs c.trace hq h

theorem c15_step {s s' : Sys} {l : Label} (hcs : closedNow s.core.trace = true → ClosedState s)
    (hm : c15 s.core.trace = true) (h : step s l = some s') : c15 s'.core.trace = true := by
  cases hcn : closedNow s.core.trace with
  | true =>
    by_cases hl : l = .apiOpen
    · subst hl
      have : c15 (s.core.emit (.apiOpen s.core.now)).trace = true := by
        show c15 (s.core.trace ++ [_]) = true
        rw [c15_concat, hm]; rfl
      obtain ⟨s0, old, b, out, rest, ts', hb, rfl, -⟩ := step_block_of rfl h
      cases hb with
      | openAgain | openFresh => exact this
    · exact c15_quietExt hm (closed_step (hcs hcn) hl h).2
  | false =>
    have ho : MonOpen s.core := ⟨hm, hcn⟩
    have hclose : MonOpen (s.core.emit (.apiClose s.core.now)) :=
      ⟨c15_emit_open ho _, by
        show closedNow (s.core.trace ++ [_]) = false
        rw [closedNow_concat]; exact hcn⟩
    have hpurge : MonOpen (purgedCore s.core) := ho.append _ rfl (purgeEvents_not_api _ _)
    have one : ∀ e, c15 (s.core.trace ++ [e]) = true := c15_emit_open ho
    rcases step_block h with ⟨c', rfl, he⟩ | ⟨s0, old, b, out, rest, ts', hb, rfl, -⟩
    · cases he with
      | advance | lostRan | pause | failWrites => exact hm
      | lost => exact one _
    clear h
    cases hb with
    | openAgain | openFresh | sendClosed => exact one _
    | closeAgain => exact c15_emit_open hclose _
    | closeGather => exact hclose.ok
    | closeNow => exact c15_exec _ _ _ _ (hclose.of_trace_eq (c' := closingCore s.core) rfl)
    | reset => exact c15_exec _ _ _ _ (ho.emit rfl)
    | sendFull => exact c15_emit_open hpurge _
    | sendOk sid r life ok =>
      exact c15_exec _ _ _ _ (MonOpen.emit (hpurge.of_trace_eq
        (c' := { purgedCore s.core with
                   queue := (purgedCore s.core).queue ++ [(⟨sid, r, s.core.now + life, ok, false⟩ : Entry)] }) rfl) rfl)
    | exec t a k0 c0 kont hk0 hcase => exact c15_exec _ _ _ _ (hcase.ops.monOpen ho)
    | connect =>
      unfold connectBlock; split
      · exact hm
      · exact one _
    | openOk =>
      have h1 : MonOpen (s.core.emit (.opened s.core.conns.length s.core.now)) := ho.emit rfl
      exact c15_emit_open (h1.of_trace_eq rfl) (.notify true s.core.now)
    | openRefused | readMsg => exact one _
    | cancelled | readEof => exact hm

theorem c15_reachableD {s : Sys} (h : ReachableD s) : c15 s.core.trace = true :=
  have ⟨ls, h⟩ := h
  (runD_inv (P := fun s => (Inv s ∧ CInv s) ∧ c15 s.core.trace = true)
    (fun _ _ _ hp hd hs => ⟨⟨inv_step hp.1.1 hs, cinv_step hp.1.1 hp.1.2 hd hs⟩,
      c15_step (closedState_of hp.1.1 hp.1.2) hp.2 hs⟩) ls _ _ ⟨⟨inv_init, cinv_init⟩, rfl⟩ h).2

end PyAirtouch.Lemmas.SockConn
