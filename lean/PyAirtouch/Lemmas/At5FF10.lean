import PyAirtouch.Model.At5.FF10
/-! Round trip and length lemmas for the AirTouch 5 AC error information codec. -/
namespace PyAirtouch.Lemmas.At5FF10
open PyAirtouch.Model PyAirtouch.Model.At5.FF10

theorem encode_length (m : Msg) : (encode m).length = size m := by
  cases m with
  | request r => rfl
  | message m => simp [encode, size]; omega

theorem encodeE_ok (m : Msg) (h : WF m) : encodeE m = .ok (encode m) := by
  cases m with
  | request r => rfl
  | message m =>
    obtain ⟨_, hs⟩ := h
    rcases m with ⟨ac, e⟩
    cases e with
    | none => simp [encodeE, errText]
    | some s =>
      have hl : s.length < 256 := by have := (hs s rfl).2.1; omega
      simp [encodeE, errText, hl]

theorem decode_encode (m : Msg) (h : WF m) (rest : Bytes) :
    decode (encode m ++ rest) (size m) = .ok (m, rest) := by
  cases m with
  | request r =>
    rcases r with ⟨ac⟩
    have hac : ac < 256 := h
    simp [decode, encode, size, Nat.mod_eq_of_lt hac]
  | message m =>
    rcases m with ⟨ac, e⟩
    obtain ⟨hac, hs⟩ := h
    simp only at hac hs
    cases e with
    | none => simp [decode, encode, size, errText, Nat.mod_eq_of_lt hac]
    | some s =>
      obtain ⟨hne, _, hv⟩ := hs s rfl
      have hpos : s.length > 0 := List.length_pos_iff.mpr hne
      have hsz : 2 + s.length ≠ 1 := by omega
      simp only [decode, encode, size, errText, Option.getD_some, List.cons_append, List.nil_append,
        hsz, ↓reduceIte, hpos, List.take_left', List.drop_left', hv, Nat.mod_eq_of_lt hac]

theorem wfBool_iff (m : Msg) : wfBool m = true ↔ WF m := by
  cases m with
  | request r => simp [wfBool, WF]
  | message m =>
    rcases m with ⟨ac, e⟩
    cases e with
    | none => simp [wfBool, WF]
    | some s => simp [wfBool, WF, and_assoc]

/-- the case excluded by `WF`: the empty text is encoded like `None` and decodes as `None` -/
theorem empty_text_not_preserved (ac : Nat) (rest : Bytes) :
    decode (encode (.message ⟨ac % 256, some []⟩) ++ rest) (size (.message ⟨ac % 256, some []⟩))
      = .ok (.message ⟨ac % 256, none⟩, rest) := by
  simp [decode, encode, size, errText]

end PyAirtouch.Lemmas.At5FF10
