import PyAirtouch.Model.At5.C020
import PyAirtouch.Lemmas.At5Utils
import PyAirtouch.Lemmas.Records
/-! Round trip and length lemmas for the AirTouch 5 zone control codec (0xC020). -/
namespace PyAirtouch.Lemmas.At5C020
open PyAirtouch.Model PyAirtouch.Model.At5.Utils PyAirtouch.Model.At5.C020 PyAirtouch.Gen.At5.XC020ZoneCtrl
open PyAirtouch.Lemmas.At5Utils PyAirtouch.Lemmas.Records

/-- what `struct.pack` produces for a well-formed record -/
def recBytes (z : ZoneControlData) : Bytes :=
  [z.zone_number, (encSetting z.zone_setting).1 * 32 + z.zone_power.toNat, (encSetting z.zone_setting).2.toNat, 0]

theorem encRec_length (z : ZoneControlData) (bs : Bytes) (h : encRec z = .ok bs) : bs.length = recSize := by
  simp only [encRec, bind, Except.bind, pure, Except.pure] at h
  split at h
  · cases h
  · split at h
    · cases h
    · split at h
      · cases h
      · cases h; rfl

theorem encode_length (m : Msg) (bs : Bytes) (h : encode m = .ok bs) :
    bs.length = nonRepeatSize m + repeatSize m * repeatCount m := by
  simp only [nonRepeatSize, repeatSize, repeatCount, Nat.zero_add]
  exact Records.encRecs_length (encRecs := encRecs) rfl (fun _ _ => rfl) encRec_length m.zone_control bs h

theorem setting_facts (st : Option ZoneSetting) (hs : WFSetting st) :
    (encSetting st).1 < 8 ∧ packB (encSetting st).2 = .ok (encSetting st).2.toNat ∧
    ∀ b2, b2 / 32 % 8 = (encSetting st).1 → decSetting b2 (encSetting st).2.toNat = st := by
  rcases st with _ | (v | p | sp)
  · exact ⟨by decide, rfl, fun b2 h => by simp only [decSetting, h]; rfl⟩
  · exact ⟨by cases v <;> decide, rfl, fun b2 h => by simp only [decSetting, h]; cases v <;> rfl⟩
  · exact ⟨(by decide : SET_PERCENTAGE < 8), packB_nat hs, fun b2 h => by simp only [decSetting, h]; rfl⟩
  · refine ⟨(by decide : SET_SETPOINT < 8), packB_encodeSetPoint hs.1 hs.2, fun b2 h => ?_⟩
    simp only [decSetting, h]
    exact congrArg (fun x => some (ZoneSetting.setPoint x)) (decodeSetPoint_encodeSetPoint hs.1)

/-- byte 2: setting code (bits 5-7), control type kept (bits 3-4 zero), power (bits 0-2) -/
theorem byte2_fields {c p : Nat} (hc : c < 8) (hp : p < 8) :
    (c * 32 + p) / 32 % 8 = c ∧ (c * 32 + p) / 8 % 4 = 0 ∧ (c * 32 + p) % 8 = p := by
  have h := (BitField.fields_3_2_3 hc (by decide : 0 < 4) hp).2
  rwa [Nat.zero_mul, Nat.add_zero] at h

theorem encRec_ok (z : ZoneControlData) (h : WFRec z) : encRec z = .ok (recBytes z) := by
  obtain ⟨hcode, hval, _⟩ := setting_facts z.zone_setting h.2
  have hp : z.zone_power.toNat < 8 := by cases z.zone_power <;> decide
  have hb2 : (encSetting z.zone_setting).1 * 32 + z.zone_power.toNat < 256 := by omega
  simp only [encRec, packB_nat h.1, hval, packB_nat hb2, bind, Except.bind, pure, Except.pure, recBytes]

theorem decRec_recBytes (z : ZoneControlData) (h : WFRec z) (rest : Bytes) :
    decRec (recBytes z ++ rest) = .ok (z, rest) := by
  obtain ⟨hcode, _, hdec⟩ := setting_facts z.zone_setting h.2
  have hp : z.zone_power.toNat < 8 := by cases z.zone_power <;> decide
  have hp' : ZonePowerControl.ofNat? z.zone_power.toNat = some z.zone_power := by cases z.zone_power <;> rfl
  obtain ⟨f2, -, f1⟩ := byte2_fields hcode hp
  simp only [recBytes, List.cons_append, List.nil_append, decRec, f1, hp', hdec _ f2]

theorem encRecs_ok (zs : List ZoneControlData) (h : ∀ z ∈ zs, WFRec z) :
    encRecs zs = .ok (zs.flatMap recBytes) :=
  Records.encRecs_ok (encRecs := encRecs) rfl (fun _ _ => rfl) encRec_ok zs h

theorem encode_ok (m : Msg) (h : WF m) : ∃ bs, encode m = .ok bs :=
  ⟨_, encRecs_ok m.zone_control h⟩

theorem decode_encode (m : Msg) (h : WF m) (rest : Bytes) :
    ∃ bs, encode m = .ok bs ∧
      decode (bs ++ rest) (nonRepeatSize m) (repeatSize m) (repeatCount m) = .ok (m, rest) := by
  refine ⟨_, encRecs_ok m.zone_control h, ?_⟩
  simp only [decode, repeatCount]
  rw [decRecs_flatMap (decRecs := decRecs) (fun _ => rfl) (fun _ _ => rfl) decRec_recBytes m.zone_control h]
  rfl

theorem wfSettingBool_iff (s : Option ZoneSetting) : wfSettingBool s = true ↔ WFSetting s := by
  rcases s with _ | (v | p | sp) <;>
    simp [wfSettingBool, WFSetting]

theorem wfRecBool_iff (z : ZoneControlData) : wfRecBool z = true ↔ WFRec z := by
  simp only [wfRecBool, WFRec, Bool.and_eq_true, decide_eq_true_eq, wfSettingBool_iff]

theorem wfBool_iff (m : Msg) : wfBool m = true ↔ WF m := by
  simp only [wfBool, WF, List.all_eq_true, wfRecBool_iff]

end PyAirtouch.Lemmas.At5C020
