import PyAirtouch.Model.At5.C021
import PyAirtouch.Lemmas.At5Utils
import PyAirtouch.Lemmas.Records
/-!
Round trip and length lemmas for the AirTouch 5 zone status codec (0xC021).

A zone temperature of exactly 0.0 °C is an ordinary well-formed value (the encoder tests
`if temperature is not None:`); `roundtrip_at_zero` is the concrete example.
-/
namespace PyAirtouch.Lemmas.At5C021
open PyAirtouch.Model PyAirtouch.Model.At5.Utils PyAirtouch.Model.At5.C021 PyAirtouch.Gen.At5.XC021ZoneStatus
open PyAirtouch.Lemmas.BitField PyAirtouch.Lemmas.At5Utils PyAirtouch.Lemmas.Records

/-- what `struct.pack` produces for a well-formed record -/
def recBytes (z : ZoneStatusData) : Bytes :=
  [z.zone_number % 64 + z.power_state.toNat * 64, z.control_method.toNat * 128 + z.damper_percentage % 128,
   (encSetPoint z.set_point).toNat, boolToBit z.has_sensor 7,
   encTemp z.temperature / 256 % 256, encTemp z.temperature % 256,
   boolToBit z.spill_active 1 + z.battery_status.toNat, 0]

theorem recBytes_length (z : ZoneStatusData) : (recBytes z).length = recSize := rfl

theorem encRec_length (z : ZoneStatusData) (bs : Bytes) (h : encRec z = .ok bs) : bs.length = recSize := by
  simp only [encRec, bind, Except.bind, pure, Except.pure] at h
  split at h
  · cases h
  · cases h; rfl

theorem encode_length (m : Msg) (bs : Bytes) (h : encode m = .ok bs) :
    bs.length = nonRepeatSize m + repeatSize m * repeatCount m := by
  cases m with
  | request => cases h; rfl
  | status zs =>
    simp only [nonRepeatSize, repeatSize, repeatCount, Nat.zero_add]
    exact Records.encRecs_length (encRecs := encRecs) rfl (fun _ _ => rfl) encRec_length zs bs h

/-- byte 3, for the encoder and for the decoder: `struct.pack` accepts the set-point code, and it is read back
    (no admitted set-point has the code 255, which stands for "none") -/
theorem setPoint_facts (sp : Option Int) (h : ∀ v, sp = some v → 100 ≤ v ∧ v ≤ 354) :
    packB (encSetPoint sp) = .ok (encSetPoint sp).toNat ∧ decSetPoint (encSetPoint sp).toNat = sp := by
  cases sp with
  | none => exact ⟨rfl, rfl⟩
  | some v =>
    obtain ⟨h1, h2⟩ := h v rfl
    have hv : v ≠ 0 := by omega
    have hne : (encodeSetPoint v).toNat ≠ INVALID_SET_POINT := by
      simp only [encodeSetPoint, INVALID_SET_POINT]; omega
    simp only [encSetPoint, hv, ↓reduceIte]
    exact ⟨packB_encodeSetPoint h1 (by omega), by
      simp only [decSetPoint, hne, ↓reduceIte, decodeSetPoint_encodeSetPoint h1]⟩

/-- bytes 5-6 as the decoder sees them: "none" is sent as a code above the maximum temperature, a temperature
    (only with a sensor) as its 11-bit code -/
theorem temp_facts (hs : Bool) (t : Option Int)
    (h : ∀ v, t = some v → hs = true ∧ -500 ≤ v ∧ v ≤ 1500) :
    decTemp hs (be16 (encTemp t / 256 % 256) (encTemp t % 256)) = t := by
  cases t with
  | none => cases hs <;> rfl
  | some v =>
    obtain ⟨rfl, h1, h2⟩ := h v rfl
    have hle : ¬ v > MAXIMUM_TEMPERATURE_tenths := by simp only [MAXIMUM_TEMPERATURE_tenths]; omega
    simp only [encTemp, decTemp, decodeTemperature_word h1 (by omega : v ≤ 1547), hle, Bool.not_true,
      Bool.false_or, decide_false, Bool.false_eq_true, ↓reduceIte]

theorem encRec_ok (z : ZoneStatusData) (h : WFRec z) : encRec z = .ok (recBytes z) := by
  simp only [encRec, (setPoint_facts z.set_point h.2.2.1).1, bind, Except.bind, pure, Except.pure, recBytes,
    be16Bytes, List.cons_append, List.nil_append]

theorem decRec_recBytes (z : ZoneStatusData) (h : WFRec z) (rest : Bytes) :
    decRec (recBytes z ++ rest) = .ok z := by
  obtain ⟨hz, hd, hs, ht⟩ := h
  have hsp := (setPoint_facts z.set_point hs).2
  have htemp := temp_facts z.has_sensor z.temperature ht
  rcases z with ⟨zn, ps, spill, cm, sensor, bat, temp, damper, sp⟩
  simp only at hz hd hsp htemp
  have hps : ps.toNat < 4 := by cases ps <;> decide
  have hcm : cm.toNat < 2 := by cases cm <;> decide
  have hbat : bat.toNat < 2 := by cases bat <;> decide
  have hps' : ZonePowerState.ofNat? ps.toNat = some ps := by cases ps <;> rfl
  have hcm' : ZoneControlMethod.ofNat? cm.toNat = some cm := by cases cm <;> rfl
  have hbat' : SensorBatteryStatus.ofNat? bat.toNat = some bat := by cases bat <;> rfl
  have hspill : (spill.toNat * 2 + bat.toNat) / 2 % 2 = spill.toNat := pack_div_mod hbat spill.toNat_lt
  -- byte 1 by `pack_*' hz` (low field first), byte 2 by `pack_* hd`, byte 3 by `hsp`, byte 4 by
  -- `bitToBool_boolToBit`, bytes 5-6 by `htemp`, byte 7 by `hspill` and `pack_mod hbat`
  simp only [recBytes, List.cons_append, List.nil_append, decRec, Nat.mod_eq_of_lt hz, Nat.mod_eq_of_lt hd,
    pack_div_mod' hz hps, pack_mod' hz, pack_div_mod hd hcm, pack_mod hd, boolToBit_eq spill, Nat.pow_one,
    pack_mod hbat, bitToBool_of_toNat (k := 1) hspill, bitToBool_boolToBit, hps', hcm', hbat', htemp, hsp]

theorem encRecs_ok (zs : List ZoneStatusData) (h : ∀ z ∈ zs, WFRec z) :
    encRecs zs = .ok (zs.flatMap recBytes) :=
  Records.encRecs_ok (encRecs := encRecs) rfl (fun _ _ => rfl) encRec_ok zs h

theorem encode_ok (m : Msg) (h : WF m) : ∃ bs, encode m = .ok bs := by
  cases m with
  | request => exact ⟨[], rfl⟩
  | status zs => exact ⟨_, encRecs_ok zs h⟩

theorem decode_encode (m : Msg) (h : WF m) (rest : Bytes) :
    ∃ bs, encode m = .ok bs ∧
      decode (bs ++ rest) (nonRepeatSize m) (repeatSize m) (repeatCount m) = .ok (m, rest) := by
  cases m with
  | request => exact ⟨[], rfl, by simp [decode, repeatSize, repeatCount]⟩
  | status zs =>
    refine ⟨_, encRecs_ok zs h, ?_⟩
    have h8 : ¬ (recSize = 0 ∧ zs.length = 0) := by simp [recSize, STRUCT_size]
    simp only [decode, repeatSize, repeatCount, h8, ↓reduceIte, Nat.lt_irrefl]
    simp only [nonRepeatSize, List.drop_zero]
    rw [decRecs_stride_flatMap (decRecs := decRecs _) (fun _ => rfl) (fun _ _ => rfl) recBytes_length
      decRec_recBytes zs h]
    rfl

/-- zone 0 with a sensor reporting exactly 0.0 °C, as decoded from `00 00 ff 80 01 f4 00 00` -/
def zeroDegrees : ZoneStatusData :=
  { zone_number := 0, power_state := .OFF, spill_active := false, control_method := .DAMPER,
    has_sensor := true, battery_status := .NORMAL, temperature := some 0, damper_percentage := 0,
    set_point := none }

theorem zeroDegrees_wf : WF (.status [zeroDegrees]) := by
  intro z hz
  simp only [List.mem_singleton] at hz
  subst hz
  refine ⟨by decide, by decide, ?_, ?_⟩
  · intro sp h; cases h
  · intro t h
    cases h
    exact ⟨rfl, by decide, by decide⟩

/-- 0.0 °C is sent as the temperature code 0x01F4 and decodes to 0.0 °C again -/
theorem roundtrip_at_zero :
    encode (.status [zeroDegrees]) = .ok [0x00, 0x00, 0xFF, 0x80, 0x01, 0xF4, 0x00, 0x00] ∧
    decode [0x00, 0x00, 0xFF, 0x80, 0x01, 0xF4, 0x00, 0x00] 0 8 1 = .ok (.status [zeroDegrees], []) :=
  ⟨rfl, rfl⟩

theorem wfRecBool_iff (z : ZoneStatusData) : wfRecBool z = true ↔ WFRec z := by
  rcases z with ⟨zn, ps, spill, cm, sensor, bat, temp, damper, sp⟩
  cases sp <;> cases temp <;> simp [wfRecBool, WFRec, and_assoc]

theorem wfBool_iff (m : Msg) : wfBool m = true ↔ WF m := by
  cases m with
  | request => simp [wfBool, WF]
  | status zs =>
    simp only [wfBool, WF, List.all_eq_true, wfRecBool_iff]

end PyAirtouch.Lemmas.At5C021
