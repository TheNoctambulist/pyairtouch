import PyAirtouch.Model.HeartbeatX
import PyAirtouch.Lemmas.Heartbeat
/-!
# Invariants of the heartbeat model extended with refused heartbeats (`Model/HeartbeatX.lean`)

Every induction is over extended label lists; in each step lemma the `base` labels are left to the per-step lemma
or the action analysis (`Step`) of the base model (`Lemmas/Heartbeat.lean`), the `beatRefused` case is new - and
short, because a refused heartbeat changes `hl` only.
-/
namespace PyAirtouch.Lemmas.HeartbeatX
open PyAirtouch.Model.Heartbeat PyAirtouch.Spec.Heartbeat PyAirtouch.Lemmas.Heartbeat

theorem runX_eq_foldlM : ∀ (ls : List LabelX) (h : HB), runX h ls = ls.foldlM stepX h :=
  eq_foldlM (fun _ => rfl) (fun _ _ _ => rfl)

theorem runOld_eq_foldlM : ∀ (ls : List LabelX) (h : HB), runOld h ls = ls.foldlM stepOld h :=
  eq_foldlM (fun _ => rfl) (fun _ _ _ => rfl)

theorem reachableX_inv {P : HB → Prop} {i t : Nat} (h0 : P (init i t))
    (hstep : ∀ h l h', P h → stepX h l = some h' → P h') {h : HB} : ReachableX i t h → P h :=
  fun ⟨ls, hr⟩ => foldlM_inv ls _ _ (fun l _ a b => hstep a l b) h0 (runX_eq_foldlM ls _ ▸ hr)

theorem runX_append {h : HB} {ls1 ls2 : List LabelX} :
    runX h (ls1 ++ ls2) = (runX h ls1).bind (fun h' => runX h' ls2) := by
  simp only [runX_eq_foldlM, List.foldlM_append, Option.bind_eq_bind]

theorem reachableX_run {i t : Nat} {h h' : HB} {ls : List LabelX} :
    ReachableX i t h → runX h ls = some h' → ReachableX i t h' := by
  intro ⟨ls0, hr⟩ hs
  exact ⟨ls0 ++ ls, by rw [runX_append, hr]; exact hs⟩

theorem reachableX_step {i t : Nat} {h h' : HB} {l : LabelX} :
    ReachableX i t h → stepX h l = some h' → ReachableX i t h' :=
  fun hr hs => reachableX_run (ls := [l]) hr (by rw [runX, hs]; rfl)

theorem runX_base {h : HB} (ls : List Label) : runX h (ls.map .base) = run h ls := by
  rw [runX_eq_foldlM, run_eq_foldlM, List.foldlM_map]; rfl

theorem reachableX_of_reachable {i t : Nat} {h : HB} : Reachable i t h → ReachableX i t h :=
  fun ⟨ls, hr⟩ => ⟨ls.map .base, by rw [runX_base, hr]⟩

/-- what a refused heartbeat is, under either code: the heartbeat loop was due (`hl = .sleeping u`, `u ≤ now`), the
    link is up, and the only field that changes is `hl` -/
theorem refuse_eq {h h' : HB} {next : HL} (hs : refuse h next = some h') :
    ∃ u, h.hl = .sleeping u ∧ u ≤ h.now ∧ h.connected = true ∧ h' = { h with hl := next } := by
  unfold refuse at hs
  split at hs
  · next u hu =>
    split at hs
    · next hc =>
      simp only [Bool.and_eq_true, decide_eq_true_eq] at hc
      cases hs
      exact ⟨u, hu, hc.1, hc.2, rfl⟩
    · cases hs
  · cases hs

/-! ### the invariants of the base model hold for the extended system -/

theorem basic_stepX {i t : Nat} {h h' : HB} {l : LabelX} :
    Basic i t h → stepX h l = some h' → Basic i t h' := by
  intro hb hs
  cases l with
  | base l => exact basic_step hb hs
  | beatRefused =>
    obtain ⟨u, hu, -, -, rfl⟩ := refuse_eq hs
    exact hb.beat hu _

theorem reachableX_basic {i t : Nat} {h : HB} : ReachableX i t h → Basic i t h :=
  reachableX_inv (basic_init i t) (fun _ _ _ => basic_stepX)

theorem armInv_stepX {i t : Nat} {h h' : HB} {l : LabelX} (hb : Basic i t h) (ha : ArmInv t h)
    (hs : stepX h l = some h') : ArmInv t h' := by
  cases l with
  | base l => exact armInv_step hb ha hs
  | beatRefused =>
    obtain ⟨u, -, -, -, rfl⟩ := refuse_eq hs
    exact ⟨ha.1, ha.2, ha.3, ha.4⟩

theorem reachableX_armInv {i t : Nat} {h : HB} (hr : ReachableX i t h) : ArmInv t h :=
  (reachableX_inv (P := fun h => Basic i t h ∧ ArmInv t h) ⟨basic_init i t, armInv_init i t⟩
    (fun _ _ _ hp hs => ⟨basic_stepX hp.1 hs, armInv_stepX hp.1 hp.2 hs⟩) hr).2

def startedStep (b : Bool) : HEv → Bool
  | .start _ => true
  | .stop _ => false
  | _ => b

/-- the latest `start` / `stop` event of the record is a `start` -/
def started (tr : List HEv) : Bool := tr.foldl startedStep false

theorem started_append (tr : List HEv) (e : HEv) : started (tr ++ [e]) = startedStep (started tr) e := by
  simp [started, List.foldl_append]

/-- monitoring is started (after a `start` and before the next `stop`) iff the heartbeat loop is alive
    (`.sleeping _`), iff the timeout loop is alive -/
structure HlAlive (h : HB) : Prop where
  hl : started h.trace = true ↔ ∃ u, h.hl = .sleeping u
  tl : started h.trace = true ↔ h.tl ≠ .idle

theorem hlAlive_init (i t : Nat) : HlAlive (init i t) := by
  constructor <;> simp [init, started]

theorem HlAlive.of_eq {h h' : HB} (a : HlAlive h) (e1 : started h'.trace = started h.trace)
    (e2 : (∃ u, h'.hl = .sleeping u) ↔ ∃ u, h.hl = .sleeping u) (e3 : h'.tl = .idle ↔ h.tl = .idle) :
    HlAlive h' :=
  ⟨by rw [e1, e2]; exact a.hl, by rw [e1, ne_eq, e3]; exact a.tl⟩

theorem started_emit (tr : List HEv) (e : HEv) (he : ∀ b, startedStep b e = b) :
    started (tr ++ [e]) = started tr :=
  (started_append tr e).trans (he _)

theorem hlAlive_step {h h' : HB} {l : Label} (a : HlAlive h) (hs : step h l = some h') : HlAlive h' := by
  cases step_iff.mp hs with
  | advance | startAgain | stopAgain => exact a.of_eq rfl .rfl .rfl
  | conn | response => exact a.of_eq (started_emit _ _ fun _ => rfl) .rfl .rfl
  | wake e | fireDown e => exact a.of_eq rfl .rfl (iff_of_false nofun (e ▸ nofun))
  | fireUp e | resetDone e =>
    exact a.of_eq (started_emit _ _ fun _ => rfl) .rfl (iff_of_false nofun (e ▸ nofun))
  | beatUp e => exact a.of_eq (started_emit _ _ fun _ => rfl) (iff_of_true ⟨_, rfl⟩ ⟨_, e⟩) .rfl
  | beatDown e => exact a.of_eq rfl (iff_of_true ⟨_, rfl⟩ ⟨_, e⟩) .rfl
  | start =>
    exact ⟨iff_of_true (started_append _ _) ⟨_, rfl⟩, iff_of_true (started_append _ _) nofun⟩
  | stop =>
    have off : started (h.trace ++ [.stop h.now]) ≠ true := by rw [started_append]; nofun
    exact ⟨iff_of_false off (fun ⟨_, e⟩ => nomatch e), iff_of_false off (fun k => k rfl)⟩

theorem hlAlive_stepX {h h' : HB} {l : LabelX} (a : HlAlive h) (hs : stepX h l = some h') :
    HlAlive h' := by
  cases l with
  | base l => exact hlAlive_step a hs
  | beatRefused =>
    obtain ⟨u, hu, -, -, rfl⟩ := refuse_eq hs
    exact a.of_eq rfl (iff_of_true ⟨_, rfl⟩ ⟨u, hu⟩) .rfl

theorem reachableX_hlAlive {i t : Nat} {h : HB} : ReachableX i t h → HlAlive h :=
  reachableX_inv (hlAlive_init i t) (fun _ _ _ => hlAlive_stepX)

/-! ### no extended step except `stop` ends the heartbeat loop -/

theorem stepX_keeps_loop {h h' : HB} {l : LabelX} (hs : stepX h l = some h') (hne : l ≠ .base .stop)
    (hu : ∃ u, h.hl = .sleeping u) : ∃ u', h'.hl = .sleeping u' := by
  cases l with
  | base l =>
    cases step_iff.mp hs
    case stop | stopAgain => exact absurd rfl hne
    case start | beatUp | beatDown => exact ⟨_, rfl⟩
    all_goals exact hu
  | beatRefused =>
    obtain ⟨u, -, -, -, rfl⟩ := refuse_eq hs
    exact ⟨_, rfl⟩

theorem runX_keeps_loop (ls : List LabelX) (h h' : HB) (hr : runX h ls = some h')
    (hl : ∀ l ∈ ls, l ≠ .base .stop) (hu : ∃ u, h.hl = .sleeping u) : ∃ u', h'.hl = .sleeping u' :=
  foldlM_inv (P := fun x => ∃ u, x.hl = .sleeping u) ls h h'
    (fun l hm _ _ hp hs => stepX_keeps_loop hs (hl l hm) hp) hu (runX_eq_foldlM ls h ▸ hr)

/-! ### time does not pass a pending deadline unnoticed (extended runs) -/

theorem stepX_keeps_deadline {h h' : HB} {l : LabelX} {d a : Nat} (hs : stepX h l = some h')
    (hk : h.tl = .waiting d ∧ h.now ≤ d ∧ h.lastArm = a)
    (hl : l ≠ .base .tlFire ∧ l ≠ .base .tlWake ∧ l ≠ .base .stop) :
    h'.tl = .waiting d ∧ h'.now ≤ d ∧ h'.lastArm = a := by
  cases l with
  | base l =>
    exact step_keeps_deadline hs hk ⟨fun e => hl.1 (e ▸ rfl), fun e => hl.2.1 (e ▸ rfl), fun e => hl.2.2 (e ▸ rfl)⟩
  | beatRefused =>
    obtain ⟨u, -, -, -, rfl⟩ := refuse_eq hs
    exact hk

/-! ### runs in which every iteration of the heartbeat loop is answered in time

The monitor `Mon` of `GoodRun` (`Lemmas/Heartbeat.lean`) reads a refused iteration like any other iteration of the
heartbeat loop: it is outstanding until the timeout loop consumes a response.  (No request went out, so only a stray
response can do that.) -/

def monStepX (m : Nat) (s : Mon) : LabelX → Option Mon
  | .base l => s.step m l
  | .beatRefused => s.step m .hlBeat

def goodFromX (m : Nat) (s : Mon) : List LabelX → Bool
  | [] => true
  | l :: ls =>
    match monStepX m s l with
    | some s' => goodFromX m s' ls
    | none => false

def GoodRunX (m : Nat) (ls : List LabelX) : Prop := goodFromX m ⟨0, none⟩ ls = true

instance (m : Nat) (ls : List LabelX) : Decidable (GoodRunX m ls) := by
  unfold GoodRunX; infer_instance

theorem sim_stepX {R : Nat → Prop} {i t m : Nat} (hm : 0 < m) (hmt : m + i ≤ t) {h h' : HB} {s s' : Mon} {l : LabelX}
    (hsim : Sim R i t m h s) (hs : stepX h l = some h') (hms : monStepX m s l = some s') :
    Sim R i t m h' s' := by
  cases l with
  | base l => exact sim_step hm hmt hsim hs hms
  | beatRefused =>
    obtain ⟨u, hu, hle, -, rfl⟩ := refuse_eq hs
    exact hsim.beat hm hu hle hsim.no_reset hms

theorem sim_runX {R : Nat → Prop} {i t m : Nat} (hm : 0 < m) (hmt : m + i ≤ t) (ls : List LabelX) (h h' : HB) (s : Mon)
    (hsim : Sim R i t m h s) (hr : runX h ls = some h') (hg : goodFromX m s ls = true) : ∃ s', Sim R i t m h' s' :=
  lockstep (f := stepX) (g := monStepX m) (fun _ _ _ => by rw [goodFromX]; split <;> simp [*]) (sim_stepX hm hmt) ls h h' s hsim (runX_eq_foldlM ls h ▸ hr) hg

theorem no_reset_addedX {i t m : Nat} (hm : 0 < m) (hmt : m + i ≤ t) (ls : List LabelX) (h h' : HB) (s : Mon)
    (hsim : Sim (HEv.reset · ∈ h.trace) i t m h s) (hr : runX h ls = some h') (hg : goodFromX m s ls = true) :
    (∀ r, HEv.reset r ∈ h'.trace → HEv.reset r ∈ h.trace) ∧ h'.tl ≠ .resetting ∧ ∀ d, h'.tl = .waiting d → h'.now < d :=
  have ⟨_, k⟩ := sim_runX hm hmt ls h h' s hsim hr hg
  ⟨k.no_reset, k.not_resetting, sim_lt hm k⟩

/-! ### the code before the repair (`stepOld`): once the heartbeat loop's task has ended nothing but `stop` + `start`
brings it back -/

def beats (tr : List HEv) : List Nat := tr.filterMap fun | .beat b => some b | _ => none

theorem beats_append (tr : List HEv) (e : HEv) :
    beats (tr ++ [e]) = beats tr ++ (match e with | .beat b => [b] | _ => []) := by
  unfold beats
  rw [List.filterMap_append]
  cases e <;> rfl

/-- the heartbeat loop's task is gone while the timeout loop is still there -/
def Dead (h : HB) : Prop := h.hl = .idle ∧ h.tl ≠ .idle

theorem stepOld_dead {h h' : HB} {l : LabelX} (hd : Dead h) (hs : stepOld h l = some h')
    (hne : l ≠ .base .stop) : Dead h' ∧ beats h'.trace = beats h.trace := by
  cases l with
  | base l =>
    cases step_iff.mp hs
    case stop | stopAgain => exact absurd rfl hne
    case start e _ => exact absurd e hd.2
    case beatUp e _ _ | beatDown e _ _ => rw [hd.1] at e; cases e
    case advance | startAgain => exact ⟨hd, rfl⟩
    case conn | response => exact ⟨hd, (beats_append _ _).trans (List.append_nil _)⟩
    case wake | fireDown => exact ⟨⟨hd.1, nofun⟩, rfl⟩
    case fireUp | resetDone => exact ⟨⟨hd.1, nofun⟩, (beats_append _ _).trans (List.append_nil _)⟩
  | beatRefused =>
    obtain ⟨u, hu, _⟩ := refuse_eq hs
    rw [hd.1] at hu; cases hu

theorem runOld_dead (ls : List LabelX) (h h' : HB) (hd : Dead h) (hr : runOld h ls = some h')
    (hl : ∀ l ∈ ls, l ≠ .base .stop) : Dead h' ∧ beats h'.trace = beats h.trace :=
  foldlM_inv (P := fun x => Dead x ∧ beats x.trace = beats h.trace) ls h h'
    (fun l hm _ _ ⟨a, b⟩ hs => have ⟨a', b'⟩ := stepOld_dead a hs (hl l hm); ⟨a', b'.trans b⟩)
    ⟨hd, rfl⟩ (runOld_eq_foldlM ls h ▸ hr)

/-! ### label sequences used by the non-vacuity examples (`interval` 2400, `timeout` 2640) -/

/-- link up, started at 0, the first heartbeat is refused -/
def exRefusedFirst : List LabelX := [.base (.conn true), .base .start, .beatRefused]

/-- first heartbeat at 0 sent and answered; link lost at 2352 and back at 2400 with a full send buffer: the heartbeat
    of 2400 is refused; nothing is outstanding at the console, so the deadline 2640 expires: reset (the finding
    `C08:api:skipped-beat-full-buffer` of `known_findings.txt`); the reset completes; the clock is at the next iteration of the heartbeat loop, 4800 -/
def exOverflow : List LabelX :=
  [.base (.conn true), .base .start, .base .hlBeat, .base .response, .base .tlWake,
   .base (.advance 2352), .base (.conn false), .base (.advance 2400), .base (.conn true), .beatRefused,
   .base (.advance 2640), .base .tlFire, .base .tlResetDone, .base (.advance 4800)]

end PyAirtouch.Lemmas.HeartbeatX
