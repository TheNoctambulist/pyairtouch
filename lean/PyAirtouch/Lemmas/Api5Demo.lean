import PyAirtouch.Lemmas.Api5
/-!
# A concrete AirTouch 5 session used by the non-vacuity examples

`demo5`: a new object with one AirTouch-level subscriber, `init()`, the connection, and a console that answers the six
handshake requests (one AC with two zones; console version `"1"`, update available).
-/
namespace PyAirtouch.Lemmas.Api5
open PyAirtouch.Model PyAirtouch.Model.Api5 PyAirtouch.Model.At5 PyAirtouch.Model.At5.Registry
open PyAirtouch.Gen PyAirtouch.Gen.Api5

def demo5New : State := State.new [97] [98] [99] [100]
def demo5Version : Msg := .extended (.consoleVer (.message ⟨true, [[49]]⟩))
def demo5Names : Msg := .extended (.zoneNames (.message ⟨[(0, [76]), (1, [66])]⟩))
def demo5Ability : FF11.AcAbility :=
  { ac_number := 0, ac_name := [77], start_zone := 0, zone_count := 2,
    ac_mode_support := FF11.decModeSupport 31, fan_speed_support := FF11.decFanSpeedSupport 255,
    min_cool_set_point := 17, max_cool_set_point := 30, min_heat_set_point := 16, max_heat_set_point := 28 }
def demo5Abilities : Msg := .extended (.acAbility (.ability [demo5Ability]))
def demo5AcStatus : Msg := .controlStatus (.acStatus (.status [(newAc demo5Ability [] [] []).status]))
def demo5Timers : Msg := .controlStatus (.acTimerStatus (.status []))
def demo5Zones : Msg := .controlStatus (.zoneStatus (.status []))

/-- the connection comes up and the console answers every request -/
def demo5Handshake : List Op :=
  [.conn true, .msg 176 demo5Version, .msg 176 demo5Names, .msg 176 demo5Abilities, .msg 176 demo5AcStatus,
   .msg 176 demo5Timers, .msg 176 demo5Zones]

def demo5Ops : List Op := [.sub .at "w" false, .init] ++ demo5Handshake

/-- initialised and connected -/
def demo5 : State := runS demo5New demo5Ops

/-- `init()` called, the connection up, the version and the zone names received: in the middle of the handshake -/
def demo5Mid : State := runS demo5New [.sub .at "w" false, .init, .conn true, .msg 176 demo5Version, .msg 176 demo5Names]

theorem demo5_facts : demo5.st = .CONNECTED ∧ demo5.initialised = true ∧ demo5.acs = [(0, 0)] ∧
    demo5.zones = [(0, 0), (1, 1)] ∧ demo5.sockOpen = true ∧ demo5.hb.tl = .waiting 2640 ∧ demo5.hb.hl = .sleeping 2400 ∧
    demo5.hb.connected = true ∧ demo5.subs = ["w"] ∧ demo5.pendingInits = [] ∧ demo5.now = 0 := by decide +kernel

theorem demo5Mid_facts : demo5Mid.st = .INIT_AC_ABILITY ∧ demo5Mid.initialised = false ∧ demo5Mid.zones = [(0, 0), (1, 1)] ∧
    demo5Mid.sockOpen = true ∧ demo5Mid.pendingInits = [40] := by decide +kernel

end PyAirtouch.Lemmas.Api5
