import PyAirtouch.Lemmas.HeartbeatSim
/-!
# The deterministic scheduler of the heartbeat model: `settle` and `feed`

`Model.Heartbeat.settle` performs, round by round, the internal action that is due next; `feed` catches up to the time
of an input and then applies it.  Both are compositions of `apply!`.

1. One round of `settle` in normal form: a set event is consumed, then `pick`, the state after the action that is due
   (`settle_round`).  `pick` branches only on what equivalent managers share, so whatever `apply!` keeps on two managers
   that decide alike, `pick`, `settle` and `feed` keep (`pick_rel`, `settle_rel`, `feed_rel`).  Two instances: equivalent
   managers stay equivalent and record the same events (`HbSim.settle`, `HbSim.feed`; the latter is the one used), and
   the scheduler is a run of labels that sets the clock to nothing later than its input and stops the manager only on the
   `stop` input (`Drives`, `Within`; the parameters and the clock bound of `feed` follow); then sequences of inputs
   (`feeds_run`, `feeds_track`).

The rest is about a manager that is at rest between two inputs, with reset time 0 (the manager as the AirTouch 5 API
model embeds it).  `lim` … `pick` of part 1, the idle manager (`HbIdle` …) before part 2 and everything from part 2 on are in the namespace
`PyAirtouch.Lemmas.Api5`,
under which other modules name them; the generic statements about them (`settle_rel`, `feed_rel`, `feeds_*`) are in
`PyAirtouch.Lemmas.Heartbeat`, hence the alternating namespace blocks.

2. `Act` spells the four actions out, `SInv` is the loop invariant (`pick_next`, `settle_induct`); the fuel argument
   (`pot`, `settle_complete`);
3. what a quiet manager (`Quiet`, `HQ`) does with each input: `feed_*_quiet`, `feed_start_idle`, `feed_finish_hq`,
   `feed_hq_now`; a running manager keeps running under every input but `stop` (`feed_idle_back`);
4. time passing: a pending deadline that is not reached stays (`settle_keep`); induction over everything the scheduler
   does until `t` (`finish_induct`), the periods of silence within one passage of time (`finish_periods`).
-/
namespace PyAirtouch.Lemmas.Heartbeat
open PyAirtouch.Model.Heartbeat PyAirtouch.Spec.Heartbeat

theorem step_now_le {h g : HB} {l : Label} {T : Nat} (hs : step h l = some g) (hn : h.now ≤ T)
    (hl : ∀ t, l = .advance t → t ≤ T) : g.now ≤ T := by
  cases step_iff.1 hs
  case advance => exact hl _ rfl
  all_goals exact hn

/-- the clock is set to nothing later than `T`, and `stop` occurs only if `S` -/
def Within (T : Nat) (S : Prop) (l : Label) : Prop := (∀ d, l = .advance d → d ≤ T) ∧ (l = .stop → S)

theorem Drives.now_le {T T' : Nat} {S : Prop} {h g : HB} (hn : h.now ≤ T') (hT : T ≤ T')
    (d : Drives (Within T S) h g) : g.now ≤ T' :=
  d.inv (Q := fun x => x.now ≤ T')
    (fun _ hl _ _ hp hs => step_now_le hs hp fun d e => Nat.le_trans (hl.1 d e) hT) hn

end PyAirtouch.Lemmas.Heartbeat

namespace PyAirtouch.Lemmas.Api5
open PyAirtouch.Model
open PyAirtouch.Model.Heartbeat PyAirtouch.Spec.Heartbeat PyAirtouch.Lemmas.Heartbeat

/-! ## 1. one round of `settle` in normal form -/

/-- `settle`'s limit test -/
def lim (t : Nat) (incl : Bool) (d : Nat) : Bool := if incl then decide (d ≤ t) else decide (d < t)

def dueTl (rt : Nat) (h : HB) : Option Nat :=
  match h.tl with
  | .waiting d => some d
  | .resetting => some (h.resetAt + rt)
  | .idle => none

def dueHl (h : HB) : Option Nat :=
  match h.hl with
  | .sleeping u => some u
  | .idle => none

/-- the timeout loop's action: the expiry, or the completion of the reset in progress -/
def tlAct (h : HB) : HB :=
  match h.tl with
  | .resetting => apply! h .tlResetDone
  | _ => apply! h .tlFire

def tlBranch (h : HB) (t : Nat) (incl : Bool) (d : Nat) : Option HB :=
  if lim t incl d then some (tlAct (apply! h (.advance d))) else none

def hlBranch (h : HB) (t : Nat) (incl : Bool) (u : Nat) : Option HB :=
  if lim t incl u then some (apply! (apply! h (.advance u)) .hlBeat) else none

/-- the state after the earliest internal action that is due, if any -/
def pick (rt : Nat) (h : HB) (t : Nat) (incl : Bool) : Option HB :=
  match dueTl rt h, dueHl h with
  | some d, some u => if d ≤ u then tlBranch h t incl d else hlBranch h t incl u
  | some d, none => tlBranch h t incl d
  | none, some u => hlBranch h t incl u
  | none, none => none

theorem lim_le {t : Nat} {incl : Bool} {d : Nat} (h : lim t incl d = true) : d ≤ t := by
  cases incl <;> simp [lim] at h <;> omega

theorem lim_mono {t : Nat} {incl : Bool} {d d' : Nat} (hle : d ≤ d') (h : lim t incl d' = true) : lim t incl d = true := by
  cases incl <;> simp [lim] at h ⊢ <;> omega

theorem lim_false_mono {t : Nat} {incl : Bool} {d d' : Nat} (hle : d ≤ d') (h : lim t incl d = false) :
    lim t incl d' = false :=
  Bool.eq_false_iff.2 fun hl => by rw [lim_mono hle hl] at h; cases h

theorem lim_false_of_lt {t d : Nat} (incl : Bool) (h : t < d) : lim t incl d = false := by
  cases incl <;> simp [lim] <;> omega

theorem lim_false_excl {t d : Nat} : lim t false d = false ↔ t ≤ d := by simp [lim]

/-- the event is consumed exactly when it is set: `tlWake` is enabled only then -/
theorem wake_if (h : HB) : (if h.flag then apply! h .tlWake else h) = apply! h .tlWake := by
  split
  · rfl
  · next hf =>
    rcases apply_cases h .tlWake with e | hs
    · exact e.2.symm
    · generalize apply! h .tlWake = g at hs
      cases hs with | wake _ f => exact absurd f hf

theorem settle_round (rt fuel : Nat) (h : HB) (t : Nat) (incl : Bool) :
    settle rt (fuel + 1) h t incl =
      match pick rt (apply! h .tlWake) t incl with
      | some h' => settle rt fuel h' t incl
      | none => apply! h .tlWake := by
  rw [settle]
  simp only [wake_if]
  generalize apply! h .tlWake = k
  change (match dueTl rt k, dueHl k with
    | some d, some u =>
      if d ≤ u then (if lim t incl d then settle rt fuel (tlAct (apply! k (.advance d))) t incl else k)
      else (if lim t incl u then settle rt fuel (apply! (apply! k (.advance u)) .hlBeat) t incl else k)
    | some d, none => if lim t incl d then settle rt fuel (tlAct (apply! k (.advance d))) t incl else k
    | none, some u => if lim t incl u then settle rt fuel (apply! (apply! k (.advance u)) .hlBeat) t incl else k
    | none, none => k) = _
  unfold pick tlBranch hlBranch
  cases dueTl rt k <;> cases dueHl k <;> simp only
  · split <;> rfl
  · split <;> rfl
  · split <;> split <;> rfl

theorem settle_succ (rt fuel : Nat) (h : HB) (t : Nat) (incl : Bool) (hf : h.flag = false) :
    settle rt (fuel + 1) h t incl =
      match pick rt h t incl with
      | some h' => settle rt fuel h' t incl
      | none => h := by
  have e : apply! h .tlWake = h := by rw [← wake_if, hf]; rfl
  rw [settle_round, e]

theorem pick_rel {R : HB → HB → Prop} {rt t : Nat} {incl : Bool} (hE : ∀ {a b}, R a b → HbEquiv a b)
    (hA : ∀ {a b} (l : Label), Within t False l → R a b → R (apply! a l) (apply! b l)) {a b : HB} (r : R a b) :
    Option.Rel R (pick rt a t incl) (pick rt b t incl) := by
  have e := hE r
  have adv : ∀ d, lim t incl d = true → R (apply! a (.advance d)) (apply! b (.advance d)) := fun d hl =>
    hA _ ⟨by rintro _ ⟨⟩; exact lim_le hl, nofun⟩ r
  have tl : ∀ d, Option.Rel R (tlBranch a t incl d) (tlBranch b t incl d) := fun d => by
    unfold tlBranch tlAct
    cases hl : lim t incl d with
    | false => exact .none
    | true =>
      rw [if_pos rfl, if_pos rfl, ← (hE (adv d hl)).tl]
      split <;> exact .some (hA _ ⟨nofun, nofun⟩ (adv d hl))
  have hlb : ∀ u, Option.Rel R (hlBranch a t incl u) (hlBranch b t incl u) := fun u => by
    unfold hlBranch
    cases hl : lim t incl u with
    | false => exact .none
    | true => exact .some (hA _ ⟨nofun, nofun⟩ (adv u hl))
  have e1 : dueTl rt b = dueTl rt a := by
    unfold dueTl; rw [← e.tl]; cases htl : a.tl <;> simp only; rw [e.resetAt htl]
  unfold pick dueHl
  rw [e1, ← e.hl]
  cases dueTl rt a <;> cases a.hl <;> simp only
  · exact .none
  · exact hlb _
  · exact tl _
  · rename_i d u
    by_cases hdu : d ≤ u
    · rw [if_pos hdu, if_pos hdu]; exact tl d
    · rw [if_neg hdu, if_neg hdu]; exact hlb u

end PyAirtouch.Lemmas.Api5

namespace PyAirtouch.Lemmas.Heartbeat
open PyAirtouch.Model.Heartbeat PyAirtouch.Spec.Heartbeat PyAirtouch.Lemmas.Api5

/-! ### whatever `apply!` keeps, the scheduler keeps

With `R := HbSim h0 h0'` this is the simulation of the scheduler on equivalent managers; with
`R a b := a = b ∧ Drives P h a` it reads the scheduler as a run of labels. -/

/-- the labels `settle` applies set the clock to at most `t` and are never `stop` (`Within t False`); `R` has to be kept
    by those only -/
theorem settle_rel {R : HB → HB → Prop} {rt t : Nat} {incl : Bool} (hE : ∀ {a b}, R a b → HbEquiv a b)
    (hA : ∀ {a b} (l : Label), Within t False l → R a b → R (apply! a l) (apply! b l)) :
    ∀ (fuel : Nat) {h h' : HB}, R h h' → R (settle rt fuel h t incl) (settle rt fuel h' t incl)
  | 0, _, _, r => r
  | fuel + 1, h, h', r => by
    have r0 := hA .tlWake ⟨nofun, nofun⟩ r
    have p := pick_rel (rt := rt) (incl := incl) hE hA r0
    rw [settle_round, settle_round]
    generalize pick rt (apply! h .tlWake) t incl = x at p
    generalize pick rt (apply! h' .tlWake) t incl = y at p
    cases p with
    | none => exact r0
    | some p => exact settle_rel hE hA fuel p

/-- only the `stop` input stops the manager -/
theorem feed_rel {R : HB → HB → Prop} {rt : Nat} {i : HIn} (hE : ∀ {a b}, R a b → HbEquiv a b)
    (hA : ∀ {a b} (l : Label), Within i.time (∃ t, i = .stop t) l → R a b → R (apply! a l) (apply! b l))
    {h h' : HB} (r : R h h') : R (feed rt h i) (feed rt h' i) := by
  have hA' : ∀ {a b} (l : Label), Within i.time False l → R a b → R (apply! a l) (apply! b l) :=
    fun l hl => hA l ⟨hl.1, fun e => (hl.2 e).elim⟩
  have s1 := hA (.advance i.time) ⟨by rintro _ ⟨⟩; exact Nat.le_refl _, nofun⟩
    (settle_rel (rt := rt) (incl := false) hE hA' 100000 r)
  unfold feed
  cases i <;> simp only [HIn.time] at s1 hA hA' ⊢
  · exact hA _ ⟨nofun, nofun⟩ s1
  · exact settle_rel hE hA' 8 (hA _ ⟨nofun, nofun⟩ s1)
  · exact hA _ ⟨nofun, fun _ => ⟨_, rfl⟩⟩ s1
  · exact hA _ ⟨nofun, nofun⟩ (hA _ ⟨nofun, nofun⟩ s1)
  · exact hA _ ⟨nofun, nofun⟩ s1
  · exact settle_rel hE hA' 100000 s1

theorem HbSim.settle {h0 h0' : HB} (rt : Nat) (t : Nat) (incl : Bool) :
    ∀ (fuel : Nat) {h h' : HB}, HbSim h0 h0' h h' → HbSim h0 h0' (settle rt fuel h t incl) (settle rt fuel h' t incl) :=
  settle_rel (R := HbSim h0 h0') (·.equiv) fun l _ s => s.apply l

theorem HbSim.feed {h h' : HB} (rt : Nat) (e : HbEquiv h h') (i : HIn) :
    HbSim h h' (feed rt h i) (feed rt h' i) :=
  feed_rel (R := HbSim h h') (·.equiv) (fun l _ s => s.apply l) (HbSim.refl e)

/-- the form used by the AirTouch 5 API model: both traces start empty, so equivalent managers fed the same input
    produce the same trace and stay equivalent -/
theorem HbEquiv.feed_cleared {h h' : HB} (rt : Nat) (e : HbEquiv h h') (i : HIn) :
    HbEquiv (PyAirtouch.Model.Heartbeat.feed rt { h with trace := [], expiries := [] } i)
            (PyAirtouch.Model.Heartbeat.feed rt { h' with trace := [], expiries := [] } i) ∧
    (PyAirtouch.Model.Heartbeat.feed rt { h with trace := [], expiries := [] } i).trace =
      (PyAirtouch.Model.Heartbeat.feed rt { h' with trace := [], expiries := [] } i).trace := by
  have e' : HbEquiv { h with trace := [], expiries := [] } { h' with trace := [], expiries := [] } :=
    ⟨e.now, e.interval, e.timeout, e.tl, e.hl, e.connected, e.flag, e.resetAt⟩
  obtain ⟨g, evs, t1, t2⟩ := HbSim.feed rt e' i
  exact ⟨g, by rw [t1, t2]⟩

theorem settle_drives (rt t : Nat) (incl : Bool) (fuel : Nat) (h : HB) :
    Drives (Within t False) h (settle rt fuel h t incl) :=
  (settle_rel (R := fun a b => a = b ∧ Drives (Within t False) h a) (fun r => r.1 ▸ HbEquiv.refl _)
    (fun l hl r => ⟨r.1 ▸ rfl, r.2.trans (.apply _ l hl)⟩) fuel ⟨rfl, .refl⟩).2

theorem settle_run (rt t : Nat) (incl : Bool) (fuel : Nat) (h : HB) :
    ∃ ls, run h ls = some (settle rt fuel h t incl) :=
  let ⟨ls, hr, _⟩ := settle_drives rt t incl fuel h; ⟨ls, hr⟩

theorem feed_drives (rt : Nat) (h : HB) (i : HIn) :
    Drives (Within i.time (∃ t, i = .stop t)) h (feed rt h i) :=
  (feed_rel (R := fun a b => a = b ∧ Drives (Within i.time (∃ t, i = .stop t)) h a) (fun r => r.1 ▸ HbEquiv.refl _)
    (fun l hl r => ⟨r.1 ▸ rfl, r.2.trans (.apply _ l hl)⟩) ⟨rfl, .refl⟩).2

theorem feed_run (rt : Nat) (h : HB) (i : HIn) : ∃ ls, run h ls = some (feed rt h i) :=
  let ⟨ls, hr, _⟩ := feed_drives rt h i; ⟨ls, hr⟩

theorem feed_params (rt : Nat) (h : HB) (i : HIn) :
    (feed rt h i).interval = h.interval ∧ (feed rt h i).timeout = h.timeout :=
  (feed_drives rt h i).params

theorem feed_now_le (rt : Nat) (h : HB) (i : HIn) {T : Nat} (hn : h.now ≤ T) (hi : i.time ≤ T) :
    (feed rt h i).now ≤ T :=
  (feed_drives rt h i).now_le hn hi

/-! ### a sequence of inputs

The ghost manager `ins.foldl (feed rt) g` keeps its whole record and is a run of the model; a manager whose record is
cleared before each input (as the AirTouch 5 API model embeds it) stays equivalent to it, and what it records input by
input is what the ghost appends. -/

theorem feeds_run (rt : Nat) : ∀ (ins : List HIn) (g : HB), ∃ ls, run g ls = some (ins.foldl (feed rt) g)
  | [], _ => ⟨[], rfl⟩
  | i :: is, g =>
    have ⟨l1, r1⟩ := feed_run rt g i
    have ⟨l2, r2⟩ := feeds_run rt is (feed rt g i)
    ⟨l1 ++ l2, run_trans r1 r2⟩

/-- the final manager and everything it recorded on the way, the record cleared before each input -/
def feedsC (rt : Nat) (h : HB) : List HIn → HB × List HEv
  | [] => (h, [])
  | i :: is =>
    let h1 := feed rt { h with trace := [], expiries := [] } i
    ((feedsC rt h1 is).1, h1.trace ++ (feedsC rt h1 is).2)

theorem feeds_track (rt : Nat) : ∀ (ins : List HIn) {g h : HB}, HbEquiv g h →
    HbEquiv (ins.foldl (feed rt) g) (feedsC rt h ins).1 ∧
      (ins.foldl (feed rt) g).trace = g.trace ++ (feedsC rt h ins).2
  | [], g, _, e => ⟨e, (List.append_nil _).symm⟩
  | i :: is, g, h, e => by
    obtain ⟨q, evs, t1, t2⟩ := HbSim.feed rt (e.trans (HbEquiv.ghost h h.lastArm [] [])) i
    obtain ⟨q', t'⟩ := feeds_track rt is q
    refine ⟨q', ?_⟩
    rw [List.foldl_cons, t', t1, List.append_assoc]
    exact congrArg (fun x => g.trace ++ (x ++ _)) (t2.trans (List.nil_append _)).symm

end PyAirtouch.Lemmas.Heartbeat

namespace PyAirtouch.Lemmas.Api5
open PyAirtouch.Model
open PyAirtouch.Model.Heartbeat PyAirtouch.Spec.Heartbeat PyAirtouch.Lemmas.Heartbeat

/-- the heartbeat manager is not running (neither task exists) -/
def HbIdle (h : HB) : Prop := h.tl = .idle ∧ h.hl = .idle

theorem settle_idle (rt fuel : Nat) (h : HB) (t : Nat) (incl : Bool) (hi : HbIdle h) :
    settle rt fuel h t incl = h := by
  cases fuel with
  | zero => rfl
  | succ f =>
    unfold settle
    have hw : apply! h .tlWake = h := by simp [apply!, step, hi.1]
    simp only [hw, ite_self, hi.1, hi.2]

theorem advance_idle (h : HB) (t : Nat) (hi : HbIdle h) :
    ∃ n', apply! h (.advance t) = { h with now := n' } := by
  simp only [apply!, step, hi.1, hi.2]
  split
  · exact ⟨t, rfl⟩
  · refine ⟨h.now, ?_⟩
    obtain ⟨h1, h2⟩ := hi
    cases h; simp_all

theorem apply_stop_idle (h : HB) : HbIdle (apply! h .stop) := by
  simp only [apply!, step]
  split <;> simp_all [HbIdle, HB.emit]

theorem feed_stop_idle (rt : Nat) (h : HB) (t : Nat) : HbIdle (feed rt h (.stop t)) := by
  unfold feed
  exact apply_stop_idle _

theorem apply_conn (h : HB) (up : Bool) :
    apply! h (.conn up) = { h with connected := up, trace := h.trace ++ [.conn up h.now] } := by
  simp [apply!, step, HB.emit]

theorem feed_conn_connected (rt : Nat) (h : HB) (up : Bool) (t : Nat) : (feed rt h (.conn up t)).connected = up := by
  unfold feed
  simp only [apply_conn]

theorem feed_conn_idle_now (rt : Nat) (h : HB) (up : Bool) (t : Nat) (hi : HbIdle h) (hn : h.now ≤ t) :
    (feed rt h (.conn up t)).now = t := by
  unfold feed
  simp only [HIn.time]
  rw [settle_idle _ _ _ _ _ hi]
  have : apply! h (.advance t) = { h with now := t } := by
    simp [apply!, step, hi.1, hi.2, hn]
  rw [this, apply_conn]

def HEv.isReset : HEv → Bool
  | .reset _ => true
  | _ => false

def resetEvs (evs : List HEv) : Nat := evs.countP HEv.isReset

theorem resetEvs_append (a b : List HEv) : resetEvs (a ++ b) = resetEvs a + resetEvs b := by
  simp [resetEvs, List.countP_append]

theorem resetEvs_pos_iff (evs : List HEv) : 0 < resetEvs evs ↔ ∃ r, HEv.reset r ∈ evs := by
  simp only [resetEvs, List.countP_pos_iff]
  constructor
  · rintro ⟨e, he, hr⟩
    cases e <;> simp [HEv.isReset] at hr
    exact ⟨_, he⟩
  · rintro ⟨r, hr⟩
    exact ⟨_, hr, rfl⟩

/-! ## 2. the loop invariant and the fuel -/

/-- the loop invariant of `settle 0 · · t incl`: the event is clear, nothing that is pending lies in the past, a reset in
progress began at the current instant (which is within the limit) -/
structure SInv (t : Nat) (incl : Bool) (h : HB) : Prop where
  flag : h.flag = false
  now_le : h.now ≤ t
  deadline : ∀ d, h.tl = .waiting d → h.now ≤ d
  wake : ∀ u, h.hl = .sleeping u → h.now ≤ u
  resetting : h.tl = .resetting → h.resetAt = h.now ∧ lim t incl h.now = true

/-- the state after the expiry at `d` while the link is up -/
abbrev fireUpRec (h : HB) (d : Nat) : HB :=
  { h with now := d, expiries := h.expiries ++ [d], tl := .resetting, resetAt := d, trace := h.trace ++ [.reset d] }
/-- … while the link is down -/
abbrev fireDownRec (h : HB) (d : Nat) : HB :=
  { h with now := d, tl := .waiting (d + h.timeout), flag := false, lastArm := d, expiries := h.expiries ++ [d] ++ [d + h.timeout] }
/-- the state after the completion of the reset -/
abbrev doneRec (h : HB) : HB :=
  { h with tl := .waiting (h.now + h.timeout), flag := false, lastArm := h.now, expiries := h.expiries ++ [h.now + h.timeout],
           trace := h.trace ++ [.resetDone h.now] }
/-- the state after the wake-up of the heartbeat loop at `u` -/
abbrev beatRec (h : HB) (u : Nat) : HB :=
  { h with now := u, hl := .sleeping (u + h.interval), trace := if h.connected then h.trace ++ [.beat u] else h.trace }

/-- one internal action of the scheduler, spelled out -/
inductive Act (t : Nat) (incl : Bool) (h : HB) : HB → Prop
  /-- the deadline `d` is reached while the link is up: a reset begins -/
  | fireUp (d : Nat) : h.tl = .waiting d → (∀ u, h.hl = .sleeping u → d ≤ u) → lim t incl d = true → h.connected = true →
      Act t incl h (fireUpRec h d)
  /-- … while the link is down: the next period starts at once -/
  | fireDown (d : Nat) : h.tl = .waiting d → (∀ u, h.hl = .sleeping u → d ≤ u) → lim t incl d = true → h.connected = false →
      Act t incl h (fireDownRec h d)
  /-- the reset (which takes no time) is complete: the next period starts -/
  | done : h.tl = .resetting → (∀ u, h.hl = .sleeping u → h.now ≤ u) → lim t incl h.now = true →
      Act t incl h (doneRec h)
  /-- the heartbeat loop wakes up at `u`: a request if the link is up, the next wake-up `interval` later -/
  | beat (u : Nat) : h.hl = .sleeping u → (∀ d, h.tl = .waiting d → u < d) → h.tl ≠ .resetting → lim t incl u = true →
      Act t incl h (beatRec h u)

theorem advance_ok {h : HB} {d : Nat} (h1 : h.now ≤ d) (h2 : ∀ d', h.tl = .waiting d' → d ≤ d' ∧ h.flag = false)
    (h3 : ∀ u, h.hl = .sleeping u → d ≤ u) : apply! h (.advance d) = { h with now := d } :=
  apply_of_step (.advance h1 h2 h3)

theorem beat_spec {h : HB} {u : Nat} (h1 : h.hl = .sleeping u) (h2 : u ≤ h.now) :
    apply! h .hlBeat = { h with hl := .sleeping (h.now + h.interval),
                                trace := if h.connected then h.trace ++ [.beat h.now] else h.trace } := by
  cases hc : h.connected <;> simp [apply!, step, h1, h2, hc, HB.emit]

/-- nothing is due within the limit: no reset in progress, the pending deadline and wake-up lie beyond it -/
structure Rest (t : Nat) (incl : Bool) (h : HB) : Prop where
  notResetting : h.tl ≠ .resetting
  deadline : ∀ d, h.tl = .waiting d → lim t incl d = false
  wake : ∀ u, h.hl = .sleeping u → lim t incl u = false

theorem pick_none_of {t : Nat} {incl : Bool} {h : HB} (r : Rest t incl h) : pick 0 h t incl = none := by
  obtain ⟨h1, h2, h3⟩ := r
  unfold pick dueTl dueHl tlBranch hlBranch
  cases htl : h.tl <;> cases hhl : h.hl <;> simp only [htl, hhl] at h1 h2 h3 ⊢
  all_goals simp_all

theorem pick_eq_tl {t : Nat} {incl : Bool} {h : HB} {d : Nat} (hd : dueTl 0 h = some d) (hu : ∀ u, dueHl h = some u → d ≤ u) :
    pick 0 h t incl = tlBranch h t incl d := by
  unfold pick
  rw [hd]
  cases hh : dueHl h with
  | none => rfl
  | some u => simp only [if_pos (hu u hh)]

theorem pick_beat {t : Nat} {incl : Bool} {h : HB} {u : Nat} (hf : h.flag = false) (hn : h.now ≤ u) (hhl : h.hl = .sleeping u)
    (hw : ∀ d, h.tl = .waiting d → u < d) (hnr : h.tl ≠ .resetting) (hl : lim t incl u = true) :
    pick 0 h t incl = some (beatRec h u) := by
  have hd : ∀ d, dueTl 0 h = some d → u < d := by
    intro d hd
    unfold dueTl at hd
    split at hd
    · rename_i d' htl; cases hd; exact hw d htl
    · rename_i htl; exact absurd htl hnr
    · cases hd
  unfold pick
  rw [show dueHl h = some u by simp [dueHl, hhl]]
  have e : hlBranch h t incl u = some (beatRec h u) := by
    unfold hlBranch
    rw [if_pos hl, advance_ok hn (fun d' e => ⟨Nat.le_of_lt (hw d' e), hf⟩) (fun u' e => by rw [hhl] at e; cases e; exact Nat.le_refl _),
      beat_spec (h := { h with now := u }) (u := u) hhl (Nat.le_refl _)]
  cases hh : dueTl 0 h with
  | none => exact e
  | some d => have := hd d hh; simp only [show ¬ d ≤ u by omega, if_false, e]

theorem pick_fire {t : Nat} {incl : Bool} {h : HB} {d : Nat} (hf : h.flag = false) (hn : h.now ≤ d) (htl : h.tl = .waiting d)
    (hu : ∀ u, h.hl = .sleeping u → d ≤ u) (hl : lim t incl d = true) :
    pick 0 h t incl = some (if h.connected then fireUpRec h d else fireDownRec h d) := by
  rw [pick_eq_tl (d := d) (by simp [dueTl, htl])]
  · unfold tlBranch
    rw [if_pos hl, advance_ok hn (fun d' e => by rw [htl] at e; cases e; exact ⟨Nat.le_refl _, hf⟩) hu]
    have ta : tlAct { h with now := d } = apply! { h with now := d } .tlFire := by simp [tlAct, htl]
    rw [ta]
    by_cases hc : h.connected = true
    · rw [apply_of_step (.fireUp (h := { h with now := d }) (d := d) htl (Nat.le_refl _) hc), if_pos hc]; rfl
    · have hc' : h.connected = false := by simpa using hc
      rw [apply_of_step (.fireDown (h := { h with now := d }) (d := d) htl (Nat.le_refl _) hc'), if_neg hc]; rfl
  · intro u hh
    unfold dueHl at hh
    split at hh
    · rename_i u' hhl; cases hh; exact hu u hhl
    · cases hh

theorem pick_done {t : Nat} {incl : Bool} {h : HB} (htl : h.tl = .resetting) (hra : h.resetAt = h.now)
    (hu : ∀ u, h.hl = .sleeping u → h.now ≤ u) (hl : lim t incl h.now = true) :
    pick 0 h t incl = some (doneRec h) := by
  rw [pick_eq_tl (d := h.now) (by simp [dueTl, htl, hra])]
  · unfold tlBranch
    have e : apply! h (.advance h.now) = h := by
      rw [advance_ok (Nat.le_refl _) (fun d' e => by rw [htl] at e; cases e) hu]
    have ta : tlAct h = apply! h .tlResetDone := by simp [tlAct, htl]
    rw [if_pos hl, e, ta, apply_of_step (.resetDone htl)]; rfl
  · intro u hh
    unfold dueHl at hh
    split at hh
    · rename_i u' hhl; cases hh; exact hu u hhl
    · cases hh

/-- what `pick` returns in a state that satisfies the loop invariant: the action that is due, or nothing and nothing is due -/
inductive Next (t : Nat) (incl : Bool) (h : HB) : Option HB → Prop
  | act {h' : HB} : Act t incl h h' → Next t incl h (some h')
  | rest : Rest t incl h → Next t incl h none

theorem pick_next {t : Nat} {incl : Bool} {h : HB} (hi : SInv t incl h) : Next t incl h (pick 0 h t incl) := by
  obtain ⟨i1, i2, i3, i4, i5⟩ := hi
  have tri : h.tl = .idle ∨ (∃ d, h.tl = .waiting d) ∨ h.tl = .resetting := by cases h.tl <;> simp
  have two : h.hl = .idle ∨ ∃ u, h.hl = .sleeping u := by cases h.hl <;> simp
  have rest : Rest t incl h → Next t incl h (pick 0 h t incl) := fun r => by rw [pick_none_of r]; exact .rest r
  -- the wake-up `u` comes before the deadline, if there is one
  have wake : ∀ u, h.hl = .sleeping u → h.tl ≠ .resetting → (∀ d, h.tl = .waiting d → u < d) →
      Next t incl h (pick 0 h t incl) := by
    intro u hhl hnr hw
    cases hl : lim t incl u with
    | true => rw [pick_beat i1 (i4 u hhl) hhl hw hnr hl]; exact .act (.beat u hhl hw hnr hl)
    | false =>
      exact rest ⟨hnr, fun d e => lim_false_mono (Nat.le_of_lt (hw d e)) hl, fun u' e => (by rw [hhl] at e; cases e; exact hl)⟩
  rcases tri with htl | ⟨d, htl⟩ | htl
  · rcases two with hhl | ⟨u, hhl⟩
    · exact rest ⟨by rw [htl]; simp, fun d e => (by rw [htl] at e; cases e), fun u e => (by rw [hhl] at e; cases e)⟩
    · exact wake u hhl (by rw [htl]; simp) (fun d e => by rw [htl] at e; cases e)
  · have hnr : h.tl ≠ .resetting := by rw [htl]; simp
    by_cases hu : ∀ u, h.hl = .sleeping u → d ≤ u
    · cases hl : lim t incl d with
      | true =>
        rw [pick_fire i1 (i3 d htl) htl hu hl]
        by_cases hc : h.connected = true
        · rw [if_pos hc]; exact .act (.fireUp d htl hu hl hc)
        · rw [if_neg hc]; exact .act (.fireDown d htl hu hl (Bool.eq_false_iff.2 hc))
      | false =>
        exact rest ⟨hnr, fun d' e => (by rw [htl] at e; cases e; exact hl), fun u e => lim_false_mono (hu u e) hl⟩
    · rcases two with hhl | ⟨u, hhl⟩
      · exact absurd (fun u e => by rw [hhl] at e; cases e) hu
      · refine wake u hhl hnr (fun d' e => ?_)
        rw [htl] at e; cases e
        exact Nat.lt_of_not_le fun hle => hu fun u' e' => by rw [hhl] at e'; cases e'; exact hle
  · obtain ⟨e1, e2⟩ := i5 htl
    rw [pick_done htl e1 i4 e2]
    exact .act (.done htl i4 e2)

theorem pick_spec {t : Nat} {incl : Bool} {h h' : HB} (hi : SInv t incl h) (hp : pick 0 h t incl = some h') :
    Act t incl h h' := by
  have := pick_next hi
  rw [hp] at this
  cases this; assumption

theorem act_sinv {t : Nat} {incl : Bool} {h h' : HB} (hi : SInv t incl h) (ha : Act t incl h h') : SInv t incl h' := by
  obtain ⟨i1, i2, i3, i4, i5⟩ := hi
  cases ha with
  | fireUp d htl hu hl hc =>
    exact ⟨i1, lim_le hl, fun d' e => (by cases e), hu, fun _ => ⟨rfl, hl⟩⟩
  | fireDown d htl hu hl hc =>
    refine ⟨rfl, lim_le hl, fun d' e => ?_, hu, fun e => (by cases e)⟩
    simp only [TL.waiting.injEq] at e; subst e; exact Nat.le_add_right _ _
  | done htl hu hl =>
    refine ⟨rfl, i2, fun d' e => ?_, i4, fun e => (by cases e)⟩
    simp only [TL.waiting.injEq] at e; subst e; exact Nat.le_add_right _ _
  | beat u hhl hw hnr hl =>
    refine ⟨i1, lim_le hl, fun d' e => Nat.le_of_lt (hw d' e), fun u' e => ?_, fun e => absurd e hnr⟩
    simp only [HL.sleeping.injEq] at e; subst e; exact Nat.le_add_right _ _

theorem settle_induct {t : Nat} {incl : Bool} (P : HB → Prop)
    (hP : ∀ h h', SInv t incl h → P h → Act t incl h h' → P h') :
    ∀ (fuel : Nat) (h : HB), SInv t incl h → P h →
      SInv t incl (settle 0 fuel h t incl) ∧ P (settle 0 fuel h t incl) := by
  intro fuel
  induction fuel with
  | zero => intro h hi hp; exact ⟨hi, hp⟩
  | succ fuel ih =>
    intro h hi hp
    rw [settle_succ _ _ _ _ _ hi.flag]
    cases hpk : pick 0 h t incl with
    | none => exact ⟨hi, hp⟩
    | some h' =>
      have ha := pick_spec hi hpk
      exact ih h' (act_sinv hi ha) (hP h h' hi hp ha)

/-- how far the scheduler is from having nothing to do before `t`: every action lowers it by at least 1320 when
`interval ≥ 1320` and `timeout ≥ 2640` (truncated subtraction: a term is 0 once its timer lies far enough beyond `t`).
1320 is half the AirTouch 5 timeout: an expiry while the link is up takes two actions, the expiry and the end of the
reset, which together move the deadline on by `timeout` -/
def pot (h : HB) (t : Nat) : Nat :=
  (match h.tl with
    | .waiting d => t + h.timeout - d
    | .resetting => t - h.resetAt + h.timeout - 1320
    | .idle => 0) +
  (match h.hl with
    | .sleeping u => t + h.interval - u
    | .idle => 0)

theorem act_pot {t : Nat} {incl : Bool} {h h' : HB} (hi : SInv t incl h) (h1 : 1320 ≤ h.interval) (h2 : 2640 ≤ h.timeout)
    (ha : Act t incl h h') : pot h' t + 1320 ≤ pot h t := by
  cases ha with
  | fireUp d htl hu hl hc | fireDown d htl hu hl hc => have := lim_le hl; simp only [pot, htl]; omega
  | done htl hu hl => have := (hi.resetting htl).1; simp only [pot, htl]; omega
  | beat u hhl hw hnr hl => have := lim_le hl; simp only [pot, hhl]; omega

theorem settle_complete {t : Nat} {incl : Bool} :
    ∀ (fuel : Nat) (h : HB), SInv t incl h → 1320 ≤ h.interval → 2640 ≤ h.timeout → pot h t < 1320 * (fuel + 1) →
      pick 0 (settle 0 fuel h t incl) t incl = none := by
  intro fuel
  induction fuel with
  | zero =>
    intro h hi h1 h2 hpot
    show pick 0 h t incl = none
    cases hpk : pick 0 h t incl with
    | none => rfl
    | some h' =>
      have := act_pot hi h1 h2 (pick_spec hi hpk)
      omega
  | succ fuel ih =>
    intro h hi h1 h2 hpot
    rw [settle_succ _ _ _ _ _ hi.flag]
    cases hpk : pick 0 h t incl with
    | none => exact hpk
    | some h' =>
      have ha := pick_spec hi hpk
      have hd := act_pot hi h1 h2 ha
      have p : h'.interval = h.interval ∧ h'.timeout = h.timeout := by cases ha <;> exact ⟨rfl, rfl⟩
      exact ih h' (act_sinv hi ha) (by omega) (by omega) (by omega)

theorem settle_stable {t : Nat} {incl : Bool} {h : HB} (fuel : Nat) (hf : h.flag = false) (hp : pick 0 h t incl = none) :
    settle 0 fuel h t incl = h := by
  cases fuel with
  | zero => rfl
  | succ fuel => rw [settle_succ _ _ _ _ _ hf, hp]

/-! ## 3. one `feed` of a well-formed manager -/

/-- nothing is due strictly before `t` -/
structure Quiet (h : HB) (t : Nat) : Prop where
  flag : h.flag = false
  notResetting : h.tl ≠ .resetting
  now_le : h.now ≤ t
  deadline : ∀ d, h.tl = .waiting d → t ≤ d
  wake : ∀ u, h.hl = .sleeping u → t ≤ u

/-- the common prefix of every `feed`: catch up to `t`, move the clock there -/
def pre (h : HB) (t : Nat) : HB := apply! (settle 0 100000 h t false) (.advance t)

theorem feed_eq (h : HB) (i : HIn) :
    feed 0 h i = match i with
      | .conn up t => apply! (pre h t) (.conn up)
      | .start t => settle 0 8 (apply! (pre h t) .start) t true
      | .stop t => apply! (pre h t) .stop
      | .resp t => apply! (apply! (pre h t) .response) .tlWake
      | .resetDone t => apply! (pre h t) .tlResetDone
      | .finish t => settle 0 100000 (pre h t) t true := by
  cases i <;> rfl

theorem Quiet.rest {h : HB} {t : Nat} (q : Quiet h t) : Rest t false h :=
  ⟨q.notResetting, fun d e => lim_false_excl.2 (q.deadline d e), fun u e => lim_false_excl.2 (q.wake u e)⟩

theorem pre_quiet {h : HB} {t : Nat} (q : Quiet h t) : pre h t = { h with now := t } := by
  unfold pre
  rw [settle_stable _ q.flag (pick_none_of q.rest)]
  exact advance_ok q.now_le (fun d e => ⟨q.deadline d e, q.flag⟩) q.wake

/-- well-formed between two feeds: the timing invariant of `Lemmas.Heartbeat` for the AirTouch 5 parameters, the event
consumed, no reset in progress.  Here and below 2400 and 2640 are `Gen.Api5.heartbeatInterval` and `heartbeatTimeout`,
with which `State.new` builds the manager, and the reset time `rt` is 0 because `hbFeed` calls `feed 0`: the stub's
reset returns at once -/
structure HQ (h : HB) : Prop where
  basic : Basic 2400 2640 h
  flag : h.flag = false
  notResetting : h.tl ≠ .resetting

theorem HQ.interval {h : HB} (q : HQ h) : h.interval = 2400 := q.basic.interval_eq
theorem HQ.timeout {h : HB} (q : HQ h) : h.timeout = 2640 := q.basic.timeout_eq

theorem HQ.quiet {h : HB} (q : HQ h) : Quiet h h.now :=
  ⟨q.flag, q.notResetting, Nat.le_refl _, fun d e => (q.basic.deadline d e).1, fun u e => (q.basic.wake u e).1⟩

theorem HQ.sinv {h : HB} (q : HQ h) {t : Nat} (incl : Bool) (hle : h.now ≤ t) : SInv t incl h :=
  ⟨q.flag, hle, fun d e => (q.basic.deadline d e).1, fun u e => (q.basic.wake u e).1, fun e => absurd e q.notResetting⟩

theorem pot_le {h : HB} (q : HQ h) (t : Nat) : pot h t ≤ 2 * (t - h.now) + 5040 := by
  unfold pot
  rw [q.timeout, q.interval]
  -- each timer lies in the future of the manager's clock
  refine Nat.le_trans (Nat.add_le_add (b := t - h.now + 2640) (d := t - h.now + 2400) ?_ ?_) (by omega)
  · cases htl : h.tl with
    | idle => exact Nat.zero_le _
    | resetting => exact absurd htl q.notResetting
    | waiting d => have := (q.basic.deadline d htl).1; show t + 2640 - d ≤ _; omega
  · cases hhl : h.hl with
    | idle => exact Nat.zero_le _
    | sleeping u => have := (q.basic.wake u hhl).1; show t + 2400 - u ≤ _; omega

theorem settle_hq {h : HB} {t : Nat} {incl : Bool} (fuel : Nat) (q : HQ h) (hle : h.now ≤ t)
    (hfuel : pot h t < 1320 * (fuel + 1)) :
    HQ (settle 0 fuel h t incl) ∧ h.now ≤ (settle 0 fuel h t incl).now ∧ (settle 0 fuel h t incl).now ≤ t ∧
    Rest t incl (settle 0 fuel h t incl) ∧ ((settle 0 fuel h t incl).tl = .idle ↔ h.tl = .idle) := by
  have hs := q.sinv incl hle
  obtain ⟨r1, r2, r3⟩ := settle_induct (t := t) (incl := incl)
    (fun g => h.now ≤ g.now ∧ (g.tl = .idle ↔ h.tl = .idle))
    (fun a b ia pa ab => by
      cases ab with
      | fireUp d htl hu hl hc | fireDown d htl hu hl hc =>
        exact ⟨Nat.le_trans pa.1 (ia.deadline d htl), by rw [← pa.2, htl]; simp⟩
      | done htl hu hl => exact ⟨pa.1, by rw [← pa.2, htl]; simp⟩
      | beat u hhl hw hnr hl => exact ⟨Nat.le_trans pa.1 (ia.wake u hhl), pa.2⟩) fuel h hs ⟨Nat.le_refl _, Iff.rfl⟩
  have hr : Rest t incl (settle 0 fuel h t incl) := by
    have := pick_next r1
    rw [settle_complete fuel h hs (by rw [q.interval]; omega) (by rw [q.timeout]; omega) hfuel] at this
    cases this; assumption
  exact ⟨⟨(settle_drives 0 t incl fuel h).basic q.basic, r1.flag, hr.notResetting⟩, r2, r1.now_le, hr, r3⟩

/-- a length of `adv` up to which the fuel of `settle` (100000 actions) is certainly enough (a round bound, not the
largest): 6·10⁷ ticks, 86 days -/
def advBound : Nat := 60000000

theorem pre_hq {h : HB} {t : Nat} (q : HQ h) (hle : h.now ≤ t) (hb : t - h.now ≤ advBound) :
    HQ (pre h t) ∧ (pre h t).now = t ∧ ((pre h t).tl = .idle ↔ h.tl = .idle) ∧
    pre h t = { settle 0 100000 h t false with now := t } := by
  have hp := pot_le q t
  obtain ⟨r1, _, r3, r4, r5⟩ := settle_hq (incl := false) 100000 q hle (by unfold advBound at hb; omega)
  have e : pre h t = { settle 0 100000 h t false with now := t } := by
    unfold pre
    exact advance_ok r3 (fun d e => ⟨lim_false_excl.1 (r4.deadline d e), r1.flag⟩) (fun u e => lim_false_excl.1 (r4.wake u e))
  have hb : Basic 2400 2640 (pre h t) :=
    apply_inv r1.basic fun _ hs => basic_step r1.basic (step_iff.2 hs)
  rw [e] at hb ⊢
  exact ⟨⟨hb, r1.flag, r1.notResetting⟩, rfl, r5, rfl⟩

theorem feed_finish_hq {h : HB} {t : Nat} (q : HQ h) (hle : h.now ≤ t) (hb : t - h.now ≤ advBound) :
    HQ (feed 0 h (.finish t)) ∧ (feed 0 h (.finish t)).now = t ∧ Rest t true (feed 0 h (.finish t)) ∧
    ((feed 0 h (.finish t)).tl = .idle ↔ h.tl = .idle) := by
  obtain ⟨k1, k2, k4, _⟩ := pre_hq q hle hb
  rw [feed_eq]
  simp only
  have hp := pot_le k1 t
  obtain ⟨r1, r2, r3, r4, r5⟩ := settle_hq (incl := true) 100000 k1 (Nat.le_of_eq k2) (by rw [k2] at hp; omega)
  exact ⟨r1, by omega, r4, r5.trans k4⟩

theorem feed_finish_past {h : HB} {t : Nat} (q : HQ h) (hlt : t < h.now) : feed 0 h (.finish t) = h := by
  have pn : ∀ incl, pick 0 h t incl = none := fun incl =>
    pick_none_of ⟨q.notResetting, fun d e => lim_false_of_lt incl (Nat.lt_of_lt_of_le hlt (q.basic.deadline d e).1),
      fun u e => lim_false_of_lt incl (Nat.lt_of_lt_of_le hlt (q.basic.wake u e).1)⟩
  rw [feed_eq]
  simp only
  have e : pre h t = h := by
    unfold pre
    rw [settle_stable _ q.flag (pn false)]
    simp [apply!, step, show ¬ h.now ≤ t by omega]
  rw [e, settle_stable _ q.flag (pn true)]

theorem feed_conn_quiet {h : HB} {t : Nat} (q : Quiet h t) (up : Bool) :
    feed 0 h (.conn up t) = { h with now := t, connected := up, trace := h.trace ++ [.conn up t] } := by
  rw [feed_eq]; simp only
  rw [pre_quiet q]
  simp [apply!, step, HB.emit]

theorem feed_stop_quiet {h : HB} {t : Nat} (q : Quiet h t) :
    (feed 0 h (.stop t)).tl = .idle ∧ (feed 0 h (.stop t)).hl = .idle ∧ (feed 0 h (.stop t)).now = t ∧
    (feed 0 h (.stop t)).flag = h.flag ∧
    (feed 0 h (.stop t)).trace = if h.tl = .idle ∧ h.hl = .idle then h.trace else h.trace ++ [.stop t] := by
  rw [feed_eq]; simp only
  rw [pre_quiet q]
  cases h.tl <;> cases h.hl <;> simp [apply!, step, HB.emit]

theorem feed_resp_quiet {h : HB} {t d : Nat} (q : Quiet h t) (htl : h.tl = .waiting d) :
    feed 0 h (.resp t) = { h with now := t, tl := .waiting (t + h.timeout), flag := false, lastArm := t,
                                  expiries := h.expiries ++ [t + h.timeout], trace := h.trace ++ [.resp t] } := by
  rw [feed_eq]; simp only
  rw [pre_quiet q]
  simp [apply!, step, HB.emit, htl]

theorem feed_start_idle {h : HB} {t : Nat} (hi : HbIdle h) (hn : h.now ≤ t)
    (hiv : 0 < h.interval) (hto : 0 < h.timeout) :
    feed 0 h (.start t) =
      { h with now := t, tl := .waiting (t + h.timeout), flag := false, lastArm := t, hl := .sleeping (t + h.interval),
               expiries := h.expiries ++ [t + h.timeout],
               trace := if h.connected then h.trace ++ [.start t] ++ [.beat t] else h.trace ++ [.start t] } := by
  rw [feed_eq]; simp only
  have e0 : pre h t = { h with now := t } := by
    unfold pre
    rw [settle_idle _ _ _ _ _ hi]
    exact advance_ok hn (fun d e => by rw [hi.1] at e; cases e) (fun u e => by rw [hi.2] at e; cases e)
  rw [e0]
  have e1 : apply! { h with now := t } .start =
      { h with now := t, tl := .waiting (t + h.timeout), flag := false, lastArm := t, hl := .sleeping t,
               expiries := h.expiries ++ [t + h.timeout], trace := h.trace ++ [.start t] } := by
    simp [apply!, step, HB.emit, enterTimeout, hi.1, hi.2]
  rw [e1, settle_succ _ _ _ _ _ rfl,
    pick_beat (u := t) rfl (Nat.le_refl _) rfl (fun d e => by simp only [TL.waiting.injEq] at e; omega) (by simp)
      (by simp [lim])]
  simp only
  rw [settle_stable _ rfl (pick_none_of ⟨by simp, fun d e => (by cases e; exact lim_false_of_lt _ (Nat.lt_add_of_pos_right hto)),
    fun u e => (by cases e; exact lim_false_of_lt _ (Nat.lt_add_of_pos_right hiv))⟩)]

/-- what an input does to "the manager is running" -/
def runsAfter (i : HIn) (before after : HB) : Prop :=
  match i with
  | .start _ => after.tl ≠ .idle
  | .stop _ => after.tl = .idle
  | _ => (after.tl = .idle ↔ before.tl = .idle)

/-- an input at the manager's own instant keeps it well-formed (no assumption about the fuel: nothing has to be caught up) -/
theorem feed_hq_now {h : HB} (q : HQ h) (i : HIn) (hi : i.time = h.now) :
    HQ (feed 0 h i) ∧ (feed 0 h i).now = h.now ∧ runsAfter i h (feed 0 h i) := by
  have hb := (feed_drives 0 h i).basic q.basic
  have qq := q.quiet
  cases i with
  | conn up t =>
    simp only [HIn.time] at hi; subst hi
    rw [feed_conn_quiet qq] at hb ⊢
    exact ⟨⟨hb, q.flag, q.notResetting⟩, rfl, Iff.rfl⟩
  | stop t =>
    simp only [HIn.time] at hi; subst hi
    obtain ⟨e1, e2, e3, e4, _⟩ := feed_stop_quiet qq
    exact ⟨⟨hb, by rw [e4]; exact q.flag, by rw [e1]; simp⟩, e3, e1⟩
  | resp t =>
    simp only [HIn.time] at hi; subst hi
    cases htl : h.tl with
    | resetting => exact absurd htl q.notResetting
    | idle =>
      have e : feed 0 h (.resp h.now) = h := by
        rw [feed_eq]; simp only
        rw [pre_quiet qq]
        simp [apply!, step, htl]
        rw [← htl]
      rw [e] at hb ⊢
      exact ⟨⟨hb, q.flag, q.notResetting⟩, rfl, by simp [runsAfter]⟩
    | waiting d =>
      rw [feed_resp_quiet qq htl] at hb ⊢
      exact ⟨⟨hb, rfl, by simp⟩, rfl, by simp [runsAfter, htl]⟩
  | start t =>
    simp only [HIn.time] at hi; subst hi
    by_cases hidle : h.tl = .idle
    · have hid : HbIdle h := ⟨hidle, q.basic.both.1 hidle⟩
      rw [feed_start_idle hid (Nat.le_refl _) (by rw [q.interval]; omega) (by rw [q.timeout]; omega)] at hb ⊢
      exact ⟨⟨hb, rfl, by simp⟩, rfl, by simp [runsAfter]⟩
    · -- on a running manager `start()` does nothing but let what is due at this very instant happen
      have e : feed 0 h (.start h.now) = settle 0 8 h h.now true := by
        rw [feed_eq]; simp only
        rw [pre_quiet qq]
        have : apply! { h with now := h.now } .start = h := by
          cases htl : h.tl <;> cases hhl : h.hl <;> simp_all [apply!, step]
        rw [this]
      rw [e] at hb ⊢
      have hp := pot_le q h.now
      obtain ⟨r1, r2, r3, _, r7⟩ := settle_hq (incl := true) 8 q (Nat.le_refl _) (by omega)
      exact ⟨r1, by omega, fun e => hidle (r7.1 e)⟩
  | resetDone t =>
    simp only [HIn.time] at hi; subst hi
    rw [feed_eq]; simp only
    have e : pre h h.now = h := pre_quiet qq
    rw [e]
    have : apply! h .tlResetDone = h := by
      cases htl : h.tl <;> simp_all [apply!, step]
      exact absurd htl q.notResetting
    rw [this]
    exact ⟨q, rfl, Iff.rfl⟩
  | finish t =>
    simp only [HIn.time] at hi; subst hi
    obtain ⟨r1, r2, _, r6⟩ := feed_finish_hq q (Nat.le_refl _) (by simp [advBound])
    exact ⟨r1, r2, r6⟩

theorem feed_idle_back (rt : Nat) (h : HB) (i : HIn) (hi : ∀ t, i ≠ .stop t) (hid : HbIdle (feed rt h i)) : HbIdle h :=
  Classical.byContradiction fun hn =>
    (feed_drives rt h i).inv (Q := fun x => ¬ HbIdle x)
      (fun l hl _ _ hq hs hb =>
        have ne : l ≠ .stop := fun e => (hl.2 e).elim fun t et => hi t et
        hq ⟨(step_idle_back hs ne).1 hb.1, (step_idle_back hs ne).2 hb.2⟩) hn hid

/-! ## 4. time passing -/

/-- the deadline `d` is pending, the event clear, no `reset` recorded -/
def Keep (d : Nat) (h : HB) : Prop := h.tl = .waiting d ∧ h.flag = false ∧ resetEvs h.trace = 0

theorem apply_keep {d : Nat} {h : HB} {l : Label} (hl : (∃ t, l = .advance t) ∨ l = .hlBeat) (k : Keep d h) :
    Keep d (apply! h l) := by
  refine apply_inv k fun g hs => ?_
  obtain ⟨k1, k2, k3⟩ := k
  rcases hl with ⟨t, rfl⟩ | rfl <;> cases hs
  · exact ⟨k1, k2, k3⟩
  · exact ⟨k1, k2, by show resetEvs (h.trace ++ _) = 0; rw [resetEvs_append, k3]; rfl⟩
  · exact ⟨k1, k2, k3⟩

/-- before the deadline nothing but heartbeat requests happens - whatever the fuel -/
theorem settle_keep {d t : Nat} {incl : Bool} (hl : lim t incl d = false) :
    ∀ (fuel : Nat) (h : HB), Keep d h → Keep d (settle 0 fuel h t incl) := by
  intro fuel
  induction fuel with
  | zero => intro h k; exact k
  | succ fuel ih =>
    intro h k
    rw [settle_succ _ _ _ _ _ k.2.1]
    cases hp : pick 0 h t incl with
    | none => exact k
    | some h' =>
      refine ih h' ?_
      have tb : tlBranch h t incl d = none := by simp [tlBranch, hl]
      unfold pick at hp
      rw [show dueTl 0 h = some d by simp [dueTl, k.1]] at hp
      -- the deadline is beyond the limit, so the action is a wake-up of the heartbeat loop
      cases hh : dueHl h <;> rw [hh] at hp <;> simp only [tb] at hp
      · cases hp
      · split at hp
        · cases hp
        · unfold hlBranch at hp
          split at hp <;> cases hp
          exact apply_keep (.inr rfl) (apply_keep (.inl ⟨_, rfl⟩) k)

theorem finish_induct {h : HB} {t : Nat} (q : HQ h) (hle : h.now ≤ t) (hb : t - h.now ≤ advBound) (P : HB → Prop)
    (hP : ∀ incl a b, SInv t incl a → P a → Act t incl a b → P b) (hadv : ∀ a, P a → P { a with now := t }) (h0 : P h) :
    P (feed 0 h (.finish t)) := by
  obtain ⟨_, p1⟩ := settle_induct (t := t) (incl := false) P (hP false) 100000 h (q.sinv false hle) h0
  obtain ⟨k1, k2, _, e⟩ := pre_hq q hle hb
  have p2 : P (pre h t) := by rw [e]; exact hadv _ p1
  rw [feed_eq]
  simp only
  exact (settle_induct (t := t) (incl := true) P (hP true) 100000 (pre h t) (k1.sinv true (Nat.le_of_eq k2)) p2).2

theorem resetEvs_snoc (tr : List HEv) (e : HEv) : resetEvs (tr ++ [e]) = resetEvs tr + (if HEv.isReset e then 1 else 0) := by
  rw [resetEvs_append]
  cases e <;> simp [resetEvs, HEv.isReset]

theorem resetEvs_beatRec (h : HB) (u : Nat) : resetEvs (beatRec h u).trace = resetEvs h.trace := by
  show resetEvs (if h.connected = true then _ else _) = _
  split
  · rw [resetEvs_snoc]; simp [HEv.isReset]
  · rfl

theorem finish_nothing {h : HB} {t : Nat} (q : Quiet h t) (hd : ∀ d, h.tl = .waiting d → t < d)
    (hu : ∀ u, h.hl = .sleeping u → t < u) : feed 0 h (.finish t) = { h with now := t } := by
  rw [feed_eq]
  simp only
  rw [pre_quiet q]
  exact settle_stable _ q.flag (pick_none_of
    ⟨q.notResetting, fun d e => lim_false_of_lt _ (hd d e), fun u e => lim_false_of_lt _ (hu u e)⟩)

theorem finish_one_beat {h : HB} {u d : Nat} (hf : h.flag = false) (hn : h.now ≤ u) (htl : h.tl = .waiting d)
    (hhl : h.hl = .sleeping u) (hud : u < d) (hiv : 0 < h.interval) :
    feed 0 h (.finish u) = beatRec h u := by
  have q : Quiet h u := ⟨hf, by rw [htl]; nofun, hn, fun d' e => by rw [htl] at e; cases e; omega,
    fun u' e => by rw [hhl] at e; cases e; exact Nat.le_refl _⟩
  have hb : pick 0 { h with now := u } u true = some (beatRec h u) :=
    pick_beat hf (Nat.le_refl _) hhl (fun d' e => by cases htl.symm.trans e; exact hud)
      (fun e => by cases htl.symm.trans e) (by simp [lim])
  have hr : Rest u true (beatRec h u) :=
    ⟨fun e => (by cases htl.symm.trans e), fun d' e => (by cases htl.symm.trans e; exact lim_false_of_lt _ hud),
      fun u' e => (by cases e; exact lim_false_of_lt _ (Nat.lt_add_of_pos_right hiv))⟩
  rw [feed_eq]
  simp only
  rw [pre_quiet q, settle_succ _ 99999 { h with now := u } _ _ hf, hb]
  exact settle_stable _ hf (pick_none_of hr)

/-- **the periods of silence within one passage of time**: on a manager waiting for the deadline `d`, the deadlines
`d`, `d + 2640`, … up to `t` expire one after the other - `j` of them, `d + j·2640 - 2640 ≤ t < d + j·2640` - and each
records one `reset` if the link is up (the reset completes at once), none if it is down; the next deadline is
`d + j·2640` -/
theorem finish_periods {h : HB} {d t : Nat} (q : HQ h) (htl : h.tl = .waiting d) (hle : h.now ≤ t)
    (hb : t - h.now ≤ advBound) :
    ∃ j, (feed 0 h (.finish t)).tl = .waiting (d + j * 2640) ∧ t < d + j * 2640 ∧ (j = 0 ∨ d + j * 2640 ≤ t + 2640) ∧
      resetEvs (feed 0 h (.finish t)).trace = resetEvs h.trace + (if h.connected then j else 0) := by
  have next : ∀ j, d + j * 2640 ≤ t → d + (j + 1) * 2640 ≤ t + 2640 := fun j hj => by
    rw [Nat.succ_mul, ← Nat.add_assoc]; exact Nat.add_le_add_right hj _
  -- `j` deadlines have expired; the reset that the last one began may still be in progress
  have key := finish_induct q hle hb
    (fun a => a.connected = h.connected ∧ a.timeout = 2640 ∧ ∃ j, (j = 0 ∨ d + j * 2640 ≤ t + 2640) ∧
      ((a.tl = .waiting (d + j * 2640) ∧ resetEvs a.trace = resetEvs h.trace + (if h.connected then j else 0)) ∨
       (a.tl = .resetting ∧ a.resetAt = d + j * 2640 ∧ d + j * 2640 ≤ t ∧ h.connected = true ∧
         resetEvs a.trace = resetEvs h.trace + (j + 1))))
    (by
      intro incl a b ia ⟨c1, c2, j, hj, c3⟩ ab
      cases ab with
      | fireUp d' htl' hu hl hc' =>
        rcases c3 with ⟨e1, e2⟩ | ⟨e1, _⟩ <;> rw [htl'] at e1 <;> cases e1
        have hc : h.connected = true := c1.symm.trans hc'
        refine ⟨c1, c2, j, hj, .inr ⟨rfl, rfl, lim_le hl, hc, ?_⟩⟩
        show resetEvs (a.trace ++ _) = _
        rw [resetEvs_snoc, e2, hc]; rfl
      | fireDown d' htl' hu hl hc' =>
        rcases c3 with ⟨e1, e2⟩ | ⟨e1, _⟩ <;> rw [htl'] at e1 <;> cases e1
        have hc : h.connected = false := c1.symm.trans hc'
        refine ⟨c1, c2, j + 1, .inr (next j (lim_le hl)), .inl ⟨?_, ?_⟩⟩
        · show TL.waiting (d + j * 2640 + a.timeout) = _; rw [c2, Nat.succ_mul, Nat.add_assoc]
        · rw [hc] at e2 ⊢; exact e2
      | done htl' hu hl =>
        rcases c3 with ⟨e1, _⟩ | ⟨_, e2, e3, hc, e4⟩
        · rw [htl'] at e1; cases e1
        · refine ⟨c1, c2, j + 1, .inr (next j e3), .inl ⟨?_, ?_⟩⟩
          · show TL.waiting (a.now + a.timeout) = _; rw [← (ia.resetting htl').1, e2, c2, Nat.succ_mul, Nat.add_assoc]
          · show resetEvs (a.trace ++ _) = _; rw [resetEvs_snoc, e4, hc]; rfl
      | beat u hhl hw hnr hl => exact ⟨c1, c2, j, hj, by rw [resetEvs_beatRec]; exact c3⟩)
    (fun a c => c) ⟨rfl, q.timeout, 0, .inl rfl, .inl ⟨by rw [htl]; rfl, by cases h.connected <;> rfl⟩⟩
  obtain ⟨r1, _, r3, _⟩ := feed_finish_hq q hle hb
  obtain ⟨_, _, j, hj, ⟨e1, e2⟩ | ⟨e1, _⟩⟩ := key
  · exact ⟨j, e1, by simpa [lim] using r3.deadline _ e1, hj, e2⟩
  · exact absurd e1 r1.notResetting

end PyAirtouch.Lemmas.Api5
