import PyAirtouch.Lemmas.SpecBits
/-!
# The vendor's 0xC0 container: sub-header, repeat area, records read one by one

`Spec.At5.readSubMessage` reads the eight-byte sub-header and cuts the repeat area into `count` blocks of `eachLen` bytes
(`splitRecords`); `readAll rd` reads each block.  What the decoder direction (`Lemmas/SpecAgree5.lean`: the block at index
`i` is `rawRec b nr rl i`) and the encoder direction (`Lemmas/SpecCmd.lean`: records written one after the other are read
back one by one, `readAll_flatMap`) need of these is here, so that neither imports the other.  The namespace is
`SpecAgree5`, because the C05 statements name `SpecAgree5.subHeader` and `SpecAgree5.rawRec`.
-/
namespace PyAirtouch.Lemmas.SpecAgree5
open PyAirtouch.Model

/-- The eight bytes of a 0xC0 sub-header: sub type, "Keep 0", normal length, each repeat length, repeat count
(each high byte first). -/
def subHeader (sub nr rl rc : Nat) : Bytes :=
  [sub, 0, nr / 256, nr % 256, rl / 256, rl % 256, rc / 256, rc % 256]

theorem be16_split (n : Nat) : PyAirtouch.Spec.At5.be16 (n / 256) (n % 256) = n := by
  unfold PyAirtouch.Spec.At5.be16; omega

/-- raw record `i` of a repeat area that starts after `nr` bytes and has stride `rl` -/
def rawRec (b : Bytes) (nr rl i : Nat) : Bytes := (b.drop (nr + i * rl)).take rl

theorem splitRecords_getElem? (each : Nat) : ∀ (n : Nat) (bs : Bytes) (i : Nat), i < n →
    (PyAirtouch.Spec.At5.splitRecords each n bs)[i]? = some ((bs.drop (i * each)).take each)
  | 0, _, _, h => by omega
  | n + 1, bs, 0, _ => by simp [PyAirtouch.Spec.At5.splitRecords]
  | n + 1, bs, i + 1, h => by
    simp only [PyAirtouch.Spec.At5.splitRecords, List.getElem?_cons_succ]
    rw [splitRecords_getElem? each n (bs.drop each) i (by omega), List.drop_drop]
    congr 3
    rw [Nat.add_mul]; omega

theorem splitRecords_length (each : Nat) : ∀ (n : Nat) (bs : Bytes),
    (PyAirtouch.Spec.At5.splitRecords each n bs).length = n
  | 0, _ => rfl
  | n + 1, bs => by simp [PyAirtouch.Spec.At5.splitRecords, splitRecords_length each n]

theorem readAll_some {α : Type} (f : List Nat → Option α) : ∀ (rs : List (List Nat)) (xs : List α),
    PyAirtouch.Spec.At5.readAll f rs = some xs →
    xs.length = rs.length ∧ ∀ i, i < rs.length → ∃ r x, rs[i]? = some r ∧ xs[i]? = some x ∧ f r = some x
  | [], xs, h => by
    simp only [PyAirtouch.Spec.At5.readAll, Option.some.injEq] at h
    subst h; exact ⟨rfl, fun i hi => by simp at hi⟩
  | r :: rs, xs, h => by
    simp only [PyAirtouch.Spec.At5.readAll] at h
    split at h
    · rename_i x xs' hx hxs
      simp only [Option.some.injEq] at h
      subst h
      obtain ⟨hl, hp⟩ := readAll_some f rs xs' hxs
      refine ⟨by simp [hl], ?_⟩
      intro i hi
      cases i with
      | zero => exact ⟨r, x, by simp, by simp, hx⟩
      | succ i =>
        obtain ⟨r', x', h1, h2, h3⟩ := hp i (by simpa using hi)
        exact ⟨r', x', by simpa using h1, by simpa using h2, h3⟩
    · cases h

theorem readAll_split_offsets {α : Type} (rd : List Nat → Option α) (b : Bytes) (nr rl rc : Nat) (ss : List α)
    (h : PyAirtouch.Spec.At5.readAll rd (PyAirtouch.Spec.At5.splitRecords rl rc (b.drop nr)) = some ss) :
    ss.length = rc ∧ ∀ i, i < rc → ∃ s, ss[i]? = some s ∧ rd (rawRec b nr rl i) = some s := by
  obtain ⟨hl, hp⟩ := readAll_some _ _ _ h
  rw [splitRecords_length] at hl hp
  refine ⟨hl, fun i hi => ?_⟩
  obtain ⟨r, x, h1, h2, h3⟩ := hp i hi
  rw [splitRecords_getElem? rl rc _ i hi, List.drop_drop] at h1
  cases h1
  exact ⟨x, h2, h3⟩

theorem readSubMessage_subHeader (sub nr rl rc : Nat) (b : Bytes) :
    PyAirtouch.Spec.At5.readSubMessage (subHeader sub nr rl rc ++ b) =
      if b.length = nr + rl * rc then
        some { hdr := { subType := sub, reserved := 0, normalLen := nr, eachLen := rl, count := rc },
               normal := b.take nr, records := PyAirtouch.Spec.At5.splitRecords rl rc (b.drop nr) }
      else none := by
  simp [subHeader, PyAirtouch.Spec.At5.readSubMessage, be16_split]

theorem readAll_flatMap {α β : Type} (k : Nat) (rd : List Nat → Option β) (rb : α → Bytes) (f : α → β)
    (hlen : ∀ x, (rb x).length = k) :
    ∀ (xs : List α), (∀ x ∈ xs, rd (rb x) = some (f x)) →
      PyAirtouch.Spec.At5.readAll rd (PyAirtouch.Spec.At5.splitRecords k xs.length (xs.flatMap rb)) = some (xs.map f)
  | [], _ => rfl
  | x :: xs, hrd => by
    simp only [List.length_cons, List.flatMap_cons, PyAirtouch.Spec.At5.splitRecords, PyAirtouch.Spec.At5.readAll,
      List.take_left' (hlen x), List.drop_left' (hlen x), hrd x (List.mem_cons_self ..),
      readAll_flatMap k rd rb f hlen xs (fun y hy => hrd y (List.mem_cons_of_mem _ hy)), List.map_cons]

end PyAirtouch.Lemmas.SpecAgree5
