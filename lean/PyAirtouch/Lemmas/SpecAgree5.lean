import PyAirtouch.Model.At5.Registry
import PyAirtouch.Lemmas.SpecSub
import PyAirtouch.Lemmas.Dict
import PyAirtouch.Lemmas.At5FF11
/-!
# C05, AirTouch 5: the decoder's reading equals the vendor reading

For every AirTouch 5 kind of C05 a relation `Agree<Kind>` (field by field, the correspondence of `harness/specmap.py`
with its named relaxations as explicit disjuncts), the lemmas on the way (what the decoder's loop or record decoder reads
is read alike by the vendor reader; an inversion per decoder - `decode_cases_<kind>` for FF10, FF13, FF30, `StatusKind.decode_status`/`decode_request` for the two
status kinds, for AC ability in `Lemmas/At5FF11.lean`) and
the agreement and request-form theorems that `Props/C055.lean` states.  The two stride-aware 0xC0 kinds (zone status,
AC status) are instances of `StatusKind`, whose theorems give agreement, rejection of undefined codes and the stride
clause.

`RecordWise` here is `AgreeList` of `Lemmas/SpecAgree4.lean` (the same relation; the C05 statements of the two generations
name them so), `<field>Word` here is `spec<Field>` there, `…_needs_length` here is `…_refuted` there; the helper names are
the same in both files.  The vendor's 0xC0 container (`subHeader`, `rawRec`, `splitRecords`, `readAll`) is in
`Lemmas/SpecSub.lean`.
-/
namespace PyAirtouch.Lemmas.SpecAgree5
open PyAirtouch.Model

/-- record by record: same number of records, same order, each pair related by `R` -/
inductive RecordWise {α β : Type} (R : α → β → Prop) : List α → List β → Prop
  | nil : RecordWise R [] []
  | cons {a : α} {b : β} {as : List α} {bs : List β} : R a b → RecordWise R as bs → RecordWise R (a :: as) (b :: bs)

theorem RecordWise.length_eq {α β : Type} {R : α → β → Prop} {as : List α} {bs : List β}
    (h : RecordWise R as bs) : as.length = bs.length := by
  induction h with
  | nil => rfl
  | cons _ _ ih => simp [ih]

theorem RecordWise.get {α β : Type} {R : α → β → Prop} {as : List α} {bs : List β}
    (h : RecordWise R as bs) : ∀ (i : Nat) (a : α) (b : β), as[i]? = some a → bs[i]? = some b → R a b := by
  induction h with
  | nil => intro i a b ha; simp at ha
  | cons hab _ ih =>
    intro i a b ha hb
    cases i with
    | zero => simp at ha hb; subst ha; subst hb; exact hab
    | succ i => simp at ha hb; exact ih i a b ha hb

theorem RecordWise.exists_of_mem_right {α β : Type} {R : α → β → Prop} {as : List α} {bs : List β}
    (h : RecordWise R as bs) : ∀ b ∈ bs, ∃ a ∈ as, R a b := by
  induction h with
  | nil => intro b hb; simp at hb
  | cons hab _ ih =>
    intro b hb
    rcases List.mem_cons.mp hb with rfl | hb
    · exact ⟨_, by simp, hab⟩
    · obtain ⟨a, ha, hr⟩ := ih b hb
      exact ⟨a, by simp [ha], hr⟩

theorem allBytes_drop {bs : Bytes} (h : AllBytes bs) (n : Nat) : AllBytes (bs.drop n) :=
  fun x hx => h x (List.mem_of_mem_drop hx)

theorem allBytes_take {bs : Bytes} (h : AllBytes bs) (n : Nat) : AllBytes (bs.take n) :=
  fun x hx => h x (List.mem_of_mem_take hx)

/-! ## A status kind of the 0xC0 family

What zone status and AC status have in common: the decoder (request form `0, 0`, known record size 8, the stride loop
over `decRec`) and the vendor's reader (the sub-message with its sub type, `rd` on each block of at least 8 bytes). -/
structure StatusKind {α β M : Type} (R : α → β → Prop) (req : M) (st : List α → M)
    (decode : Bytes → Nat → Nat → Nat → Except DecErr (M × Bytes)) (decRec : Bytes → Except DecErr α)
    (loop : Nat → Nat → Bytes → Except DecErr (List α × Bytes))
    (read : List Nat → Option (List β)) (rd : List Nat → Option β) (sub : Nat) : Prop where
  decode_eq : ∀ b nr rl rc, decode b nr rl rc =
    if rl = 0 ∧ rc = 0 then .ok (req, b) else if rl < 8 then .error .decodeError
    else loop rl rc (b.drop nr) >>= fun p => pure (st p.1, p.2)
  st_ne : ∀ zs, st zs ≠ req
  st_inj : ∀ zs zs', st zs = st zs' → zs = zs'
  msg_cases : ∀ m : M, m = req ∨ ∃ zs, m = st zs
  loop_zero : ∀ rl bs, loop rl 0 bs = .ok ([], bs)
  loop_succ : ∀ rl n bs, loop rl (n + 1) bs =
    decRec bs >>= fun z => loop rl n (bs.drop rl) >>= fun q => pure (z :: q.1, q.2)
  read_def : ∀ data, read data =
    match PyAirtouch.Spec.At5.readSubMessage data with
    | some m => if m.hdr.subType = sub ∧ 8 ≤ m.hdr.eachLen then PyAirtouch.Spec.At5.readAll rd m.records else none
    | none => none
  rec_agrees : ∀ stride, 8 ≤ stride → ∀ bs z, AllBytes bs → decRec bs = .ok z →
    ∃ s, rd (bs.take stride) = some s ∧ R z s

namespace StatusKind
variable {α β M : Type} {R : α → β → Prop} {req : M} {st : List α → M}
  {decode : Bytes → Nat → Nat → Nat → Except DecErr (M × Bytes)} {decRec : Bytes → Except DecErr α}
  {loop : Nat → Nat → Bytes → Except DecErr (List α × Bytes)}
  {read : List Nat → Option (List β)} {rd : List Nat → Option β} {sub : Nat}
  (k : StatusKind R req st decode decRec loop read rd sub)
include k

theorem read_eq (nr rl rc : Nat) (b : Bytes) : read (subHeader sub nr rl rc ++ b) =
    if b.length = nr + rl * rc ∧ 8 ≤ rl then
      PyAirtouch.Spec.At5.readAll rd (PyAirtouch.Spec.At5.splitRecords rl rc (b.drop nr))
    else none := by
  rw [k.read_def, readSubMessage_subHeader]
  by_cases h1 : b.length = nr + rl * rc <;> by_cases h2 : 8 ≤ rl <;> simp [h1, h2]

theorem loop_cons (rl n : Nat) (bs : Bytes) (zs : List α) (rest : Bytes) (h : loop rl (n + 1) bs = .ok (zs, rest)) :
    ∃ z zs', zs = z :: zs' ∧ decRec bs = .ok z ∧ loop rl n (bs.drop rl) = .ok (zs', rest) := by
  rw [k.loop_succ] at h
  cases hd : decRec bs with
  | error e => rw [hd] at h; cases h
  | ok z =>
    cases hl : loop rl n (bs.drop rl) with
    | error e => rw [hd] at h; simp only [bind, Except.bind, hl] at h; cases h
    | ok q =>
      rw [hd] at h
      simp only [bind, Except.bind, hl, pure, Except.pure] at h
      cases h
      exact ⟨z, q.1, rfl, rfl, rfl⟩

theorem loop_offsets (rl : Nat) :
    ∀ (n : Nat) (bs : Bytes) (zs : List α) (rest : Bytes), loop rl n bs = .ok (zs, rest) →
    zs.length = n ∧ rest = bs.drop (rl * n) ∧
      ∀ i, i < n → ∃ z, zs[i]? = some z ∧ decRec (bs.drop (i * rl)) = .ok z
  | 0, bs, zs, rest, h => by
    rw [k.loop_zero] at h
    cases h
    exact ⟨rfl, rfl, fun i hi => absurd hi (Nat.not_lt_zero i)⟩
  | n + 1, bs, zs, rest, h => by
    obtain ⟨z, zs', rfl, hz, hr⟩ := k.loop_cons rl n bs zs rest h
    obtain ⟨hl, hrest, hp⟩ := loop_offsets rl n (bs.drop rl) zs' rest hr
    refine ⟨by rw [List.length_cons, hl], by rw [hrest, List.drop_drop, Nat.mul_succ, Nat.add_comm], ?_⟩
    intro i hi
    cases i with
    | zero => exact ⟨z, rfl, by rw [Nat.zero_mul]; exact hz⟩
    | succ i =>
      obtain ⟨z', h1, h2⟩ := hp i (Nat.lt_of_succ_lt_succ hi)
      exact ⟨z', h1, by rw [List.drop_drop, Nat.add_comm, ← Nat.succ_mul] at h2; exact h2⟩

theorem loop_complete (rl : Nat) :
    ∀ (n : Nat) (bs : Bytes), (∀ i, i < n → ∃ z, decRec (bs.drop (i * rl)) = .ok z) →
    ∃ zs, loop rl n bs = .ok (zs, bs.drop (rl * n))
  | 0, bs, _ => ⟨[], k.loop_zero rl bs⟩
  | n + 1, bs, h => by
    obtain ⟨z, hz⟩ := h 0 (Nat.succ_pos n)
    rw [Nat.zero_mul, List.drop_zero] at hz
    obtain ⟨zs, hzs⟩ := loop_complete rl n (bs.drop rl) (fun i hi => by
      obtain ⟨z', hz'⟩ := h (i + 1) (Nat.succ_lt_succ hi)
      exact ⟨z', by rw [List.drop_drop, Nat.add_comm, ← Nat.succ_mul]; exact hz'⟩)
    refine ⟨z :: zs, ?_⟩
    rw [k.loop_succ, hz, Nat.mul_succ, Nat.add_comm, ← List.drop_drop]
    simp only [bind, Except.bind, hzs, pure, Except.pure]

theorem loop_agrees (rl : Nat) (h8 : 8 ≤ rl) :
    ∀ (n : Nat) (bs : Bytes) (zs : List α) (rest : Bytes), AllBytes bs → loop rl n bs = .ok (zs, rest) →
    ∃ ss, Spec.At5.readAll rd (Spec.At5.splitRecords rl n bs) = some ss ∧ RecordWise R zs ss
  | 0, bs, zs, rest, _, h => by
    rw [k.loop_zero] at h
    cases h
    exact ⟨[], rfl, .nil⟩
  | n + 1, bs, zs, rest, hb, h => by
    obtain ⟨z, zs', rfl, hz, hr⟩ := k.loop_cons rl n bs zs rest h
    obtain ⟨ss, hss, hag⟩ := loop_agrees rl h8 n (bs.drop rl) zs' rest (allBytes_drop hb _) hr
    obtain ⟨s, hs1, hs2⟩ := k.rec_agrees rl h8 bs z hb hz
    exact ⟨s :: ss, by simp only [Spec.At5.splitRecords, Spec.At5.readAll, hs1, hss], .cons hs2 hag⟩

theorem decode_status (b : Bytes) (nr rl rc : Nat) (zs : List α) (rest : Bytes)
    (h : decode b nr rl rc = .ok (st zs, rest)) : 8 ≤ rl ∧ loop rl rc (b.drop nr) = .ok (zs, rest) := by
  rw [k.decode_eq] at h
  split at h
  · cases h; exact absurd rfl (k.st_ne zs)
  · split at h
    · cases h
    · refine ⟨Nat.le_of_not_lt ‹_›, ?_⟩
      cases hp : loop rl rc (b.drop nr) with
      | error e => simp only [hp, bind, Except.bind] at h; cases h
      | ok p =>
        simp only [hp, bind, Except.bind, pure, Except.pure, Except.ok.injEq, Prod.mk.injEq] at h
        rw [← k.st_inj _ _ h.1, ← h.2]

theorem decode_request (b : Bytes) (nr rl rc : Nat) (rest : Bytes) (h : decode b nr rl rc = .ok (req, rest)) :
    rl = 0 ∧ rc = 0 ∧ rest = b := by
  rw [k.decode_eq] at h
  split at h
  · cases h; exact ⟨‹_ ∧ _›.1, ‹_ ∧ _›.2, rfl⟩
  · split at h
    · cases h
    · cases hp : loop rl rc (b.drop nr) with
      | error e => simp only [hp, bind, Except.bind] at h; cases h
      | ok p =>
        simp only [hp, bind, Except.bind, pure, Except.pure, Except.ok.injEq, Prod.mk.injEq] at h
        exact absurd h.1 (k.st_ne _)

theorem decode_agrees_of_spec (b : Bytes) (nr rl rc : Nat) (hb : AllBytes b) (zs : List α) (rest : Bytes)
    (ss : List β) (h : decode b nr rl rc = .ok (st zs, rest)) (hs : read (subHeader sub nr rl rc ++ b) = some ss) :
    RecordWise R zs ss := by
  obtain ⟨h8, hr⟩ := k.decode_status b nr rl rc zs rest h
  obtain ⟨ss', hss, hag⟩ := k.loop_agrees rl h8 rc _ zs rest (allBytes_drop hb _) hr
  rw [k.read_eq] at hs
  split at hs
  · rw [hss] at hs; cases hs; exact hag
  · cases hs

theorem stride_offsets (b : Bytes) (nr rl rc : Nat) (zs : List α) (rest : Bytes)
    (h : decode b nr rl rc = .ok (st zs, rest)) :
    8 ≤ rl ∧ zs.length = rc ∧ rest = b.drop (nr + rl * rc) ∧
      ∀ i, i < rc → ∃ z, zs[i]? = some z ∧ decRec (b.drop (nr + i * rl)) = .ok z := by
  obtain ⟨h8, hr⟩ := k.decode_status b nr rl rc zs rest h
  obtain ⟨hl, hrest, hp⟩ := k.loop_offsets rl rc (b.drop nr) zs rest hr
  simp only [List.drop_drop] at hrest hp
  exact ⟨h8, hl, hrest, hp⟩

/-- `hlen`: the announced data is present; without it the vendor reader refuses ("Data length = 8 + normal + repeat
length * repeat count"), see `decode_agrees_C021_needs_length`. -/
theorem decode_agrees (b : Bytes) (nr rl rc : Nat) (hb : AllBytes b) (hlen : nr + rl * rc ≤ b.length) (zs : List α)
    (h : decode b nr rl rc = .ok (st zs, [])) :
    ∃ ss, read (subHeader sub nr rl rc ++ b) = some ss ∧ RecordWise R zs ss := by
  obtain ⟨h8, hr⟩ := k.decode_status b nr rl rc zs [] h
  obtain ⟨ss, hss, hag⟩ := k.loop_agrees rl h8 rc _ zs [] (allBytes_drop hb _) hr
  obtain ⟨_, _, hrest, _⟩ := k.stride_offsets b nr rl rc zs [] h
  have hl : b.length = nr + rl * rc := by
    have := congrArg List.length hrest
    simp only [List.length_nil, List.length_drop] at this
    omega
  exact ⟨ss, by rw [k.read_eq, if_pos ⟨hl, h8⟩, hss], hag⟩

theorem stride_accepted (b : Bytes) (nr rl rc : Nat) (h8 : 8 ≤ rl)
    (hrec : ∀ i, i < rc → ∃ z, decRec (b.drop (nr + i * rl)) = .ok z) :
    ∃ zs, decode b nr rl rc = .ok (st zs, b.drop (nr + rl * rc)) := by
  obtain ⟨zs, hzs⟩ := k.loop_complete rl rc (b.drop nr) (by simpa only [List.drop_drop] using hrec)
  refine ⟨zs, ?_⟩
  rw [k.decode_eq, if_neg (by omega), if_neg (by omega), hzs, List.drop_drop]
  rfl

theorem stride_below_rejected (b : Bytes) (nr rl rc : Nat) (h8 : rl < 8) (hreq : ¬ (rl = 0 ∧ rc = 0)) :
    decode b nr rl rc = .error .decodeError := by
  rw [k.decode_eq, if_neg hreq, if_pos h8]

theorem spec_stride_below_rejected (b : Bytes) (nr rl rc : Nat) (h8 : rl < 8) :
    read (subHeader sub nr rl rc ++ b) = none := by
  rw [k.read_eq, if_neg (by omega)]

theorem spec_stride_offsets (b : Bytes) (nr rl rc : Nat) (ss : List β)
    (h : read (subHeader sub nr rl rc ++ b) = some ss) :
    8 ≤ rl ∧ b.length = nr + rl * rc ∧ ss.length = rc ∧
      ∀ i, i < rc → ∃ s, ss[i]? = some s ∧ rd (rawRec b nr rl i) = some s := by
  rw [k.read_eq] at h
  split at h
  · exact ⟨‹_ ∧ _›.2, ‹_ ∧ _›.1, readAll_split_offsets _ b nr rl rc ss h⟩
  · cases h

theorem undefined_rejected {U : β → Prop} (hU : ∀ z s, R z s → ¬ U s)
    (b : Bytes) (nr rl rc : Nat) (hb : AllBytes b) (ss : List β)
    (hs : read (subHeader sub nr rl rc ++ b) = some ss) (hu : ∃ s ∈ ss, U s) :
    ∃ e, decode b nr rl rc = .error e := by
  cases hd : decode b nr rl rc with
  | error e => exact ⟨e, rfl⟩
  | ok p =>
    exfalso
    obtain ⟨m, rest⟩ := p
    obtain rfl | ⟨zs, rfl⟩ := k.msg_cases m
    · have h8 := (k.spec_stride_offsets b nr rl rc ss hs).1
      have h0 := (k.decode_request b nr rl rc rest hd).1
      omega
    · obtain ⟨s, hmem, hus⟩ := hu
      obtain ⟨z, _, hz⟩ := (k.decode_agrees_of_spec b nr rl rc hb zs rest ss hd hs).exists_of_mem_right s hmem
      exact hU z s hz hus

theorem request_form (b : Bytes) (nr rl rc : Nat) (h : decode b nr rl rc = .ok (req, [])) :
    rl = 0 ∧ rc = 0 ∧ b = [] ∧ read (subHeader sub nr rl rc ++ b) = none := by
  obtain ⟨rfl, rfl, rfl⟩ := k.decode_request b nr rl rc [] h
  exact ⟨rfl, rfl, rfl, k.spec_stride_below_rejected [] nr 0 0 (by decide)⟩

end StatusKind

open PyAirtouch.Lemmas.SpecBits

/-! ## Zone status (0xC0 / 0x21) -/
section C021
open PyAirtouch.Model.At5.C021 PyAirtouch.Gen.At5.XC021ZoneStatus
open PyAirtouch.Spec.At5 (ZoneStatus ZonePower ControlMethod readZoneStatus readZoneStatusRecord readAll
  splitRecords readSubMessage)

/-- `AT5_ZONE_POWER` of `specmap.py` -/
def zonePowerWord : ZonePowerState → ZonePower
  | .OFF => .off | .ON => .on | .TURBO => .turbo

/-- `AT5_ZONE_METHOD` of `specmap.py` -/
def zoneMethodWord : ZoneControlMethod → ControlMethod
  | .DAMPER => .percentage | .TEMPERATURE => .temperature

/-- `BATTERY_LOW` of `specmap.py` -/
def batteryLowWord : SensorBatteryStatus → Bool
  | .NORMAL => false | .LOW => true

/-- `specmap.at5_C021`: all nine fields of the vendor's zone record. -/
def AgreeC021 (z : ZoneStatusData) (s : ZoneStatus) : Prop :=
  s.zone = z.zone_number ∧
  s.power = zonePowerWord z.power_state ∧
  s.controlMethod = zoneMethodWord z.control_method ∧
  s.openPercentage = z.damper_percentage ∧
  s.setpoint = z.set_point ∧
  s.hasSensor = z.has_sensor ∧
  (s.temperature = z.temperature ∨
    -- relaxation AT5_C021_TEMPERATURE_ABSENT_WITHOUT_SENSOR: `None` accepted only when the vendor reading has
    -- has_sensor = false (Byte4 Bit8 = 0)
    (z.temperature = none ∧ s.hasSensor = false)) ∧
  s.spill = z.spill_active ∧
  s.lowBattery = batteryLowWord z.battery_status

theorem zonePower_tbl (c : Nat) (hc : c < 4) (ps : ZonePowerState) (h : ZonePowerState.ofNat? c = some ps) :
    ZonePower.ofCode c = zonePowerWord ps :=
  (by decide : ∀ c, c < 4 → ∀ ps ∈ ZonePowerState.ofNat? c, ZonePower.ofCode c = zonePowerWord ps) c hc ps h

theorem zoneMethod_tbl (b : Nat) (cm : ZoneControlMethod) (h : ZoneControlMethod.ofNat? (b / 128 % 2) = some cm) :
    (if bitToBool b 7 then ControlMethod.temperature else .percentage) = zoneMethodWord cm :=
  (by decide : ∀ v, v < 2 → ∀ cm ∈ ZoneControlMethod.ofNat? v,
    (if decide (v = 1) then ControlMethod.temperature else .percentage) = zoneMethodWord cm)
    _ (Nat.mod_lt _ (by decide)) cm h

theorem battery_tbl (b : Nat) (bat : SensorBatteryStatus) (h : SensorBatteryStatus.ofNat? (b % 2) = some bat) :
    bitToBool b 0 = batteryLowWord bat := by
  rw [bitToBool, Nat.pow_zero, Nat.div_one]
  exact (by decide : ∀ v, v < 2 → ∀ bat ∈ SensorBatteryStatus.ofNat? v, decide (v = 1) = batteryLowWord bat)
    _ (Nat.mod_lt _ (by decide)) bat h

/-- the 11-bit temperature field: Byte5 Bit3-1 (`b5 % 8`) ++ Byte6 is the low 11 bits of the big-endian pair -/
theorem temp_raw_eq (b5 b6 : Nat) (h6 : b6 < 256) :
    PyAirtouch.Spec.At5.be16 (b5 % 8) b6 = PyAirtouch.Model.be16 b5 b6 % 2048 := by
  simp only [PyAirtouch.Spec.At5.be16, PyAirtouch.Model.be16]
  omega

theorem temp_agrees_C021 (b4 b5 b6 : Nat) (h6 : b6 < 256) :
    PyAirtouch.Spec.At5.temperatureTenths (PyAirtouch.Spec.At5.be16 (b5 % 8) b6)
        = decTemp (bitToBool b4 7) (PyAirtouch.Model.be16 b5 b6) ∨
      (decTemp (bitToBool b4 7) (PyAirtouch.Model.be16 b5 b6) = none ∧ bitToBool b4 7 = false) := by
  rw [temp_raw_eq b5 b6 h6]
  simp only [decTemp]
  generalize PyAirtouch.Model.be16 b5 b6 % 2048 = v
  cases hs : bitToBool b4 7
  · exact .inr ⟨rfl, rfl⟩
  · left
    simp only [PyAirtouch.Spec.At5.temperatureTenths, At5.Utils.decodeTemperature, MAXIMUM_TEMPERATURE_tenths]
    by_cases hv : v ≤ 2000
    · have : ¬ ((v : Int) - 500 > 1500) := by omega
      simp [hv, this]
    · have : ((v : Int) - 500 > 1500) := by omega
      simp [hv, this]

theorem rec_agrees_C021 (stride : Nat) (h8 : 8 ≤ stride) (bs : Bytes) (z : ZoneStatusData) (hb : AllBytes bs)
    (h : decRec bs = .ok z) : ∃ s, readZoneStatusRecord (bs.take stride) = some s ∧ AgreeC021 z s := by
  unfold decRec at h
  split at h
  · rename_i b1 b2 b3 b4 b5 b6 b7 b8 tl
    split at h
    · rename_i ps cm bat hps hcm hbat
      cases h
      -- in this form `take stride` reduces against the reader's pattern of eight conses
      obtain ⟨j, rfl⟩ : ∃ j, stride = j + 1 + 1 + 1 + 1 + 1 + 1 + 1 + 1 := ⟨stride - 8, by omega⟩
      refine ⟨_, rfl, ?_⟩
      simp only [AgreeC021, bit5_eq, bits5_eq, Nat.reducePow, Nat.reduceSub, Nat.div_one]
      refine ⟨trivial, zonePower_tbl _ (Nat.mod_lt _ (by decide)) ps hps, zoneMethod_tbl b2 cm hcm, trivial, ?_, trivial,
        temp_agrees_C021 b4 b5 b6 (hb b6 (by simp)), trivial, battery_tbl b7 bat hbat⟩
      simp only [decSetPoint, INVALID_SET_POINT, PyAirtouch.Spec.At5.setpointTenths, At5.Utils.decodeSetPoint]
      rfl
    · cases h
  · cases h

theorem statusKind_C021 : StatusKind (R := AgreeC021) (req := Msg.request) (st := Msg.status) (decode := decode)
    (decRec := decRec) (loop := decRecs) (read := readZoneStatus) (rd := readZoneStatusRecord) (sub := 0x21) where
  decode_eq _ _ _ _ := rfl
  st_ne _ := Msg.noConfusion
  st_inj _ _ := Msg.status.inj
  msg_cases m := by cases m; exact .inl rfl; exact .inr ⟨_, rfl⟩
  loop_zero _ _ := rfl
  loop_succ _ _ _ := rfl
  read_def _ := rfl
  rec_agrees := rec_agrees_C021

/-! The clauses of `StatusKind` that the check of C05 names as `SpecAgree5.<clause>_C021` / `_C023` are stated under those
names, here and for AC status; `Props/C055.lean` applies these, and the instance itself for the other clauses. -/

theorem stride_offsets_C021 (b : Bytes) (nr rl rc : Nat) (zs : List ZoneStatusData) (rest : Bytes)
    (h : decode b nr rl rc = .ok (.status zs, rest)) :
    8 ≤ rl ∧ zs.length = rc ∧ rest = b.drop (nr + rl * rc) ∧
      ∀ i, i < rc → ∃ z, zs[i]? = some z ∧ decRec (b.drop (nr + i * rl)) = .ok z :=
  statusKind_C021.stride_offsets b nr rl rc zs rest h

theorem stride_accepted_C021 (b : Bytes) (nr rl rc : Nat) (h8 : 8 ≤ rl)
    (hrec : ∀ i, i < rc → ∃ z, decRec (b.drop (nr + i * rl)) = .ok z) :
    ∃ zs, decode b nr rl rc = .ok (.status zs, b.drop (nr + rl * rc)) :=
  statusKind_C021.stride_accepted b nr rl rc h8 hrec

theorem AgreeC021.defined {z : ZoneStatusData} {s : ZoneStatus} (h : AgreeC021 z s) : ¬ ∃ n, s.power = .other n := by
  rintro ⟨n, hn⟩
  have := h.2.1
  rw [hn] at this
  cases hp : z.power_state <;> rw [hp] at this <;> cases this

theorem undefined_rejected_C021 (b : Bytes) (nr rl rc : Nat) (hb : AllBytes b) (ss : List ZoneStatus)
    (hs : readZoneStatus (subHeader 0x21 nr rl rc ++ b) = some ss)
    (hu : ∃ s ∈ ss, ∃ n, s.power = .other n) : ∃ e, decode b nr rl rc = .error e :=
  statusKind_C021.undefined_rejected (fun _ _ h => h.defined) b nr rl rc hb ss hs hu

/-- `hlen` of `StatusKind.decode_agrees` cannot be dropped: stride 10 announced, only the 8 known bytes of the one
record present.  The decoder returns the zone and consumes everything; the vendor reader refuses. -/
theorem decode_agrees_C021_needs_length :
    decode [0x40, 0x80, 0x96, 0x80, 0x02, 0xE7, 0x00, 0x00] 0 10 1 =
        .ok (.status [{ zone_number := 0, power_state := .ON, spill_active := false, control_method := .TEMPERATURE,
                        has_sensor := true, battery_status := .NORMAL, temperature := some 243,
                        damper_percentage := 0, set_point := some 250 }], []) ∧
      readZoneStatus (subHeader 0x21 0 10 1 ++ [0x40, 0x80, 0x96, 0x80, 0x02, 0xE7, 0x00, 0x00]) = none :=
  ⟨by rfl, by decide⟩

theorem request_form_C021 (b : Bytes) (nr rl rc : Nat) (h : decode b nr rl rc = .ok (.request, [])) :
    readZoneStatus (subHeader 0x21 nr rl rc ++ b) = none ∧
      (nr = 0 → PyAirtouch.Spec.At5.isZoneStatusRequest (subHeader 0x21 nr rl rc ++ b) = true) := by
  obtain ⟨rfl, rfl, rfl, hn⟩ := statusKind_C021.request_form b nr rl rc h
  exact ⟨hn, fun h0 => by subst h0; decide⟩

end C021

/-! ## AC status (0xC0 / 0x23) -/
section C023
open PyAirtouch.Model.At5.C023 PyAirtouch.Gen.At5.XC023AcStatus
open PyAirtouch.Spec.At5 (AcStatus readAcStatus readAcStatusRecord readAll splitRecords readSubMessage)

/-- `AT5_AC_POWER` of `specmap.py` -/
def acPowerWord : AcPowerState → Spec.At5.AcPower
  | .OFF => .off | .ON => .on | .OFF_AWAY => .awayOff | .ON_AWAY => .awayOn | .SLEEP => .sleep

/-- `AC_MODE` of `specmap.py` -/
def acModeWord : AcMode → Spec.At5.AcMode
  | .AUTO => .auto | .HEAT => .heat | .DRY => .dry | .FAN => .fan | .COOL => .cool
  | .AUTO_HEAT => .autoHeat | .AUTO_COOL => .autoCool

/-- `AT5_AC_FAN` of `specmap.py`: the document has ONE meaning "Intelligent Auto" for the codes 1001-1110; all six
`INTELLIGENT_AUTO_*` members carry it (the vendor reading keeps the code, the word is the same). -/
def AcFanAgrees : AcFanSpeed → Spec.At5.AcFan → Prop
  | .AUTO, .auto | .QUIET, .quiet | .LOW, .low | .MEDIUM, .medium | .HIGH, .high | .POWERFUL, .powerful
  | .TURBO, .turbo => True
  | .INTELLIGENT_AUTO_QUIET, .intelligentAuto _ | .INTELLIGENT_AUTO_LOW, .intelligentAuto _
  | .INTELLIGENT_AUTO_MEDIUM, .intelligentAuto _ | .INTELLIGENT_AUTO_HIGH, .intelligentAuto _
  | .INTELLIGENT_AUTO_POWERFUL, .intelligentAuto _ | .INTELLIGENT_AUTO_TURBO, .intelligentAuto _ => True
  | _, _ => False

/-- `specmap.at5_C023`: all eleven fields of the vendor's AC record. -/
def AgreeC023 (a : AcStatusData) (s : AcStatus) : Prop :=
  s.ac = a.ac_number ∧
  s.power = acPowerWord a.power_state ∧
  s.mode = acModeWord a.mode ∧
  AcFanAgrees a.fan_speed s.fanSpeed ∧
  (s.setpoint = some a.set_point ∨
    -- KNOWN FINDING AT5_C023_SETPOINT_HAS_NO_ABSENT_VALUE (DESIGN 12.5), kept as a disjunct: `set_point` is a plain
    -- float; where the vendor reading is "not available" (Byte3 = 251..255) exactly the numbers
    -- (VALUE+100)/10 = 35.1..35.5 are accepted
    (s.setpoint = none ∧ 351 ≤ a.set_point ∧ a.set_point ≤ 355)) ∧
  s.turbo = a.turbo_active ∧
  s.bypass = a.bypass_active ∧
  s.spill = a.spill_active ∧
  s.timer = a.timer_set ∧
  (s.temperature = some a.temperature ∨
    -- KNOWN FINDING AT5_C023_TEMPERATURE_HAS_NO_ABSENT_VALUE (DESIGN 12.5), kept as a disjunct: `temperature` is a
    -- plain float; where the vendor reading is "not available" (VALUE = 2001..2047) exactly the numbers
    -- (VALUE-500)/10 = 150.1..154.7 are accepted
    (s.temperature = none ∧ 1501 ≤ a.temperature ∧ a.temperature ≤ 1547)) ∧
  -- `has_error()` is `error_code != 0`: 0 is the package's "no error", the vendor's `none`
  s.errorCode = (if a.error_code = 0 then none else some a.error_code)

theorem acPower_tbl (c : Nat) (hc : c < 16) (ps : AcPowerState) (h : AcPowerState.ofNat? c = some ps) :
    Spec.At5.AcPower.ofCode c = acPowerWord ps :=
  (by decide : ∀ c, c < 16 → ∀ ps ∈ AcPowerState.ofNat? c, Spec.At5.AcPower.ofCode c = acPowerWord ps) c hc ps h

theorem acMode_tbl (c : Nat) (hc : c < 16) (m : AcMode) (h : AcMode.ofNat? c = some m) :
    Spec.At5.AcMode.ofCode c = acModeWord m :=
  (by decide : ∀ c, c < 16 → ∀ m ∈ AcMode.ofNat? c, Spec.At5.AcMode.ofCode c = acModeWord m) c hc m h

instance (f : AcFanSpeed) (s : Spec.At5.AcFan) : Decidable (AcFanAgrees f s) := by
  unfold AcFanAgrees; split <;> infer_instance

theorem acFan_tbl (c : Nat) (hc : c < 16) (f : AcFanSpeed) (h : AcFanSpeed.ofNat? c = some f) :
    AcFanAgrees f (Spec.At5.AcFan.ofCode c) :=
  (by decide : ∀ c, c < 16 → ∀ f ∈ AcFanSpeed.ofNat? c, AcFanAgrees f (Spec.At5.AcFan.ofCode c)) c hc f h

theorem rec_agrees_C023 (stride : Nat) (h8 : 8 ≤ stride) (bs : Bytes) (a : AcStatusData) (hb : AllBytes bs)
    (h : decRec bs = .ok a) : ∃ s, readAcStatusRecord (bs.take stride) = some s ∧ AgreeC023 a s := by
  unfold decRec at h
  split at h
  · rename_i b1 b2 b3 b4 b5 b6 b7 b8 tl
    split at h
    · rename_i ps m f hps hm hf
      cases h
      -- in this form `take stride` reduces against the reader's pattern of eight conses
      obtain ⟨j, rfl⟩ : ∃ j, stride = j + 1 + 1 + 1 + 1 + 1 + 1 + 1 + 1 := ⟨stride - 8, by omega⟩
      refine ⟨_, rfl, ?_⟩
      simp only [AgreeC023, bit5_eq, bits5_eq, Nat.reducePow, Nat.reduceSub, Nat.div_one,
        temp_raw_eq b5 b6 (hb b6 (by simp))]
      refine ⟨trivial, acPower_tbl _ (Nat.mod_lt _ (by decide)) ps hps, acMode_tbl _ (Nat.mod_lt _ (by decide)) m hm,
        acFan_tbl _ (Nat.mod_lt _ (by decide)) f hf, ?_, trivial, trivial, trivial, trivial, ?_, rfl⟩
      · simp only [Spec.At5.setpointTenths, At5.Utils.decodeSetPoint]
        by_cases h3 : b3 ≤ 250
        · exact .inl (if_pos h3)
        · exact .inr ⟨if_neg h3, by have := hb b3 (by simp); omega⟩
      · simp only [Spec.At5.temperatureTenths, At5.Utils.decodeTemperature]
        have hv : PyAirtouch.Model.be16 b5 b6 % 2048 < 2048 := Nat.mod_lt _ (by decide)
        generalize PyAirtouch.Model.be16 b5 b6 % 2048 = v at hv
        by_cases hv' : v ≤ 2000
        · exact .inl (if_pos hv')
        · exact .inr ⟨if_neg hv', by omega⟩
    · cases h
  · cases h

/-- The two plain-float relaxations of `AgreeC023` are stated there by their ranges (35.1..35.5, 150.1..154.7); this
pins the accepted number to the raw record exactly as `specmap.py` does: the decoder's set-point is always
`(Byte3 + 100)/10` and its temperature always `(VALUE - 500)/10` with `VALUE` the 11-bit field.  (Together with
`StatusKind.stride_offsets`, which says which bytes the record is.) -/
theorem decRec_formulas_C023 (b1 b2 b3 b4 b5 b6 b7 b8 : Nat) (tl : Bytes) (a : AcStatusData)
    (h : decRec (b1 :: b2 :: b3 :: b4 :: b5 :: b6 :: b7 :: b8 :: tl) = .ok a) :
    a.set_point = (b3 : Int) + 100 ∧ a.temperature = ((PyAirtouch.Model.be16 b5 b6 % 2048 : Nat) : Int) - 500 ∧
      a.error_code = b7 * 256 + b8 := by
  simp only [decRec] at h
  split at h
  · cases h; exact ⟨rfl, rfl, rfl⟩
  · cases h

theorem statusKind_C023 : StatusKind (R := AgreeC023) (req := Msg.request) (st := Msg.status) (decode := decode)
    (decRec := decRec) (loop := decRecs) (read := readAcStatus) (rd := readAcStatusRecord) (sub := 0x23) where
  -- not `rfl` as for zone status: this decoder tests the request form as `repeatCount = 0 ∧ repeatLen = 0`
  decode_eq b nr rl rc := by unfold decode; simp only [and_comm]; rfl
  st_ne _ := Msg.noConfusion
  st_inj _ _ := Msg.status.inj
  msg_cases m := by cases m; exact .inl rfl; exact .inr ⟨_, rfl⟩
  loop_zero _ _ := rfl
  loop_succ _ _ _ := rfl
  read_def _ := rfl
  rec_agrees := rec_agrees_C023

theorem stride_offsets_C023 (b : Bytes) (nr rl rc : Nat) (zs : List AcStatusData) (rest : Bytes)
    (h : decode b nr rl rc = .ok (.status zs, rest)) :
    8 ≤ rl ∧ zs.length = rc ∧ rest = b.drop (nr + rl * rc) ∧
      ∀ i, i < rc → ∃ z, zs[i]? = some z ∧ decRec (b.drop (nr + i * rl)) = .ok z :=
  statusKind_C023.stride_offsets b nr rl rc zs rest h

theorem stride_accepted_C023 (b : Bytes) (nr rl rc : Nat) (h8 : 8 ≤ rl)
    (hrec : ∀ i, i < rc → ∃ z, decRec (b.drop (nr + i * rl)) = .ok z) :
    ∃ zs, decode b nr rl rc = .ok (.status zs, b.drop (nr + rl * rc)) :=
  statusKind_C023.stride_accepted b nr rl rc h8 hrec

theorem AgreeC023.defined {a : AcStatusData} {s : AcStatus} (h : AgreeC023 a s) :
    ¬ ((∃ n, s.power = .notAvailable n) ∨ (∃ n, s.mode = .notAvailable n) ∨ (∃ n, s.fanSpeed = .notAvailable n)) := by
  rintro (⟨n, hn⟩ | ⟨n, hn⟩ | ⟨n, hn⟩)
  · have := h.2.1
    rw [hn] at this
    cases hp : a.power_state <;> rw [hp] at this <;> cases this
  · have := h.2.2.1
    rw [hn] at this
    cases hp : a.mode <;> rw [hp] at this <;> cases this
  · have := h.2.2.2.1
    rw [hn] at this
    cases hp : a.fan_speed <;> rw [hp] at this <;> exact this

theorem undefined_rejected_C023 (b : Bytes) (nr rl rc : Nat) (hb : AllBytes b) (ss : List AcStatus)
    (hs : readAcStatus (subHeader 0x23 nr rl rc ++ b) = some ss)
    (hu : ∃ s ∈ ss, (∃ n, s.power = .notAvailable n) ∨ (∃ n, s.mode = .notAvailable n) ∨
      (∃ n, s.fanSpeed = .notAvailable n)) : ∃ e, decode b nr rl rc = .error e :=
  statusKind_C023.undefined_rejected (fun _ _ h => h.defined) b nr rl rc hb ss hs hu

/-- `hlen` of `StatusKind.decode_agrees` cannot be dropped: stride 10 announced, only the 8 known bytes of the one
record present.  The decoder returns the AC and consumes everything; the vendor reader refuses. -/
theorem decode_agrees_C023_needs_length :
    decode [0x10, 0x12, 0x78, 0xC0, 0x02, 0xDA, 0x00, 0x00] 0 10 1 =
        .ok (.status [{ ac_number := 0, power_state := .ON, mode := .HEAT, fan_speed := .LOW, turbo_active := false,
                        bypass_active := false, spill_active := false, timer_set := false, set_point := 220,
                        temperature := 230, error_code := 0 }], []) ∧
      readAcStatus (subHeader 0x23 0 10 1 ++ [0x10, 0x12, 0x78, 0xC0, 0x02, 0xDA, 0x00, 0x00]) = none :=
  ⟨by rfl, by decide⟩

theorem request_form_C023 (b : Bytes) (nr rl rc : Nat) (h : decode b nr rl rc = .ok (.request, [])) :
    readAcStatus (subHeader 0x23 nr rl rc ++ b) = none ∧
      (nr = 0 → PyAirtouch.Spec.At5.isAcStatusRequest (subHeader 0x23 nr rl rc ++ b) = true) := by
  obtain ⟨rfl, rfl, rfl, hn⟩ := statusKind_C023.request_form b nr rl rc h
  exact ⟨hn, fun h0 => by subst h0; decide⟩

end C023

/-! ## Zone names (0x1F / 0xFF13) -/
section FF13
open PyAirtouch.Model.At5.FF13
open PyAirtouch.Spec.At5 (ZoneName readZoneNames readZoneNameRecords)

/-- how a Python dict is filled from the vendor's records in order: a repeated zone number keeps its first
position and takes the last name -/
def collapseNames (acc : List (Nat × Bytes)) (ss : List ZoneName) : List (Nat × Bytes) :=
  ss.foldl (fun d r => dictInsert d r.zone r.name) acc

/-- `specmap.at5_FF13`: the mapping, in insertion order, is the vendor's (zone, name) list. -/
def AgreeFF13 (m : ZoneNamesMessage) (ss : List ZoneName) : Prop :=
  m.zone_names = ss.map (fun r => (r.zone, r.name)) ∨
  -- relaxation NAMES_DUPLICATE_NUMBER_LAST_WINS: accepted only when the vendor's records really contain a repeated
  -- zone number; then the vendor's list reduced the way a mapping is filled (first position, last name)
  (¬ (ss.map (·.zone)).Nodup ∧ m.zone_names = collapseNames [] ss)

theorem collapseNames_nil_nodup (ss : List ZoneName) (hn : (ss.map (·.zone)).Nodup) :
    collapseNames [] ss = ss.map (fun r => (r.zone, r.name)) :=
  Dict.foldl_dictInsert_nodup ZoneName.zone ZoneName.name ss []
    (by simpa only [dictKeys, List.nil_append, List.map_map, Function.comp_def] using hn)

theorem decNames_agrees : ∀ (k : Nat) (buf : Bytes) (acc d : List (Nat × Bytes)) (rest : Bytes) (fuel : Nat),
    buf.length = k → k ≤ fuel → decNames buf k acc = .ok (d, rest) →
    ∃ ss, readZoneNameRecords fuel buf = some ss ∧ d = collapseNames acc ss ∧ rest = [] := by
  intro k
  induction k using Nat.strongRecOn with
  | _ k ih =>
    intro buf acc d rest fuel hlen hfuel h
    unfold decNames at h
    split at h
    · rename_i hk
      subst hk
      have : buf = [] := List.eq_nil_of_length_eq_zero hlen
      subst this
      simp only [Except.ok.injEq, Prod.mk.injEq] at h
      refine ⟨[], by cases fuel <;> rfl, h.1.symm, h.2.symm⟩
    · rename_i hk
      split at h
      · cases h
      · cases h
      · rename_i zone n tl
        split at h
        · cases h
        · rename_i hfit
          simp only at h
          split at h
          · simp only [List.length_cons] at hlen
            have hdl : (tl.drop n).length = k - (2 + n) := by simp only [List.length_drop]; omega
            cases fuel with
            | zero => omega
            | succ fuel =>
              obtain ⟨ss, hss, hd, hr⟩ := ih (k - (2 + n)) (by omega) (tl.drop n) _ d rest fuel hdl (by omega) h
              refine ⟨{ zone := zone, name := tl.take n } :: ss, ?_, ?_, hr⟩
              · have : ¬ tl.length < n := by omega
                simp only [readZoneNameRecords, this, if_false, hss]
              · simp only [collapseNames, List.foldl_cons] at hd ⊢
                exact hd
          · cases h

theorem decode_cases_FF13 (b : Bytes) (msgLen : Nat) (m : Msg) (rest : Bytes)
    (h : decode b msgLen = .ok (m, rest)) :
    (msgLen = 0 ∧ m = .request ⟨none⟩ ∧ rest = b) ∨ (msgLen = 1 ∧ ∃ z, b = z :: rest ∧ m = .request ⟨some z⟩) ∨
      ∃ d, decNames b msgLen [] = .ok (d, rest) ∧ m = .message ⟨d⟩ := by
  unfold decode at h
  split at h
  · cases h; exact .inl ⟨‹_›, rfl, rfl⟩
  · split at h
    · split at h
      · cases h
      · cases h; exact .inr (.inl ⟨‹_›, _, rfl, rfl⟩)
    · split at h
      · cases h
      · rename_i d rest' hd
        cases h; exact .inr (.inr ⟨d, hd, rfl⟩)

theorem decode_agrees_FF13 (b : Bytes) (m : ZoneNamesMessage) (rest : Bytes)
    (h : decode b b.length = .ok (.message m, rest)) :
    rest = [] ∧ ∃ ss, readZoneNames ([0xFF, 0x13] ++ b) = some ss ∧ AgreeFF13 m ss := by
  obtain ⟨_, hm, _⟩ | ⟨_, _, _, hm⟩ | ⟨d, hd, hm⟩ := decode_cases_FF13 b _ _ _ h
  · cases hm
  · cases hm
  · cases hm
    obtain ⟨ss, hss, hdd, hr⟩ := decNames_agrees b.length b [] d rest b.length rfl (Nat.le_refl _) hd
    refine ⟨hr, ss, ?_, ?_⟩
    · simp only [List.cons_append, List.nil_append, readZoneNames, PyAirtouch.Spec.At5.extZoneName, if_true, hss]
    · by_cases hn : (ss.map (·.zone)).Nodup
      · left
        rw [hdd, collapseNames_nil_nodup ss hn]
      · right; exact ⟨hn, hdd⟩

theorem request_form_FF13 (b : Bytes) (r : ZoneNamesRequest) (rest : Bytes)
    (h : decode b b.length = .ok (.request r, rest)) :
    rest = [] ∧ PyAirtouch.Spec.At5.readExtendedRequest ([0xFF, 0x13] ++ b) =
      some (match r.zone_number with
        | none => .zoneNamesAll
        | some z => .zoneName z) := by
  obtain ⟨h0, hm, rfl⟩ | ⟨h1, z, rfl, hm⟩ | ⟨_, _, hm⟩ := decode_cases_FF13 b _ _ _ h
  · cases hm
    cases List.eq_nil_of_length_eq_zero h0
    exact ⟨rfl, by decide⟩
  · cases hm
    cases List.eq_nil_of_length_eq_zero (Nat.succ.inj h1)
    exact ⟨rfl, by simp [PyAirtouch.Spec.At5.readExtendedRequest, PyAirtouch.Spec.At5.extAcAbility,
      PyAirtouch.Spec.At5.extAcError, PyAirtouch.Spec.At5.extZoneName]⟩
  · cases hm

end FF13
/-! ## AC error information (0x1F / 0xFF10) -/
section FF10
open PyAirtouch.Model.At5.FF10
open PyAirtouch.Spec.At5 (AcError readAcError)

/-- `specmap.ff10`: `None` is "no error", which the vendor document sends as the empty string. -/
def AgreeFF10 (m : AcErrorInformationMessage) (s : AcError) : Prop :=
  s.ac = m.ac_number ∧
  s.errorInfo = (match m.error_info with
    | none => []
    | some e => e)

theorem decode_cases_FF10 (b : Bytes) (msgLen : Nat) (m : Msg) (rest : Bytes)
    (h : decode b msgLen = .ok (m, rest)) :
    ∃ ac tl, b = ac :: tl ∧ ((msgLen = 1 ∧ m = .request ⟨ac⟩ ∧ rest = tl) ∨ ∃ n body, tl = n :: body ∧
      rest = body.drop n ∧ m = .message ⟨ac, if n > 0 then some (body.take n) else none⟩) := by
  unfold decode at h
  split at h
  · cases h
  · rename_i ac tl
    refine ⟨ac, tl, rfl, ?_⟩
    split at h
    · cases h; exact .inl ⟨‹_›, rfl, rfl⟩
    · split at h
      · cases h
      · rename_i n body
        refine .inr ⟨n, body, rfl, ?_⟩
        split at h
        · rename_i hn
          simp only at h
          split at h
          · cases h; exact ⟨rfl, by rw [if_pos hn]⟩
          · cases h
        · rename_i hn
          cases h
          exact ⟨by rw [Nat.eq_zero_of_not_pos hn]; rfl, by rw [if_neg hn]⟩

theorem decode_message_FF10 (b : Bytes) (m : AcErrorInformationMessage) (rest : Bytes)
    (h : decode b b.length = .ok (.message m, rest)) :
    ∃ ac n body, b = ac :: n :: body ∧ m.ac_number = ac ∧ rest = body.drop n ∧
      m.error_info = (if n > 0 then some (body.take n) else none) := by
  obtain ⟨ac, tl, rfl, ⟨_, h, _⟩ | ⟨n, body, rfl, hrest, h⟩⟩ := decode_cases_FF10 b _ _ _ h
  · cases h
  · cases h; exact ⟨ac, n, body, rfl, rfl, hrest, rfl⟩

theorem readAcError_eq (ac n : Nat) (body : Bytes) :
    readAcError ([0xFF, 0x10] ++ ac :: n :: body) =
      if body.length = n then some { ac := ac, errorInfo := body } else none := by
  simp [readAcError, PyAirtouch.Spec.At5.extAcError]

theorem decode_agrees_FF10_of_spec (b : Bytes) (m : AcErrorInformationMessage) (rest : Bytes) (s : AcError)
    (h : decode b b.length = .ok (.message m, rest)) (hs : readAcError ([0xFF, 0x10] ++ b) = some s) :
    AgreeFF10 m s ∧ rest = [] := by
  obtain ⟨ac, n, body, rfl, hac, hrest, he⟩ := decode_message_FF10 b m rest h
  rw [readAcError_eq] at hs
  split at hs
  · rename_i hl
    cases hs
    refine ⟨⟨hac.symm, ?_⟩, by rw [hrest, ← hl]; simp⟩
    rw [he]
    by_cases hn : n > 0
    · have : body.take n = body := by rw [← hl]; simp
      simp [hn, this]
    · have : body = [] := List.eq_nil_of_length_eq_zero (by omega)
      simp [hn, this]
  · cases hs

/-- `ff10 01 01` announces a one-byte string that is not there: the decoder returns the (empty) short slice, the
vendor reader refuses. -/
theorem decode_agrees_FF10_needs_length :
    decode [0x01, 0x01] 2 = .ok (.message ⟨1, some []⟩, []) ∧ readAcError ([0xFF, 0x10] ++ [0x01, 0x01]) = none :=
  ⟨by rfl, by decide⟩

theorem decode_agrees_FF10 (b : Bytes) (hlen : ∀ n, b[1]? = some n → 2 + n ≤ b.length)
    (m : AcErrorInformationMessage) (h : decode b b.length = .ok (.message m, [])) :
    ∃ s, readAcError ([0xFF, 0x10] ++ b) = some s ∧ AgreeFF10 m s := by
  obtain ⟨ac, n, body, rfl, hac, hrest, he⟩ := decode_message_FF10 b m [] h
  have h1 := hlen n (by simp)
  simp only [List.length_cons] at h1
  have h2 := congrArg List.length hrest
  simp only [List.length_nil, List.length_drop] at h2
  have hl : body.length = n := by omega
  refine ⟨{ ac := ac, errorInfo := body }, by rw [readAcError_eq, if_pos hl], ?_⟩
  exact (decode_agrees_FF10_of_spec _ m [] _ h (by rw [readAcError_eq, if_pos hl])).1

theorem request_form_FF10 (b : Bytes) (r : AcErrorInformationRequest) (rest : Bytes)
    (h : decode b b.length = .ok (.request r, rest)) :
    rest = [] ∧ PyAirtouch.Spec.At5.readExtendedRequest ([0xFF, 0x10] ++ b) = some (.acError r.ac_number) := by
  obtain ⟨ac, tl, rfl, ⟨h1, hm, rfl⟩ | ⟨_, _, _, _, hm⟩⟩ := decode_cases_FF10 b _ _ _ h
  · cases hm
    cases List.eq_nil_of_length_eq_zero (Nat.succ.inj h1)
    exact ⟨rfl, by simp [PyAirtouch.Spec.At5.readExtendedRequest, PyAirtouch.Spec.At5.extAcAbility,
      PyAirtouch.Spec.At5.extAcError]⟩
  · cases hm

end FF10
/-! ## Console version (0x1F / 0xFF30) -/
section FF30
open PyAirtouch.Model.At5.FF30
open PyAirtouch.Spec.At5 (ConsoleVersion readConsoleVersion)

/-- `specmap.ff30`: the bool and the version list (the raw update sign is not part of the public type). -/
def AgreeFF30 (m : ConsoleVersionMessage) (s : ConsoleVersion) : Prop :=
  s.updateAvailable = m.update_available ∧ s.versions = m.versions

theorem splitOn_eq_splitAt (sep : Nat) : ∀ bs : Bytes, splitOn sep bs = PyAirtouch.Spec.At5.splitAt sep bs
  | [] => rfl
  | b :: bs => by
    simp only [splitOn, PyAirtouch.Spec.At5.splitAt, splitOn_eq_splitAt sep bs]
    split
    · rfl
    · cases PyAirtouch.Spec.At5.splitAt sep bs <;> rfl

theorem decode_cases_FF30 (b : Bytes) (msgLen : Nat) (m : Msg) (rest : Bytes)
    (h : decode b msgLen = .ok (m, rest)) :
    (msgLen = 0 ∧ m = .request ∧ rest = b) ∨ ∃ u n body, b = u :: n :: body ∧ rest = body.drop n ∧
      m = .message ⟨decide (u ≠ 0), splitOn sepByte (body.take n)⟩ := by
  unfold decode at h
  split at h
  · cases h; exact .inl ⟨‹_›, rfl, rfl⟩
  · split at h
    · cases h
    · cases h
    · rename_i u n body
      simp only at h
      split at h
      · cases h; exact .inr ⟨u, n, body, rfl, rfl, rfl⟩
      · cases h

theorem decode_message_FF30 (b : Bytes) (m : ConsoleVersionMessage) (rest : Bytes)
    (h : decode b b.length = .ok (.message m, rest)) :
    ∃ u n body, b = u :: n :: body ∧ m.update_available = decide (u ≠ 0) ∧ rest = body.drop n ∧
      m.versions = splitOn sepByte (body.take n) := by
  obtain ⟨_, h, _⟩ | ⟨u, n, body, rfl, hrest, h⟩ := decode_cases_FF30 b _ _ _ h
  · cases h
  · cases h; exact ⟨u, n, body, rfl, rfl, hrest, rfl⟩

theorem readConsoleVersion_eq (u n : Nat) (body : Bytes) :
    readConsoleVersion ([0xFF, 0x30] ++ u :: n :: body) =
      if body.length = n then some { updateSign := u, versions := PyAirtouch.Spec.At5.splitAt 0x2C body }
      else none := by
  simp [readConsoleVersion, PyAirtouch.Spec.At5.extConsoleVersion]

theorem decode_agrees_FF30_of_spec (b : Bytes) (m : ConsoleVersionMessage) (rest : Bytes) (s : ConsoleVersion)
    (h : decode b b.length = .ok (.message m, rest)) (hs : readConsoleVersion ([0xFF, 0x30] ++ b) = some s) :
    AgreeFF30 m s ∧ rest = [] := by
  obtain ⟨u, n, body, rfl, hu, hrest, hv⟩ := decode_message_FF30 b m rest h
  rw [readConsoleVersion_eq] at hs
  split at hs
  · rename_i hl
    cases hs
    have ht : body.take n = body := by rw [← hl]; simp
    refine ⟨⟨?_, ?_⟩, by rw [hrest, ← hl]; simp⟩
    · rw [hu]; simp only [ConsoleVersion.updateAvailable]
      by_cases h0 : u = 0 <;> simp [h0]
    · rw [hv, ht, splitOn_eq_splitAt]; rfl
  · cases hs

/-- `ff30 b3 ce` announces 206 bytes that are not there: the decoder returns the short (empty) slice as one empty
version, the vendor reader refuses. -/
theorem decode_agrees_FF30_needs_length :
    decode [0xB3, 0xCE] 2 = .ok (.message ⟨true, [[]]⟩, []) ∧
      readConsoleVersion ([0xFF, 0x30] ++ [0xB3, 0xCE]) = none :=
  ⟨by rfl, by decide⟩

theorem decode_agrees_FF30 (b : Bytes) (hlen : ∀ n, b[1]? = some n → 2 + n ≤ b.length)
    (m : ConsoleVersionMessage) (h : decode b b.length = .ok (.message m, [])) :
    ∃ s, readConsoleVersion ([0xFF, 0x30] ++ b) = some s ∧ AgreeFF30 m s := by
  obtain ⟨u, n, body, rfl, hu, hrest, hv⟩ := decode_message_FF30 b m [] h
  have h1 := hlen n (by simp)
  simp only [List.length_cons] at h1
  have h2 := congrArg List.length hrest
  simp only [List.length_nil, List.length_drop] at h2
  have hl : body.length = n := by omega
  refine ⟨_, by rw [readConsoleVersion_eq, if_pos hl], ?_⟩
  exact (decode_agrees_FF30_of_spec _ m [] _ h (by rw [readConsoleVersion_eq, if_pos hl])).1

theorem request_form_FF30 (b : Bytes) (rest : Bytes) (h : decode b b.length = .ok (.request, rest)) :
    rest = [] ∧ PyAirtouch.Spec.At5.readExtendedRequest ([0xFF, 0x30] ++ b) = some .consoleVersion := by
  obtain ⟨h0, _, rfl⟩ | ⟨_, _, _, _, _, hm⟩ := decode_cases_FF30 b _ _ _ h
  · cases List.eq_nil_of_length_eq_zero h0
    exact ⟨rfl, by decide⟩
  · cases hm

end FF30
/-! ## AC ability (0x1F / 0xFF11) -/
section FF11
open PyAirtouch.Model.At5.FF11
open PyAirtouch.Gen.At5.XC022AcCtrl (AcModeControl AcFanSpeedControl)
open PyAirtouch.Spec.At5 (readAcAbility readAcAbilityRecords readAcAbilityBody)

/-- `specmap.at5_FF11`: every field of the vendor's record except `following_length` (a raw length byte that is
not part of `AcAbility`).  The support flags are looked up by enum member in the two mappings (a missing member
would be a mismatch); the set-points are whole degrees, the vendor reading is in tenths. -/
def AgreeFF11 (a : AcAbility) (s : Spec.At5.AcAbility) : Prop :=
  s.ac = a.ac_number ∧ s.name = a.ac_name ∧ s.startZone = a.start_zone ∧ s.zoneCount = a.zone_count ∧
  (a.ac_mode_support.lookup .COOL = some s.modeCool ∧ a.ac_mode_support.lookup .FAN = some s.modeFan ∧
   a.ac_mode_support.lookup .DRY = some s.modeDry ∧ a.ac_mode_support.lookup .HEAT = some s.modeHeat ∧
   a.ac_mode_support.lookup .AUTO = some s.modeAuto) ∧
  (a.fan_speed_support.lookup .INTELLIGENT_AUTO = some s.fanIntelligentAuto ∧
   a.fan_speed_support.lookup .TURBO = some s.fanTurbo ∧ a.fan_speed_support.lookup .POWERFUL = some s.fanPowerful ∧
   a.fan_speed_support.lookup .HIGH = some s.fanHigh ∧ a.fan_speed_support.lookup .MEDIUM = some s.fanMedium ∧
   a.fan_speed_support.lookup .LOW = some s.fanLow ∧ a.fan_speed_support.lookup .QUIET = some s.fanQuiet ∧
   a.fan_speed_support.lookup .AUTO = some s.fanAuto) ∧
  s.minCoolSetpoint = (a.min_cool_set_point : Int) * 10 ∧ s.maxCoolSetpoint = (a.max_cool_set_point : Int) * 10 ∧
  s.minHeatSetpoint = (a.min_heat_set_point : Int) * 10 ∧ s.maxHeatSetpoint = (a.max_heat_set_point : Int) * 10

theorem untilNul_eq : ∀ bs : Bytes, Spec.At5.untilNul bs = cStringPrefix bs
  | [] => rfl
  | b :: bs => by
    simp only [Spec.At5.untilNul, cStringPrefix, List.takeWhile]
    by_cases h : b = 0
    · simp [h]
    · have := untilNul_eq bs
      simp only [cStringPrefix] at this
      simp [h, this]

theorem lookup_modes (b : Nat) :
    (decModeSupport b).lookup .COOL = some (bitToBool b 4) ∧ (decModeSupport b).lookup .FAN = some (bitToBool b 3) ∧
    (decModeSupport b).lookup .DRY = some (bitToBool b 2) ∧ (decModeSupport b).lookup .HEAT = some (bitToBool b 1) ∧
    (decModeSupport b).lookup .AUTO = some (bitToBool b 0) := ⟨rfl, rfl, rfl, rfl, rfl⟩

theorem lookup_fans (b : Nat) :
    (decFanSpeedSupport b).lookup .INTELLIGENT_AUTO = some (bitToBool b 7) ∧
    (decFanSpeedSupport b).lookup .TURBO = some (bitToBool b 6) ∧
    (decFanSpeedSupport b).lookup .POWERFUL = some (bitToBool b 5) ∧
    (decFanSpeedSupport b).lookup .HIGH = some (bitToBool b 4) ∧
    (decFanSpeedSupport b).lookup .MEDIUM = some (bitToBool b 3) ∧
    (decFanSpeedSupport b).lookup .LOW = some (bitToBool b 2) ∧
    (decFanSpeedSupport b).lookup .QUIET = some (bitToBool b 1) ∧
    (decFanSpeedSupport b).lookup .AUTO = some (bitToBool b 0) := ⟨rfl, rfl, rfl, rfl, rfl, rfl, rfl, rfl⟩

/-- One iteration of the loop against the vendor reader, for EVERY following length `f` (the loop slices `2 + f`
bytes); the vendor reader ignores what follows the 24 described bytes, as the decoder does. -/
theorem rec_agrees_FF11 (acN f : Nat) (r : Bytes) (remaining : Nat) (a : AcAbility) (fl : Nat)
    (h : decRec (acN :: f :: r) remaining = .ok (a, fl)) :
    fl = f ∧ 24 ≤ f ∧ 2 + f ≤ remaining ∧ 24 ≤ r.length ∧
      ∃ s, readAcAbilityBody acN f (r.take f) = some s ∧ AgreeFF11 a s := by
  obtain ⟨acN', r', sz, zc, b23, b24, c1, c2, h1, h2, rest, name, hbs, hdrop, hsz, hfit, hname, rfl⟩ :=
    At5FF11.decRec_cases _ _ _ _ h
  obtain ⟨e1, e2, e3⟩ : acN = acN' ∧ f = fl ∧ r = r' := by simpa using hbs
  subst e1 e2 e3
  simp only [nameLen] at hdrop hname
  simp only [PyAirtouch.Gen.At5.X1FFF11AcAbility.STRUCT_size] at hsz
  have hlen : 24 ≤ r.length := by
    have := congrArg List.length hdrop
    simp only [List.length_drop, List.length_cons] at this
    omega
  obtain ⟨k, rfl⟩ : ∃ k, f = 24 + k := ⟨f - 24, by omega⟩
  have hbody : (r.take (24 + k)).drop 16 = sz :: zc :: b23 :: b24 :: c1 :: c2 :: h1 :: h2 :: rest.take k := by
    rw [List.drop_take, hdrop, show 24 + k - 16 = k + 8 by omega]
    simp only [List.take_succ_cons]
  have htake : (r.take (24 + k)).take 16 = r.take 16 := by
    rw [List.take_take]; congr 1; omega
  refine ⟨rfl, by omega, hfit, hlen, ?_⟩
  simp only [readAcAbilityBody, hbody, htake]
  refine ⟨_, rfl, ?_⟩
  simp only [decodeCString] at hname
  split at hname
  · cases hname
    refine ⟨rfl, untilNul_eq _, rfl, rfl, ?_, ?_, rfl, rfl, rfl, rfl⟩
    · simp only [bit5_eq]; exact lookup_modes b23
    · simp only [bit5_eq]; exact lookup_fans b24
  · cases hname

theorem body_followingLength (ac len : Nat) (body : Bytes) (r : Spec.At5.AcAbility)
    (h : readAcAbilityBody ac len body = some r) : r.followingLength = len := by
  unfold readAcAbilityBody at h
  split at h
  · cases h; rfl
  · cases h

theorem loop_agrees_FF11 (bs : Bytes) (remaining : Nat) :
    ∀ (acs : List AcAbility) (rest : Bytes) (fuel : Nat),
    decLoop bs remaining = .ok (acs, rest) → bs.length = remaining → bs.length ≤ fuel →
    rest = [] ∧ ∃ ss, readAcAbilityRecords fuel bs = some ss ∧ RecordWise AgreeFF11 acs ss ∧
      ∀ s ∈ ss, 24 ≤ s.followingLength := by
  fun_induction decLoop bs remaining with
  | case1 bs remaining hpos e hrec => intro acs rest fuel h; cases h
  | case2 bs remaining hpos ac fl hrec e hloop ih => intro acs rest fuel h; cases h
  | case3 bs remaining hpos a fl hrec acs' rest' hloop ih =>
    intro acs rest fuel h hl hf
    cases h
    obtain ⟨acN, r, _, _, _, _, _, _, _, _, _, _, rfl, -⟩ := At5FF11.decRec_cases _ _ _ _ hrec
    obtain ⟨-, h24, hfit, hlen, s, hs, hag⟩ := rec_agrees_FF11 acN fl r remaining a fl hrec
    simp only [List.length_cons] at hl hf
    have hdrop : (acN :: fl :: r).drop (2 + fl) = r.drop fl := by
      rw [show 2 + fl = fl + 1 + 1 by omega]; rfl
    rw [hdrop] at ih hloop
    cases fuel with
    | zero => omega
    | succ fuel =>
      obtain ⟨hrest, ss, hss, hrw, hall⟩ := ih acs' rest' fuel hloop
        (by simp only [List.length_drop]; omega) (by simp only [List.length_drop]; omega)
      refine ⟨hrest, s :: ss, ?_, .cons hag hrw, ?_⟩
      · have : ¬ r.length < fl := by omega
        simp only [readAcAbilityRecords, this, if_false, hs, hss]
      · intro s' hs'
        rcases List.mem_cons.mp hs' with rfl | hs'
        · rw [body_followingLength acN fl _ _ hs]; exact h24
        · exact hall s' hs'
  | case4 bs remaining hnpos =>
    intro acs rest fuel h hl _
    cases h
    have : bs = [] := List.eq_nil_of_length_eq_zero (by omega)
    subst this
    exact ⟨rfl, [], by cases fuel <;> rfl, .nil, by simp⟩

theorem decode_ability_FF11 (b : Bytes) (acs : List AcAbility) (rest : Bytes)
    (h : decode b b.length = .ok (.ability acs, rest)) : decLoop b b.length = .ok (acs, rest) := by
  obtain ⟨_, h, _⟩ | ⟨_, _, _, h⟩ | ⟨_, acs', hd, h⟩ := At5FF11.decode_cases b _ _ _ h
  · cases h
  · cases h
  · cases h; exact hd

theorem decode_agrees_FF11 (b : Bytes)
    (acs : List AcAbility) (rest : Bytes) (h : decode b b.length = .ok (.ability acs, rest)) :
    rest = [] ∧ ∃ ss, readAcAbility ([0xFF, 0x11] ++ b) = some ss ∧ RecordWise AgreeFF11 acs ss ∧
      ∀ s ∈ ss, 24 ≤ s.followingLength := by
  have hd := decode_ability_FF11 b acs rest h
  obtain ⟨hrest, ss, hss, hag, hall⟩ := loop_agrees_FF11 b b.length acs rest b.length hd rfl (Nat.le_refl _)
  refine ⟨hrest, ss, ?_, hag, hall⟩
  simp only [List.cons_append, List.nil_append, readAcAbility, PyAirtouch.Spec.At5.extAcAbility, if_true, hss]

theorem decode_agrees_FF11_of_spec (b : Bytes) (acs : List AcAbility) (rest : Bytes) (ss : List Spec.At5.AcAbility)
    (h : decode b b.length = .ok (.ability acs, rest)) (hs : readAcAbility ([0xFF, 0x11] ++ b) = some ss) :
    RecordWise AgreeFF11 acs ss ∧ rest = [] := by
  obtain ⟨hrest, ss', hss', hag, _⟩ := decode_agrees_FF11 b acs rest h
  rw [hs] at hss'
  cases hss'
  exact ⟨hag, hrest⟩

/-- `ff11 00 32 …`: one AC whose record announces following length 50 (the 24 documented bytes and 26 more a future
console might append).  The vendor reading is ONE AC, and so is the decoder's (advancing by 26 whatever Byte4 says
would give TWO). -/
def longFF11 : Bytes :=
  [0x00, 0x32, 0x55, 0x4E, 0x49, 0x54, 0, 0, 0, 0, 0, 0, 0, 0, 0, 0, 0, 0, 0x00, 0x04, 0x17, 0x1D, 0x10, 0x1F, 0x12, 0x1F] ++
  List.replicate 26 0xEE

def isOneAbilityNamed (n : Bytes) : Except DecErr (Msg × Bytes) → Bool
  | .ok (.ability [a], []) => a.ac_name == n
  | _ => false

theorem decode_FF11_long_record :
    isOneAbilityNamed [0x55, 0x4E, 0x49, 0x54] (decode longFF11 longFF11.length) = true ∧
    (∃ s, readAcAbility ([0xFF, 0x11] ++ longFF11) = some [s] ∧ s.followingLength = 50) :=
  ⟨by decide +kernel, ⟨_, rfl, rfl⟩⟩

theorem request_form_FF11 (b : Bytes) (r : Option Nat) (rest : Bytes)
    (h : decode b b.length = .ok (.request r, rest)) :
    rest = [] ∧ PyAirtouch.Spec.At5.readExtendedRequest ([0xFF, 0x11] ++ b) =
      some (match (generalizing := false) r with
        | none => .acAbilityAll
        | some n => .acAbility n) := by
  obtain ⟨h0, hm, rfl⟩ | ⟨h1, g, rfl, hm⟩ | ⟨_, _, _, hm⟩ := At5FF11.decode_cases b _ _ _ h
  · cases hm
    cases List.eq_nil_of_length_eq_zero h0
    exact ⟨rfl, by decide⟩
  · cases hm
    cases List.eq_nil_of_length_eq_zero (Nat.succ.inj h1)
    exact ⟨rfl, by simp [PyAirtouch.Spec.At5.readExtendedRequest, PyAirtouch.Spec.At5.extAcAbility]⟩
  · cases hm

end FF11
end PyAirtouch.Lemmas.SpecAgree5
