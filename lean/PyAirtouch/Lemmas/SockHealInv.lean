import PyAirtouch.Lemmas.SockIdle
/-!
# Healing of the socket model: vocabulary and the two history invariants

What a benign label, a healed state and an admissible history are (`ReachableH`: the calling discipline of `close()`,
and a reader never sees a plain EOF on a transport that was lost *with an exception*), and two invariants.
`HInv1`, in every reachable state: only finitely many continuations occur (`vPc`) and the fuel suffices for each
(`need`), `rw` and `discWait` indices are valid, a `discWait w` task waits for a transport that is no longer live, retry
deadlines lie within `RETRY_DELAY`.  `HInv2`, along admissible histories: a pending cancellation belongs to a `close()`
in progress, the current transport is watched, and while the socket is open and not connected a reconnect is pending
(`CancelInv`, `WatchInv`, `ReconnInv`, stated there).
-/
namespace PyAirtouch.Lemmas.SockHeal
open PyAirtouch.Model.Sock PyAirtouch.Spec.Trace PyAirtouch.Lemmas.Sock PyAirtouch.Lemmas.SockConn
open PyAirtouch.Lemmas.SockDrain PyAirtouch.Lemmas.RunWith

def isLiveAt (c : Core) (i : Nat) : Bool := (c.conns[i]?.map ConnSt.isLive).getD false

theorem isLiveAt_def (c : Core) (i : Nat) : isLiveAt c i = (c.conns[i]?.map ConnSt.isLive).getD false := rfl

theorem isLiveAt_iff (c : Core) (i : Nat) : isLiveAt c i = true ↔ liveAt c i := liveAt_iff_getD.symm

theorem isLiveAt_eq_false (c : Core) (i : Nat) : isLiveAt c i = false ↔ ¬ liveAt c i := not_liveAt_iff_getD.symm

theorem isLiveAt_cases {c : Core} {w : Nat} (h : isLiveAt c w = true) : ∃ p f, c.conns[w]? = some (.live p f) :=
  live_cases h

/-- the transport was closed by the client itself (`writer.close()`), not lost with an exception -/
def clientClosed (c : Core) (i : Nat) : Bool :=
  match c.conns[i]? with
  | some (.dying false) | some (.dead false) => true
  | _ => false

/-- the transport was lost with an exception (peer reset, fatal write error) -/
def excLost (c : Core) (i : Nat) : Bool :=
  match c.conns[i]? with
  | some (.dying true) | some (.dead true) => true
  | _ => false

/-- labels of a network that behaves, up to the deadline `d`:
    * the clock advances, but not beyond `d`;
    * the pending `connection_lost` of a transport that is already closing runs;
    * the environment stops pausing / failing writes;
    * a task resumes with `go`, `openOk`, `drainOk`, or - if it is blocked on a transport that is no
      longer live - with the only answers left (`drainErr`; `readEof` on a transport the client closed,
      `readErr` otherwise). -/
def benign (d : Nat) (s : Sys) : Label → Bool
  | .advance t => decide (t ≤ d)
  | .envLostRan _ => true
  | .envPause _ b => !b
  | .envFailWrites _ b => !b
  | .run t a =>
    match a, pcAt s t with
    | .go, _ => true
    | .openOk, _ => true
    | .drainOk, _ => true
    | .drainErr, some (.drainAwait w _ _) => !isLiveAt s.core w
    | .readEof, some (.readWait c) => clientClosed s.core c
    | .readErr, some (.readWait c) => !isLiveAt s.core c
    | _, _ => false
  | _ => false

/-- `ls` consists of benign labels when run from `s`.  Computable, so the examples of `Props/C07Heal.lean` check it by
    `decide`; the strategy is built with the inductive `BReach` below and turned into a label sequence at the end
    (`BReach.toRun`) -/
def benignRun (d : Nat) : Sys → List Label → Bool
  | _, [] => true
  | s, l :: ls => benign d s l && (match step s l with
    | some s' => benignRun d s' ls
    | none => false)

inductive BReach (d : Nat) : Sys → Sys → Prop
  | refl (s : Sys) : BReach d s s
  | cons {s s1 s' : Sys} (l : Label) : benign d s l = true → Model.Sock.step s l = some s1 → BReach d s1 s' →
      BReach d s s'

theorem BReach.trans {d : Nat} {a b c : Sys} (h1 : BReach d a b) (h2 : BReach d b c) : BReach d a c := by
  induction h1 with
  | refl => exact h2
  | cons l hb hs _ ih => exact .cons l hb hs (ih h2)

theorem BReach.one {d : Nat} {s s' : Sys} (l : Label) (hb : benign d s l = true) (hs : step s l = some s') :
    BReach d s s' := .cons l hb hs (.refl _)

theorem BReach.toRun {d : Nat} {s s' : Sys} (h : BReach d s s') :
    ∃ ls, benignRun d s ls = true ∧ run s ls = some s' := by
  induction h with
  | refl s => exact ⟨[], rfl, rfl⟩
  | cons l hb hs _ ih =>
    obtain ⟨ls, h1, h2⟩ := ih
    refine ⟨l :: ls, ?_, ?_⟩
    · simp only [benignRun, hb, hs, Bool.true_and]; exact h1
    · simp only [run, hs, Option.bind_some]; exact h2

theorem BReach.invariant {d : Nat} {P : Sys → Prop}
    (hstep : ∀ s l s', P s → benign d s l = true → step s l = some s' → P s') {s s' : Sys} (h : BReach d s s')
    (hp : P s) : P s' := by
  induction h with
  | refl => exact hp
  | cons l hb hs _ ih => exact ih (hstep _ l _ hp hb hs)

/-- what `BReach.of_progress` asks of every state of `I` short of the goal -/
def Progress (d : Nat) (I : Sys → Prop) (r : Sys → Sys → Prop) (s : Sys) : Prop :=
  ∃ l s', benign d s l = true ∧ step s l = some s' ∧ I s' ∧ s'.core.now = s.core.now ∧ r s' s

theorem Progress.imp {d : Nat} {I I' : Sys → Prop} {r : Sys → Sys → Prop} {s : Sys} (h : Progress d I r s)
    (hI : ∀ l s', benign d s l = true → step s l = some s' → I s' → I' s') : Progress d I' r s :=
  let ⟨l, s', hb, hst, hi, hn, hr⟩ := h
  ⟨l, s', hb, hst, hI l s' hb hst hi, hn, hr⟩

/-- The liveness argument: inside `I`, as long as `Q` does not hold some benign label is enabled that stays inside `I`,
    leaves the clock alone and goes down in a well-founded order; so a benign sequence leads to `Q`. -/
theorem BReach.of_progress {d : Nat} {I Q : Sys → Prop} {r : Sys → Sys → Prop} (wf : WellFounded r)
    (hp : ∀ s, I s → ¬ Q s → Progress d I r s) :
    ∀ s, I s → ∃ s', BReach d s s' ∧ I s' ∧ Q s' ∧ s'.core.now = s.core.now := by
  intro s
  induction s using wf.induction with
  | _ s ih =>
    intro hI
    by_cases hq : Q s
    · exact ⟨s, .refl _, hI, hq, rfl⟩
    · obtain ⟨l, s1, hb, hst, h1, hnow, hlt⟩ := hp s hI hq
      obtain ⟨s', r1, r2, r3, r4⟩ := ih s1 hlt h1
      exact ⟨s', .cons l hb hst r1, r2, r3, r4.trans hnow⟩

/-- connected to a healthy transport, still receiving, nothing left to transmit, nothing else going on -/
structure Healed (s : Sys) : Prop where
  isOpen : s.core.isOpen = true
  isConnected : s.core.isConnected = true
  connecting : s.core.connecting = false
  queue : s.core.queue = []
  conn : ∃ w, s.core.rw = some w ∧ s.core.conns[w]? = some (.live false false) ∧
    (∃ k ∈ s.tasks, k.pc = .readWait w) ∧ ∀ k ∈ s.tasks, k.pc = .finished ∨ k.pc = .readWait w

/-- a reader is not told "EOF" on a transport that was lost with an exception (asyncio hands it the
    exception: `readErr`) -/
def eofOk (s : Sys) : Label → Bool
  | .run t .readEof =>
    match pcAt s t with
    | some (.readWait c) => !excLost s.core c
    | _ => true
  | _ => true

def fair (s : Sys) (l : Label) : Bool := disciplined s l && eofOk s l

def runH (s : Sys) : List Label → Option Sys
  | [] => some s
  | l :: ls => if fair s l then (step s l).bind (fun s' => runH s' ls) else none

/-- reachable under the calling discipline of `close()` and the EOF rule -/
def ReachableH (s : Sys) : Prop := ∃ ls, runH init ls = some s

theorem runH_eq : runH = runW fair step := by
  funext s ls
  induction ls generalizing s with
  | nil => rfl
  | cons l ls ih => simp only [runH, runW, ih]

theorem ReachableH.reachableD {s : Sys} (h : ReachableH s) : ReachableD s := by
  obtain ⟨ls, h⟩ := h
  rw [runH_eq] at h
  exact ⟨ls, runD_eq ▸ runW_mono (fun _ _ hf => (Bool.and_eq_true _ _ ▸ hf).1) h⟩

theorem ReachableH.reachable {s : Sys} (h : ReachableH s) : Reachable s := h.reachableD.reachable

theorem ReachableH.next {s s' : Sys} {l : Label} (h : ReachableH s) (hf : fair s l = true)
    (hs : step s l = some s') : ReachableH s' := by
  obtain ⟨ls, h⟩ := h
  rw [runH_eq] at h
  exact ⟨ls ++ [l], by rw [runH_eq]; exact runW_snoc.2 ⟨s, h, hf, hs⟩⟩

theorem ReachableH.induction {P : Sys → Prop} (h0 : P init)
    (hs : ∀ s l s', ReachableH s → P s → fair s l = true → step s l = some s' → P s') :
    ∀ s, ReachableH s → P s := by
  intro s ⟨ls, h⟩
  rw [runH_eq] at h
  exact runW_induction (P := fun _ s => P s) h0
    (fun ls m l m' hr hp hf hst => hs m l m' ⟨ls, by rw [runH_eq]; exact hr⟩ hp hf hst) ls s h

/-! ### the continuations that occur, and the fuel they need -/

def drainRet : Ret → Bool
  | .done | .connAfterDrain => true
  | _ => false

def discRet : Ret → Bool
  | .closeTail | .resetTail .done | .resetTail .connAfterDrain | .resetTail .readLoop => true
  | _ => false

def notifRet : Ret → Bool
  | .connAfterNotify | .readLoop => true
  | r => discRet r

def retRet : Ret → Bool
  | .done | .connAfterDrain => true
  | r => notifRet r

def vPc : Pc → Bool
  | .drainAwait _ _ r => drainRet r
  | .discWait _ r => discRet r
  | .notifyWait r => notifRet r
  | _ => true

def vK : Kont → Bool
  | .drain r => drainRet r
  | .disconnect r | .discTail _ r => discRet r
  | .ret r => retRet r

def needRet : Ret → Nat
  | .resetTail r => needRet r + 1
  | .connAfterNotify => 7
  | _ => 1

/-- an upper bound on the number of equations of `exec` a block passes from `k` before it suspends or ends (`+ 4` for
    `.drain`: the arm for a drain loop that raises goes on through `.disconnect`, `.discTail` and two `.ret`s).  Over the
    continuations that occur (`vK`) the largest value is 7, at `.ret .connAfterNotify`; so 7 units of fuel suffice; the
    model has 16 (`need_le_fuel`).  The inductions below carry `need k ≤ fuel`, which rules out the equation for fuel 0,
    where `exec` would end the task silently.  The literals `15` and `14` in `FUEL_eq` and in
    `exec_drain_FUEL`, `exec_connAfterNotify_live` of `Lemmas/SockHeal.lean` are `FUEL - 1` and `FUEL - 2`: one or two
    equations of `exec` unfolded by hand. -/
def need : Kont → Nat
  | .ret r => needRet r
  | .discTail _ r => needRet r + 1
  | .disconnect r => needRet r + 2
  | .drain r => needRet r + 4

theorem need_le_fuel {k : Kont} (h : vK k = true) : need k ≤ FUEL := by
  cases k with
  | drain r => cases r <;> first | (simp [vK, drainRet] at h; done) | decide
  | ret r =>
    cases r with
    | resetTail r => cases r <;> first | (simp [vK, retRet, notifRet, discRet] at h; done) | decide
    | _ => decide
  | disconnect r =>
    cases r with
    | resetTail r => cases r <;> first | (simp [vK, discRet] at h; done) | decide
    | _ => first | (simp [vK, discRet] at h; done) | decide
  | discTail w r =>
    cases r with
    | resetTail r => cases r <;> first | (simp [vK, discRet] at h; done) | (simp [need, needRet, FUEL])
    | _ => first | (simp [vK, discRet] at h; done) | (simp [need, needRet, FUEL])

/-! ### `HInv1`: indices and deadlines (every reachable state) -/

def rwValid (c : Core) : Prop := ∀ w, c.rw = some w → w < c.conns.length

/-- the same statement as `SockOrder.rwValid`, which the order invariant carries along every run -/
theorem rwValid_reachable {s : Sys} (h : Reachable s) : rwValid s.core :=
  SockOrder.rwValid_reachableX (SockX.reachableX_of_reachable h)

/-- `c'` is later than `c`: the clock did not go back, no transport came back to life -/
structure Mono (c c' : Core) : Prop where
  now : c.now ≤ c'.now
  len : c.conns.length ≤ c'.conns.length
  live : ∀ i, i < c.conns.length → liveAt c' i → liveAt c i

theorem Mono.ofFrame {c c' : Core} (h : Frame c c') : Mono c c' :=
  ⟨Nat.le_of_eq h.now.symm, Nat.le_of_eq h.len.symm, fun i _ hi => h.live i hi⟩

theorem Mono.ofShrink {c c' : Core} (h : Shrink c c') : Mono c c' := Mono.ofFrame h.frame

theorem Mono.trans {a b c : Core} (h1 : Mono a b) (h2 : Mono b c) : Mono a c :=
  ⟨Nat.le_trans h1.now h2.now, Nat.le_trans h1.len h2.len,
   fun i hi h => h1.live i hi (h2.live i (Nat.lt_of_lt_of_le hi h1.len) h)⟩

/-- what a `discWait w` task relies on -/
def discOk (c : Core) : Pc → Prop
  | .discWait w _ => w < c.conns.length ∧ ¬ liveAt c w
  | _ => True

def delayOk (c : Core) : Pc → Prop
  | .connDelay d => d ≤ c.now + RETRY_DELAY
  | _ => True

theorem discOk_mono {c c' : Core} (h : Mono c c') {p : Pc} (hp : discOk c p) : discOk c' p := by
  cases p <;> try trivial
  exact ⟨Nat.lt_of_lt_of_le hp.1 h.len, fun hl => hp.2 (h.live _ hp.1 hl)⟩

theorem delayOk_mono {c c' : Core} (h : Mono c c') {p : Pc} (hp : delayOk c p) : delayOk c' p := by
  cases p <;> try trivial
  exact Nat.le_trans hp (Nat.add_le_add_right h.now _)

structure HInv1 (s : Sys) : Prop where
  v : ∀ k ∈ s.tasks, vPc k.pc = true
  rwv : rwValid s.core
  disc : ∀ k ∈ s.tasks, discOk s.core k.pc
  delay : ∀ k ∈ s.tasks, delayOk s.core k.pc

/-- program counters of freshly scheduled tasks, with the deadline a delayed one may carry -/
def spawnOk (c : Core) (p : Pc) : Prop := p = .connStart ∨ p = .readStart ∨ p = .connDelay (c.now + RETRY_DELAY)

/-- what `HInv1` asks of one program counter -/
def pcOk (c : Core) (p : Pc) : Prop := vPc p = true ∧ discOk c p ∧ delayOk c p

theorem HInv1.of_pcs {s : Sys} (hrw : rwValid s.core) (h : ∀ k ∈ s.tasks, pcOk s.core k.pc) : HInv1 s :=
  ⟨fun k hk => (h k hk).1, hrw, fun k hk => (h k hk).2.1, fun k hk => (h k hk).2.2⟩

theorem HInv1.pcs {s : Sys} (h : HInv1 s) {c' : Core} (hm : Mono s.core c') : ∀ k ∈ s.tasks, pcOk c' k.pc :=
  fun k hk => ⟨h.v k hk, discOk_mono hm (h.disc k hk), delayOk_mono hm (h.delay k hk)⟩

theorem spawnOk.pcOk {c : Core} {p : Pc} (h : spawnOk c p) : pcOk c p := by
  rcases h with rfl | rfl | rfl
  · exact ⟨rfl, trivial, trivial⟩
  · exact ⟨rfl, trivial, trivial⟩
  · exact ⟨rfl, trivial, Nat.le_refl _⟩

/-- what `HInv1` asks of a block that starts in `s`: of its core, of the program counter it stops at and of the tasks it
    schedules -/
structure H1Block (s : Sys) (out : Out) : Prop where
  mono : Mono s.core out.core
  pc : pcOk out.core out.pc
  spawn : ∀ p ∈ out.spawned, spawnOk out.core p

theorem H1Block.ran {s : Sys} {ts' old rest : List Model.Sock.Task} {b : Bool} {out : Out} (hf : H1Block s out)
    (h : HInv1 s) (hran : Ran s.tasks ts' old ⟨out.pc, b⟩ out.spawned rest) (hrw : rwValid out.core) :
    HInv1 ⟨out.core, ts'⟩ :=
  .of_pcs hrw (hran.forall_pc (h.pcs hf.mono) hf.pc fun p hp => (hf.spawn p hp).pcOk)

theorem HInv1.env {s : Sys} (h : HInv1 s) (c' : Core) (hm : Mono s.core c') (hrw : rwValid c') :
    HInv1 { s with core := c' } := .of_pcs hrw (h.pcs hm)

theorem rwValid_shrink {c c' : Core} (h : Shrink c c') (hr : rwValid c) : rwValid c' := by
  intro w hw; rw [h.len]; exact hr w (h.rw ▸ hw)

theorem spawnOk_now {c c' : Core} (h : c'.now = c.now) {p : Pc} (hp : spawnOk c' p) : spawnOk c p := by
  unfold spawnOk at *; rw [h] at hp; exact hp

theorem vK_drain {r : Ret} (h : vK (.drain r) = true) : vK (.ret r) = true := by
  revert h; cases r <;> simp [vK, drainRet, retRet]

theorem vK_disc {r : Ret} (w : Option Nat) (h : vK (.disconnect r) = true) : vK (.discTail w r) = true := h

theorem vK_discTail {w : Option Nat} {r : Ret} (h : vK (.discTail w r) = true) :
    vK (.ret r) = true ∧ vPc (.notifyWait r) = true := by
  revert h; cases r <;> simp [vK, discRet, retRet, notifRet, vPc]

theorem vK_reset {r : Ret} (h : vK (.ret (.resetTail r)) = true) : vK (.ret r) = true := by
  revert h; cases r <;> simp [vK, discRet, retRet, notifRet]

theorem exec_h1 (fuel : Nat) (c : Core) (sp : List Pc) (k : Kont) (hrw : rwValid c) (hv : vK k = true) :
    vPc (exec fuel c sp k).pc = true ∧
    discOk (exec fuel c sp k).core (exec fuel c sp k).pc ∧ delayOk (exec fuel c sp k).core (exec fuel c sp k).pc ∧
    ∀ p ∈ (exec fuel c sp k).spawned, p ∈ sp ∨ spawnOk c p := by
  -- the cases are numbered as in the key above `SockConn.exec_spawned` (`SockStepRel.lean`)
  fun_induction exec fuel c sp k
  case case2 ih => exact ih hrw (vK_drain hv)
  case case3 ih => exact ih hrw (vK_drain hv)
  case case4 c' hd ih =>
    have hs := shrink_drainLoop' hd
    obtain ⟨b, c1, d, e⟩ := ih (rwValid_shrink hs hrw) (vK_drain hv)
    exact ⟨b, c1, d, fun p hp => (e p hp).imp id (spawnOk_now hs.now)⟩
  case case5 c' e hd =>
    exact ⟨hv, trivial, trivial, fun p hp => .inl hp⟩
  case case6 c' e hd ih => exact absurd hd drainLoop_not_raised
  case case7 fuel c sp r w hw =>
    have hs := shrink_closeConn c w
    refine ⟨hv, ⟨?_, closeConn_notLive c w⟩, trivial, fun p hp => .inl hp⟩
    rw [hs.len]; exact hrw w hw
  case case8 ih => exact ih hrw hv
  case case9 => exact ⟨(vK_discTail hv).2, trivial, trivial, fun p hp => .inl hp⟩
  case case10 ih => exact ih hrw (vK_discTail hv).1
  case case13 ih => exact ih hrw rfl
  case case14 =>
    refine ⟨rfl, trivial, trivial, ?_⟩
    intro p hp
    simp only [List.mem_append, List.mem_singleton] at hp
    rcases hp with (hp | hp) | hp
    · exact .inl hp
    · exact .inr (.inr (.inl hp))
    · split at hp
      · simp only [List.mem_singleton] at hp; exact .inr (.inr (.inr hp))
      · cases hp
  case case15 ih =>
    obtain ⟨b, c1, d, e⟩ := ih hrw (vK_reset hv)
    refine ⟨b, c1, d, ?_⟩
    intro p hp
    rcases e p hp with h | h
    · split at h
      · simp only [List.mem_append, List.mem_singleton] at h
        rcases h with h | h
        · exact .inl h
        · exact .inr (.inl h)
      · exact .inl h
    · exact .inr h
  all_goals exact ⟨rfl, trivial, trivial, fun p hp => .inl hp⟩

theorem execCase_vK {s : Sys} {pc : Pc} {a : Answer} {c0 : Core} {kont : Kont} (h : ExecCase s pc a c0 kont)
    (hv : vPc pc = true) : vK kont = true := by
  cases h
  case drainOk => exact hv
  case drainErr w e r _ => revert hv; cases r <;> simp [vPc, SockHeal.vK, drainRet, discRet]
  case closed => exact hv
  case notified r => revert hv; cases r <;> simp [vPc, SockHeal.vK, notifRet, retRet]
  all_goals rfl

theorem h1Block_exec {s : Sys} {c0 : Core} {kont : Kont} (hr : rwValid s.core) (hs : Shrink s.core c0)
    (hv : vK kont = true) : H1Block s (exec FUEL c0 [] kont) := by
  have hf := exec_frame FUEL c0 [] kont
  obtain ⟨b, c1, d, e⟩ := exec_h1 FUEL c0 [] kont (rwValid_shrink hs hr) hv
  exact ⟨Mono.ofFrame (hs.frame.trans hf), ⟨b, c1, d⟩,
    fun p hp => (e p hp).elim (fun h => nomatch h) (spawnOk_now hf.now.symm)⟩

theorem Mono.append {c c' : Core} {x : ConnSt} (hn : c'.now = c.now) (hc : c'.conns = c.conns ++ [x]) : Mono c c' := by
  refine ⟨Nat.le_of_eq hn.symm, by rw [hc, List.length_append]; exact Nat.le_add_right _ _, fun i hi hl => ?_⟩
  unfold liveAt at *
  rwa [hc, List.getElem?_append_left hi] at hl

theorem Mono.same {c c' : Core} (hn : c'.now = c.now) (hc : c'.conns = c.conns) : Mono c c' :=
  ⟨Nat.le_of_eq hn.symm, Nat.le_of_eq (by rw [hc]), fun i _ h => by unfold liveAt at *; rw [← hc]; exact h⟩

theorem HInv1.cancel {s : Sys} (h : HInv1 s) (c' : Core) (hm : Mono s.core c') (hrw : rwValid c') :
    HInv1 { core := c', tasks := s.tasks.map cancelTask } :=
  .of_pcs hrw (SockConn.forall_pc_cancel (P := pcOk c') _ (h.pcs hm) ⟨rfl, trivial, trivial⟩ ⟨rfl, trivial, trivial⟩)

theorem Mono.ofEnv {c c' : Core} (h : EnvRel c c') : Mono c c' :=
  ⟨h.now, Nat.le_of_eq h.len.symm, fun i _ => h.live i⟩

/-- that the index `rw` stays valid is known from `SockOrder` (`rwValid_reachable`) -/
theorem hinv1_step {s s' : Sys} {l : Label} (h : HInv1 s) (hrw : rwValid s'.core) (hst : step s l = some s') :
    HInv1 s' := by
  rcases step_block hst with ⟨c', rfl, hr⟩ | ⟨s0, old, b, out, rest, ts', hb, rfl, hran⟩
  · exact h.env _ (Mono.ofEnv hr.rel) hrw
  replace hrw : rwValid out.core := hrw
  have h0 : HInv1 s0 := by
    rcases hb.start with rfl | ⟨_, rfl⟩
    · exact h
    · exact h.cancel _ (Mono.same rfl rfl) h.rwv
  suffices hf : H1Block s0 out from hf.ran h0 hran hrw
  clear hran hst
  -- a block that schedules nothing
  have leaf : ∀ {s0 : Sys} {c : Core} {p : Pc}, Mono s0.core c → vPc p = true → discOk c p → delayOk c p →
      H1Block s0 ⟨c, p, []⟩ := fun hm a b c => ⟨hm, ⟨a, b, c⟩, List.forall_mem_nil _⟩
  cases hb with
  | openAgain | closeAgain | sendClosed | sendFull | closeGather | cancelled | readEof | readMsg =>
    exact leaf (Mono.same rfl rfl) rfl trivial trivial
  | openFresh =>
    exact ⟨Mono.same rfl rfl, ⟨rfl, trivial, trivial⟩, fun p hp => .inl (List.mem_singleton.1 hp)⟩
  | closeNow => exact h1Block_exec h0.rwv (Shrink.refl _) rfl
  | reset => exact h1Block_exec h.rwv (shrink_emit _ _) rfl
  | sendOk => exact h1Block_exec h.rwv (shrink_accepted ..) rfl
  | exec t a k0 c0 kont hk0 hc =>
    exact h1Block_exec h.rwv hc.shrink (execCase_vK hc (h.v k0 (List.mem_of_getElem? hk0)))
  | connect =>
    unfold connectBlock
    split <;> exact leaf (Mono.same rfl rfl) rfl trivial trivial
  | openOk => exact leaf (Mono.append rfl rfl) rfl trivial trivial
  | openRefused =>
    refine ⟨Mono.same rfl rfl, ⟨rfl, trivial, trivial⟩, fun p hp => ?_⟩
    split at hp
    · exact .inr (.inr (List.mem_singleton.1 hp))
    · cases hp

theorem hinv1_init : HInv1 init := by
  refine ⟨?_, ?_, ?_, ?_⟩ <;> simp [init, rwValid]

theorem hinv1_reachable {s : Sys} (h : Reachable s) : HInv1 s := by
  obtain ⟨ls, h⟩ := h
  refine run_induction (P := fun _ s => HInv1 s) hinv1_init (fun ls s l s' hr hp hst => ?_) ls s h
  exact hinv1_step hp (rwValid_reachable ⟨ls ++ [l], run_eq ▸ runW_snoc.2 ⟨s, run_eq ▸ hr, rfl, hst⟩⟩) hst

/-! ### reconnect promises -/

def reconnRet : Ret → Bool
  | .connAfterNotify | .connAfterDrain | .resetTail _ => true
  | _ => false

/-- the task is a connection attempt, or will schedule one -/
def reconnPc : Pc → Bool
  | .connStart | .connDelay _ | .connOpening => true
  | .drainAwait _ _ r | .discWait _ r | .notifyWait r => reconnRet r
  | _ => false

def kReconn : Kont → Bool
  | .drain r | .ret r | .disconnect r | .discTail _ r => reconnRet r

theorem need_pos (k : Kont) : 1 ≤ need k := by
  cases k with
  | ret r => cases r <;> simp [need, needRet]
  | _ => simp [need]

theorem exec_reconn (fuel : Nat) (c : Core) (sp : List Pc) (k : Kont) (ho : c.isOpen = true)
    (hn : need k ≤ fuel) (hv : vK k = true) (hd : (exec fuel c sp k).core.isConnected = false)
    (hyp : kReconn k = true ∨ c.isConnected = true ∨ ∃ p ∈ sp, connPc p = true) :
    reconnPc (exec fuel c sp k).pc = true ∨ (∃ p ∈ (exec fuel c sp k).spawned, connPc p = true) ∨ kClose k = true := by
  fun_induction exec fuel c sp k
  case case1 => have := need_pos ‹Kont›; omega
  case case2 ih => exact ih ho (by simp [need] at hn ⊢; omega) (vK_drain hv) hd hyp
  case case3 ih => exact ih ho (by simp [need] at hn ⊢; omega) (vK_drain hv) hd hyp
  case case4 c' hd' ih =>
    have hs := shrink_drainLoop' hd'
    refine ih (hs.isOpen.trans ho) (by simp [need] at hn ⊢; omega) (vK_drain hv) hd ?_
    rw [hs.isConnected]; exact hyp
  case case5 c' e hd' =>
    have hs := shrink_drainLoop' hd'
    rename_i hc _ _
    have : c'.isConnected = false := hd
    rw [hs.isConnected] at this
    simp [this] at hc
  case case6 c' e hd' ih => exact absurd hd' drainLoop_not_raised
  case case7 =>
    rename_i c _ _ w _
    have hs := shrink_closeConn c w
    have hd2 : c.isConnected = false := by rw [← hs.isConnected]; exact hd
    rcases hyp with h | h | h
    · exact .inl h
    · rw [hd2] at h; cases h
    · exact .inr (.inl h)
  case case8 ih => exact ih ho (by simp [need] at hn ⊢; omega) hv hd hyp
  case case9 =>
    rename_i r
    rcases hyp with h | h | h
    · exact .inl h
    · have : reconnRet r = true ∨ closeRet r = true := by
        revert hv; cases r <;> simp [vK, discRet, reconnRet, closeRet]
      rcases this with h' | h'
      · exact .inl h'
      · exact .inr (.inr h')
    · exact .inr (.inl h)
  case case10 ih => exact ih ho (by simp [need] at hn ⊢; omega) (vK_discTail hv).1 hd hyp
  case case12 => exact .inr (.inr rfl)
  case case13 ih => exact ih ho (by simp [need, needRet] at hn ⊢; omega) rfl hd (.inl rfl)
  case case14 n c sp =>
    right; left
    have hd2 : c.isConnected = false := hd
    refine ⟨.connDelay (c.now + RETRY_DELAY), ?_, rfl⟩
    simp [hd2, ho]
  case case15 fuel c sp r ih =>
    refine ih ho (by simp [need, needRet] at hn ⊢; omega) (vK_reset hv) hd (.inr (.inr ?_))
    simp [ho, connPc]
  all_goals
    rcases hyp with h | h | h
    · cases h
    · rw [hd] at h; cases h
    · exact .inr (.inl h)

/-! ### somebody watches the current transport -/

/-- continuations that end in (re)entering the read loop -/
def chainRet : Ret → Bool
  | .readLoop | .connAfterNotify | .connAfterDrain => true
  | .resetTail r => chainRet r
  | _ => false

/-- the task is, or will become or schedule, a reader of the current transport `w` -/
def chainPc (w : Nat) : Pc → Bool
  | .readStart => true
  | .readWait c => c == w
  | .notifyWait r | .drainAwait _ _ r | .discWait _ r => chainRet r
  | _ => false

def kChain : Kont → Bool
  | .drain r | .ret r | .disconnect r | .discTail _ r => chainRet r

/-- no transport becomes client-closed -/
def NCC (c c' : Core) : Prop := ∀ i, clientClosed c i = false → clientClosed c' i = false

theorem NCC.refl (c : Core) : NCC c c := fun _ h => h
theorem NCC.trans {a b c : Core} (h1 : NCC a b) (h2 : NCC b c) : NCC a c := fun i h => h2 i (h1 i h)
theorem NCC.same {c c' : Core} (h : c'.conns = c.conns) : NCC c c' := by
  intro i hi; unfold clientClosed at *; rw [h]; exact hi

theorem ncc_set_exc (c : Core) (w : Nat) : NCC c { c with conns := c.conns.set w (.dying true) } := by
  intro i hi
  unfold clientClosed at *
  simp only [List.getElem?_set]
  by_cases hwi : w = i
  · subst hwi
    by_cases hl : w < c.conns.length <;> simp [hl]
  · simp only [hwi, ↓reduceIte]; exact hi

theorem ncc_drainLoop (w : Nat) (q : List Entry) : ∀ c : Core, NCC c (drainLoop c w q).1 := by
  refine drainLoop_induction w (motive := fun c _ r => NCC c r.1) ?_ ?_ ?_ ?_ ?_ ?_ q
  · intro c; exact NCC.same rfl
  · intro c e rest _; exact NCC.same rfl
  · intro c e rest why r _ ih; exact ih
  · intro c e rest r _ _ ih; exact ih
  · intro c e rest _ _; exact NCC.same rfl
  · intro c e rest p _ _; exact (ncc_set_exc c w).trans (NCC.same rfl)

theorem ncc_drainLoop' {c c' : Core} {w : Nat} {q : List Entry} {st : DrainStop}
    (h : drainLoop c w q = (c', st)) : NCC c c' := by
  have := ncc_drainLoop w q c; rw [h] at this; exact this

theorem exec_watch (fuel : Nat) (c : Core) (sp : List Pc) (k : Kont) (hn : need k ≤ fuel) (w : Nat)
    (hw : (exec fuel c sp k).core.rw = some w) :
    (∃ r, (exec fuel c sp k).pc = .discWait w r) ∨
    ((clientClosed c w = false → clientClosed (exec fuel c sp k).core w = false) ∧
     (kChain k = true → chainPc w (exec fuel c sp k).pc = true ∨ .readStart ∈ (exec fuel c sp k).spawned)) := by
  fun_induction exec fuel c sp k
  case case1 => have := need_pos ‹Kont›; omega
  case case4 c' hd' ih =>
    rcases ih (by simp [need] at hn ⊢; omega) hw with h | ⟨h1, h2⟩
    · exact .inl h
    · exact .inr ⟨fun h => h1 (ncc_drainLoop' hd' _ h), h2⟩
  case case5 c' e hd' =>
    exact .inr ⟨fun h => ncc_drainLoop' hd' _ h, fun h => .inl h⟩
  case case6 c' e hd' ih => exact absurd hd' drainLoop_not_raised
  case case7 =>
    rename_i c _ r w0 hw0
    left
    have : (closeConn c w0).rw = some w := hw
    rw [(shrink_closeConn c w0).rw, hw0] at this
    cases this
    exact ⟨r, rfl⟩
  case case9 => cases hw
  case case11 => exact .inr ⟨id, fun h => by cases h⟩
  case case12 => exact .inr ⟨fun h => h, fun h => by cases h⟩
  case case14 => exact .inr ⟨id, fun _ => .inr (by simp)⟩
  case case16 =>
    rename_i k hk
    refine .inr ⟨id, fun _ => .inl ?_⟩
    have : _ = some w := hw
    rw [hk] at this
    cases this
    simp [chainPc]
  case case17 => exact .inr ⟨id, fun h => by rename_i hk; have : _ = some w := hw; rw [hk] at this; cases this⟩
  all_goals (rename_i ih; exact ih (by simp [need, needRet] at hn ⊢; omega) hw)

/-! ### `HInv2`: cancellations, watchers, reconnect promises -/

/-- a pending cancellation of `open_connection` belongs to a `close()` in progress -/
def CancelInv (s : Sys) : Prop :=
  (∃ k ∈ s.tasks, k.pc = .cancelledOpening) → ∃ k ∈ s.tasks, k.pc = .closeGather

/-- while open with a current transport `w`, some task waits for `w` to finish closing, or `w` was not closed by the
    client and some task is, or will become or start, a reader of `w` -/
def WatchInv (s : Sys) : Prop :=
  s.core.isOpen = true → ∀ w, s.core.rw = some w →
    (∃ k ∈ s.tasks, ∃ r, k.pc = .discWait w r) ∨
    (clientClosed s.core w = false ∧ ∃ k ∈ s.tasks, chainPc w k.pc = true)

/-- while open, not connected and not closing, a reconnect is pending -/
def ReconnInv (s : Sys) : Prop :=
  s.core.isOpen = true → closing s.core.trace = false → s.core.isConnected = false →
    ∃ k ∈ s.tasks, reconnPc k.pc = true

structure HInv2 (s : Sys) : Prop where
  cancel : CancelInv s
  watch : WatchInv s
  reconn : ReconnInv s

theorem connPc_reconn {p : Pc} (h : connPc p = true) : reconnPc p = true := by
  cases p <;> simp_all [connPc, reconnPc]

theorem spawnPc_not_cancelled {p : Pc} (h : spawnPc p = true) : p ≠ .cancelledOpening := by
  cases p <;> simp_all [spawnPc]

theorem cancel_ran {s : Sys} {out : Out} {ts' old rest : List Task} {b : Bool} (h : CancelInv s)
    (hr : Ran s.tasks ts' old ⟨out.pc, b⟩ out.spawned rest) (hpc : out.pc ≠ .cancelledOpening)
    (hsp : ∀ p ∈ out.spawned, spawnPc p = true)
    (hg : ∀ k0 ∈ old, k0.pc = .closeGather → ∀ k ∈ s.tasks, k.pc ≠ .cancelledOpening) :
    CancelInv ⟨out.core, ts'⟩ := by
  rintro ⟨k, hk, hkp⟩
  have hold : k ∈ s.tasks := by
    rcases hr.mem_after hk with rfl | hk | ⟨p, hp, rfl⟩
    · exact absurd hkp hpc
    · exact hr.rest_mem_before hk
    · exact absurd hkp (spawnPc_not_cancelled (hsp p hp))
  obtain ⟨g, hg1, hg2⟩ := h ⟨k, hold, hkp⟩
  rcases hr.mem_before hg1 with h' | h'
  · exact absurd hkp (hg g h' hg2 k hold)
  · exact ⟨g, hr.rest_mem_after h', hg2⟩

/-- what a block must guarantee about the current transport; `old`: the row of the task that ran it, none for a new
    API call -/
def WatchBlock (s : Sys) (old : List Task) (out : Out) : Prop :=
  ∀ w, out.core.rw = some w →
    (∃ r, out.pc = .discWait w r) ∨ (clientClosed out.core w = false ∧ chainPc w out.pc = true) ∨
    (s.core.rw = some w ∧ (clientClosed s.core w = false → clientClosed out.core w = false) ∧
      ∀ k0 ∈ old, (∀ r, k0.pc ≠ .discWait w r) ∧
        (chainPc w k0.pc = true → clientClosed s.core w = false →
          chainPc w out.pc = true ∨ .readStart ∈ out.spawned))

theorem watch_ran {s : Sys} {out : Out} {ts' old rest : List Task} {b : Bool} (h : WatchInv s)
    (hr : Ran s.tasks ts' old ⟨out.pc, b⟩ out.spawned rest)
    (hopen : out.core.isOpen = true → s.core.isOpen = true) (hw : WatchBlock s old out) :
    WatchInv ⟨out.core, ts'⟩ := by
  intro ho w hrw
  rcases hw w hrw with ⟨r, hr'⟩ | ⟨h1, h2⟩ | ⟨h1, h2, h3⟩
  · exact .inl ⟨_, hr.new_mem, r, hr'⟩
  · exact .inr ⟨h1, _, hr.new_mem, h2⟩
  · rcases h (hopen ho) w h1 with ⟨k, hk, r, hr'⟩ | ⟨hc, k, hk, hch⟩
    · rcases hr.mem_before hk with h' | h'
      · exact absurd hr' ((h3 k h').1 r)
      · exact .inl ⟨k, hr.rest_mem_after h', r, hr'⟩
    · refine .inr ⟨h2 hc, ?_⟩
      rcases hr.mem_before hk with h' | h'
      · rcases (h3 k h').2 hch hc with h5 | h5
        · exact ⟨_, hr.new_mem, h5⟩
        · exact ⟨_, hr.spawned_mem h5, rfl⟩
      · exact ⟨k, hr.rest_mem_after h', hch⟩

/-- what a block must guarantee when it ends open, disconnected and not closing (`old`: the row of the task that ran it,
    none for a new API call): it is itself the promise of a reconnect, or it spawns a connection attempt, or the situation
    is old and no row that ran was the promise, or a task that did not run is the promise -/
def ReconnBlock (s : Sys) (old : List Task) (out : Out) : Prop :=
  out.core.isOpen = true → closing out.core.trace = false → out.core.isConnected = false →
    reconnPc out.pc = true ∨ (∃ p ∈ out.spawned, connPc p = true) ∨
    (s.core.isOpen = true ∧ closing s.core.trace = false ∧ s.core.isConnected = false ∧
      ∀ k0 ∈ old, reconnPc k0.pc = false) ∨
    (∃ k ∈ s.tasks, k ∉ old ∧ reconnPc k.pc = true)

theorem reconn_ran {s : Sys} {out : Out} {ts' old rest : List Task} {b : Bool} (h : ReconnInv s)
    (hr : Ran s.tasks ts' old ⟨out.pc, b⟩ out.spawned rest) (hrc : ReconnBlock s old out) :
    ReconnInv ⟨out.core, ts'⟩ := by
  intro ho hcl hd
  rcases hrc ho hcl hd with h1 | ⟨p, hp, hpc⟩ | ⟨a, b, c, d⟩ | ⟨k, hk, hne, hkp⟩
  · exact ⟨_, hr.new_mem, h1⟩
  · exact ⟨_, hr.spawned_mem hp, connPc_reconn hpc⟩
  · obtain ⟨k, hk, hkp⟩ := h a b c
    rcases hr.mem_before hk with h' | h'
    · rw [d k h'] at hkp; cases hkp
    · exact ⟨k, hr.rest_mem_after h', hkp⟩
  · exact ⟨k, hr.rest_mem_after ((hr.mem_before hk).resolve_left hne), hkp⟩

/-- what `HInv2` asks of a block that starts in `s`, run by the rows `old` -/
structure H2Block (s : Sys) (old : List Task) (out : Out) : Prop where
  pc : out.pc ≠ .cancelledOpening
  gather : ∀ k0 ∈ old, k0.pc = .closeGather → ∀ k ∈ s.tasks, k.pc ≠ .cancelledOpening
  watch : out.core.isOpen = true → out.core.rw = none ∨ (s.core.isOpen = true ∧ WatchBlock s old out)
  reconn : ReconnBlock s old out

/-- `hcan`: the pending cancellations of the table the block starts on belong to a `close()` in progress, or the block is
    that `close()` -/
theorem H2Block.ran {s : Sys} {ts' old rest : List Task} {b : Bool} {out : Out} (hf : H2Block s old out)
    (hcan : CancelInv s ∨ out.pc = .closeGather) (hw : WatchInv s) (hr : ReconnInv s)
    (hran : Ran s.tasks ts' old ⟨out.pc, b⟩ out.spawned rest) (hsp : ∀ p ∈ out.spawned, spawnPc p = true) :
    HInv2 ⟨out.core, ts'⟩ := by
  refine ⟨?_, fun ho w hrw => (hf.watch ho).elim (fun e => nomatch e.symm.trans hrw)
    fun ⟨a, b⟩ => watch_ran hw hran (fun _ => a) b ho w hrw, reconn_ran hr hran hf.reconn⟩
  rcases hcan with hcan | hcan
  · exact cancel_ran hcan hran hf.pc hsp hf.gather
  · exact fun _ => ⟨_, hran.new_mem, hcan⟩

theorem execCase_ncc {s : Sys} {pc : Pc} {a : Answer} {c0 : Core} {kont : Kont} (h : ExecCase s pc a c0 kont) : NCC s.core c0 := by
  cases h <;> first | exact NCC.refl _ | (unfold requeue; split <;> exact NCC.same rfl)

theorem execCase_chain {s : Sys} {pc : Pc} {a : Answer} {c0 : Core} {kont : Kont} (h : ExecCase s pc a c0 kont) (w : Nat)
    (hc : chainPc w pc = true) : kChain kont = true ∨ ∃ r, kont = .disconnect r := by
  cases h
  case readFail => exact .inr ⟨_, rfl⟩
  case gathered => cases hc
  all_goals exact .inl (by first | exact hc | rfl)

theorem execCase_reconn {s : Sys} {pc : Pc} {a : Answer} {c0 : Core} {kont : Kont} (h : ExecCase s pc a c0 kont)
    (hc : reconnPc pc = true) : kReconn kont = true := by
  cases h <;> first | exact hc | rfl | cases hc

theorem execCase_gather {s : Sys} {pc : Pc} {a : Answer} {c0 : Core} {kont : Kont} (h : ExecCase s pc a c0 kont)
    (hc : pc = .closeGather) : ∀ k ∈ s.tasks, k.pc ≠ .cancelledOpening := by
  cases h <;> try cases hc
  assumption

theorem FUEL_eq : FUEL = 15 + 1 := rfl

theorem not_closing_of_open {s : Sys} (hc : CInv s) (ho : s.core.isOpen = true) : closing s.core.trace = false := by
  cases hx : closing s.core.trace with
  | false => rfl
  | true => have := hc.closing_open hx; rw [ho] at this; cases this

theorem exec_h2 {c0 : Core} {kont : Kont} (hv : vK kont = true) :
    (exec FUEL c0 [] kont).pc ≠ .cancelledOpening ∧ (∀ p ∈ (exec FUEL c0 [] kont).spawned, spawnPc p = true) ∧
    (∀ w, (exec FUEL c0 [] kont).core.rw = some w → c0.rw = some w ∧
      ((∃ r, (exec FUEL c0 [] kont).pc = .discWait w r) ∨
        ((∀ r, kont ≠ .disconnect r) ∧
          (clientClosed c0 w = false → clientClosed (exec FUEL c0 [] kont).core w = false) ∧
          (kChain kont = true → chainPc w (exec FUEL c0 [] kont).pc = true ∨ .readStart ∈ (exec FUEL c0 [] kont).spawned)))) ∧
    (c0.isOpen = true → kClose kont = false → (exec FUEL c0 [] kont).core.isConnected = false →
      kReconn kont = true ∨ c0.isConnected = true →
      reconnPc (exec FUEL c0 [] kont).pc = true ∨ ∃ p ∈ (exec FUEL c0 [] kont).spawned, connPc p = true) := by
  have hn : need kont ≤ FUEL := need_le_fuel hv
  refine ⟨fun e => ?_, fun p hp => ?_, fun w hw => ?_, fun ho hkc hd hyp => ?_⟩
  · have := exec_pc FUEL c0 [] kont
    rw [e] at this; cases this
  · rcases exec_spawned FUEL c0 [] kont p hp with h | h
    · cases h
    · exact h
  · have hw0 : c0.rw = some w := by
      rcases (exec_frame FUEL c0 [] kont).rw with h | h
      · rw [← h]; exact hw
      · rw [h] at hw; cases hw
    refine ⟨hw0, ?_⟩
    by_cases hdisc : ∃ r, kont = .disconnect r
    · obtain ⟨r, rfl⟩ := hdisc
      exact .inl ⟨r, by simp [FUEL_eq, exec, hw0]⟩
    · rcases exec_watch FUEL c0 [] kont hn w hw with h | ⟨g1, g2⟩
      · exact .inl h
      · exact .inr ⟨fun r hr => hdisc ⟨r, hr⟩, g1, g2⟩
  · rcases exec_reconn FUEL c0 [] kont ho hn hv hd (hyp.imp id .inl) with h | h | h
    · exact .inl h
    · exact .inr h
    · rw [hkc] at h; cases h

theorem HInv2.env {s : Sys} (h : HInv2 s) (c' : Core) (ho : c'.isOpen = s.core.isOpen) (hrw : c'.rw = s.core.rw)
    (hcn : c'.isConnected = s.core.isConnected) (hcl : closing c'.trace = closing s.core.trace)
    (hncc : NCC s.core c') : HInv2 { s with core := c' } := by
  refine ⟨h.cancel, ?_, ?_⟩
  · intro ho' w hw
    rcases h.watch (ho ▸ ho') w (hrw ▸ hw) with h1 | ⟨h1, h2⟩
    · exact .inl h1
    · exact .inr ⟨hncc _ h1, h2⟩
  · intro ho' hcl' hd
    exact h.reconn (ho ▸ ho') (hcl ▸ hcl') (hcn ▸ hd)

theorem NCC.ofEnv {c c' : Core} (h : EnvRel c c') : NCC c c' := by
  intro i hi
  unfold clientClosed at *
  rcases h.conns i with e | ⟨x, y, hx, hy, hm⟩
  · rw [e]; exact hi
  · rw [hx] at hi; rw [hy]
    cases hm with
    | lost | flags => rfl
    | lostRan e => cases e <;> exact hi

theorem excLost_of {c : Core} {w : Nat} (hlen : w < c.conns.length) (hnl : ¬ liveAt c w)
    (hcc : clientClosed c w = false) : excLost c w = true := by
  unfold liveAt at hnl
  unfold clientClosed at hcc
  unfold excLost
  rw [List.getElem?_eq_getElem hlen] at *
  cases hx : c.conns[w] with
  | live p f => simp [hx, ConnSt.isLive] at hnl
  | dying e => cases e <;> simp_all
  | dead e => cases e <;> simp_all

theorem closing_emit {c : Core} {e : Ev} (he : apiEv e = false) : closing (c.emit e).trace = closing c.trace :=
  (sameFlags_emit c he).closing

theorem watchBlock_plain {s : Sys} {k0 : Task} {out : Out} (hrw : out.core.rw = s.core.rw)
    (hcn : out.core.conns = s.core.conns) (hnd : ∀ w r, k0.pc ≠ .discWait w r)
    (hch : ∀ w, chainPc w k0.pc = true → chainPc w out.pc = true) : WatchBlock s [k0] out := by
  intro w hw
  right; right
  refine ⟨hrw ▸ hw, ?_, List.forall_mem_singleton.2 ⟨hnd w, fun h _ => .inl (hch w h)⟩⟩
  intro h; unfold clientClosed at *; rw [hcn]; exact h

theorem suspPc_not_cancelled {p : Pc} (h : suspPc p = true) : p ≠ .cancelledOpening := by
  cases p <;> simp_all [suspPc]

theorem h2Block_exec {s : Sys} {c0 : Core} {kont : Kont} (hc : CInv s)
    (hs : Shrink s.core c0) (hcn : c0.conns = s.core.conns) (hv : vK kont = true) (hkc : kClose kont = false)
    (hkr : kReconn kont = true ∨ ∃ r, kont = .drain r) : H2Block s [] (exec FUEL c0 [] kont) := by
  have hopen : (exec FUEL c0 [] kont).core.isOpen = s.core.isOpen := (exec_frame FUEL c0 [] kont).isOpen.trans hs.isOpen
  obtain ⟨f1, -, f3, f4⟩ := exec_h2 (c0 := c0) hv
  refine ⟨f1, List.forall_mem_nil _, fun ho => .inr ⟨hopen ▸ ho, fun w hw => ?_⟩, fun ho _ hd => ?_⟩
  · obtain ⟨hw0, h⟩ := f3 w hw
    rcases h with h | ⟨_, g1, _⟩
    · exact .inl h
    · exact .inr (.inr ⟨hs.rw ▸ hw0, fun h => g1 (NCC.same hcn _ h), (List.forall_mem_nil _)⟩)
  · have ho' : s.core.isOpen = true := by rw [← hopen]; exact ho
    have key := f4 (hs.isOpen.trans ho') hkc hd
    rcases hkr with h | _
    · exact (key (.inl h)).imp id .inl
    · rcases Bool.eq_false_or_eq_true s.core.isConnected with hcon | hcon
      · exact (key (.inr (hs.isConnected.trans hcon))).imp id .inl
      · exact .inr (.inr (.inl ⟨ho', not_closing_of_open hc ho', hcon, (List.forall_mem_nil _)⟩))

theorem h2Block_run_exec {s : Sys} {t : Nat} {a : Answer} {k0 : Task} {c0 : Core} {kont : Kont} (hc : CInv s)
    (h1 : HInv1 s) (ht : s.tasks[t]? = some k0) (he : ExecCase s k0.pc a c0 kont) :
    H2Block s [k0] (exec FUEL c0 [] kont) := by
  have hsh := he.shrink
  have hopen : (exec FUEL c0 [] kont).core.isOpen = s.core.isOpen := (exec_frame FUEL c0 [] kont).isOpen.trans hsh.isOpen
  obtain ⟨f1, -, f3, f4⟩ := exec_h2 (c0 := c0) (execCase_vK he (h1.v k0 (List.mem_of_getElem? ht)))
  refine ⟨f1, List.forall_mem_singleton.2 (execCase_gather he), fun ho => .inr ⟨hopen ▸ ho, fun w hw => ?_⟩,
    fun ho hcl hd => ?_⟩
  · obtain ⟨hw0, h⟩ := f3 w hw
    have hws : s.core.rw = some w := hsh.rw ▸ hw0
    rcases h with h | ⟨hnd, g1, g2⟩
    · exact .inl h
    · right; right
      refine ⟨hws, fun h => g1 (execCase_ncc he _ h), List.forall_mem_singleton.2 ⟨?_, ?_⟩⟩
      · intro r hr
        rw [hr] at he
        cases he
        simp [FUEL_eq, exec, hws, Core.emit] at hw
      · intro hch _
        rcases execCase_chain he w hch with h | ⟨r, h⟩
        · exact g2 h
        · exact absurd h (hnd r)
  · have ho' : s.core.isOpen = true := by rw [← hopen]; exact ho
    have hcl' := not_closing_of_open hc ho'
    have hkc : kClose kont = false := by
      rw [← he.pc_ok.2.2.2]
      exact hc.none_closing hcl' k0 (List.mem_of_getElem? ht)
    have key := f4 (hsh.isOpen.trans ho') hkc hd
    rcases Bool.eq_false_or_eq_true s.core.isConnected with hcon | hcon
    · exact (key (.inr (hsh.isConnected.trans hcon))).imp id .inl
    · rcases Bool.eq_false_or_eq_true (reconnPc k0.pc) with hrp | hrp
      · exact (key (.inl (execCase_reconn he hrp))).imp id .inl
      · exact .inr (.inr (.inl ⟨ho', hcl', hcon, List.forall_mem_singleton.2 hrp⟩))

theorem hinv2_step {s s' : Sys} {l : Label} (hinv : Inv s) (hc : CInv s) (h1 : HInv1 s) (h2 : HInv2 s)
    (hf : fair s l = true) (hst : step s l = some s') : HInv2 s' := by
  simp only [fair, Bool.and_eq_true] at hf
  obtain ⟨hdis, heof⟩ := hf
  rcases step_block hst with ⟨c', rfl, he⟩ | ⟨s0, old, b, out, rest, ts', hb, rfl, hran⟩
  · have hr := he.rel
    exact h2.env _ hr.isOpen hr.rw hr.isConnected
      (by rcases hr.trace with e | ⟨cid, e⟩ <;> rw [e]; exact closing_concat _ _) (NCC.ofEnv hr)
  -- the table a `close()` starts on has its background tasks cancelled: it satisfies the parts that speak of an open socket
  have h0 : WatchInv s0 ∧ ReconnInv s0 := by
    rcases hb.start with rfl | ⟨_, rfl⟩
    · exact ⟨h2.watch, h2.reconn⟩
    · exact ⟨fun ho => (nomatch ho), fun ho => (nomatch ho)⟩
  have hcan : CancelInv s0 ∨ out.pc = .closeGather := by
    cases hb with
    | closeGather => exact .inr rfl
    | closeNow _ hbg =>
      -- no background task is left, and an API caller is never inside `open_connection`
      refine .inl fun ⟨k, hk, hkp⟩ => ?_
      obtain ⟨k1, hk1, rfl⟩ := List.mem_map.1 hk
      cases hb : k1.bg with
      | false =>
        rw [(cancelTask_spec k1).2.2.1 hb] at hkp
        have := hinv.api_mem k1 hk1 hb
        rw [hkp] at this; cases this
      | true =>
        have hfin : k1.pc = .finished := hbg k1 hk1 hb
        simp [cancelTask, hb, hfin] at hkp
    | _ => exact .inl h2.cancel
  suffices hf : H2Block s0 old out from hf.ran hcan h0.1 h0.2 hran hb.spawned
  clear hran hst hcan h0
  -- a block whose core is not open at the end
  have shut : ∀ {s0 : Sys} {old : List Task} {out : Out}, out.core.isOpen = false → out.pc ≠ .cancelledOpening →
      (∀ k0 ∈ old, k0.pc = .closeGather → ∀ k ∈ s0.tasks, k.pc ≠ .cancelledOpening) →
      H2Block s0 old out := fun hn a c =>
    have no : ∀ {P : Prop}, _ = true → P := fun h => by rw [hn] at h; cases h
    ⟨a, c, no, fun h => no h⟩
  -- a new API-call task that only touches queue / trace and finishes at once
  have plain : ∀ {c0 : Core}, Shrink s.core c0 → c0.conns = s.core.conns → closing c0.trace = closing s.core.trace →
      H2Block s [] ⟨c0, .finished, []⟩ := fun hs hcn hcl =>
    ⟨(Pc.noConfusion ·), List.forall_mem_nil _,
      fun ho => .inr ⟨hs.isOpen ▸ ho,
        fun w hw => .inr (.inr ⟨hs.rw ▸ hw, fun h => NCC.same hcn _ h, List.forall_mem_nil _⟩)⟩,
      fun ho hcl' hd =>
        .inr (.inr (.inl ⟨hs.isOpen ▸ ho, hcl ▸ hcl', hs.isConnected ▸ hd, List.forall_mem_nil _⟩))⟩
  -- the task that ran was at a program counter that is neither `closeGather` nor a `discWait`
  have off : ∀ {k0 : Task} {p : Pc}, k0.pc = p → p ≠ .closeGather → (∀ w r, p ≠ .discWait w r) →
      (∀ k ∈ [k0], k.pc = .closeGather → ∀ k ∈ s.tasks, k.pc ≠ .cancelledOpening) ∧
        ∀ w r, k0.pc ≠ .discWait w r :=
    fun e h1 h2 => ⟨List.forall_mem_singleton.2 fun e' => absurd (e.symm.trans e') h1,
      fun w r e' => h2 w r (e.symm.trans e')⟩
  cases hb with
  | openAgain =>
    have hncl : closing s.core.trace = false := by simpa [disciplined] using hdis
    exact plain (shrink_emit _ _) rfl ((closing_concat _ _).trans hncl.symm)
  | openFresh ho =>
    have hncl : closing s.core.trace = false := by simpa [disciplined] using hdis
    have hrw : s.core.rw = none := (hc.idle ho hncl).1
    exact ⟨(Pc.noConfusion ·), List.forall_mem_nil _, fun _ => .inl hrw,
      fun _ _ _ => .inr (.inl ⟨.connStart, by simp, rfl⟩)⟩
  | closeAgain ho => exact shut ho (Pc.noConfusion ·) (List.forall_mem_nil _)
  | closeGather => exact shut rfl (Pc.noConfusion ·) (List.forall_mem_nil _)
  | closeNow =>
    exact shut (exec_frame FUEL (closingCore s.core) [] _).isOpen (suspPc_not_cancelled (exec_pc _ _ _ _))
      (List.forall_mem_nil _)
  | reset => exact h2Block_exec hc (shrink_emit _ _) rfl rfl rfl (.inl rfl)
  | sendClosed => exact plain (shrink_emit _ _) rfl (closing_emit rfl)
  | sendFull =>
    exact plain ((shrink_purge _).trans (shrink_emit _ _)) rfl ((closing_emit rfl).trans (sameFlags_purge s.core).closing)
  | sendOk => exact h2Block_exec hc (shrink_accepted ..) rfl rfl rfl (.inr ⟨_, rfl⟩)
  | exec t a k0 c0 kont hk0 he => exact h2Block_run_exec hc h1 hk0 he
  | connect t a k0 hk0 hpc =>
    have hnd : ∀ w r, k0.pc ≠ .discWait w r := by intro w r e; rw [e] at hpc; cases hpc
    have hnc : ∀ w, chainPc w k0.pc = true → False := by
      intro w e; revert hpc e; cases k0.pc <;> simp [connPc, chainPc]
    have hng : ∀ k ∈ [k0], k.pc = .closeGather → ∀ k ∈ s.tasks, k.pc ≠ .cancelledOpening :=
      List.forall_mem_singleton.2 fun e => by rw [e] at hpc; cases hpc
    have hw : ∀ {out : Out}, out.core.rw = s.core.rw → out.core.conns = s.core.conns → WatchBlock s [k0] out :=
      fun e1 e2 => watchBlock_plain e1 e2 hnd (fun w e => (hnc w e).elim)
    unfold connectBlock
    split
    · rename_i hcond
      refine ⟨(Pc.noConfusion ·), hng, fun ho => .inr ⟨ho, hw rfl rfl⟩, fun ho hcl hd => ?_⟩
      have ho' : s.core.isOpen = true := ho
      have hd' : s.core.isConnected = false := hd
      have hcg : s.core.connecting = true := by simpa [ho', hd'] using hcond
      obtain ⟨k, hkm, hop⟩ := hinv.connecting_opening hcg
      right; right; right
      refine ⟨k, hkm, ?_, ?_⟩
      · intro e; cases List.mem_singleton.1 e; revert hop hpc; cases k0.pc <;> simp [openingPc, connPc]
      · have hkp : k.pc = .connOpening ∨ k.pc = .cancelledOpening := by
          revert hop; cases k.pc <;> simp [openingPc]
        rcases hkp with e | e
        · rw [e]; rfl
        · obtain ⟨g, hg, hgp⟩ := h2.cancel ⟨k, hkm, e⟩
          have := hc.none_closing hcl g hg
          rw [hgp] at this; cases this
    · exact ⟨(Pc.noConfusion ·), hng, fun ho => .inr ⟨ho, hw rfl rfl⟩, fun _ _ _ => .inl rfl⟩
  | openOk t k0 hk0 hpc =>
    obtain ⟨hng, hnd⟩ := off hpc nofun nofun
    refine ⟨(Pc.noConfusion ·), hng, fun ho => .inr ⟨ho, fun w hw => ?_⟩,
      fun _ _ hd => by cases hd⟩
    right; left
    simp only [Core.emit, Option.some.injEq] at hw
    subst hw
    refine ⟨?_, rfl⟩
    simp [clientClosed, Core.emit]
  | openRefused t a k0 hk0 hpc =>
    obtain ⟨hng, hnd⟩ := off hpc nofun nofun
    refine ⟨(Pc.noConfusion ·), hng,
      fun ho => .inr ⟨ho, watchBlock_plain rfl rfl hnd (fun w e => by rw [hpc] at e; cases e)⟩, fun ho _ hd => ?_⟩
    have ho' : s.core.isOpen = true := ho
    have hd' : s.core.isConnected = false := hd
    right; left
    refine ⟨.connDelay (s.core.now + RETRY_DELAY), ?_, rfl⟩
    simp [ho', hd']
  | cancelled t a k0 hk0 hpc =>
    obtain ⟨hng, hnd⟩ := off hpc nofun nofun
    exact ⟨(Pc.noConfusion ·), hng,
      fun ho => .inr ⟨ho, watchBlock_plain rfl rfl hnd (fun w e => by rw [hpc] at e; cases e)⟩,
      fun ho hcl hd => .inr (.inr (.inl ⟨ho, hcl, hd, List.forall_mem_singleton.2 (by rw [hpc]; rfl)⟩))⟩
  | readMsg t k0 c tag hk0 hpc =>
    obtain ⟨hng, hnd⟩ := off hpc nofun nofun
    refine ⟨(Pc.noConfusion ·), hng,
      fun ho => .inr ⟨ho, watchBlock_plain rfl rfl hnd (fun w e => rfl)⟩, fun ho hcl hd => ?_⟩
    refine .inr (.inr (.inl ⟨ho, ?_, hd, List.forall_mem_singleton.2 (by rw [hpc]; rfl)⟩))
    rw [← closing_emit (c := s.core) (e := .deliver (s.core.rw.getD 0) tag s.core.now) rfl]; exact hcl
  | readEof t k0 c hk0 hpc hnl =>
    obtain ⟨hng, hnd⟩ := off hpc nofun nofun
    refine ⟨(Pc.noConfusion ·), hng, fun ho => .inr ⟨ho, fun w hw => ?_⟩,
      fun ho hcl hd => .inr (.inr (.inl ⟨ho, hcl, hd, List.forall_mem_singleton.2 (by rw [hpc]; rfl)⟩))⟩
    right; right
    refine ⟨hw, fun h => h, List.forall_mem_singleton.2 ⟨hnd w, ?_⟩⟩
    intro hch hcc
    exfalso
    rw [hpc] at hch
    simp only [chainPc, beq_iff_eq] at hch
    subst hch
    have hex := excLost_of (h1.rwv c hw) (hnl c hw) hcc
    have hp : pcAt s t = some (.readWait c) := pcAt_eq.2 ⟨k0, hk0, hpc⟩
    simp only [eofOk, hp, hex] at heof
    cases heof

theorem hinv2_init : HInv2 init := by
  refine ⟨?_, ?_, ?_⟩
  · rintro ⟨k, hk, _⟩; simp [init] at hk
  · intro h; cases h
  · intro h; cases h

theorem hinv2_reachableH {s : Sys} (h : ReachableH s) : HInv2 s :=
  ReachableH.induction (P := HInv2) hinv2_init
    (fun _ _ _ hr hp hf hst =>
      hinv2_step (inv_reachable hr.reachable) (cinv_reachableD hr.reachableD) (hinv1_reachable hr.reachable) hp hf hst)
    s h

theorem reconnect_pending {s : Sys} (h : ReachableH s) (ho : s.core.isOpen = true)
    (hcl : closing s.core.trace = false) (hd : s.core.isConnected = false) :
    ∃ k ∈ s.tasks, reconnPc k.pc = true ∧ ∀ d, k.pc = .connDelay d → d ≤ s.core.now + RETRY_DELAY := by
  obtain ⟨k, hk, hp⟩ := (hinv2_reachableH h).reconn ho hcl hd
  refine ⟨k, hk, hp, ?_⟩
  intro d hkd
  have := (hinv1_reachable h.reachable).delay k hk
  rw [hkd] at this
  exact this

theorem current_watched {s : Sys} (h : ReachableH s) (ho : s.core.isOpen = true) (w : Nat)
    (hw : s.core.rw = some w) :
    (∃ k ∈ s.tasks, ∃ r, k.pc = .discWait w r) ∨
    (clientClosed s.core w = false ∧ ∃ k ∈ s.tasks, chainPc w k.pc = true) :=
  (hinv2_reachableH h).watch ho w hw

end PyAirtouch.Lemmas.SockHeal
