import PyAirtouch.Lemmas.Api5Subs
import PyAirtouch.Lemmas.Dict
/-!
# The entities the AirTouch 5 API model builds from the zone names and the AC abilities
-/
namespace PyAirtouch.Lemmas.Api5
open PyAirtouch.Model PyAirtouch.Model.Api5 PyAirtouch.Model.At5 PyAirtouch.Model.At5.Registry
open PyAirtouch.Gen PyAirtouch.Gen.Api5 PyAirtouch.Lemmas.Dict

/-- what the zone names `zn` say about the zone dict: every entry points to an object with that number, a name from
the message, and the initial status -/
def ZonesDescribed (zn : List (Nat × Bytes)) (s : State) : Prop :=
  ∀ n r, s.zones.lookup n = some r →
    ∃ z, s.zobjs[r]? = some z ∧ z.id = n ∧ (n, z.name) ∈ zn ∧ z.status = (newZone n z.name).status

theorem addZone_described (zn : List (Nat × Bytes)) (s : State) (p : Nat × Bytes) (hp : p ∈ zn)
    (h : ZonesDescribed zn s) : ZonesDescribed zn (addZone s p) := by
  intro n r hl
  simp only [addZone, lookup_dictInsert] at hl
  by_cases hn : n = p.1
  · subst hn
    simp only [if_true, Option.some.injEq] at hl
    subst hl
    refine ⟨newZone p.1 p.2, by simp [addZone], rfl, ?_, rfl⟩
    show (p.1, p.2) ∈ zn
    exact hp
  · simp only [hn, if_false] at hl
    obtain ⟨z, hz, h1, h2, h3⟩ := h n r hl
    refine ⟨z, ?_, h1, h2, h3⟩
    simp [addZone, List.getElem?_append_left (List.getElem?_eq_some_iff.1 hz).1, hz]

theorem processZoneNames_described (zn names : List (Nat × Bytes)) (s : State) (hsub : ∀ p ∈ names, p ∈ zn)
    (h : ZonesDescribed zn s) : ZonesDescribed zn (processZoneNames names s) := by
  unfold processZoneNames
  induction names generalizing s with
  | nil => exact h
  | cons p ps ih =>
    simp only [List.foldl_cons]
    exact ih _ (fun q hq => hsub q (by simp [hq])) (addZone_described zn s p (hsub p (by simp)) h)

theorem processZoneNames_covers (names : List (Nat × Bytes)) (s : State) :
    (∀ p ∈ names, ((processZoneNames names s).zones.lookup p.1).isSome) ∧
    (∀ n, (s.zones.lookup n).isSome → ((processZoneNames names s).zones.lookup n).isSome) := by
  unfold processZoneNames
  induction names generalizing s with
  | nil => exact ⟨by simp, fun n h => h⟩
  | cons p ps ih =>
    simp only [List.foldl_cons]
    obtain ⟨h1, h2⟩ := ih (addZone s p)
    refine ⟨?_, ?_⟩
    · intro q hq
      simp only [List.mem_cons] at hq
      rcases hq with rfl | hq
      · exact h2 _ (by simp [addZone, lookup_dictInsert])
      · exact h1 q hq
    · intro n hn
      apply h2
      simp only [addZone, lookup_dictInsert]
      split
      · rfl
      · exact hn


/-- what the abilities `abs` say about the AC dict: every entry points to an AC object freshly built from an ability of
the message with that number, whose zone list is the zone range of that ability, each of those zones forwarding to it -/
def AcsDescribed (abs : List FF11.AcAbility) (s : State) : Prop :=
  ∀ n r, s.acs.lookup n = some r →
    ∃ a ab, s.aobjs[r]? = some a ∧ ab ∈ abs ∧ ab.ac_number = n ∧
      a = newAc ab a.zones a.supportedModes a.supportedFanSpeeds ∧
      zoneRange s.zones ab.start_zone ab.zone_count = some a.zones ∧
      ∀ zr ∈ a.zones, ∃ z, s.zobjs[zr]? = some z ∧ r ∈ z.fwd

theorem addAc_described (zn : List (Nat × Bytes)) (abs : List FF11.AcAbility) (s s' : State) (ab : FF11.AcAbility)
    (hab : ab ∈ abs) (hz : ZonesDescribed zn s) (ha : AcsDescribed abs s) (h : addAc s ab = some s') :
    ZonesDescribed zn s' ∧ AcsDescribed abs s' ∧ s'.zones = s.zones ∧ (s'.acs.lookup ab.ac_number).isSome ∧
      (∀ n, (s.acs.lookup n).isSome → (s'.acs.lookup n).isSome) := by
  unfold addAc at h
  split at h
  · rename_i refs modes fans hr hm hf
    cases h
    obtain ⟨hlen, hrefs⟩ := zoneRange_spec _ _ _ _ hr
    refine ⟨?_, ?_, rfl, by simp [lookup_dictInsert], ?_⟩
    · -- zones: objects only gained a forwarder
      intro n r hl
      obtain ⟨z, g1, g2, g3, g4⟩ := hz n r hl
      obtain ⟨z', e1, e2, _⟩ := attachAc_get s.aobjs.length refs s.zobjs r z g1
      refine ⟨z', e1, ?_, ?_, ?_⟩
      · show z'.status.zone_number = n
        rw [e2.status]; exact g2
      · rw [e2.name]; exact g3
      · rw [e2.status, e2.name]; exact g4
    · intro n r hl
      simp only [lookup_dictInsert] at hl
      by_cases hn : n = ab.ac_number
      · subst hn
        simp only [if_true, Option.some.injEq] at hl
        subst hl
        refine ⟨newAc ab refs modes fans, ab, by simp, hab, rfl, rfl, hr, ?_⟩
        intro zr hzr
        -- the zone object exists: its reference came out of the zone dict
        obtain ⟨k, hk⟩ := List.getElem?_of_mem hzr
        have hklt : k < ab.zone_count := hlen ▸ (List.getElem?_eq_some_iff.1 hk).1
        have hl2 := (hrefs k hklt).1.symm.trans hk
        obtain ⟨z, g1, _⟩ := hz _ _ hl2
        obtain ⟨z', e1, _, e3⟩ := attachAc_get s.aobjs.length refs s.zobjs zr z g1
        exact ⟨z', e1, e3 hzr⟩
      · simp only [hn, if_false] at hl
        obtain ⟨a, ab', g1, g2, g3, g4, g5, g6⟩ := ha n r hl
        refine ⟨a, ab', by simp [List.getElem?_append_left (List.getElem?_eq_some_iff.1 g1).1, g1], g2, g3, g4, g5, ?_⟩
        intro zr hzr
        obtain ⟨z, f1, f2⟩ := g6 zr hzr
        obtain ⟨z', e1, e2, _⟩ := attachAc_get s.aobjs.length refs s.zobjs zr z f1
        exact ⟨z', e1, e2.fwd r f2⟩
    · intro n hn
      simp only [lookup_dictInsert]
      split
      · rfl
      · exact hn
  · cases h

theorem processAcAbility_described (zn : List (Nat × Bytes)) (abs l : List FF11.AcAbility) (s : State)
    (hl : ∀ ab ∈ l, ab ∈ abs) (hz : ZonesDescribed zn s) (ha : AcsDescribed abs s) (h : (processAcAbility l s).exc = none) :
    ZonesDescribed zn (processAcAbility l s).s ∧ AcsDescribed abs (processAcAbility l s).s ∧
      (processAcAbility l s).s.zones = s.zones ∧ (∀ ab ∈ l, ((processAcAbility l s).s.acs.lookup ab.ac_number).isSome) ∧
      (∀ n, (s.acs.lookup n).isSome → ((processAcAbility l s).s.acs.lookup n).isSome) := by
  unfold processAcAbility at h ⊢
  induction l generalizing s with
  | nil => exact ⟨hz, ha, rfl, by simp, fun _ h => h⟩
  | cons ab l ih =>
    simp only [forEach] at h ⊢
    cases h1 : addAc s ab with
    | none => simp [h1, HR.andThen] at h
    | some s1 =>
      simp only [h1, HR.andThen] at h ⊢
      obtain ⟨g1, g2, g3, g4, g5⟩ := addAc_described zn abs s s1 ab (hl ab (by simp)) hz ha h1
      obtain ⟨f1, f2, f3, f4, f5⟩ := ih s1 (fun a ha' => hl a (by simp [ha'])) g1 g2 h
      refine ⟨f1, f2, f3.trans g3, ?_, fun n hn => f5 n (g5 n hn)⟩
      intro a ha'
      simp only [List.mem_cons] at ha'
      rcases ha' with rfl | ha'
      · exact f5 _ g4
      · exact f4 a ha'

theorem processZoneNames_acs (names : List (Nat × Bytes)) (s : State) : (processZoneNames names s).acs = s.acs := by
  unfold processZoneNames
  induction names generalizing s with
  | nil => rfl
  | cons p ps ih => exact ih (addZone s p)

/-- **the zone names, then the abilities, arriving at an object without entities**: every zone named and every AC
described is in its dict, and the two dicts are as described (`st`: the state machine moves between the two answers) -/
theorem described_from_empty (s : State) (hz0 : s.zones = []) (ha0 : s.acs = []) (zn : List (Nat × Bytes))
    (abs : List FF11.AcAbility) (st : AirTouchState)
    (hok : (processAcAbility abs { processZoneNames zn s with st := st }).exc = none) :
    let s' := (processAcAbility abs { processZoneNames zn s with st := st }).s
    (∀ p ∈ zn, (s'.zones.lookup p.1).isSome) ∧ ZonesDescribed zn s' ∧
    (∀ ab ∈ abs, (s'.acs.lookup ab.ac_number).isSome) ∧ AcsDescribed abs s' := by
  intro s'
  obtain ⟨hz, ha, hzones, hacs, _⟩ := processAcAbility_described zn abs abs { processZoneNames zn s with st := st } (fun _ h => h)
    (processZoneNames_described zn zn s (fun _ h => h) (fun n r h => by rw [hz0] at h; cases h))
    (fun n r (h : (processZoneNames zn s).acs.lookup n = some r) => by rw [processZoneNames_acs, ha0] at h; cases h) hok
  exact ⟨fun p hp => by rw [hzones]; exact (processZoneNames_covers zn s).1 p hp, hz, hacs, ha⟩

/-- what the two descriptions say of an exposed AC: it is built from an ability of the message with its number, and the
`k`-th entry of its zone list is the object of zone `start_zone + k`, named as the zone names said and forwarding to it -/
theorem AcsDescribed.exposed {zn : List (Nat × Bytes)} {abs : List FF11.AcAbility} {s : State} (ha : AcsDescribed abs s)
    (hz : ZonesDescribed zn s) {n r : Nat} {a : AcObj} (hac : s.ac? n = some (r, a)) :
    ∃ ab ∈ abs, ab.ac_number = n ∧ a = newAc ab a.zones a.supportedModes a.supportedFanSpeeds ∧
      a.zones.length = ab.zone_count ∧
      ∀ k, k < ab.zone_count → ∃ zr z, a.zones[k]? = some zr ∧ s.zobjs[zr]? = some z ∧
        z.id = ab.start_zone + k ∧ (ab.start_zone + k, z.name) ∈ zn ∧ r ∈ z.fwd := by
  obtain ⟨hr, hget⟩ := ac?_eq.1 hac
  obtain ⟨a', ab, f1, f2, f3, f4, f5, f6⟩ := ha n r hr
  cases f1.symm.trans hget
  obtain ⟨hlen, hrefs⟩ := zoneRange_spec _ _ _ _ f5
  refine ⟨ab, f2, f3, f4, hlen, fun k hk => ?_⟩
  -- the `k`-th reference came out of the zone dict, whose entries are described
  obtain ⟨q1, q2⟩ := hrefs k hk
  cases hl : s.zones.lookup (ab.start_zone + k) with
  | none => rw [hl] at q2; cases q2
  | some zr =>
    rw [hl] at q1
    obtain ⟨z, w1, w2, w3, _⟩ := hz _ _ hl
    obtain ⟨z', v1, v2⟩ := f6 zr (List.mem_of_getElem? q1)
    cases v1.symm.trans w1
    exact ⟨zr, z, q1, w1, w2, w3, v2⟩

end PyAirtouch.Lemmas.Api5
