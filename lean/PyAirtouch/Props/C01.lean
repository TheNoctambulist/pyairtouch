import PyAirtouch.Lemmas.SockQueue
/-!
# C01 — what reaches the wire

For every history of the model `PyAirtouch.Model.Sock` whose sends carry pairwise distinct
identities: every frame written to a transport is a whole frame of a message that was accepted
before.
-/
namespace PyAirtouch.Props.C01
open PyAirtouch.Model.Sock PyAirtouch.Spec.Trace PyAirtouch.Lemmas.Sock

theorem C01_wire_only_submitted {s : Sys} : ReachableWF s → wireOnlySubmitted s.core.trace = true :=
  fun h => have ⟨_, hinv⟩ := ainv_of_reachableWF h; hinv.wireOnlySubmitted

/-- a message queued while the link is down is written once the connection is up -/
example : ∃ s, ReachableWF s ∧ wireCount s.core.trace 1 = 1 :=
  ⟨_, ⟨[.apiOpen, .apiSend 1 2 240 true, .run 1 .go, .run 1 .openOk, .run 1 .go], by decide, rfl⟩, by decide⟩

end PyAirtouch.Props.C01
