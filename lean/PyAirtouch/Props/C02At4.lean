import PyAirtouch.Lemmas.Api4Events
import PyAirtouch.Lemmas.Api4Calls
import PyAirtouch.Lemmas.Api4Demo
/-!
# C02 (AirTouch 4): which retry policy the API hands to `socket.send`

* every public call: `RETRY_NON_IDEMPOTENT` exactly for the accumulating command (AC power `TOGGLE`),
  `RETRY_IDEMPOTENT` for every other command;
* everything the API sends on its own initiative (handshake requests, heartbeat, status refresh after a
  reconnect, the 300 s group poll, error-information requests) is a request sent with `RETRY_CONNECTED`.
The three `Policy` values are the generated socket constants (`Gen.Policies`).
-/
namespace PyAirtouch.Props.C02
open PyAirtouch.Model PyAirtouch.Model.Api4 PyAirtouch.Model.At4 PyAirtouch.Lemmas.Api4 PyAirtouch.Gen
open PyAirtouch.Model.TimerCommon (AcTimerState AcTimerStatusData)

/-- the model's three policies are the socket module's constants -/
theorem policies_are_generated_at4 :
    Policy.idempotent.pair = Gen.retryIdempotent ∧ Policy.nonIdempotent.pair = Gen.retryNonIdempotent ∧
    Policy.connected.pair = Gen.retryConnected := ⟨rfl, rfl, rfl⟩

/-- **policy table, public calls**: for every state, call and argument, whatever the call sends is sent with
    `RETRY_NON_IDEMPOTENT` if it is AC power `TOGGLE` and with `RETRY_IDEMPOTENT` otherwise -/
theorem call_policy_at4 (s : State) (c : Call) (p : Policy) (m : OutMsg)
    (h : Ev.send p m ∈ (apiStep s (.call c)).2) : p = expectedPolicy c := by
  rcases call_cases s c with ⟨p', m', hr, _, e⟩ | ⟨e', e⟩ <;> rw [e] at h
  · simp only [List.mem_cons, Ev.send.injEq, reduceCtorEq, List.mem_nil_iff, or_false] at h
    obtain ⟨rfl, rfl⟩ := h
    exact callResult_policy s c _ _ hr
  · simp at h

/-- the table has `RETRY_NON_IDEMPOTENT` for AC power `TOGGLE` and for nothing else -/
theorem toggle_only_at4 (c : Call) : expectedPolicy c = .nonIdempotent ↔ ∃ i, c = .acSetPower i .TOGGLE := by
  constructor
  · intro h
    cases c with
    | acSetPower i pc => cases pc <;> first | exact ⟨i, rfl⟩ | cases h
    | _ => cases h
  · rintro ⟨i, rfl⟩; rfl

/-- **policy table, everything else**: whatever any other op makes the API send (handshake, heartbeat, refresh
    after a reconnect, group poll, error-information request) is a request sent with `RETRY_CONNECTED` -/
theorem own_initiative_policy_at4 (s : State) (op : Op) (hop : ∀ c, op ≠ .call c) (p : Policy) (m : OutMsg)
    (h : Ev.send p m ∈ (apiStep s op).2) : p = .connected ∧ isRequest m = true :=
  connReq_apiStep s op hop _ h p m rfl

/-! ### non-vacuity -/

example : Ev.send .nonIdempotent (.reg (.acCtrl { ac_number := 0, power := .TOGGLE, mode := .UNCHANGED, fan_speed := .UNCHANGED, set_point_control := .none }))
    ∈ (apiStep demo (.call (.acSetPower 0 .TOGGLE))).2 := by rw [demo_eq]; decide
example : Ev.send .idempotent (.reg (.acCtrl { ac_number := 0, power := .TURN_ON, mode := .UNCHANGED, fan_speed := .UNCHANGED, set_point_control := .none }))
    ∈ (apiStep demo (.call (.acSetPower 0 .TURN_ON))).2 := by rw [demo_eq]; decide
example : demo.pollCur = some 2400 ∧
    Ev.send .connected groupStatusRequest ∈ (apiStep { demo with now := 2399 } (.adv 1)).2 := by rw [demo_eq]; decide
example : (apiStep demo (.conn true)).2 = [Ev.send .connected acStatusRequest, Ev.send .connected groupStatusRequest] := by rw [demo_eq]; decide
example : Ev.send .connected (errInfoRequest 0)
    ∈ (apiStep demo (.recv (.acStatus (.status [{ demoAcStatus with error_code := 5 }])))).2 := by rw [demo_eq]; decide

end PyAirtouch.Props.C02
