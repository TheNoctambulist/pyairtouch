import PyAirtouch.Lemmas.SockHealFate
/-!
# C07 (healing clause) — the client can never be wedged

Model: `PyAirtouch.Model.Sock`.  Vocabulary (defined in `Lemmas/SockHealInv.lean`; the strategy is in
`Lemmas/SockHeal.lean`, the accounting of queued messages in `Lemmas/SockHealFate.lean`):

* `ReachableH s` — `s` is reachable by a history that respects (a) the calling discipline of `close()`
  (`disciplined`: no `open_socket()` / `close()` while a `close()` is in progress) and (b) the EOF rule
  (`eofOk`: a reader is not told "EOF" on a transport that was lost *with an exception*; asyncio hands it
  the exception, label `readErr`).  Everything else is free: every schedule, refusals, peer resets,
  write faults, corrupt input, paused transports, any use of `send` / `reset_connection`.
  Both restrictions are necessary: `C07_wedge_without_eof_rule`, `C07_wedge_without_discipline`.
* `benign d s l` — label `l` is one a well-behaved network produces in state `s`, with deadline `d`:
  `advance t` with `t ≤ d`; `envLostRan` (a pending `connection_lost` runs); `envPause _ false`,
  `envFailWrites _ false`; `run t a` with `a ∈ {go, openOk, drainOk}`, or `drainErr` / `readErr` for a task
  blocked on a transport that is not live, or `readEof` for a reader of a transport the client closed.
  Not benign: `envLost`, `envPause _ true`, `envFailWrites _ true`, `openRefused`, `readBad`, `readMsg`,
  `readEof` / `readErr` on a live transport, every API call.
* `Healed s` — open, connected, not connecting, `rw = some w` with `conns[w] = live false false`, queue
  empty, at least one task blocked in `readWait w`, and every task is `finished` or in `readWait w`.
  ("Exactly one reader" is not attainable: `C07_two_readers_reachable`, `C07_two_readers_persist`.)
-/
namespace PyAirtouch.Props.C07
open PyAirtouch.Model.Sock PyAirtouch.Spec.Trace PyAirtouch.Lemmas.SockConn PyAirtouch.Lemmas.SockHeal

/-- **never wedged (AG EF healed, with a time bound).**  From every state reachable under the calling
    discipline and the EOF rule in which the socket is open (under the discipline this implies that no
    `close()` is in progress: `C07_open_not_closing`), there is a finite sequence of benign labels, in
    which the clock never passes `now + RETRY_DELAY`, that leads to a healed state. -/
theorem C07_never_wedges {s : Sys} (h : ReachableH s) (ho : s.core.isOpen = true) :
    ∃ ls s', benignRun (s.core.now + RETRY_DELAY) s ls = true ∧ run s ls = some s' ∧ Healed s' ∧
      s'.core.now ≤ s.core.now + RETRY_DELAY :=
  never_wedges h ho

def refusedState : List Label := [.apiOpen, .run 1 .go, .run 1 .openRefused]

/-- non-vacuity: after a refused connection attempt (only a delayed retry is pending) the client is not
    healed; waiting for the retry delay (`RETRY_DELAY` is 16 ticks, hence the literal 16 in the histories of this file)
    and one successful attempt heal it -/
example : ∃ s, ReachableH s ∧ s.core.isOpen = true ∧ ¬ Healed s ∧
    ∃ ls s', benignRun (s.core.now + RETRY_DELAY) s ls = true ∧ run s ls = some s' ∧ Healed s' ∧
      s'.core.now ≤ s.core.now + RETRY_DELAY :=
  ⟨_, ⟨refusedState, rfl⟩, by decide, not_healed_of_healedB (by decide),
    [.advance 16, .run 2 .go, .run 2 .openOk, .run 2 .go, .run 3 .go], _, by decide, rfl,
    healed_of_healedB (by decide), by decide⟩

def writeFaultState : List Label :=
  [.apiOpen, .run 1 .go, .run 1 .openOk, .run 1 .go, .run 2 .go, .envPause 0 true, .apiSend 1 2 240 true,
   .envFailWrites 0 true, .apiSend 2 2 240 true]

/-- non-vacuity: a write fault under a blocked drain (two `send` tasks suspended in `drain()` on a
    transport that is closing with an error, the reader still blocked on it); the healing sequence needs
    no waiting at all, and both messages are written to the new transport -/
example : ∃ s, ReachableH s ∧ s.core.isOpen = true ∧ ¬ Healed s ∧
    ∃ ls s', benignRun (s.core.now + RETRY_DELAY) s ls = true ∧ run s ls = some s' ∧ Healed s' ∧
      s'.core.now ≤ s.core.now + RETRY_DELAY ∧ wiredSids (s'.core.trace.drop s.core.trace.length) = [2, 1] :=
  ⟨_, ⟨writeFaultState, rfl⟩, by decide, not_healed_of_healedB (by decide),
    [.envLostRan 0, .run 3 .drainErr, .run 3 .go, .run 3 .go, .run 4 .drainErr, .run 4 .go, .run 2 .readErr,
     .run 2 .go, .run 5 .go, .run 5 .openOk, .run 5 .go, .run 8 .go, .run 6 .go, .run 7 .go], _, by decide, rfl,
    healed_of_healedB (by decide), by decide, by decide⟩

/-- **nothing queued is lost silently while healing.**  `C07_never_wedges`, and moreover every entry
    that was queued in `s` has, in the part of the trace written during the healing, an event that says
    what happened to it (`fateEv`): a write attempt (`wire`, or `writeFault` on a transport that fails - the
    entry is then re-queued or dropped `maxRetries`; `deadWrite` is in `fateEv` too but is never produced, see
    `C02_no_write_on_lost_connection`) or a `qdrop` with its reason (`expired`, `encErr`, `maxRetries`). -/
theorem C07_never_wedges_fate {s : Sys} (h : ReachableH s) (ho : s.core.isOpen = true) :
    ∃ ls s', benignRun (s.core.now + RETRY_DELAY) s ls = true ∧ run s ls = some s' ∧ Healed s' ∧
      s'.core.now ≤ s.core.now + RETRY_DELAY ∧
      ∀ e ∈ s.core.queue, ∃ ev ∈ s'.core.trace.drop s.core.trace.length, fateEv e.sid ev = true :=
  never_wedges_fate h ho

def queuedState : List Label :=
  [.apiOpen, .apiSend 1 2 240 true, .apiSend 2 0 240 false, .apiSend 3 0 8 true, .run 1 .go, .run 1 .openRefused]

/-- non-vacuity: three messages queued while the first attempt is refused (one unencodable, one that
    expires during the retry delay); the healing sequence writes the first and drops the other two,
    with their reasons -/
example : ∃ s, ReachableH s ∧ s.core.isOpen = true ∧ s.core.queue.length = 3 ∧
    ∃ ls s', benignRun (s.core.now + RETRY_DELAY) s ls = true ∧ run s ls = some s' ∧ Healed s' ∧
      s'.core.trace.drop s.core.trace.length =
        [.attempt 16, .opened 0 16, .notify true 16, .wire 0 1 16, .qdrop 2 16 .encErr, .qdrop 3 16 .expired] :=
  ⟨_, ⟨queuedState, rfl⟩, by decide, by decide,
    [.advance 16, .run 5 .go, .run 5 .openOk, .run 5 .go, .run 6 .go], _, by decide, rfl,
    healed_of_healedB (by decide), by decide⟩

/-- **no deadlock.**  In a reachable open state that is not healed some benign label is enabled, and it
    is the first label of a benign sequence that heals. -/
theorem C07_progress_possible {s : Sys} (h : ReachableH s) (ho : s.core.isOpen = true) (hn : ¬ Healed s) :
    ∃ l s1 s', benign (s.core.now + RETRY_DELAY) s l = true ∧ step s l = some s1 ∧
      BReach (s.core.now + RETRY_DELAY) s1 s' ∧ Healed s' :=
  progress_possible h ho hn

/-- non-vacuity: the state after a refused attempt satisfies the hypotheses -/
example : ∃ s, ReachableH s ∧ s.core.isOpen = true ∧ ¬ Healed s :=
  ⟨_, ⟨refusedState, rfl⟩, by decide, not_healed_of_healedB (by decide)⟩

/-- **a reconnect is pending.**  While the socket is open, not connected and no `close()` is in progress,
    some task is a connection attempt (`connStart`, `connOpening`, or `connDelay d` with
    `d ≤ now + RETRY_DELAY`) or is inside a `_connect` / `reset_connection` that will schedule one
    (`reconnPc`). -/
theorem C07_reconnect_pending {s : Sys} (h : ReachableH s) (ho : s.core.isOpen = true)
    (hcl : closing s.core.trace = false) (hd : s.core.isConnected = false) :
    ∃ k ∈ s.tasks, reconnPc k.pc = true ∧ ∀ d, k.pc = .connDelay d → d ≤ s.core.now + RETRY_DELAY :=
  reconnect_pending h ho hcl hd

/-- non-vacuity: after a refused attempt the pending reconnect is the delayed retry -/
example : ∃ s, ReachableH s ∧ s.core.isOpen = true ∧ closing s.core.trace = false ∧ s.core.isConnected = false ∧
    pcAt s 2 = some (.connDelay 16) :=
  ⟨_, ⟨refusedState, rfl⟩, by decide, by decide, by decide, by decide⟩

/-- **the current transport is watched.**  While the socket is open and has a current transport `w`, either
    a task is waiting for `w` to finish closing (and will then clear it), or `w` was not closed by the client
    and some task is, or will become or start, a reader of `w` (`chainPc`). -/
theorem C07_current_watched {s : Sys} (h : ReachableH s) (ho : s.core.isOpen = true) (w : Nat)
    (hw : s.core.rw = some w) :
    (∃ k ∈ s.tasks, ∃ r, k.pc = .discWait w r) ∨
    (clientClosed s.core w = false ∧ ∃ k ∈ s.tasks, chainPc w k.pc = true) :=
  current_watched h ho w hw

/-- non-vacuity: in the write-fault state transport 0 is current and the reader still watches it -/
example : ∃ s, ReachableH s ∧ s.core.isOpen = true ∧ s.core.rw = some 0 ∧ pcAt s 2 = some (.readWait 0) :=
  ⟨_, ⟨writeFaultState, rfl⟩, by decide, by decide, by decide⟩

/-- under the calling discipline an open socket has no `close()` in progress -/
theorem C07_open_not_closing {s : Sys} (h : ReachableD s) (ho : s.core.isOpen = true) :
    closing s.core.trace = false :=
  not_closing_of_open (Lemmas.SockConn.cinv_reachableD h) ho

/-- non-vacuity: open again after a completed `close()` -/
example : ∃ s, ReachableD s ∧ s.core.isOpen = true ∧ s.core.trace.length = 5 :=
  ⟨_, ⟨[.apiOpen, .apiClose, .run 2 .go, .run 2 .go, .apiOpen], rfl⟩, by decide, by decide⟩

/-! ### the hypotheses are necessary -/

/-- **Without the EOF rule the model can be wedged.**  The history respects the calling discipline; the
    peer resets transport 0 (`envLost 0`) and the reader is then told "EOF" (`readEof`) instead of being
    handed the exception: `_read` sees `writer.is_closing()` and returns without `reset_connection()`.  The
    socket is open, `is_connected` is still set, every task has finished: no benign label sequence
    heals.  (Since `_drain_message_queue` returns at once when the writer is closing, a later `send` does not
    notice either: its message just stays queued.  Only `reset_connection()` / `close()` get out of this state.) -/
theorem C07_wedge_without_eof_rule :
    ∃ s, runD init [.apiOpen, .run 1 .go, .run 1 .openOk, .run 1 .go, .run 2 .go, .envLost 0, .run 2 .readEof,
                    .envLostRan 0] = some s ∧
      s.core.isOpen = true ∧ closing s.core.trace = false ∧ s.core.isConnected = true ∧
      ∀ d s', BReach d s s' → ¬ Healed s' := by
  refine ⟨_, rfl, by decide, by decide, by decide, ?_⟩
  intro d s' hr
  exact stuck_never_heals ⟨by decide, by decide⟩ hr

/-- **Without the calling discipline the model can be wedged.**  `open_socket()` is called while a
    `close()` is in progress: the new `_connect` sees `is_connected` and returns, then the `close()`
    disconnects.  The history contains no `readEof` at all; the final state is open, not connected, no
    `close()` in progress, every task has finished: no benign label sequence heals. -/
theorem C07_wedge_without_discipline :
    ∃ s, run init [.apiOpen, .run 1 .go, .run 1 .openOk, .apiClose, .apiOpen, .run 4 .go, .run 2 .go, .envLostRan 0,
                   .run 2 .go, .run 2 .go] = some s ∧
      s.core.isOpen = true ∧ closing s.core.trace = false ∧ s.core.isConnected = false ∧
      ∀ d s', BReach d s s' → ¬ Healed s' := by
  refine ⟨_, rfl, by decide, by decide, by decide, ?_⟩
  intro d s' hr
  exact stuck_never_heals ⟨by decide, by decide⟩ hr

/-! ### two readers -/

def twoReaders : List Label :=
  [.apiOpen, .run 1 .go, .run 1 .openOk, .apiReset, .envLostRan 0, .run 2 .go, .run 2 .go, .run 1 .go, .run 3 .go,
   .run 3 .openOk, .run 4 .go, .run 3 .go, .run 6 .go, .advance 16, .run 5 .go]

/-- **two readers on one transport.**  `reset_connection()` during the connection notification: the first
    `_connect` finishes after the reconnect and its `_read` task attaches to the *new* reader, next to the
    `_read` task of the second `_connect`.  The state is `Healed` in the sense above. -/
theorem C07_two_readers_reachable :
    ∃ s, runH init twoReaders = some s ∧ pcAt s 4 = some (.readWait 1) ∧ pcAt s 6 = some (.readWait 1) ∧
      s.core.conns[1]? = some (.live false false) ∧ Healed s :=
  ⟨_, rfl, by decide, by decide, by decide, healed_of_healedB (by decide)⟩

/-- … and no benign label sequence gets rid of the second reader: the task table does not change
    (readers of a live transport are only woken by input or by a fault) -/
theorem C07_two_readers_persist :
    ∃ s, runH init twoReaders = some s ∧ ∀ d s', BReach d s s' → s'.tasks = s.tasks :=
  ⟨_, rfl, fun _ _ hr => readers_persist (w := 1) (by decide) (by decide) hr⟩

end PyAirtouch.Props.C07
