import PyAirtouch.Lemmas.Api5Time
/-!
# C14 (AirTouch 5) — refresh after a reconnect, no polling, unchanged reports are silent

* a "connected" notification outside the CONNECTING state sends exactly the AC status request followed by the zone
  status request, both with the connected-only policy, and changes nothing else;
* the AirTouch 5 object owns no poll loop: passing time can only (1) time out a waiting `init()` and (2) drive the
  heartbeat manager (heartbeat request, connection reset).  No status request is ever sent by a timer and no entity
  changes; with the heartbeat manager idle, passing time emits nothing but `init()` time-outs;
* a status report that repeats the current state changes nothing and notifies nobody.
-/
namespace PyAirtouch.Props.C14
open PyAirtouch.Model PyAirtouch.Model.Api5 PyAirtouch.Model.At5 PyAirtouch.Model.At5.Registry
open PyAirtouch.Model.TimerCommon (AcTimerState AcTimerStatusData)
open PyAirtouch.Gen PyAirtouch.Gen.Api5 PyAirtouch.Lemmas.Api5

/-! ## 1. refresh after a reconnect -/

theorem C14_reconnect_refresh_at5 (s : State) (hsub : s.sockSubscribed = true) (hopen : s.sockOpen = true)
    (hst : s.st ≠ .CONNECTING) :
    (apiStep s (.conn true)).2 =
      [.send .connected msgAcStatusRequest false, .send .connected msgZoneStatusRequest false] ∧
    ∃ hb', (apiStep s (.conn true)).1 = { s with hb := hb' } := by
  show (doConn s true).2 = _ ∧ ∃ hb', (doConn s true).1 = _
  rw [doConn_eq, if_pos hsub]
  simp [handleConnection, hst, sendMsg, hopen, HR.andThen, excOut]

/-- losing the connection sends nothing and changes nothing (but the socket's flag seen by the heartbeat manager) -/
theorem C14_disconnect_silent_at5 (s : State) :
    (apiStep s (.conn false)).2 = [] ∧ ∃ hb', (apiStep s (.conn false)).1 = { s with hb := hb' } := by
  show (doConn s false).2 = _ ∧ ∃ hb', (doConn s false).1 = _
  rw [doConn_eq]
  split <;> simp [handleConnection, excOut]

def exAbility : FF11.AcAbility :=
  { ac_number := 1, ac_name := [], start_zone := 0, zone_count := 1, ac_mode_support := [], fan_speed_support := [],
    min_cool_set_point := 17, max_cool_set_point := 30, min_heat_set_point := 16, max_heat_set_point := 28 }

def exAc : AcObj := { newAc exAbility [0] [.HEAT] [.LOW] with subs := ["g"], subsState := ["t"] }

/-- written down by hand, not the end of a run: CONNECTED although the heartbeat manager is still idle (a run starts
the manager on entering CONNECTED); the examples below use only the entities, the subscribers and the open socket -/
def exState : State :=
  { State.new [] [] [] [] with
    st := .CONNECTED, sockOpen := true, sockSubscribed := true, initialised := true,
    aobjs := [exAc], acs := [(1, 0)], zobjs := [{ newZone 0 [] with fwd := [0], subs := ["z"] }], zones := [(0, 0)] }

example : (apiStep exState (.conn true)).2 =
    [.send .connected msgAcStatusRequest false, .send .connected msgZoneStatusRequest false] := by decide +kernel

/-! ## 2. no poll loop -/

/-- whatever the state: time passing emits only `init()` time-outs, heartbeat requests and heartbeat resets … -/
theorem C14_no_poll_loop_at5 (s : State) (n : Nat) (o : Out) (h : o ∈ (apiStep s (.adv n)).2) :
    o = .result "init False" ∨ o = .send .connected hbMessage false ∨ o = .reset :=
  doAdv_out s n o h

/-- … in particular never a status request -/
theorem C14_timers_never_request_status_at5 (s : State) (n : Nat) (p : Policy) (b : Bool) :
    Out.send p msgAcStatusRequest b ∉ (apiStep s (.adv n)).2 ∧ Out.send p msgZoneStatusRequest b ∉ (apiStep s (.adv n)).2 ∧
    Out.send p msgAcTimerStatusRequest b ∉ (apiStep s (.adv n)).2 := by
  refine ⟨?_, ?_, ?_⟩ <;> intro h <;> rcases doAdv_out s n _ h with h | h | h <;> cases h

/-- … and time passing touches no entity, no subscriber, not the state machine: only the clock, the heartbeat manager
and the list of waiting `init()` calls -/
theorem C14_time_changes_nothing_else_at5 (s : State) (n : Nat) :
    ∃ hb' pend', (apiStep s (.adv n)).1 = { s with hb := hb', now := s.now + n, pendingInits := pend' } := by
  exact ⟨_, _, congrArg Prod.fst (doAdv_eq s n)⟩

/-- before the handshake has completed (heartbeat manager idle) passing time emits nothing but the time-outs of waiting
`init()` calls -/
theorem C14_idle_time_at5 (s : State) (n : Nat) (hi : HbIdle s.hb) :
    (apiStep s (.adv n)).2 = (s.pendingInits.filter (· ≤ s.now + n)).map (fun _ => Out.result "init False") :=
  (doAdv_idle s n hi).1

/-- ten minutes pass on `exState` (hand-built: idle heartbeat manager, which no CONNECTED state of a run has): nothing
at all -/
example : (apiStep exState (.adv 4800)).2 = [] := by
  rw [C14_idle_time_at5 exState 4800 ⟨rfl, rfl⟩]; rfl

/-! ## 3. an unchanged refresh is silent -/

theorem C14_unchanged_ac_status_silent_at5 (s : State) (toAddr : Nat) (l : List C023.AcStatusData)
    (hsub : s.sockSubscribed = true) (hst : s.st = .CONNECTED) (hopen : s.sockOpen = true)
    (h : ∀ d ∈ l, ∀ r a, s.acRef d.ac_number = some r → s.aobjs[r]? = some a → a.status = d) :
    apiStep s (.msg toAddr (.controlStatus (.acStatus (.status l)))) = (s, []) := by
  rw [apiStep_acStatus_connected s toAddr l hsub hst hopen]
  exact runSteps_silent _ _ _ (fun d hd => acStatusStep_same s d (h d hd))

theorem C14_unchanged_zone_status_silent_at5 (s : State) (toAddr : Nat) (l : List C021.ZoneStatusData)
    (hsub : s.sockSubscribed = true) (hst : s.st = .CONNECTED)
    (h : ∀ d ∈ l, ∀ r z, s.zones.lookup d.zone_number = some r → s.zobjs[r]? = some z → z.status = d) :
    apiStep s (.msg toAddr (.controlStatus (.zoneStatus (.status l)))) = (s, []) := by
  rw [apiStep_zoneStatus_connected s toAddr l hsub hst]
  exact runSteps_silent _ _ _ (fun d hd => zoneStatusStep_same s d (h d hd))

theorem C14_unchanged_ac_timer_silent_at5 (s : State) (toAddr : Nat) (l : List AcTimerStatusData)
    (hsub : s.sockSubscribed = true) (hst : s.st = .CONNECTED)
    (h : ∀ d ∈ l, ∀ r a, s.acRef d.ac_number = some r → s.aobjs[r]? = some a → a.timer = d) :
    apiStep s (.msg toAddr (.controlStatus (.acTimerStatus (.status l)))) = (s, []) := by
  rw [apiStep_acTimer_connected s toAddr l hsub hst]
  exact runSteps_silent _ _ _ (fun d hd => acTimerStep_same s d (h d hd))

/-- the console answers the refresh with the state the API already has (and a record for an AC it does not know):
nothing is emitted although every entity has subscribers -/
example :
    (apiStep exState (.msg 176 (.controlStatus (.acStatus (.status [exAc.status, { exAc.status with ac_number := 9 }]))))).2 = [] ∧
    (apiStep exState (.msg 176 (.controlStatus (.zoneStatus (.status [(newZone 0 []).status]))))).2 = [] ∧
    (apiStep exState (.msg 176 (.controlStatus (.acTimerStatus (.status [exAc.timer]))))).2 = [] := by decide +kernel

end PyAirtouch.Props.C14
