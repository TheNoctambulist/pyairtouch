import PyAirtouch.Lemmas.Session
/-!
# C15 (last sentence): "A later init() works as on a fresh object and rebuilds the model from scratch"
  - for handshake handlers that are still suspended in an application callback when `shutdown()` is called

Model: `Model/Session.lean` (tie: `harness/sessharness.py`, the real AirTouch 4 / 5 objects over a stub socket, driver
command `sess new`).  Theorems about `step guardNew` (the code of /repo ced1c59, which also compares a session counter that `shutdown()`
increments):

* `C15S_inv`                       every suspended handler carries a session number ≤ the current one, in every reachable state
* `C15S_shutdown_makes_stale`      after `shutdown()` every suspended handler is stale (its session number is smaller)
* `C15S_stale_for_ever`            whatever happens afterwards (any ops, any number of further sessions), a handler that was
                                   suspended before the shutdown is still stale when its turn comes
* `C15S_stale_release_inert`       the release of a stale handler sends nothing, starts no heartbeat, leaves the phase alone
* `C15S_reinit_like_fresh`         after a shutdown, with any number of old handlers still suspended, ANY later op sequence gives -
                                   op by op - the outputs of a fresh object that is given the same ops without the releases of
                                   the old handlers; those releases are inert
* `C15S_current_release_advances`  (the repair does not break the normal path) a handler of the current session whose step is
                                   still current moves the handshake on
* `C15S_old_guard_refuted`         the state-only re-check of /repo ≤ 95fa6d2 fails the property on the recorded history
                                   `abaHistory`: the old handler moves the new session on
-/
namespace PyAirtouch.Props.C15Session
open PyAirtouch.Model.Session

/-- every reachable state -/
theorem C15S_inv (ops : List Op) : Inv (run guardNew {} ops).1 :=
  run_inv _ _ _ (by intro h hh; simp at hh)

theorem C15S_shutdown_makes_stale (s : St) (hi : Inv s) :
    ∀ h ∈ (step guardNew s .shutdown).1.held, Stale (step guardNew s .shutdown).1 h := by
  intro h hh
  simp only [step] at hh ⊢
  have := hi h hh
  simp only [Stale]; omega

theorem C15S_stale_for_ever (s : St) (ops : List Op) :
    let s1 := (step guardNew s .shutdown).1
    ∀ h ∈ (run guardNew s1 ops).1.held, h.session ≤ s.session → Stale (run guardNew s1 ops).1 h := by
  intro s1 h hh hle
  exact (run_stale guardNew (s.session + 1) s1 ops (by simp [s1, step]) h hh (by omega)).2

theorem C15S_stale_release_inert (s : St) (h : Handler) (rest : List Handler) (hs : s.held = h :: rest) (hst : Stale s h) :
    step guardNew s .release = ({ s with held := rest }, { phase := s.phase }) := by
  simp only [Stale] at hst
  simp only [step, hs, guardNew]
  have : (s.session == h.session) = false := by simp; omega
  simp [this]

theorem C15S_current_release_advances (s : St) (h : Handler) (rest : List Handler) (hs : s.held = h :: rest)
    (h1 : h.session = s.session) (h2 : h.step = s.phase) (h3 : s.phase < 8) :
    (step guardNew s .release).1.phase = (advance s.phase).1 ∧ (step guardNew s .release).2.sends = (advance s.phase).2.1
      ∧ (step guardNew s .release).2.hbstart = (advance s.phase).2.2 := by
  simp only [step, hs, guardNew, h1, h2]
  simp [h3]

/-! ## a later init() works as on a fresh object -/

theorem sim_step_other (k old s1 s2) (hs : Sim k old s1 s2) (op : Op) (hop : op ≠ .release ∨ old = []) :
    Sim k old (step guardNew s1 op).1 (step guardNew s2 op).1 ∧ (step guardNew s1 op).2 = (step guardNew s2 op).2 := by
  obtain rfl := hs.eq_shift
  rw [Lemmas.Session.step_shift k old s2 op hop]
  exact ⟨⟨rfl, rfl, hs.old_stale, hs.kpos, rfl⟩, rfl⟩

theorem sim_step_old_release (k h old s1 s2) (hs : Sim k (h :: old) s1 s2) :
    Sim k old (step guardNew s1 .release).1 s2 ∧ (step guardNew s1 .release).2 = { phase := s1.phase } := by
  obtain ⟨hp, hse, hold, hk, hh⟩ := hs
  have hst : Stale s1 h := by
    have := hold h (List.mem_cons_self); simp only [Stale]; omega
  have := C15S_stale_release_inert s1 h (old ++ s2.held.map (fun h => { h with session := h.session + k })) (by simpa using hh) hst
  rw [this]
  refine ⟨⟨hp, hse, fun x hx => hold x (List.mem_cons_of_mem _ hx), fun _ => hk (by simp), rfl⟩, rfl⟩

theorem sim_run (k : Nat) (old : List Handler) (s1 s2 : St) (ops : List Op) (hs : Sim k old s1 s2) :
    dropOuts old.length ops (run guardNew s1 ops).2 = (run guardNew s2 (dropReleases old.length ops)).2
    ∧ ∀ p ∈ releaseOuts old.length ops (run guardNew s1 ops).2, p.2.sends = 0 ∧ p.2.hbstart = false ∧ p.2.suspended = false := by
  induction ops generalizing old s1 s2 with
  | nil => simp [run, dropOuts, dropReleases, releaseOuts]
  | cons op ops ih =>
    cases old with
    | nil =>
      obtain ⟨h1, h2⟩ := sim_step_other k [] s1 s2 hs op (Or.inr rfl)
      have := ih [] _ _ h1
      simp only [List.length_nil, dropReleases_zero, releaseOuts_zero, dropOuts_zero _ _ (Lemmas.Session.run_length _ _ _)] at this ⊢
      refine ⟨?_, by simp⟩
      simp only [run, h2, this.1]
    | cons h old =>
      by_cases hr : op = .release
      · subst hr
        obtain ⟨h1, h2⟩ := sim_step_old_release k h old s1 s2 hs
        have := ih old _ _ h1
        simp only [List.length_cons, run, dropOuts, dropReleases, releaseOuts]
        refine ⟨this.1, ?_⟩
        intro p hp
        simp only [List.mem_cons] at hp
        rcases hp with hp | hp
        · subst hp; simp [h2]
        · exact this.2 p hp
      · obtain ⟨h1, h2⟩ := sim_step_other k (h :: old) s1 s2 hs op (Or.inl hr)
        have := ih (h :: old) _ _ h1
        simp only [List.length_cons] at this ⊢
        cases op with
        | release => exact absurd rfl hr
        | _ => simp only [run, dropOuts, dropReleases, releaseOuts, h2]; exact ⟨by rw [this.1], this.2⟩

/-- **A later init() works as on a fresh object.**  Take any reachable state `s` of the object (any handlers suspended), call
    `shutdown()`, then let anything happen (`ops`: new sessions, frames, new suspended handlers, releases in any order).  Op by op,
    what the object sends, the handshake phase it is in, when it starts its heartbeat and which handlers it suspends are what a
    FRESH object shows on the same ops without the releases of the old handlers; and those releases send nothing and start nothing. -/
theorem C15S_reinit_like_fresh (pre ops : List Op) :
    let s := (run guardNew {} pre).1
    let s1 := (step guardNew s .shutdown).1
    let n := s.held.length
    dropOuts n ops (run guardNew s1 ops).2 = (run guardNew {} (dropReleases n ops)).2
    ∧ ∀ p ∈ releaseOuts n ops (run guardNew s1 ops).2, p.2.sends = 0 ∧ p.2.hbstart = false ∧ p.2.suspended = false := by
  intro s s1 n
  have hi : Inv s := C15S_inv pre
  have hs : Sim (s.session + 1) s.held s1 {} := by
    refine ⟨by simp [s1, step], by simp [s1, step], ?_, fun _ => by omega, by simp [s1, step]⟩
    intro h hh; have := hi h hh; omega
  exact sim_run (s.session + 1) s.held s1 {} ops hs

/-! ## non-vacuity and the refutation of the earlier re-check -/

/-- a handler suspended in the AC status step, shutdown, a new session that has reached the same step again -/
def abaHistory : List Op :=
  [.init, .frame 0, .frame 1, .frame 2, .hold 3, .shutdown, .init, .frame 0, .frame 1, .frame 2, .release, .frame 3, .frame 4, .frame 5]

/-- /repo ced1c59: the release (11th op) is inert, the new session's own AC status answer (12th op) moves the handshake on, the
    object becomes initialised with the last answer - exactly a fresh object's outputs -/
example : ((run guardNew {} abaHistory).2.drop 10).map (fun o => (o.phase, o.sends, o.hbstart))
    = [(5, 0, false), (6, 1, false), (7, 1, false), (8, 0, true)] := by decide

/-- /repo ≤ 95fa6d2: the old handler moves the NEW session from the AC status step to the timer step (a request is sent), and the new
    session's own AC status answer then arrives in the wrong step and is ignored (no request, phase unchanged): the status is never
    loaded, yet the handshake completes.  `C15S_reinit_like_fresh` is false for `guardOld`. -/
theorem C15S_old_guard_refuted :
    ((run guardOld {} abaHistory).2.drop 10).map (fun o => (o.phase, o.sends, o.hbstart))
      = [(6, 1, false), (6, 0, false), (7, 1, false), (8, 0, true)]
    ∧ ((run guardOld {} abaHistory).2.drop 10).map (fun o => (o.phase, o.sends, o.hbstart))
      ≠ ((run guardNew {} abaHistory).2.drop 10).map (fun o => (o.phase, o.sends, o.hbstart)) := by decide

/-- the premises of `C15S_stale_release_inert` and of `C15S_current_release_advances` are met by reachable states -/
example : (run guardNew {} (abaHistory.take 10)).1.held = [{ step := 5, session := 0 }]
    ∧ Stale (run guardNew {} (abaHistory.take 10)).1 { step := 5, session := 0 } := by
  refine ⟨by decide, by simp only [Stale]; decide⟩
example : let s := (run guardNew {} [.init, .frame 0, .frame 1, .frame 2, .hold 3]).1
    s.held = [{ step := 5, session := 0 }] ∧ s.session = 0 ∧ s.phase = 5 := by decide

end PyAirtouch.Props.C15Session
