import PyAirtouch.Lemmas.Api4Reach
/-!
# C09 (AirTouch 4), continued: the handshake end to end, from a fresh object

`Props/C09At4` states the handshake stage by stage.  Here the stages are composed into one statement about the op
list

    init, conn 1, n₁, ⟨version⟩, n₂, ⟨names⟩, n₃, ⟨abilities⟩, n₄, ⟨AC status⟩, n₅, ⟨timers⟩, n₆, ⟨group status⟩, n₇

run on the fresh object `State.initial`, for every consistent installation description (`Consistent`) and arbitrary
noise `n₁ … n₇` (`Junk st nᵢ`: arriving messages / frames / connection losses none of which is of the class that
answers the request outstanding in state `st`; in `CONNECTED` that is any passive op list).

`exposedModel`, `describedModel`, `nameOf`, `Consistent` are defined in `Lemmas/Api4Install`; the order of an
air-conditioner's zones is `Lemmas.Api4.describedIds` (see `describedIds_cases_at4`, `pySetOrder_large_at4`).
-/
namespace PyAirtouch.Props.C09
open PyAirtouch.Model PyAirtouch.Model.Api4 PyAirtouch.Model.At4 PyAirtouch.Lemmas.Api4 PyAirtouch.Gen
open PyAirtouch.Model.TimerCommon (AcTimerState AcTimerStatusData)
open PyAirtouch.Lemmas.Api4Reach

/- definitions and auxiliary lemmas live in `PyAirtouch.Props.C09.At4`; the theorems `…_at4` in `PyAirtouch.Props.C09` -/
namespace At4

/-- the six answers of the console -/
structure Answers where
  version : FF30.ConsoleVersionMessage
  names : List (Nat × Bytes)
  abilities : List FF11.AcAbility
  acStatus : List X2D.AcStatusData
  timers : List AcTimerStatusData
  groups : List X2B.GroupStatusData

def Answers.verMsg (a : Answers) : RMsg := .extended (.consoleVer (.message a.version))
def Answers.namesMsg (a : Answers) : RMsg := .extended (.groupNames (.message { group_names := a.names }))
def Answers.abilityMsg (a : Answers) : RMsg := .extended (.acAbility (.ability a.abilities))
def Answers.acStatusMsg (a : Answers) : RMsg := .acStatus (.status a.acStatus)
def Answers.timerMsg (a : Answers) : RMsg := .acTimerStatus (.status a.timers)
def Answers.groupMsg (a : Answers) : RMsg := .groupStatus (.status a.groups)

/-- what arrives in between -/
structure Noise where
  n₁ : List Op
  n₂ : List Op
  n₃ : List Op
  n₄ : List Op
  n₅ : List Op
  n₆ : List Op
  n₇ : List Op

/-- each `nᵢ` contains only passive ops none of which delivers the answer awaited at that point -/
def Noise.Valid (z : Noise) : Prop :=
  Junk .INIT_VERSION z.n₁ ∧ Junk .INIT_GROUP_NAMES z.n₂ ∧ Junk .INIT_AC_ABILITY z.n₃ ∧ Junk .INIT_AC_STATUS z.n₄ ∧
  Junk .INIT_AC_TIMER_STATUS z.n₅ ∧ Junk .INIT_GROUP_STATUS z.n₆ ∧ Junk .CONNECTED z.n₇

def Noise.none : Noise := ⟨[], [], [], [], [], [], []⟩

/-- the connection is lost at some point before the last answer -/
def Noise.lostConn (z : Noise) : Bool := (z.n₁ ++ z.n₂ ++ z.n₃ ++ z.n₄ ++ z.n₅ ++ z.n₆).any dropsConn

/-- everything up to the last answer -/
def beforeLast (a : Answers) (z : Noise) : List Op :=
  [.init, .conn true] ++ z.n₁ ++ [.recv a.verMsg] ++ z.n₂ ++ [.recv a.namesMsg] ++ z.n₃ ++ [.recv a.abilityMsg] ++
    z.n₄ ++ [.recv a.acStatusMsg] ++ z.n₅ ++ [.recv a.timerMsg] ++ z.n₆

/-- the whole op list -/
def handshakeOps (a : Answers) (z : Noise) : List Op := beforeLast a z ++ [.recv a.groupMsg] ++ z.n₇

/-! ### the stages as `hsScript` -/

def steps2 (a : Answers) (z : Noise) : List (List Op × RMsg) := [(z.n₁, a.verMsg), (z.n₂, a.namesMsg)]

def steps5 (a : Answers) (z : Noise) : List (List Op × RMsg) :=
  [(z.n₁, a.verMsg), (z.n₂, a.namesMsg), (z.n₃, a.abilityMsg), (z.n₄, a.acStatusMsg), (z.n₅, a.timerMsg)]

/-- what comes after the ability answer -/
def afterAbility (a : Answers) (z : Noise) : List Op :=
  z.n₄ ++ [.recv a.acStatusMsg] ++ z.n₅ ++ [.recv a.timerMsg] ++ z.n₆ ++ [.recv a.groupMsg] ++ z.n₇

theorem beforeLast_eq (a : Answers) (z : Noise) :
    beforeLast a z = [.init, .conn true] ++ (hsScript (steps5 a z) ++ z.n₆) := by
  simp [beforeLast, hsScript, steps5, List.append_assoc]

theorem handshakeOps_eq (a : Answers) (z : Noise) :
    handshakeOps a z =
      [.init, .conn true] ++ ((hsScript (steps2 a z) ++ z.n₃) ++ ([.recv a.abilityMsg] ++ afterAbility a z)) := by
  simp [handshakeOps, beforeLast, hsScript, steps2, afterAbility, List.append_assoc]

theorem steps5_eq (a : Answers) (z : Noise) :
    hsScript (steps5 a z) ++ z.n₆ =
      (hsScript (steps2 a z) ++ z.n₃) ++ ([.recv a.abilityMsg] ++
        (z.n₄ ++ [.recv a.acStatusMsg] ++ z.n₅ ++ [.recv a.timerMsg] ++ z.n₆)) := by
  simp [hsScript, steps5, steps2, List.append_assoc]

theorem validSteps5 (a : Answers) (z : Noise) (hz : z.Valid) : ValidSteps .INIT_VERSION (steps5 a z) := by
  obtain ⟨h1, h2, h3, h4, h5, _, _⟩ := hz
  exact ⟨h1, rfl, h2, rfl, h3, rfl, h4, rfl, h5, rfl, trivial⟩

/-! ### the state right after `init()` and the connection -/

theorem afterConn_facts :
    afterConn.st = .INIT_VERSION ∧ afterConn.subscribed = true ∧ afterConn.initialised = false ∧
    afterConn.initWaits = [40] ∧ afterConn.sockConnected = true ∧
    modelView afterConn = ⟨[], [], [], []⟩ ∧
    (run State.initial [.init, .conn true]).2 = [Ev.opened, Ev.send .connected versionRequest] := by
  refine ⟨by decide, by decide, by decide, by decide, by decide, rfl, rfl⟩

theorem afterConn_inv : Inv afterConn := Inv_run Inv_initial _

theorem afterConn_reach : Reach4 afterConn := ⟨_, rfl⟩

/-! ### up to the ability answer: the model -/

theorem shape_recv_ability (s : State) (hsub : s.subscribed = true) (hst : s.st = .INIT_AC_ABILITY)
    (acs : List FF11.AcAbility) (hok : (processAbility s (acs.length == 1) acs).2 = true) :
    shape (recv s (.extended (.acAbility (.ability acs)))).1 = shape (processAbility s (acs.length == 1) acs).1 := by
  simp only [recv, hsub, ↓reduceIte, onMessage, hst, shape_hbOnMessage]
  cases hp : processAbility s (acs.length == 1) acs with
  | mk s' ok =>
    rw [hp] at hok
    simp only at hok
    subst hok
    rfl

/-- the states in which the names answer and the ability answer arrive -/
def atNames (a : Answers) (z : Noise) : State := (run afterConn (z.n₁ ++ [.recv a.verMsg] ++ z.n₂)).1
def atAbility (a : Answers) (z : Noise) : State := (run afterConn (hsScript (steps2 a z) ++ z.n₃)).1

theorem atAbility_eq (a : Answers) (z : Noise) :
    atAbility a z = (run (recv (atNames a z) a.namesMsg).1 z.n₃).1 := by
  simp [atAbility, atNames, hsScript, steps2, run_append, run, apiStep]

theorem atNames_eq (a : Answers) (z : Noise) :
    atNames a z = (run (recv (run afterConn z.n₁).1 a.verMsg).1 z.n₂).1 := by
  simp [atNames, run_append, run, apiStep]

theorem before_ability (a : Answers) (z : Noise) (hz : z.Valid) :
    modelView (atNames a z) = ⟨[], [], [], []⟩ ∧
    modelView (atAbility a z) = modelView (processGroupNames (atNames a z) a.names) ∧
    (atAbility a z).st = .INIT_AC_ABILITY ∧ (atAbility a z).subscribed = true := by
  obtain ⟨c1, c2, _, _, _, c6, _⟩ := afterConn_facts
  obtain ⟨z1, z2, z3, _⟩ := hz
  rw [atAbility_eq, atNames_eq]
  -- n₁, version
  obtain ⟨⟨st1, sub1⟩, ⟨su1, subu1⟩, _⟩ := stage_run afterConn c2 z.n₁ a.verMsg (by rw [c1]; exact z1) (by rw [c1]; rfl)
    (by rw [c1]; nofun) nofun
  have m1 := modelView_junk_run afterConn z.n₁ (by rw [c1]; exact z1) (by rw [c1]; nofun) (congrArg ModelView.acDict c6)
  rw [c1] at st1 su1
  have mu1 : modelView (recv (run afterConn z.n₁).1 a.verMsg).1 = ⟨[], [], [], []⟩ :=
    (modelView_recv_version _ sub1 st1 a.version).trans (m1.trans c6)
  generalize (recv (run afterConn z.n₁).1 a.verMsg).1 = u1 at su1 subu1 mu1 ⊢
  -- n₂, names
  obtain ⟨⟨st2, sub2⟩, ⟨su2, subu2⟩, _⟩ := stage_run u1 subu1 z.n₂ a.namesMsg (by rw [su1]; exact z2) (by rw [su1]; rfl)
    (by rw [su1]; nofun) nofun
  have mt2 := (modelView_junk_run u1 z.n₂ (by rw [su1]; exact z2) (by rw [su1]; nofun)
    (congrArg ModelView.acDict mu1)).trans mu1
  rw [su1] at st2 su2
  have mu2 : modelView (recv (run u1 z.n₂).1 a.namesMsg).1 = modelView (processGroupNames (run u1 z.n₂).1 a.names) :=
    modelView_recv_names _ sub2 st2 _
  generalize (run u1 z.n₂).1 = t2 at st2 sub2 mt2 su2 subu2 mu2 ⊢
  generalize (recv t2 a.namesMsg).1 = u2 at su2 subu2 mu2 ⊢
  have au2 : u2.acDict = [] := by
    rw [show u2.acDict = (processGroupNames t2 a.names).acDict from congrArg ModelView.acDict mu2,
      (processGroupNames_model t2 a.names).2.1]
    exact congrArg ModelView.acDict mt2
  -- n₃
  obtain ⟨l1, l2, _⟩ := junk_run u2 z.n₃ (by rw [su2]; exact z3)
  have m3 := modelView_junk_run u2 z.n₃ (by rw [su2]; exact z3) (by rw [su2]; nofun) au2
  exact ⟨mt2, m3.trans mu2, l1.trans su2, l2.trans subu2⟩

/-- **the ability answer is accepted** (no `KeyError`) **and builds the described installation** -/
theorem ability_ok (a : Answers) (z : Noise) (hc : Consistent a.names a.abilities) (hz : z.Valid) :
    (processAbility (atAbility a z) (a.abilities.length == 1) a.abilities).2 = true ∧
    exposedModel (processAbility (atAbility a z) (a.abilities.length == 1) a.abilities).1 =
      describedModel a.names a.abilities := by
  obtain ⟨b1, b2, b3, b4⟩ := before_ability a z hz
  exact model_of_description (atNames a z) b1 a.names a.abilities hc (atAbility a z) b2
    (Inv_run afterConn_inv _)

/-! ### after the ability answer: nothing changes the exposed installation -/

theorem passive_afterAbility (a : Answers) (z : Noise) (hz : z.Valid) : ∀ op ∈ afterAbility a z, passive op = true := by
  obtain ⟨_, _, _, h4, h5, h6, h7⟩ := hz
  intro op ho
  simp only [afterAbility, List.mem_append, List.mem_singleton] at ho
  rcases ho with (((((h | rfl) | h) | rfl) | h) | rfl) | h
  · exact (h4 op h).1
  · rfl
  · exact (h5 op h).1
  · rfl
  · exact (h6 op h).1
  · rfl
  · exact (h7 op h).1

/-- the final object model -/
theorem end_model (a : Answers) (z : Noise) (hc : Consistent a.names a.abilities) (hz : z.Valid) :
    exposedModel (run State.initial (handshakeOps a z)).1 = describedModel a.names a.abilities := by
  obtain ⟨ok, hm⟩ := ability_ok a z hc hz
  obtain ⟨_, _, b3, b4⟩ := before_ability a z hz
  have e : (run State.initial (handshakeOps a z)).1 =
      (run (recv (atAbility a z) a.abilityMsg).1 (afterAbility a z)).1 := by
    rw [handshakeOps_eq, run_append, run_append, run_append]
    simp only [run, apiStep]
    rfl
  rw [e]
  generalize hu : (recv (atAbility a z) a.abilityMsg).1 = u3
  have hinv : Inv u3 := by rw [← hu]; exact Inv_recv (Inv_run afterConn_inv _) _
  have hsub : u3.subscribed = true := by
    rw [← hu]; exact (recv_subscribed (atAbility a z) a.abilityMsg).trans b4
  have hst : u3.st = .INIT_AC_STATUS := by
    rw [← hu]
    exact (recv_answer (atAbility a z) b4 a.abilityMsg (by rw [b3]; rfl) (by rw [b3]; intro h; cases h)
      (by intro acs h; cases h; exact ok)).1.trans (by rw [b3]; rfl)
  have hsh : shape u3 = shape (processAbility (atAbility a z) (a.abilities.length == 1) a.abilities).1 := by
    rw [← hu]; exact shape_recv_ability (atAbility a z) b4 b3 a.abilities ok
  rw [exposedModel_of_shape (shape_passive_run hinv hsub (by rw [hst]; decide) (afterAbility a z)
    (passive_afterAbility a z hz)), exposedModel_of_shape hsh, hm]

/-! ### the control flow and the outputs -/

theorem lostConn_eq (a : Answers) (z : Noise) : (hsScript (steps5 a z) ++ z.n₆).any dropsConn = z.lostConn := by
  simp [hsScript, steps5, Noise.lostConn, List.any_append, dropsConn]

/-- the state in which the last answer arrives -/
theorem before_last (a : Answers) (z : Noise) (hc : Consistent a.names a.abilities) (hz : z.Valid) :
    (run State.initial (beforeLast a z)).1.st = .INIT_GROUP_STATUS ∧
    (run State.initial (beforeLast a z)).1.subscribed = true ∧
    (run State.initial (beforeLast a z)).1.initialised = false ∧
    (run State.initial (beforeLast a z)).1.initWaits = [40] ∧
    hbIdle (run State.initial (beforeLast a z)).1.hb = true ∧
    (run State.initial (beforeLast a z)).1.sockConnected = !z.lostConn ∧
    hsSends (run State.initial (beforeLast a z)).2 = handshakeRequests ∧
    (∀ c, Ev.subscriberExc c ∉ (run State.initial (beforeLast a z)).2) ∧
    (∀ t, Ev.result t ∉ (run State.initial (beforeLast a z)).2) := by
  obtain ⟨c1, c2, c3, c4, c5, _, c7⟩ := afterConn_facts
  have hab := (ability_ok a z hc hz).1
  -- five stages, then n₆; the third stage is the ability answer, arriving in `atAbility`
  obtain ⟨s1, s2, s3, s4, s5, s6, s7⟩ := script_run afterConn c2 (steps5 a z) z.n₆ (by rw [c1]; exact validSteps5 a z hz)
    (by rw [c1]; decide) (by rw [c1]; exact Nat.le_refl 7)
    ⟨nofun, nofun, fun _ h => by cases h; rw [← atNames_eq, ← atAbility_eq]; exact hab, nofun, nofun, trivial⟩
    (fun st h => by
      obtain rfl : st = .INIT_GROUP_STATUS := stage_inj (h.trans (by rw [c1]; rfl))
      exact hz.2.2.2.2.2.1)
  have hf := reach_sockFacts (afterConn_reach.run (hsScript (steps5 a z) ++ z.n₆))
  have e : run State.initial (beforeLast a z) = ((run afterConn (hsScript (steps5 a z) ++ z.n₆)).1,
      [Ev.opened, Ev.send .connected versionRequest] ++ (run afterConn (hsScript (steps5 a z) ++ z.n₆)).2) := by
    rw [beforeLast_eq, run_append, c7]; rfl
  rw [lostConn_eq, c5] at s4
  rw [e]
  generalize run afterConn (hsScript (steps5 a z) ++ z.n₆) = r at s1 s2 s3 s4 s5 s6 s7 hf ⊢
  have hi : r.1.initialised = false := (congrArg Prod.fst s3).trans c3
  refine ⟨?_, s2, hi, (congrArg Prod.snd s3).trans c4, by rw [hf.hb_iff, hi]; rfl, by rw [s4]; simp, ?_, ?_, ?_⟩
  · exact stage_inj (s1.trans (by rw [c1]; rfl))
  · rw [hsSends_append, s5, c1]; rfl
  · exact noExc_append (by simp) s6
  · intro t ht
    rcases List.mem_append.mp ht with h | h
    · simp at h
    · exact s7.not_mem (e := Ev.result t) rfl h

end At4
open At4

/-! ### end to end -/

/-- **C09 end to end.**  A fresh object; `init()`; the connection; the six answers of a consistent installation
    description, with arbitrary noise before, between and after them.  Then

    1. the state is `CONNECTED` and the initialised event is set;
    2. the messages sent (error-information requests, which unsolicited or answering AC statuses with an error code
       cause, excepted) are exactly the six handshake requests in order, followed - unless the connection was lost
       meanwhile - by the first heartbeat request, which `HeartbeatManager.start()` sends at once;
    3. no handler raised;
    4. `RESULT init True` is printed exactly once, there is no other `RESULT`, and
    5. it is printed by the op that delivers the last answer;
    6. the object model the API exposes is exactly the described one: the described air-conditioners (number, name)
       in message order, each with exactly its described zones (id, name) in `describedIds` order. -/
theorem handshake_end_to_end_at4 (a : Answers) (z : Noise) (hc : Consistent a.names a.abilities) (hz : z.Valid) :
    (run State.initial (handshakeOps a z)).1.st = .CONNECTED ∧
    (run State.initial (handshakeOps a z)).1.initialised = true ∧
    hsSends (run State.initial (handshakeOps a z)).2 =
      handshakeRequests ++ (if z.lostConn then [] else [hbMessage]) ∧
    (∀ c, Ev.subscriberExc c ∉ (run State.initial (handshakeOps a z)).2) ∧
    ((run State.initial (handshakeOps a z)).2.count (Ev.result "init True") = 1 ∧
      ∀ t, Ev.result t ∈ (run State.initial (handshakeOps a z)).2 → t = "init True") ∧
    (apiStep (run State.initial (beforeLast a z)).1 (.recv a.groupMsg)).2.count (Ev.result "init True") = 1 ∧
    exposedModel (run State.initial (handshakeOps a z)).1 = describedModel a.names a.abilities := by
  have hm := end_model a z hc hz
  obtain ⟨b1, b2, _, b4, b5, b6, b7, b8, b9⟩ := before_last a z hc hz
  have e : run State.initial (handshakeOps a z) =
      ((run (run State.initial (beforeLast a z)).1 (.recv a.groupMsg :: z.n₇)).1,
        (run State.initial (beforeLast a z)).2 ++
          (run (run State.initial (beforeLast a z)).1 (.recv a.groupMsg :: z.n₇)).2) := by
    rw [handshakeOps, List.append_assoc, run_append]; rfl
  -- the last answer and n₇, from the state `before_last` describes
  obtain ⟨k1, k2, k3, k4, k5, k6⟩ :=
    completion_run (run State.initial (beforeLast a z)).1 b2 b1 a.groups z.n₇ hz.2.2.2.2.2.2
  rw [e] at hm ⊢
  have eg : a.groupMsg = .groupStatus (.status a.groups) := rfl
  rw [eg] at hm ⊢
  generalize (run State.initial (beforeLast a z)).2 = E0 at b7 b8 b9 ⊢
  generalize (run State.initial (beforeLast a z)).1 = t6 at b1 b2 b4 b5 b6 hm k1 k2 k3 k4 k5 k6 ⊢
  refine ⟨k1, k2, ?_, noExc_append b8 k4, ⟨?_, fun t ht => ?_⟩, ?_, hm⟩
  · rw [hsSends_append, b7, k3, b5, b6]
    cases z.lostConn <;> rfl
  · rw [List.count_append, List.count_eq_zero.mpr (b9 _), k5, b4]; rfl
  · exact (List.mem_append.mp ht).elim (fun h => absurd h (b9 t)) (k6 t)
  · exact (recv_final_answer t6 b2 a.groups b1).2.2.2.2.2.2.1.trans (by rw [b4]; rfl)

/-- `Consistent` follows from a condition that mentions only the two messages' fields: distinct group numbers,
    distinct AC numbers, complete mode / fan tables, and per record - a bitmap of named groups, or no bitmap in the only
    record, or a `start_group` / `group_count` range of named groups -/
theorem consistent_of_syntactic_at4 (names : List (Nat × Bytes)) (acs : List FF11.AcAbility)
    (h : SyntacticallyConsistent names acs) : Consistent names acs := consistent_of_syntactic h

/-- **… without noise**: `init, conn 1` and the six answers.  Error-information requests aside (`hsSends` leaves them out), seven messages are
    sent: the six requests, then the first heartbeat request. -/
theorem handshake_clean_at4 (a : Answers) (hc : Consistent a.names a.abilities) :
    handshakeOps a Noise.none =
      [.init, .conn true, .recv a.verMsg, .recv a.namesMsg, .recv a.abilityMsg, .recv a.acStatusMsg, .recv a.timerMsg,
        .recv a.groupMsg] ∧
    (run State.initial (handshakeOps a Noise.none)).1.st = .CONNECTED ∧
    (run State.initial (handshakeOps a Noise.none)).1.initialised = true ∧
    hsSends (run State.initial (handshakeOps a Noise.none)).2 = handshakeRequests ++ [hbMessage] ∧
    (∀ c, Ev.subscriberExc c ∉ (run State.initial (handshakeOps a Noise.none)).2) ∧
    (run State.initial (handshakeOps a Noise.none)).2.count (Ev.result "init True") = 1 ∧
    exposedModel (run State.initial (handshakeOps a Noise.none)).1 = describedModel a.names a.abilities := by
  have hz : Noise.none.Valid := by
    refine ⟨?_, ?_, ?_, ?_, ?_, ?_, ?_⟩ <;> intro op h <;> cases h
  obtain ⟨h1, h2, h3, h4, h5, _, h7⟩ := handshake_end_to_end_at4 a Noise.none hc hz
  refine ⟨?_, h1, h2, h3, h4, h5.1, h7⟩
  simp only [handshakeOps, beforeLast, Noise.none, List.append_nil, List.cons_append, List.nil_append]

/-! ### every reachable state (`Lemmas/Api4Reach`) -/

/-- the facts `Model/Api4.lean` relies on without proof, for every state reachable from the fresh object: the
    socket-open facts (`SockFacts`), every pending deadline ahead of the clock (`Ahead`), the heap invariant, the
    heartbeat invariant -/
theorem reachable_facts_at4 (s : State) (h : Reach4 s) : SockFacts s ∧ Ahead s ∧ Inv s ∧ HbWf s :=
  ⟨reach_sockFacts h, reach_ahead h, reach_inv h, reach_hbWf h⟩

/-- state `≠ CLOSED`, a running heartbeat, a live current poll task, a non-empty dictionary, the initialised event:
    each implies an open socket -/
theorem socket_open_at4 (s : State) (h : Reach4 s)
    (hx : s.st ≠ .CLOSED ∨ hbIdle s.hb = false ∨ s.pollCur.isSome = true ∨ s.acDict ≠ [] ∨ s.zoneDict ≠ [] ∨
      s.initialised = true) : s.sockOpen = true := by
  rcases hx with hx | hx | hx | hx | hx | hx
  · exact (reach_sockFacts h).open_iff.mpr hx
  · exact (open_of_hb_running h hx).1
  · cases hp : s.pollCur with
    | none => rw [hp] at hx; cases hx
    | some d => exact (open_of_poll h hp).sockOpen
  · exact open_of_model h (Or.inl hx)
  · exact open_of_model h (Or.inr (Or.inl hx))
  · exact (open_of_initialised h hx).1

/-- `CONNECTED` ⇒ initialised ⇔ live current poll ⇔ heartbeat running; the converse of the first implication needs
    the calling discipline -/
theorem initialised_facts_at4 (s : State) (h : Reach4 s) :
    (s.st = .CONNECTED → s.initialised = true) ∧ (s.initialised = true ↔ s.pollCur.isSome = true) ∧
    (s.initialised = true ↔ hbIdle s.hb = false) ∧ (s.initialised = true → s.initWaits = []) ∧
    (ReachD4 s → (s.initialised = true ↔ s.st = .CONNECTED)) := by
  have f := reach_sockFacts h
  refine ⟨f.connected_init, by rw [f.poll_iff], ?_, f.init_nowaits, fun hd => (reachD_discFacts hd).init_iff⟩
  rw [f.hb_iff]; cases s.initialised <;> simp

/-- … and is false without it: `init, conn 1, ⟨six answers⟩, init` -/
theorem initialised_not_connected_at4 :
    ∃ s, Reach4 s ∧ s.initialised = true ∧ s.pollCur.isSome = true ∧ s.acDict ≠ [] ∧ s.st = .CONNECTING :=
  ⟨_, poll_without_connected.1, poll_without_connected.2.2.2.1, by rw [poll_without_connected.2.2.1]; rfl,
    poll_without_connected.2.2.2.2.2.1, poll_without_connected.2.1⟩

/-- under the discipline there is no zone and no air-conditioner before the names answer has been processed: a
    non-empty dictionary means state `INIT_AC_ABILITY` or later (`initialised_not_connected_at4`: not so without the
    discipline) -/
theorem model_empty_before_names_at4 (s : State) (h : ReachD4 s) (hst : stage s.st ≤ 3) :
    s.zoneDict = [] ∧ s.acDict = [] ∧ s.zoneObjs = [] ∧ s.acObjs = [] := by
  have ⟨e1, e2, e3, e4⟩ := modelView_empty_iff.mp (reachD_earlyEmpty h hst)
  exact ⟨e2, e1, e4, e3⟩

/-! ### non-vacuity -/

namespace At4

def demoAnswersA : Answers :=
  { version := { update_available := false, versions := [[49]] }, names := [(0, [97]), (1, [98])],
    abilities := [demoAbility], acStatus := [demoAcStatus], timers := [demoTimer], groups := [demoGroup] }

/-- the noise of `demoSteps`, and more after `CONNECTED` -/
def demoNoise : Noise :=
  { n₁ := [.recv (.acStatus (.status [demoAcStatus])), .msg 0x99 [1, 2], .conn false]
    n₂ := [.recv demoVersionMsg]
    n₃ := [.recv (.extended (.consoleVer .request))]
    n₄ := []
    n₅ := [.recv (.extended (.errInfo (.message { ac_number := 0, error_info := some [69] })))]
    n₆ := [.recv demoAcStatusMsg]
    n₇ := [.recv demoAcStatusMsg, .recv demoGroupMsg, .conn false, .recv demoNamesMsg] }

theorem demo_consistent : Consistent demoAnswersA.names demoAnswersA.abilities := by
  unfold Consistent; decide

theorem demoNoise_valid : demoNoise.Valid := by
  simp only [Noise.Valid, demoNoise, Junk]
  decide

example : demoNoise.lostConn = true := by decide

example : describedModel demoAnswersA.names demoAnswersA.abilities = [(0, [65, 67], [(0, [97]), (1, [98])])] := by
  decide

example : exposedModel (run State.initial (handshakeOps demoAnswersA demoNoise)).1 =
    [(0, [65, 67], [(0, [97]), (1, [98])])] := by
  rw [(handshake_end_to_end_at4 demoAnswersA demoNoise demo_consistent demoNoise_valid).2.2.2.2.2.2]; decide

example : hsSends (run State.initial (handshakeOps demoAnswersA Noise.none)).2 = handshakeRequests ++ [hbMessage] :=
  (handshake_clean_at4 demoAnswersA demo_consistent).2.2.2.1

/-- two air-conditioners: a bitmap `{1, 8}` (CPython iterates it as `8, 1`) and a `start_group` / `group_count` range -/
def twoAcs : List FF11.AcAbility :=
  [{ demoAbility with ac_number := 0, groups := some [1, 8] },
   { demoAbility with ac_number := 1, ac_name := [66], groups := none, start_group := 2, group_count := 2 }]

def nineNames : List (Nat × Bytes) := [(1, [97]), (2, [98]), (3, [99]), (8, [100])]

example : Consistent nineNames twoAcs := by unfold Consistent; decide

example : SyntacticallyConsistent nineNames twoAcs := by
  unfold SyntacticallyConsistent; decide

example : describedModel nineNames twoAcs =
    [(0, [65, 67], [(8, [100]), (1, [97])]), (1, [66], [(2, [98]), (3, [99])])] := by decide

/-- the single-AC fallback: every named group, in names-message order -/
example : describedModel nineNames [{ demoAbility with groups := none }] =
    [(0, [65, 67], [(1, [97]), (2, [98]), (3, [99]), (8, [100])])] := by decide

/-- not consistent: a group without a name (`ability_keyerror_at4` says what happens then) -/
example : ¬ Consistent nineNames [{ demoAbility with groups := some [0, 1] }] := by unfold Consistent; decide

example : Reach4 demo ∧ ReachD4 demo := ⟨demo_reachD.reach, demo_reachD⟩

example : demo.sockOpen = true := socket_open_at4 demo demo_reachD.reach (Or.inl (by decide))

example : demo.initialised = true ∧ demo.initWaits = [] :=
  ⟨(initialised_facts_at4 demo demo_reachD.reach).1 demo_connected,
   (initialised_facts_at4 demo demo_reachD.reach).2.2.2.1 ((initialised_facts_at4 demo demo_reachD.reach).1 demo_connected)⟩

example : ReachD4 afterConn ∧ stage afterConn.st ≤ 3 := ⟨⟨[.init, .conn true], by decide, rfl⟩, by decide⟩

end At4

end PyAirtouch.Props.C09
