import PyAirtouch.Lemmas.Api4Notify
import PyAirtouch.Lemmas.Api4Raises
import PyAirtouch.Lemmas.Api4Demo
/-!
# C12 (AirTouch 4): subscriber notifications

`Ev.notifyAc id general sid` is the call of the subscriber `sid` of an air-conditioner (registered with `subscribe`
when `general`, with `subscribe_ac_state` otherwise) with the AC id; `Ev.notifyZone`, `Ev.notifyAt` likewise.
-/
namespace PyAirtouch.Props.C12
open PyAirtouch.Model PyAirtouch.Model.Api4 PyAirtouch.Model.At4 PyAirtouch.Lemmas.Api4 PyAirtouch.Gen
open PyAirtouch.Model.TimerCommon (AcTimerState AcTimerStatusData)

/-! ### notified with the right id exactly when the stored record changed -/

/-- An AC-status message with one record for a known air-conditioner, in state `CONNECTED`: nothing at all
    happens when the record equals the stored one; otherwise every general and every AC-state subscriber of
    that air-conditioner is called once with the AC's id, and nobody else is. -/
theorem ac_status_notifies_iff_changed_at4 (s : State) (hst : s.st = .CONNECTED) (hsub : s.subscribed = true)
    (r : X2D.AcStatusData) (a : AcObj) (hf : s.findAc r.ac_number = some a) :
    (a.status = r → (apiStep s (.recv (.acStatus (.status [r])))).2 = []) ∧
    (a.status ≠ r → (apiStep s (.recv (.acStatus (.status [r])))).2.filter Ev.isNotify =
      (a.subs.map fun sb => Ev.notifyAc r.ac_number true sb.sid) ++
      (a.stateSubs.map fun sb => Ev.notifyAc r.ac_number false sb.sid)) := by
  have e : (apiStep s (.recv (.acStatus (.status [r])))).2 = (acStatusK.update s r).2 :=
    (recv_connected_events hst hsub _).trans (by rw [absorb_acStatus hst, foldEv_single])
  rw [e]
  refine ⟨fun he => by rw [acStatusK.update_same hf he], fun hne => ?_⟩
  rw [acStatusK.update_changed hf hne]
  show ((if r.error_code ≠ 0 then [Ev.send .connected (errInfoRequest r.ac_number)] else []) ++
    ((a.subs.map fun sb => Ev.notifyAc r.ac_number true sb.sid) ++
     (a.stateSubs.map fun sb => Ev.notifyAc r.ac_number false sb.sid))).filter Ev.isNotify = _
  have h1 : ∀ (l : List Sub) (g : Bool), (l.map fun sb => Ev.notifyAc r.ac_number g sb.sid).filter Ev.isNotify =
      l.map fun sb => Ev.notifyAc r.ac_number g sb.sid :=
    fun l g => List.filter_eq_self.mpr fun e he => by obtain ⟨_, _, rfl⟩ := List.mem_map.mp he; rfl
  rw [List.filter_append, List.filter_append, h1, h1]
  split <;> rfl

/-- the same for one timer record -/
theorem ac_timer_notifies_iff_changed_at4 (s : State) (hst : s.st = .CONNECTED) (hsub : s.subscribed = true)
    (r : AcTimerStatusData) (a : AcObj) (hf : s.findAc r.ac_number = some a) :
    (a.timer = r → (apiStep s (.recv (.acTimerStatus (.status [r])))).2 = []) ∧
    (a.timer ≠ r → (apiStep s (.recv (.acTimerStatus (.status [r])))).2 =
      (a.subs.map fun sb => Ev.notifyAc a.status.ac_number true sb.sid) ++
      (a.stateSubs.map fun sb => Ev.notifyAc a.status.ac_number false sb.sid)) := by
  have e : (apiStep s (.recv (.acTimerStatus (.status [r])))).2 = (acTimerK.update s r).2 :=
    (recv_connected_events hst hsub _).trans (by rw [absorb_acTimer hst, foldEv_single])
  rw [e, acTimerK.events_of_find hf]
  exact ⟨fun he => if_pos he, fun hne => if_neg hne⟩

/-- an error-information message (any state): silent when the text is the stored one, otherwise all
    subscribers of that air-conditioner -/
theorem error_info_notifies_iff_changed_at4 (s : State) (hsub : s.subscribed = true)
    (e : FF10.AcErrorInformationMessage) (a : AcObj) (hf : s.findAc e.ac_number = some a) :
    (a.errInfo = e.error_info → (apiStep s (.recv (.extended (.errInfo (.message e))))).2 = []) ∧
    (a.errInfo ≠ e.error_info → (apiStep s (.recv (.extended (.errInfo (.message e))))).2 =
      (a.subs.map fun sb => Ev.notifyAc a.status.ac_number true sb.sid) ++
      (a.stateSubs.map fun sb => Ev.notifyAc a.status.ac_number false sb.sid)) := by
  have e : (apiStep s (.recv (.extended (.errInfo (.message e))))).2 = (errInfoK.update s e).2 :=
    congrArg Prod.snd (recv_errInfo hsub e)
  rw [e, errInfoK.events_of_find hf]
  exact ⟨fun he => if_pos he, fun hne => if_neg hne⟩

/-- a console-version message in state `CONNECTED`: the AirTouch subscribers are called iff it differs -/
theorem version_notifies_iff_changed_at4 (s : State) (hst : s.st = .CONNECTED) (hsub : s.subscribed = true)
    (v : FF30.ConsoleVersionMessage) :
    (apiStep s (.recv (.extended (.consoleVer (.message v))))).2 =
      if s.version = v then [] else s.subs.map fun sb => Ev.notifyAt sb.sid := by
  show (recv s _).2 = _
  rw [recv_connected_events hst hsub]
  simp only [absorb, hst, ↓reduceIte, updateVersion]
  split <;> rfl

/-! ### zone changes: zone subscribers and the owning air-conditioners' general subscribers only -/

/-- A group-status message with one record for a known zone, in state `CONNECTED`: silent when unchanged;
    otherwise the zone's subscribers are called with the zone id and, for every air-conditioner object built
    with this zone, its *general* subscribers with the AC id - never an AC-state-only subscriber. -/
theorem zone_change_notifies_at4 (s : State) (hst : s.st = .CONNECTED) (hsub : s.subscribed = true)
    (g : X2B.GroupStatusData) (z : ZoneObj) (hf : s.zoneOf g.group_number = some z) :
    (z.status = g → (apiStep s (.recv (.groupStatus (.status [g])))).2 = []) ∧
    (z.status ≠ g → (apiStep s (.recv (.groupStatus (.status [g])))).2 =
      (z.subs.map fun sb => Ev.notifyZone g.group_number sb.sid) ++
      (acsOfZoneKey s g.group_number).flatMap fun a => a.subs.map fun sb => Ev.notifyAc a.status.ac_number true sb.sid) := by
  have e : (apiStep s (.recv (.groupStatus (.status [g])))).2 = (groupK.update (rearmPolls s) g).2 :=
    (recv_connected_events hst hsub _).trans (by rw [absorb_groupStatus hst, foldEv_single])
  rw [e, groupK.events_of_find (s := rearmPolls s) hf]
  exact ⟨fun he => if_pos he, fun hne => if_neg hne⟩

/-- no state-only subscriber is ever called because of a group status -/
theorem zone_change_not_to_state_subscribers_at4 (s : State) (g : X2B.GroupStatusData) (i : Nat) (sid : String) :
    Ev.notifyAc i false sid ∉ (updateGroupStatus s g).2 := by
  unfold updateGroupStatus
  split
  · simp
  · split
    · simp
    · intro h
      simp only [List.mem_append, List.mem_map, List.mem_flatMap, notifyAcGeneral, reduceCtorEq, and_false,
        exists_false, false_or] at h
      obtain ⟨a, _, sb, _, he⟩ := h
      cases he

/-- the owning air-conditioner's general subscribers are reached -/
theorem zone_change_reaches_owner_at4 (s : State) (g : X2B.GroupStatusData) (z : ZoneObj) (zi : Nat)
    (hl : s.zoneDict.lookup g.group_number = some zi) (hz : s.zoneObjs[zi]? = some z) (hne : z.status ≠ g)
    (a : AcObj) (ha : a ∈ s.acObjs) (hown : zi ∈ a.zones) (sb : Sub) (hsb : sb ∈ a.subs) :
    Ev.notifyAc a.status.ac_number true sb.sid ∈ (updateGroupStatus s g).2 := by
  have hf : s.zoneOf g.group_number = some z := by simp [State.zoneOf, hl, hz]
  simp only [updateGroupStatus, hf, hne, ↓reduceIte, List.mem_append, List.mem_flatMap]
  refine Or.inr ⟨a, ?_, ?_⟩
  · simp only [acsOfZoneKey, hl, acsOfZone, List.mem_filter]
    exact ⟨ha, by simpa using hown⟩
  · exact List.mem_map.mpr ⟨sb, hsb, rfl⟩

/-! ### an identical repeat is silent -/

/-- delivering the same AC-status message (distinct AC numbers) twice: the second delivery produces no output -/
theorem repeated_ac_status_silent_at4 (s : State) (hinv : Inv s) (hst : s.st = .CONNECTED) (hsub : s.subscribed = true)
    (l : List X2D.AcStatusData) (hnd : (l.map (·.ac_number)).Nodup) :
    (apiStep (apiStep s (.recv (.acStatus (.status l)))).1 (.recv (.acStatus (.status l)))).2 = [] := by
  obtain ⟨ht, e⟩ := recv_twice_connected hst hsub (.acStatus (.status l))
  show (recv (recv s _).1 _).2 = []
  rw [e, absorb_acStatus ht, absorb_acStatus hst, acStatusK.fold_twice hinv l hnd _ (fun k => findAc_hbOnMessage _ _ k)]

theorem repeated_ac_timer_silent_at4 (s : State) (hinv : Inv s) (hst : s.st = .CONNECTED) (hsub : s.subscribed = true)
    (l : List AcTimerStatusData) (hnd : (l.map (·.ac_number)).Nodup) :
    (apiStep (apiStep s (.recv (.acTimerStatus (.status l)))).1 (.recv (.acTimerStatus (.status l)))).2 = [] := by
  obtain ⟨ht, e⟩ := recv_twice_connected hst hsub (.acTimerStatus (.status l))
  show (recv (recv s _).1 _).2 = []
  rw [e, absorb_acTimer ht, absorb_acTimer hst, acTimerK.fold_twice hinv l hnd _ (fun k => findAc_hbOnMessage _ _ k)]

/-- a group-status refresh with unchanged data (distinct group numbers) produces no output (no `NOTIFY`) -/
theorem repeated_group_status_silent_at4 (s : State) (hinv : Inv s) (hst : s.st = .CONNECTED)
    (hsub : s.subscribed = true) (l : List X2B.GroupStatusData) (hnd : (l.map (·.group_number)).Nodup) :
    (apiStep (apiStep s (.recv (.groupStatus (.status l)))).1 (.recv (.groupStatus (.status l)))).2 = [] := by
  obtain ⟨ht, e⟩ := recv_twice_connected hst hsub (.groupStatus (.status l))
  show (recv (recv s _).1 _).2 = []
  rw [e, absorb_groupStatus ht, absorb_groupStatus hst,
    groupK.fold_twice (s := rearmPolls s) ⟨hinv.acKey, hinv.zoneKey⟩ l hnd (rearmPolls _)
      (fun k => zoneOf_hbOnMessage _ _ k)]

/-! ### subscribing twice = once; unsubscribe stops -/

/-- subscribing the same subscriber of the AirTouch object twice is subscribing it once -/
theorem subscribe_twice_at_at4 (s : State) (sid : String) (r r' : Bool) :
    (apiStep (apiStep s (.sub .airtouch sid r)).1 (.sub .airtouch sid r')).1 = (apiStep s (.sub .airtouch sid r)).1 := by
  simp only [apiStep, subUnsub, subAdd_twice]

/-- the same for an air-conditioner's general / AC-state subscriber sets -/
theorem subscribe_twice_ac_at4 (s : State) (hinv : Inv s) (i : Nat) (general : Bool) (sid : String) (r r' : Bool) :
    (apiStep (apiStep s (.sub (.ac i general) sid r)).1 (.sub (.ac i general) sid r')).1 =
      (apiStep s (.sub (.ac i general) sid r)).1 := by
  simp only [apiStep, subUnsub]
  cases hf : s.findAc i with
  | none => simp [hf]
  | some a =>
    simp only [findAc_setAc hinv, hf, ↓reduceIte, Option.map_some]
    cases hl : s.acDict.lookup i with
    | none => simp [State.findAc, hl] at hf
    | some idx =>
      simp only [State.setAc, hl, List.set_set]
      cases general <;> simp [subAdd_twice]

/-- and for a zone -/
theorem subscribe_twice_zone_at4 (s : State) (i zi : Nat) (z : ZoneObj) (hf : s.findZone i = some zi)
    (hz : s.zoneObjs[zi]? = some z) (sid : String) (r r' : Bool) :
    (apiStep (apiStep s (.sub (.zone i) sid r)).1 (.sub (.zone i) sid r')).1 = (apiStep s (.sub (.zone i) sid r)).1 := by
  obtain ⟨hlt, _⟩ := List.getElem?_eq_some_iff.mp hz
  simp only [apiStep, subUnsub, hf, hz, findZone_set_subs s zi z hz]
  simp [hlt, subAdd_twice]

/-- after `unsubscribe` the AirTouch subscriber is not called any more -/
theorem unsubscribe_stops_at_at4 (s : State) (sid : String) (v : FF30.ConsoleVersionMessage) :
    Ev.notifyAt sid ∉ (updateVersion (apiStep s (.unsub .airtouch sid)).1 v).2 := by
  simp only [apiStep, subUnsub, updateVersion]
  by_cases hv : s.version = v
  · simp [hv]
  · simp only [hv, ↓reduceIte]
    intro h
    simp only [List.mem_map, Ev.notifyAt.injEq] at h
    obtain ⟨sb, hsb, he⟩ := h
    exact subRemove_not_mem _ _ sb hsb he

/-- after `unsubscribe` an air-conditioner's subscriber is not called by that air-conditioner object -/
theorem unsubscribe_stops_ac_at4 (s : State) (hinv : Inv s) (i : Nat) (general : Bool) (sid : String) (a : AcObj)
    (hf : (apiStep s (.unsub (.ac i general) sid)).1.findAc i = some a) (id' : Nat) :
    Ev.notifyAc id' general sid ∉ notifyAcAll a := by
  simp only [apiStep, subUnsub] at hf
  cases hf0 : s.findAc i with
  | none =>
    simp only [hf0] at hf
    cases hf
  | some a0 =>
    simp only [hf0, findAc_setAc hinv, ↓reduceIte, Option.map_some, Option.some.injEq] at hf
    subst hf
    intro h
    simp only [notifyAcAll, List.mem_append, List.mem_map, Ev.notifyAc.injEq] at h
    cases general with
    | true =>
      rcases h with ⟨sb, hsb, _, _, he⟩ | ⟨sb, hsb, _, hg, _⟩
      · exact subRemove_not_mem _ _ sb hsb he
      · cases hg
    | false =>
      rcases h with ⟨sb, hsb, _, hg, _⟩ | ⟨sb, hsb, _, _, he⟩
      · cases hg
      · exact subRemove_not_mem _ _ sb hsb he

/-- after `unsubscribe` a zone's subscriber is not in the zone object's subscriber set any more -/
theorem unsubscribe_stops_zone_at4 (s : State) (i zi : Nat) (z : ZoneObj) (hf : s.findZone i = some zi)
    (hz : s.zoneObjs[zi]? = some z) (sid : String) :
    ∃ z', (apiStep s (.unsub (.zone i) sid)).1.zoneObjs[zi]? = some z' ∧ z'.status = z.status ∧
      ∀ sb ∈ z'.subs, sb.sid ≠ sid := by
  obtain ⟨hlt, hget⟩ := List.getElem?_eq_some_iff.mp hz
  refine ⟨{ z with subs := subRemove z.subs sid }, ?_, rfl, subRemove_not_mem _ _⟩
  simp [apiStep, subUnsub, hf, hlt, hget]

/-! ### a raising subscriber changes nothing -/

/-- **a raising subscriber does not prevent the others, and later messages are processed normally**: run any
    script; run it again with every subscriber's "raises" flag erased (`er` on the state, `erOp` on the ops): the two
    runs produce the same outputs, step for step (in particular the same `NOTIFY` lines), and end in states that
    differ only in the erased flags -/
theorem raising_subscribers_irrelevant_at4 (s : State) (ops : List Op) :
    (run (er s) (ops.map erOp)).2 = (run s ops).2 ∧ (run (er s) (ops.map erOp)).1 = er (run s ops).1 := by
  rw [er_run]; exact ⟨rfl, rfl⟩

theorem raising_subscribers_irrelevant_step_at4 (s : State) (op : Op) :
    apiStep (er s) (erOp op) = (er (apiStep s op).1, (apiStep s op).2) := er_apiStep s op

/-! ### non-vacuity -/

example : Inv demoSub ∧ demoSub.st = .CONNECTED ∧ demoSub.subscribed = true :=
  ⟨Inv_run demo_inv _, by rw [demoSub_eq]; rfl, by rw [demoSub_eq]; rfl⟩

example : er demoSub ≠ demoSub ∧
    (run demoSub [.recv (.acStatus (.status [{ demoAcStatus with set_point := 25 }])), .adv 1, .view]).2 =
    (run (er demoSub) [.recv (.acStatus (.status [{ demoAcStatus with set_point := 25 }])), .adv 1, .view]).2 := by
  refine ⟨fun h => ?_, ?_⟩
  · have : ((er demoSub).findAc 0).map (·.stateSubs) = (demoSub.findAc 0).map (·.stateSubs) := by rw [h]
    rw [demoSub_eq] at this; revert this; decide
  · exact ((raising_subscribers_irrelevant_at4 demoSub _).1).symm

example : ∃ zi z, demoSub.findZone 1 = some zi ∧ demoSub.zoneObjs[zi]? = some z := by
  rw [demoSub_eq]; exact ⟨1, _, by decide, rfl⟩

example : (apiStep demoSub (.recv (.acStatus (.status [{ demoAcStatus with set_point := 25 }])))).2 =
    [Ev.notifyAc 0 true "g", Ev.notifyAc 0 false "t"] := by rw [demoSub_eq]; decide
example : (apiStep demoSub (.recv (.acStatus (.status [demoAcStatus])))).2 = [] := by rw [demoSub_eq]; decide
example : (apiStep demoSub (.recv (.groupStatus (.status [{ demoGroup with damper_percentage := 10 }])))).2 =
    [Ev.notifyZone 1 "z", Ev.notifyAc 0 true "g"] := by rw [demoSub_eq]; decide
example : (apiStep demoSub (.recv (.extended (.consoleVer (.message { update_available := true, versions := [] }))))).2 =
    [Ev.notifyAt "a"] := by rw [demoSub_eq]; decide
example : (apiStep (apiStep demoSub (.unsub (.zone 1) "z")).1 (.recv (.groupStatus (.status [{ demoGroup with damper_percentage := 10 }])))).2 =
    [Ev.notifyAc 0 true "g"] := by rw [demoSub_eq]; decide
example : (apiStep (apiStep demoSub (.sub (.ac 0 true) "g" true)).1 (.recv (.acTimerStatus (.status [{ demoTimer with ac_number := 0, on_timer := ⟨true, 0, 0⟩ }])))).2 =
    [Ev.notifyAc 0 true "g", Ev.notifyAc 0 false "t"] := by rw [demoSub_eq]; decide

end PyAirtouch.Props.C12
