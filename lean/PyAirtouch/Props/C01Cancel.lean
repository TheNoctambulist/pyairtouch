import PyAirtouch.Lemmas.SockXFair
import PyAirtouch.Lemmas.SockLoss
import PyAirtouch.Lemmas.SockXIdle
/-!
# C01 / C16 with cancelled callers

Model: `PyAirtouch.Model.Sock` extended by `Model/SockX.lean` with the label `cancel t` — the API caller `t` (a task
that called `send()`, `reset_connection()`, `close()`; `bg = false`) is cancelled while suspended inside the socket, at
`await writer.drain()` (`.drainAwait`), at the shielded `wait_closed()` (`.discWait`) or inside the subscriber
notification (`.notifyWait`); nothing more of its coroutine runs and no field of the socket changes.  All statements
quantify over `ReachableWFX` / `ReachableX` states: every history, every schedule, every environment behaviour and any
number of cancellations.  Proofs: `Lemmas/SockXInv.lean`, `Lemmas/SockLoss.lean`, `Lemmas/SockXIdle.lean`.

**Safety is untouched.**  `wireOnlySubmitted`, `onceInOrderWithoutFault` (which has no liveness half: it only says "at most
once each, in acceptance order, in histories without loss / reset / failed write"), `dropsJustified`, the accounting
invariant (with the alternative "accepted before the socket was closed and opened again", which the
base system needs as well, see `C01X_accounted_strong`) and the queue bound hold for the extended system as they
do for the base system.  A frame is handed to the transport *before* the
`await drain()` at which the caller can be cancelled, so the cancelled caller's message has its `wire` event (it was
written, once); what is cancelled is only the rest of that task's drain loop and, for a task that was in the middle of
`reset_connection()`, the rest of the reset.  The entry the cancelled caller was holding is not put back
(`C01X_cancelled_entry_gone`) and is never attempted again (`C01X_cancelled_never_requeued`): in particular it loses
the retry it would have had if its `drain()` had failed (`C01X_cancel_forfeits_retry`).

**What cancellation costs is liveness of the connection, not of the queue discipline**: the healing clause of C07
(`C07_never_wedges`: from every reachable open state a benign continuation heals) is FALSE for the extended system -
`C07X_wedge_with_cancelled_reset` is a proved counterexample (a cancelled `reset_connection()` whose reader has already
left because "another task is resetting"), next to the same history without the cancellation, which heals.

**The idle clause survives, in a stronger form** (`Lemmas/SockXIdle.lean`): while connected on an open transport, a
non-empty queue always has a drainer that no cancellation can remove - a background task or a `close()` in progress
(`C01X_pending_has_uncancellable_drainer`); `C01_nothing_pending_when_idle_connected` holds verbatim for the extended
system (`C01X_nothing_pending_when_idle_connected`).  So cancelling callers of `send()` never strands the messages of
other callers on a healthy connection.
-/
namespace PyAirtouch.Props.C01X
open PyAirtouch.Model.Sock PyAirtouch.Spec.Trace PyAirtouch.Lemmas.Sock PyAirtouch.Lemmas.SockX
open PyAirtouch.Lemmas.SockOrder (noLoss)
open PyAirtouch.Lemmas.SockHeal (Healed BReach stuck_never_heals healed_of_healedB)
open PyAirtouch.Lemmas.SockConn (closing)
open PyAirtouch.Lemmas.SockIdle (curLive promising not_promising_iff)
open PyAirtouch.Lemmas.SockXIdle (idle_invariantX durable)
open PyAirtouch.Lemmas.SockLoss (reopenedSince)

/-! ### the extension is conservative and a cancellation touches nothing of the socket -/

/-- every state of the base model is a state of the extended one -/
theorem C01X_extends_base {s : Sys} : ReachableWF s → ReachableWFX s := reachableWFX_of_reachableWF

/-- a cancellation changes no field of the socket: clock, flags, current transport, queue, transports, trace -/
theorem C01X_cancel_changes_no_core {s s' : Sys} {t : Nat} : stepX s (.cancel t) = some s' → s'.core = s.core :=
  stepX_cancel_core

/-- … and in the task table only the cancelled task changes: it is retired -/
theorem C01X_cancel_retires_only_caller {s s' : Sys} {t : Nat} (h : stepX s (.cancel t) = some s') :
    ∃ k, s.tasks[t]? = some k ∧ k.bg = false ∧ cancellable k.pc = true ∧
      s'.tasks = s.tasks.modify t (fun k => { k with pc := .finished }) := by
  obtain ⟨k, h1, h2, h3, rfl⟩ := stepX_cancel h
  exact ⟨k, h1, h2, h3, rfl⟩

/-! ### C01: what reaches the wire -/

/-- nothing is ever written that was not accepted -/
theorem C01X_wire_only_submitted {s : Sys} : ReachableWFX s → wireOnlySubmitted s.core.trace = true :=
  fun h => let ⟨_, hinv⟩ := ainv_of_reachableWFX h; hinv.wireOnlySubmitted

/-- In a history with no connection loss, no dead write, no write fault, no explicit reset and no transport closed by
    the client itself, every message - the cancelled callers' included - is written at most once and the written ones
    appear in acceptance order. -/
theorem C01X_once_in_order_without_loss {s : Sys} :
    ReachableWFX s → noLoss s.core.trace = true →
      ((acceptedSids s.core.trace).all (fun x => wireCount s.core.trace x ≤ 1) &&
        isSubseq (wiredSids s.core.trace) (acceptedSids s.core.trace)) = true := by
  intro h hn
  obtain ⟨h1, h2⟩ := once_in_orderX h hn
  simp only [Bool.and_eq_true, List.all_eq_true, decide_eq_true_eq]
  exact ⟨fun x _ => h1 x, Lemmas.SockOrder.isSubseq_of_sublist _ _ h2⟩

/-- The Spec monitor itself, unchanged, for every schedule, every environment behaviour and any number of
    cancellations: no accepted message is written twice, and the written ones appear in acceptance order, unless a
    connection loss / reset / close / failed write lies in the history. -/
theorem C01X_once_in_order_without_fault {s : Sys} :
    ReachableWFX s → onceInOrderWithoutFault s.core.trace = true :=
  fun h => Lemmas.SockOrder.onceInOrderWithoutFault_of (once_in_orderX h)

/-- every accepted message is attempted at most `1 + retries` times (the bound behind "written twice only with a failed
    write in between": `writeAttempts` counts `wire`, `deadWrite` and `writeFault`) -/
theorem C01X_attempts_bounded {s : Sys} (h : ReachableWFX s) {sid t e r : Nat} {ok : Bool}
    (hmem : Ev.accept sid t e r ok ∈ s.core.trace) : writeAttempts s.core.trace sid ≤ 1 + r := by
  obtain ⟨u, hinv⟩ := ainv_of_reachableWFX h
  exact hinv.bounded sid t e r ok (hinv.accepts sid t e r ok hmem)

/-! ### C01: no accepted message disappears without cause -/

/-- every `qdrop` states its true reason -/
theorem C01X_drops_justified {s : Sys} (h : ReachableWFX s) : dropsJustified s.core.trace = true :=
  (tinv_reachableWFX h).drops_justified

/-- an entry held in flight by a task suspended in `drain()` has a write attempt in the trace: when its caller is
    cancelled there, the message has already been handed to a transport -/
theorem C01X_in_flight_attempted {s : Sys} (h : ReachableWFX s) {k : Task} (hk : k ∈ s.tasks) {w : Nat} {x : Entry}
    {r : Ret} (hpc : k.pc = .drainAwait w x r) : 1 ≤ writeAttempts s.core.trace x.sid :=
  (tinv_reachableWFX h).in_flight_attempted hk hpc

/-- accounting, strong form, with cancellations: every accepted message is still queued, or the trace has a write
    attempt or a drop for it, or the socket was closed and opened again after its acceptance (`reopenedSince`: the trace
    reads `… accept sid … apiClose … apiOpen …`).

    `open_socket()` on a socket that is not open clears the send queue and logs nothing, so a message
    of the earlier session that was still queued disappears without a write attempt and without a `qdrop`; without the
    last alternative the statement is false (`Props.C01.C01_reopen_discards_silently`; the same history is a history of
    the extended system, `C01X_extends_base`).  `C01X_accounted_current_session` is the three-way statement for the
    messages it is true of. -/
theorem C01X_accounted_strong {s : Sys} (h : ReachableWFX s) {sid t e r : Nat} {ok : Bool}
    (hmem : Ev.accept sid t e r ok ∈ s.core.trace) :
    (∃ x ∈ s.core.queue, x.sid = sid) ∨ 1 ≤ writeAttempts s.core.trace sid ∨ dropped s.core.trace sid = true ∨
      reopenedSince s.core.trace sid = true :=
  (tinv_reachableWFX h).acct sid t e r ok hmem

/-- the three-way statement, for messages accepted in the session that is running (or in the last one, if the socket
    has not been opened again) -/
theorem C01X_accounted_current_session {s : Sys} (h : ReachableWFX s) {sid t e r : Nat} {ok : Bool}
    (hmem : Ev.accept sid t e r ok ∈ s.core.trace) (hcur : reopenedSince s.core.trace sid = false) :
    (∃ x ∈ s.core.queue, x.sid = sid) ∨ 1 ≤ writeAttempts s.core.trace sid ∨ dropped s.core.trace sid = true :=
  (tinv_reachableWFX h).accounted_current_session hmem hcur

/-- … in particular in every history without `close()` -/
theorem C01X_accounted_no_close {s : Sys} (h : ReachableWFX s) {sid t e r : Nat} {ok : Bool}
    (hmem : Ev.accept sid t e r ok ∈ s.core.trace) (hnc : hasClose s.core.trace = false) :
    (∃ x ∈ s.core.queue, x.sid = sid) ∨ 1 ≤ writeAttempts s.core.trace sid ∨ dropped s.core.trace sid = true :=
  (tinv_reachableWFX h).accounted_no_close hmem hnc

/-- the witness, as a history of the extended system, with a cancellation in it: `send(1)` blocks in `drain()` on a
    transport that stopped accepting data, the peer resets the connection, `send(2)` is accepted and stays queued (the
    connection is going down); the caller of `send(1)` is cancelled; `close()`; `open_socket()`: message 2 is gone without
    a write attempt or a drop -/
example : ∃ s, ReachableWFX s ∧ acceptedSids s.core.trace = [1, 2] ∧ s.core.queue = [] ∧
    writeAttempts s.core.trace 2 = 0 ∧ dropped s.core.trace 2 = false ∧ reopenedSince s.core.trace 2 = true ∧
    (∀ k ∈ s.tasks, k.pc = .finished ∨ k.pc = .connStart) :=
  ⟨_, ⟨[.base .apiOpen, .base (.run 1 .go), .base (.run 1 .openOk), .base (.run 1 .go), .base (.run 2 .go),
        .base (.envPause 0 true), .base (.apiSend 1 2 240 true), .base (.envLost 0), .base (.apiSend 2 2 240 true), .cancel 3,
        .base .apiClose, .base (.run 5 .go), .base (.envLostRan 0), .base (.run 5 .go), .base (.run 5 .go),
        .base .apiOpen], by decide, rfl⟩,
    by decide, by decide, by decide, by decide, by decide, by decide⟩

/-- the monitor `noSilentLoss` on the extended model's own trace (no harness marker `heal`, so only its `dropsJustified`
    half says anything) -/
theorem C01X_no_silent_loss_unmarked {s : Sys} (h : ReachableWFX s) : noSilentLoss s.core.trace = true :=
  (tinv_reachableWFX h).noSilentLoss_unmarked

/-! ### C16: the queue stays bounded -/

/-- entries that were never put back by the retry path never exceed the capacity -/
theorem C16X_fresh_bound {s : Sys} :
    ReachableX s → (s.core.queue.filter (fun e => !e.requeued)).length ≤ CAP :=
  fresh_bound_of_reachableX

/-- as long as nothing has been re-queued the queue holds at most ten messages -/
theorem C16X_bound {s : Sys} :
    ReachableX s → (∀ e ∈ s.core.queue, e.requeued = false) → s.core.queue.length ≤ 10 := by
  intro h hq
  have := C16X_fresh_bound h
  rwa [List.filter_eq_self.2 (fun e he => by simp [hq e he])] at this

/-! ### the cancelled caller's entry -/

/-- right after the cancellation of a caller suspended in `drain()` while holding entry `e`: no entry with `e`'s identity
    is in the queue and none is held by any task - the popped entry is not put back -/
theorem C01X_cancelled_entry_gone {s s' : Sys} {t w : Nat} {e : Entry} {r : Ret} (h : ReachableWFX s)
    (hpc : pcAt s t = some (.drainAwait w e r)) (hc : stepX s (.cancel t) = some s') :
    (∀ x ∈ s'.core.queue, x.sid ≠ e.sid) ∧
    (∀ k ∈ s'.tasks, ∀ w' x r', k.pc = .drainAwait w' x r' → x.sid ≠ e.sid) := by
  obtain ⟨ls, hn, hr⟩ := h
  obtain ⟨_, hq, hf⟩ := gone_after_cancel hn hr hpc hc
  exact ⟨hq, fun k hk w' x r' hp => hf x (mem_flOf_iff.2 ⟨k, hk, w', r', hp⟩)⟩

/-- … and for ever after: along every continuation `post` (any labels, further cancellations included) of a history in
    which the caller holding `e` in `drain()` was cancelled, `e`'s identity never re-enters the queue, is never held by a
    task again, and is never attempted again - neither a `wire` nor a `deadWrite` / `writeFault` is added for it -/
theorem C01X_cancelled_never_requeued {pre post : List LabelX} {t w : Nat} {e : Entry} {r : Ret} {m s : Sys}
    (hwf : (sendSidsX (pre ++ .cancel t :: post)).Nodup) (hm : runX init pre = some m)
    (hpc : pcAt m t = some (.drainAwait w e r)) (hs : runX m (.cancel t :: post) = some s) :
    (∀ x ∈ s.core.queue, x.sid ≠ e.sid) ∧
    (∀ k ∈ s.tasks, ∀ w' x r', k.pc = .drainAwait w' x r' → x.sid ≠ e.sid) ∧
    writeAttempts s.core.trace e.sid = writeAttempts m.core.trace e.sid ∧
    wireCount s.core.trace e.sid = wireCount m.core.trace e.sid := by
  simp only [runX] at hs
  cases hc : stepX m (.cancel t) with
  | none => rw [hc] at hs; cases hs
  | some m' =>
    rw [hc] at hs
    simp only [Option.bind_some] at hs
    have hsplit : sendSidsX (pre ++ .cancel t :: post) = sendSidsX pre ++ sendSidsX post := by
      rw [sendSidsX_append]; rfl
    rw [hsplit] at hwf
    have hn0 : (sendSidsX pre).Nodup := (List.nodup_append.1 hwf).1
    have hg := gone_after_cancel hn0 hm hpc hc
    obtain ⟨⟨_, hq, hf⟩, hw, hc'⟩ := runX_gone hwf hg hs
    rw [stepX_cancel_core hc] at hw hc'
    exact ⟨hq, fun k hk w' x r' hp => hf x (mem_flOf_iff.2 ⟨k, hk, w', r', hp⟩), hw, hc'⟩

/-! ### nothing stays queued on an idle connection -/

/-- While the socket is connected and its current transport is still open, a non-empty queue has a drainer that cannot be
    cancelled away: a *background* task suspended in `drain()` / between `opened` and its first drain / waiting for the
    current transport to close, or a `close()` waiting for the background tasks (`.closeGather`, not a cancellation
    point).  API callers suspended in `drain()` may all be cancelled: the queue is still going to be drained. -/
theorem C01X_pending_has_uncancellable_drainer {s : Sys} (hr : ReachableX s)
    (hconn : s.core.isConnected = true) (hlive : curLive s.core = true) (hq : s.core.queue ≠ []) :
    ∃ k ∈ s.tasks, promising s.core.rw k.pc = true ∧ (k.bg = true ∨ k.pc = .closeGather) := by
  obtain ⟨k, hk, hp, hd⟩ := (idle_invariantX hr).busy ⟨hconn, hq, hlive⟩
  exact ⟨k, hk, hp, by simpa [durable] using hd⟩

/-- `C01_nothing_pending_when_idle_connected`, verbatim, for the extended system -/
theorem C01X_nothing_pending_when_idle_connected {s : Sys} (hr : ReachableX s)
    (hconn : s.core.isConnected = true) (hlive : curLive s.core = true)
    (hdrain : ∀ k ∈ s.tasks, ∀ w e r, k.pc ≠ .drainAwait w e r)
    (hfirst : ∀ k ∈ s.tasks, k.pc ≠ .notifyWait .connAfterNotify)
    (hclose : ∀ k ∈ s.tasks, k.pc ≠ .closeGather)
    (hdisc : ∀ k ∈ s.tasks, ∀ w r, k.pc = .discWait w r → s.core.rw ≠ some w) :
    s.core.queue = [] := by
  cases hq : s.core.queue with
  | nil => rfl
  | cons e rest =>
    obtain ⟨k, hk, hp, _⟩ := C01X_pending_has_uncancellable_drainer hr hconn hlive (by simp [hq])
    have := (not_promising_iff s.core.rw k.pc).2 ⟨hdrain k hk, hfirst k hk, hclose k hk, hdisc k hk⟩
    rw [hp] at this; cases this

/-- two messages queued while the link is down; connected, the transport stops accepting data before the connect task has
    drained; `send(3)` (task 4) writes message 1 and blocks in `drain()` with messages 2 and 3 still queued; its caller is
    cancelled.  The queue is not stranded: the connect task (task 1, background) is still going to drain it - and does. -/
example : ∃ s, ReachableX s ∧ s.core.isConnected = true ∧ curLive s.core = true ∧ s.core.queue.map (·.sid) = [2, 3] ∧
    pcAt s 4 = some .finished ∧
    (s.tasks.filter (fun k => promising s.core.rw k.pc)).map (fun k => (k.pc, k.bg)) = [(.notifyWait .connAfterNotify, true)] ∧
    ∃ s', runX s [.base (.envPause 0 false), .base (.run 1 .go)] = some s' ∧ s'.core.queue = [] ∧
      wiredSids s'.core.trace = [1, 2, 3] :=
  ⟨_, ⟨[.base .apiOpen, .base (.apiSend 1 2 240 true), .base (.apiSend 2 2 240 true), .base (.run 1 .go),
        .base (.run 1 .openOk), .base (.envPause 0 true), .base (.apiSend 3 2 240 true), .cancel 4], rfl⟩,
    by decide, by decide, by decide, by decide, by decide, _, rfl, by decide, by decide⟩

/-! ### non-vacuity and witnesses -/

/-- blocked flush: connected, the transport stops accepting data, `send(1)` writes its frame and blocks in `drain()`, its
    caller is cancelled; the transport recovers and `send(2)` is written -/
def cancelRun : List LabelX :=
  [.base .apiOpen, .base (.run 1 .go), .base (.run 1 .openOk), .base (.run 1 .go), .base (.run 2 .go),
   .base (.envPause 0 true), .base (.apiSend 1 2 240 true), .cancel 3,
   .base (.envPause 0 false), .base (.apiSend 2 2 240 true)]

/-- a reachable extended run with a cancellation at `.drainAwait`: the cancelled caller's message 1 was written once
    (before the cancellation), message 2 is written after it, in order; nothing is queued or in flight -/
example : ∃ m s, runX init (cancelRun.take 7) = some m ∧ pcAt m 3 = some (.drainAwait 0 ⟨1, 2, 240, true, false⟩ .done) ∧
    runX m (cancelRun.drop 7) = some s ∧ ReachableWFX s ∧
    wiredSids s.core.trace = [1, 2] ∧ acceptedSids s.core.trace = [1, 2] ∧ hasFault s.core.trace = false ∧
    s.core.queue = [] ∧ pcAt s 3 = some .finished ∧ pcAt s 4 = some .finished ∧ pcAt s 2 = some (.readWait 0) :=
  ⟨_, _, rfl, by decide, rfl, ⟨cancelRun, by decide, rfl⟩, by decide, by decide, by decide, by decide, by decide, by decide,
    by decide⟩

/-- the cancel label is enabled exactly for suspended API callers: not for a background task (the reader, task 2), not
    for a finished task (task 0, the `open_socket()` call), not for a task that does not exist -/
example : ∃ m, runX init (cancelRun.take 7) = some m ∧ (stepX m (.cancel 3)).isSome = true ∧
    stepX m (.cancel 2) = none ∧ stepX m (.cancel 0) = none ∧ stepX m (.cancel 9) = none :=
  ⟨_, rfl, by decide, by decide, by decide, by decide⟩

/-- **a cancelled caller forfeits the retry of its message.**  `send(1)` (two retries) blocks in `drain()`, the peer
    resets the connection.  If the caller is still there its `drain()` raises and the message is put back and written to
    the next connection (`wiredSids = [1, 1]`: twice, with the loss in between).  If the caller is cancelled first, the
    message is not re-queued: after the same reconnection it has been written once, to the connection that was lost. -/
theorem C01X_cancel_forfeits_retry :
    (∃ s, ReachableWFX s ∧ wiredSids s.core.trace = [1, 1] ∧ s.core.queue = [] ∧
      s.core.isConnected = true ∧ s.core.rw = some 1) ∧
    (∃ s, ReachableWFX s ∧ wiredSids s.core.trace = [1] ∧ s.core.queue = [] ∧
      s.core.isConnected = true ∧ s.core.rw = some 1 ∧ (∀ k ∈ s.tasks, k.pc = .finished ∨ k.pc = .readWait 1)) :=
  ⟨⟨_, ⟨[.base .apiOpen, .base (.run 1 .go), .base (.run 1 .openOk), .base (.run 1 .go), .base (.run 2 .go),
          .base (.envPause 0 true), .base (.apiSend 1 2 240 true), .base (.envLost 0),
          .base (.run 3 .drainErr), .base (.envLostRan 0), .base (.run 3 .go), .base (.run 3 .go), .base (.run 2 .readErr),
          .base (.run 4 .go), .base (.run 4 .openOk), .base (.run 4 .go)], by decide, rfl⟩,
      by decide, by decide, by decide, by decide⟩,
   ⟨_, ⟨[.base .apiOpen, .base (.run 1 .go), .base (.run 1 .openOk), .base (.run 1 .go), .base (.run 2 .go),
          .base (.envPause 0 true), .base (.apiSend 1 2 240 true), .base (.envLost 0),
          .cancel 3, .base (.envLostRan 0), .base (.run 2 .readErr), .base (.run 2 .go), .base (.run 2 .go),
          .base (.run 4 .go), .base (.run 4 .openOk), .base (.run 4 .go), .base (.run 5 .go)], by decide, rfl⟩,
      by decide, by decide, by decide, by decide, by decide⟩⟩

/-! ### the healing clause of C07 does not survive cancellation -/

def wedgeRun : List LabelX :=
  [.base .apiOpen, .base (.run 1 .go), .base (.run 1 .openOk), .base (.run 1 .go), .base (.run 2 .go),
   .base .apiReset, .base (.run 2 .readEof), .cancel 3, .base (.envLostRan 0)]

/-- **With a cancelled `reset_connection()` the model can be wedged.**  The history respects the calling discipline of
    `close()` and the EOF rule (`runXH`), i.e. the hypotheses of `C07_never_wedges`.  `reset_connection()` (task 3) closes
    transport 0 and waits for it; the reader is told EOF, sees `writer.is_closing()` and returns without resetting
    ("another task is doing it"); then the caller of `reset_connection()` is cancelled.  The socket is open,
    `is_connected` is still set, every task has finished, no cancellation is enabled: no benign label sequence heals,
    and a later `send` just leaves its message queued with no task to write it. -/
theorem C07X_wedge_with_cancelled_reset :
    ∃ s, runXH init wedgeRun = some s ∧
      s.core.isOpen = true ∧ closing s.core.trace = false ∧ s.core.isConnected = true ∧
      (∀ t, t < s.tasks.length → stepX s (.cancel t) = none) ∧
      (∀ d s', BReach d s s' → ¬ Healed s') ∧
      ∃ s2, step s (.apiSend 1 2 240 true) = some s2 ∧ s2.core.queue.map (·.sid) = [1] ∧
        writeAttempts s2.core.trace 1 = 0 ∧ ∀ k ∈ s2.tasks, k.pc = .finished := by
  refine ⟨_, rfl, by decide, by decide, by decide, by decide, ?_, _, rfl, by decide, by decide, by decide⟩
  intro d s' hr
  exact stuck_never_heals ⟨by decide, by decide⟩ hr

/-- the same history without the cancellation heals (as `C07_never_wedges` says it must): the reset completes,
    reconnects, and a reader watches the new transport -/
example : ∃ s, runXH init (wedgeRun.take 7) = some s ∧
    ∃ s', run s [.envLostRan 0, .run 3 .go, .run 3 .go, .run 4 .go, .run 4 .openOk, .run 4 .go, .run 5 .go] = some s' ∧
      Healed s' :=
  ⟨_, rfl, _, rfl, healed_of_healedB (by decide)⟩

end PyAirtouch.Props.C01X
