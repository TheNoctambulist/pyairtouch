import PyAirtouch.Lemmas.Api4Poll
import PyAirtouch.Lemmas.Api4Notify
import PyAirtouch.Lemmas.Api4Demo
/-!
# C14 (AirTouch 4): refresh after a reconnect, the 300 s group-status poll

Time is in ticks of 1/8 s: `Gen.Api4.GROUP_STATUS_TIMEOUT = 2400`.  `pollEv` is the output event
`SEND CONNECTED GroupStatusRequest()`.
-/
namespace PyAirtouch.Props.C14
open PyAirtouch.Model PyAirtouch.Model.Api4 PyAirtouch.Model.At4 PyAirtouch.Lemmas.Api4 PyAirtouch.Gen

/-! ### connection (re-)established -/

/-- `conn 1` in any state other than `CONNECTING` (socket open): exactly an AC-status request then a group-status
    request, both with the connected-only policy; the API state does not change. -/
theorem reconnect_refresh_at4 (s : State) (hsub : s.subscribed = true) (hst : s.st ≠ .CONNECTING)
    (hopen : s.sockOpen = true) :
    (apiStep s (.conn true)).2 = [Ev.send .connected acStatusRequest, Ev.send .connected groupStatusRequest] ∧
    (apiStep s (.conn true)).1.st = s.st := by
  simp [apiStep, onConn, hsub, hst, hopen]

/-- in `CONNECTING` the connection starts the handshake instead -/
theorem first_connect_at4 (s : State) (hsub : s.subscribed = true) (hst : s.st = .CONNECTING)
    (hopen : s.sockOpen = true) :
    (apiStep s (.conn true)).2 = [Ev.send .connected versionRequest] ∧
    (apiStep s (.conn true)).1.st = .INIT_VERSION := by
  simp [apiStep, onConn, hsub, hst, hopen]

/-- a lost connection makes the API send nothing -/
theorem disconnect_silent_at4 (s : State) : (apiStep s (.conn false)).2 = [] := by
  rw [apiStep_conn_false]

/-- the retry policy of these requests is the socket's `RETRY_CONNECTED` -/
theorem refresh_policy_at4 : Policy.connected.pair = Gen.retryConnected := rfl

/-! ### the group poll -/

/-- the poll period of the code under verification is 300 s (2400 ticks of 1/8 s) -/
theorem poll_period_at4 : Api4.GROUP_STATUS_TIMEOUT = 2400 := rfl

example : Api4.GROUP_STATUS_TIMEOUT = 300 * 8 := by decide


/-- With one live poll task (no orphans), deadline `d` ahead, socket connected and open: during `adv n` a
    group-status request is sent at `d`, `d + 2400`, `d + 4800`, … - as many as lie within the advanced time -
    and afterwards the task waits for the next of these instants. -/
theorem poll_requests_at4 (s : State) (n d : Nat) (ho : s.pollOrphans = []) (hc : s.pollCur = some d)
    (hd : s.now < d) (hconn : s.sockConnected = true) (hopen : s.sockOpen = true) :
    (apiStep s (.adv n)).2.count pollEv = deadlinesUpTo d Api4.GROUP_STATUS_TIMEOUT (s.now + n) ∧
    (apiStep s (.adv n)).1.pollCur =
      some (d + Api4.GROUP_STATUS_TIMEOUT * deadlinesUpTo d Api4.GROUP_STATUS_TIMEOUT (s.now + n)) := by
  obtain ⟨h1, _, h3⟩ := advance_polls_closed n s (fun _ => hopen) (by
    intro x hx; rw [ho, hc] at hx; rw [List.mem_singleton.mp hx]; exact hd)
  rw [ho, hc, hconn] at h3
  rw [hc] at h1
  exact ⟨h3.trans (by simp), h1⟩

/-- nothing before the deadline, exactly one request when the clock reaches it, the next deadline 2400 ticks later -/
theorem poll_at_deadline_at4 (s : State) (d : Nat) (ho : s.pollOrphans = []) (hc : s.pollCur = some d)
    (hd : s.now < d) (hconn : s.sockConnected = true) (hopen : s.sockOpen = true) :
    (apiStep s (.adv (d - s.now - 1))).2.count pollEv = 0 ∧
    (apiStep s (.adv (d - s.now))).2.count pollEv = 1 ∧
    (apiStep s (.adv (d - s.now))).1.pollCur = some (d + Api4.GROUP_STATUS_TIMEOUT) := by
  obtain ⟨a1, _⟩ := poll_requests_at4 s (d - s.now - 1) d ho hc hd hconn hopen
  obtain ⟨b1, b2⟩ := poll_requests_at4 s (d - s.now) d ho hc hd hconn hopen
  rw [deadlinesUpTo_before _ _ _ (by omega)] at a1
  rw [deadlinesUpTo_at _ _ _ hd] at b1 b2
  exact ⟨a1, b1, by simpa using b2⟩

set_option linter.unusedVariables false in -- the proof does not use `ho`, `hc`, `hd`
/-- while the socket is not connected the poll sends nothing (its deadline still moves on) -/
theorem poll_disconnected_at4 (s : State) (n d : Nat) (ho : s.pollOrphans = []) (hc : s.pollCur = some d)
    (hd : s.now < d) (hconn : s.sockConnected = false) :
    (apiStep s (.adv n)).2.count pollEv = 0 :=
  advance_polls_silent n s (.inl hconn)

/-- every group-status message received in state `CONNECTED` re-arms the deadline of every live poll task to
    300 s from now -/
theorem group_status_rearms_at4 (s : State) (hst : s.st = .CONNECTED) (hsub : s.subscribed = true)
    (l : List X2B.GroupStatusData) :
    (apiStep s (.recv (.groupStatus (.status l)))).1.pollCur = s.pollCur.map (fun _ => s.now + Api4.GROUP_STATUS_TIMEOUT) ∧
    (apiStep s (.recv (.groupStatus (.status l)))).1.pollOrphans =
      s.pollOrphans.map (fun _ => s.now + Api4.GROUP_STATUS_TIMEOUT) :=
  recv_rearms_polls hsub ((rearms_iff s _).2 ⟨hst, l, rfl⟩)

/-- a refresh whose records all equal the stored ones (or name unknown zones) produces no output, in
    particular no `NOTIFY` -/
theorem unchanged_refresh_silent_at4 (s : State) (hst : s.st = .CONNECTED) (hsub : s.subscribed = true)
    (l : List X2B.GroupStatusData) (h : ∀ g ∈ l, ∀ z, s.zoneOf g.group_number = some z → z.status = g) :
    (apiStep s (.recv (.groupStatus (.status l)))).2 = [] := by
  have hn : foldEv updateGroupStatus (rearmPolls s) l = (rearmPolls s, []) :=
    foldEv_noop _ _ _ (fun g hg => (updateGroupStatus_kind _ g).trans (groupK.update_noop _ g (h g hg)))
  simp only [apiStep, recv, hsub, ↓reduceIte, onMessage, hst, reduceCtorEq, hn]
  rfl

/-! ### non-vacuity -/

example : demo.pollOrphans = [] ∧ demo.pollCur = some 2400 ∧ demo.now < 2400 ∧ demo.sockConnected = true ∧
    demo.sockOpen = true ∧ demo.st ≠ .CONNECTING ∧ demo.subscribed = true := by rw [demo_eq]; decide

example : deadlinesUpTo 2400 2400 2399 = 0 ∧ deadlinesUpTo 2400 2400 2400 = 1 ∧ deadlinesUpTo 2400 2400 4799 = 1 ∧
    deadlinesUpTo 2400 2400 4800 = 2 ∧ deadlinesUpTo 2400 2400 7200 = 3 := by decide

example : (apiStep demo (.adv 7200)).2.count pollEv = 3 := by
  rw [(poll_requests_at4 demo 7200 2400 (by rw [demo_eq]; rfl) (by rw [demo_eq]; rfl) (by rw [demo_eq]; decide) demo_connectedSock demo_open).1]
  decide

example : (apiStep demo (.recv (.groupStatus (.status [demoGroup])))).2 = [] := by
  apply unchanged_refresh_silent_at4 demo demo_connected demo_subscribed
  rw [demo_eq]; decide

end PyAirtouch.Props.C14
