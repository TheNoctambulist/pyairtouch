import PyAirtouch.Lemmas.SockOrder
import PyAirtouch.Lemmas.SockXIdle
/-!
# C01 — order of transmission, nothing left behind, whole frames

Theorems about the model `PyAirtouch.Model.Sock` of `AirTouchSocket`.

* `C01_once_in_order_without_loss`, `C01_once_in_order_without_fault`: in a history without loss every
  message is written at most once, in acceptance order; hence the Spec monitor `onceInOrderWithoutFault` holds
  on every trace of the model.  The monitor counts a transport closed by the client itself as a fault: a frame
  written to it whose `drain()` then fails is legitimately re-sent.
* `C01_nothing_pending_when_idle_connected`: while connected **on a transport that is still open**, the
  queue is empty unless a task is still going to drain it or to disconnect.  Since `_drain_message_queue`
  returns at once when the writer is closing, the liveness hypothesis is necessary
  (`C01_pending_when_transport_lost`).
* `C01_frames_contiguous`: a frame is written without an intervening suspension.
-/
namespace PyAirtouch.Props.C01
open PyAirtouch.Model.Sock PyAirtouch.Spec.Trace PyAirtouch.Lemmas.Sock
open PyAirtouch.Lemmas.SockOrder PyAirtouch.Lemmas.SockIdle

/-- In a history with no connection loss, no dead write, no write fault, no explicit reset and no
    transport closed by the client itself, every message is written at most once and the written
    ones appear in acceptance order. -/
theorem C01_once_in_order_without_loss {s : Sys} :
    ReachableWF s → noLoss s.core.trace = true →
      ((acceptedSids s.core.trace).all (fun x => wireCount s.core.trace x ≤ 1) &&
        isSubseq (wiredSids s.core.trace) (acceptedSids s.core.trace)) = true := by
  intro h hn
  obtain ⟨h1, h2⟩ := once_in_order h hn
  simp only [Bool.and_eq_true, List.all_eq_true, decide_eq_true_eq]
  exact ⟨fun x _ => h1 x, isSubseq_of_sublist _ _ h2⟩

/-- three messages queued while the link is down, the second one unencodable; once connected the
    first and the third are written, in that order -/
example : ∃ s, ReachableWF s ∧ noLoss s.core.trace = true ∧ wiredSids s.core.trace = [1, 3] ∧
    acceptedSids s.core.trace = [1, 2, 3] :=
  ⟨_, ⟨[.apiOpen, .apiSend 1 2 240 true, .apiSend 2 2 240 false, .apiSend 3 2 240 true,
        .run 1 .go, .run 1 .openOk, .run 1 .go], by decide, rfl⟩, by decide, by decide, by decide⟩

/-- The Spec monitor itself, for every schedule and every environment behaviour: in a history with
    no connection loss / reset / close and no failed write, each accepted message is written at most
    once and the written ones appear in acceptance order.  (`hasFault` counts a transport closed by
    the client itself: a frame written to it whose `drain()` then fails is legitimately re-sent - the
    history `[apiOpen, …, envPause 0, apiSend 1, readBad, drainErr, …]` writes message 1 twice.) -/
theorem C01_once_in_order_without_fault {s : Sys} :
    ReachableWF s → onceInOrderWithoutFault s.core.trace = true :=
  fun h => onceInOrderWithoutFault_of (once_in_order h)

example : ∃ s, ReachableWF s ∧ s.core.trace.any isClientClose = false ∧ hasFault s.core.trace = false ∧
    wiredSids s.core.trace = [1, 2] :=
  ⟨_, ⟨[.apiOpen, .apiSend 1 2 240 true, .run 1 .go, .run 1 .openOk, .run 1 .go, .apiSend 2 0 8 true],
    by decide, rfl⟩, by decide, by decide, by decide⟩

/-- While the socket is connected and its current transport is still open (`curLive`: `rw = some w` and
    `conns[w]` is `live _ _`, i.e. `writer.is_closing()` is false) nothing stays queued, unless some task is
    still going to run the drain loop or to tear the connection down, namely
    * a task suspended in `drain()` after a write (`drainAwait`),
    * the connect task between `opened` and its first drain (`notifyWait connAfterNotify`),
    * a `close()` waiting for the background tasks it cancelled (`closeGather`),
    * a task waiting for the *current* transport to finish closing (`discWait w _` with `rw = some w`). -/
theorem C01_nothing_pending_when_idle_connected {s : Sys} (hr : Reachable s)
    (hconn : s.core.isConnected = true) (hlive : curLive s.core = true)
    (hdrain : ∀ k ∈ s.tasks, ∀ w e r, k.pc ≠ .drainAwait w e r)
    (hfirst : ∀ k ∈ s.tasks, k.pc ≠ .notifyWait .connAfterNotify)
    (hclose : ∀ k ∈ s.tasks, k.pc ≠ .closeGather)
    (hdisc : ∀ k ∈ s.tasks, ∀ w r, k.pc = .discWait w r → s.core.rw ≠ some w) :
    s.core.queue = [] := by
  have hI := idle_invariant hr
  cases hq : s.core.queue with
  | nil => rfl
  | cons e rest =>
    obtain ⟨k, hk, hp⟩ := hI.busy hconn (by simp [hq]) hlive
    have := (not_promising_iff s.core.rw k.pc).2 ⟨hdrain k hk, hfirst k hk, hclose k hk, hdisc k hk⟩
    rw [hp] at this; cases this

/-- connected, the reader waiting for data, two messages sent and written, every other task finished -/
example : ∃ s, Reachable s ∧ s.core.isConnected = true ∧ curLive s.core = true ∧
    ((∀ k ∈ s.tasks, ∀ w e r, k.pc ≠ .drainAwait w e r) ∧
     (∀ k ∈ s.tasks, k.pc ≠ .notifyWait .connAfterNotify) ∧
     (∀ k ∈ s.tasks, k.pc ≠ .closeGather) ∧
     (∀ k ∈ s.tasks, ∀ w r, k.pc = .discWait w r → s.core.rw ≠ some w)) ∧
    wiredSids s.core.trace = [1, 2] ∧ pcAt s 3 = some (.readWait 0) :=
  ⟨_, ⟨[.apiOpen, .apiSend 1 2 240 true, .run 1 .go, .run 1 .openOk, .run 1 .go, .run 3 .go,
        .apiSend 2 0 8 true], rfl⟩, by decide, by decide, idle_hyps (by decide), by decide, by decide⟩

/-- **the current transport has to be open.**  Once the transport is closing or lost the drain loop leaves
    the queue alone (`if self._writer is None or self._writer.is_closing(): return`): connected, the peer
    resets transport 0, then a `send` - its message stays queued although `is_connected` is still set and no
    task is in any of the four states above (the reader is still blocked in `read`; it will be handed the
    error, reset the connection, and the message goes out first on the next one). -/
theorem C01_pending_when_transport_lost :
    ∃ s, Reachable s ∧ s.core.isConnected = true ∧ curLive s.core = false ∧
      ((∀ k ∈ s.tasks, ∀ w e r, k.pc ≠ .drainAwait w e r) ∧
       (∀ k ∈ s.tasks, k.pc ≠ .notifyWait .connAfterNotify) ∧
       (∀ k ∈ s.tasks, k.pc ≠ .closeGather) ∧
       (∀ k ∈ s.tasks, ∀ w r, k.pc = .discWait w r → s.core.rw ≠ some w)) ∧
      s.core.queue.map (·.sid) = [1] ∧ pcAt s 2 = some (.readWait 0) ∧
      ∃ s', run s [.run 2 .readErr, .envLostRan 0, .run 2 .go, .run 2 .go, .run 4 .go, .run 4 .openOk, .run 4 .go] = some s' ∧
        s'.core.queue = [] ∧ wiredSids s'.core.trace = [1] :=
  ⟨_, ⟨[.apiOpen, .run 1 .go, .run 1 .openOk, .run 1 .go, .run 2 .go, .envLost 0, .apiSend 1 2 240 true], rfl⟩,
    by decide, by decide, idle_hyps (by decide), by decide, by decide, _, rfl, by decide, by decide⟩

/-- none of the four side conditions can be dropped: for each of them a reachable connected state
    with a non-empty queue in which the only tasks excluded by the hypotheses are of that kind -/
example :
    (∃ s, Reachable s ∧ s.core.isConnected = true ∧ s.core.queue.map (·.sid) = [2] ∧
      (s.tasks.filter (fun k => promising s.core.rw k.pc)).map (·.pc) = [.drainAwait 0 ⟨1, 2, 240, true, false⟩ .connAfterDrain]) ∧
    (∃ s, Reachable s ∧ s.core.isConnected = true ∧ s.core.queue.map (·.sid) = [1] ∧
      (s.tasks.filter (fun k => promising s.core.rw k.pc)).map (·.pc) = [.notifyWait .connAfterNotify]) ∧
    (∃ s, Reachable s ∧ s.core.isConnected = true ∧ s.core.queue.map (·.sid) = [1] ∧
      (s.tasks.filter (fun k => promising s.core.rw k.pc)).map (·.pc) = [.closeGather]) ∧
    (∃ s, Reachable s ∧ s.core.isConnected = true ∧ s.core.queue.map (·.sid) = [1] ∧ s.core.rw = some 0 ∧
      (s.tasks.filter (fun k => promising s.core.rw k.pc)).map (·.pc) = [.discWait 0 .closeTail]) :=
  ⟨⟨_, ⟨[.apiOpen, .apiSend 1 2 240 true, .apiSend 2 2 240 true, .run 1 .go, .run 1 .openOk, .envPause 0 true,
         .run 1 .go], rfl⟩, by decide, by decide, by decide⟩,
   ⟨_, ⟨[.apiOpen, .apiSend 1 2 240 true, .run 1 .go, .run 1 .openOk], rfl⟩, by decide, by decide, by decide⟩,
   ⟨_, ⟨[.apiOpen, .apiSend 1 2 240 true, .run 1 .go, .run 1 .openOk, .apiClose], rfl⟩, by decide, by decide, by decide⟩,
   ⟨_, ⟨[.apiOpen, .apiSend 1 2 240 true, .run 1 .go, .run 1 .openOk, .apiClose, .run 3 .go], rfl⟩,
     by decide, by decide, by decide, by decide⟩⟩

/-- A frame is written without an intervening suspension: `_write` logs its whole outcome at once —
    one complete frame, a write fault followed by the loss of the transport, a write on a transport
    that is already closing or lost, or (no such transport) nothing. -/
theorem C01_frames_contiguous (c : Core) (w : Nat) (e : Entry) :
    ∃ evs, (doWrite c w e).1.trace = c.trace ++ evs ∧
      (evs = [.wire w e.sid c.now] ∨ evs = [.writeFault w e.sid c.now, .lost w c.now] ∨
       evs = [.deadWrite w e.sid c.now] ∨ evs = []) :=
  doWrite_events c w e

/-- on the core of a reachable connected state: a whole frame; after `envFailWrites`, a write fault and the loss -/
example : ∃ s, Reachable s ∧
    (doWrite s.core 0 ⟨7, 0, 100, true, false⟩).1.trace = s.core.trace ++ [.wire 0 7 0] ∧
    ∃ s', step s (.envFailWrites 0 true) = some s' ∧
      (doWrite s'.core 0 ⟨7, 0, 100, true, false⟩).1.trace = s'.core.trace ++ [.writeFault 0 7 0, .lost 0 0] :=
  ⟨_, ⟨[.apiOpen, .run 1 .go, .run 1 .openOk], rfl⟩, by decide, _, rfl, by decide⟩

end PyAirtouch.Props.C01
