import PyAirtouch.Lemmas.Api4Install
import PyAirtouch.Lemmas.Api4Demo
/-!
# C09 (AirTouch 4): the initialisation handshake

`stage` numbers the nine states (`CLOSED` 0 … `CONNECTED` 8); `handshakeRequests` is
`[version, names, abilities, AC status, timer status, group status]`; `hsSends evs` are the messages sent in
`evs` other than error-information requests; `answerKind st m` says that `m` is of the class that answers the
request outstanding in state `st`; `passive op` are the socket events other than "connection established"
(`recv`, `msg`, `conn 0`).  Reconnections (`conn 1` outside `CONNECTING`) are characterised in `Props/C14At4`.
-/
namespace PyAirtouch.Props.C09
open PyAirtouch.Model PyAirtouch.Model.Api4 PyAirtouch.Model.At4 PyAirtouch.Lemmas.Api4 PyAirtouch.Gen

/-! ### `init()` -/

/-- `init()`: state `CONNECTING`, callbacks subscribed, socket opened; if the initialised event is not set the
    call waits until `now + 40` ticks (5 s), otherwise it returns `True` at once -/
theorem init_at4 (s : State) :
    (apiStep s .init).1.st = .CONNECTING ∧ (apiStep s .init).1.subscribed = true ∧
    (apiStep s .init).1.sockOpen = true ∧
    (s.initialised = false → (apiStep s .init).2 = [Ev.opened] ∧
        (apiStep s .init).1.initWaits = s.initWaits ++ [s.now + Api4.INIT_TIMEOUT] ∧
        (apiStep s .init).1.initialised = false) ∧
    (s.initialised = true → (apiStep s .init).2 = [Ev.opened, Ev.result "init True"]) := by
  simp only [apiStep, doInit]
  cases hi : s.initialised <;> simp

/-- `init()` waits at most 5 s (40 ticks of 1/8 s) -/
theorem init_timeout_value_at4 : Api4.INIT_TIMEOUT = 40 := rfl

example : Api4.INIT_TIMEOUT = 5 * 8 := by decide

/-- the connection comes up: the version request, state `INIT_VERSION` -/
theorem first_request_at4 (s : State) (hsub : s.subscribed = true) (hst : s.st = .CONNECTING) (ho : s.sockOpen = true) :
    (apiStep s (.conn true)).2 = [Ev.send .connected versionRequest] ∧ (apiStep s (.conn true)).1.st = .INIT_VERSION := by
  simp [apiStep, onConn, hsub, hst, ho]

/-! ### one step -/

/-- a message that is not the awaited answer (unsolicited, duplicate of an earlier step, premature, request,
    unknown): the state does not move, nothing but error-information requests is sent, no handler raises -/
theorem not_answer_ignored_at4 (s : State) (m : RMsg) (h : answerKind s.st m = false) :
    (apiStep s (.recv m)).1.st = s.st ∧ hsSends (apiStep s (.recv m)).2 = [] ∧
    ∀ c, Ev.subscriberExc c ∉ (apiStep s (.recv m)).2 :=
  recv_not_answer s m h

/-- the awaited answer: the next state, and exactly the next request (for the ability message under the condition
    that every listed group has a name, see `ability_keyerror_iff_at4`) -/
theorem answer_advances_at4 (s : State) (hsub : s.subscribed = true) (m : RMsg) (h : answerKind s.st m = true)
    (hne : s.st ≠ .INIT_GROUP_STATUS)
    (hab : ∀ acs, m = .extended (.acAbility (.ability acs)) → (processAbility s (acs.length == 1) acs).2 = true) :
    (apiStep s (.recv m)).1.st = nextState s.st ∧
    hsSends (apiStep s (.recv m)).2 = (requestOnLeaving s.st).toList ∧
    ∀ c, Ev.subscriberExc c ∉ (apiStep s (.recv m)).2 :=
  recv_answer s hsub m h hne hab

/-- the last answer: `CONNECTED`, the initialised event set, every waiting `init()` answers `True`, the heartbeat is
    started (`HBSTART`, and it runs afterwards), a new poll task waits 300 s; the only send besides
    error-information requests is the heartbeat's first beat -/
theorem last_answer_at4 (s : State) (hsub : s.subscribed = true) (l : List X2B.GroupStatusData)
    (hs : s.st = .INIT_GROUP_STATUS) :
    (apiStep s (.recv (.groupStatus (.status l)))).1.st = .CONNECTED ∧
    (apiStep s (.recv (.groupStatus (.status l)))).1.initialised = true ∧
    (apiStep s (.recv (.groupStatus (.status l)))).1.initWaits = [] ∧
    (apiStep s (.recv (.groupStatus (.status l)))).1.pollCur = some (s.now + Api4.GROUP_STATUS_TIMEOUT) ∧
    hbIdle (apiStep s (.recv (.groupStatus (.status l)))).1.hb = false ∧
    Ev.hbStart ∈ (apiStep s (.recv (.groupStatus (.status l)))).2 ∧
    (apiStep s (.recv (.groupStatus (.status l)))).2.count (Ev.result "init True") = s.initWaits.length ∧
    hsSends (apiStep s (.recv (.groupStatus (.status l)))).2 =
      (if hbIdle s.hb && s.sockConnected then [hbMessage] else []) ∧
    ∀ c, Ev.subscriberExc c ∉ (apiStep s (.recv (.groupStatus (.status l)))).2 :=
  recv_final_answer s hsub l hs

/-- an ability message listing a group without a name: `KeyError` out of the handler, the state is NOT advanced -/
theorem ability_keyerror_at4 (s : State) (hsub : s.subscribed = true) (acs : List FF11.AcAbility)
    (hs : s.st = .INIT_AC_ABILITY) (hf : (processAbility s (acs.length == 1) acs).2 = false) :
    (apiStep s (.recv (.extended (.acAbility (.ability acs))))).1.st = .INIT_AC_ABILITY ∧
    (apiStep s (.recv (.extended (.acAbility (.ability acs))))).2 = [Ev.subscriberExc "KeyError"] :=
  recv_ability_keyerror s hsub acs hs hf

/-- … which happens exactly when some record describes a group that has no name (or, for a hand-built record,
    lacks a key of the mode / fan-speed tables) -/
theorem ability_keyerror_iff_at4 (s : State) (hinv : Inv s) (acs : List FF11.AcAbility) :
    (processAbility s (acs.length == 1) acs).2 = false ↔
      ∃ ab ∈ acs, (∃ g ∈ describedIds (s.zoneDict.map (·.1)) (acs.length == 1) ab, s.zoneDict.lookup g = none) ∨
        (mkAc ab []).isNone :=
  processAbility_fails_iff s hinv _ acs

/-! ### sequences -/

/-- **requests in order**: over any sequence of arriving frames / messages / connection losses the state only moves
    forward, and while the handshake is incomplete the messages sent (error-information requests excepted) are
    exactly the handshake requests between the first and the last state: a contiguous segment of
    `[version, names, abilities, AC status, timer status, group status]`, each sent in the step that consumed the
    answer to the previous one -/
theorem requests_in_order_at4 (s : State) (hsub : s.subscribed = true) (ops : List Op)
    (hops : ∀ op ∈ ops, passive op = true) :
    stage s.st ≤ stage (run s ops).1.st ∧
    (stage (run s ops).1.st ≤ 7 →
      hsSends (run s ops).2 =
        (handshakeRequests.drop (stage s.st - 1)).take (stage (run s ops).1.st - stage s.st)) := by
  obtain ⟨h1, _, h3⟩ := passive_run s hsub ops hops
  exact ⟨h1, h3⟩

/-- from `init()` on: the requests sent are a prefix of the six handshake requests -/
theorem requests_prefix_at4 (s : State) (hsub : s.subscribed = true) (hst : s.st = .CONNECTING) (ho : s.sockOpen = true)
    (ops : List Op) (hops : ∀ op ∈ ops, passive op = true)
    (hle : stage (run s (.conn true :: ops)).1.st ≤ 7) :
    hsSends (run s (.conn true :: ops)).2 = handshakeRequests.take (stage (run s (.conn true :: ops)).1.st - 1) := by
  obtain ⟨f1, f2⟩ := first_request_at4 s hsub hst ho
  have hsub1 : (apiStep s (.conn true)).1.subscribed = true := by simp [apiStep, onConn, hsub, hst, ho]
  simp only [run] at hle ⊢
  obtain ⟨h1, h2⟩ := requests_in_order_at4 (apiStep s (.conn true)).1 hsub1 ops hops
  rw [f2] at h1 h2
  have e2 : stage Api4.AirTouchState.INIT_VERSION = 2 := rfl
  rw [e2] at h1 h2
  rw [hsSends_append, f1, h2 hle]
  have : stage (run (apiStep s (.conn true)).1 ops).1.st - 1 = (stage (run (apiStep s (.conn true)).1 ops).1.st - 2) + 1 := by
    omega
  rw [this]
  rfl

/-- **the handshake completes**: start in `INIT_VERSION` (version request outstanding); six stages, each "anything
    that is not the awaited answer, then a message of the answering class" (the ability answer naming only named
    groups); then the state is `CONNECTED`, the initialised event is set, the heartbeat has been started and
    runs, and no handler raised -/
theorem handshake_completes_at4 (s : State) (hsub : s.subscribed = true) (hst : s.st = .INIT_VERSION)
    (steps : List (List Op × RMsg)) (hlen : steps.length = 6) (hv : ValidSteps .INIT_VERSION steps)
    (hab : ∀ pre j acs post, steps = pre ++ (j, .extended (.acAbility (.ability acs))) :: post →
      (processAbility (run s (hsScript pre ++ j)).1 (acs.length == 1) acs).2 = true) :
    (run s (hsScript steps)).1.st = .CONNECTED ∧ (run s (hsScript steps)).1.initialised = true ∧
    hbIdle (run s (hsScript steps)).1.hb = false ∧ Ev.hbStart ∈ (run s (hsScript steps)).2 ∧
    ∀ c, Ev.subscriberExc c ∉ (run s (hsScript steps)).2 := by
  have hs2 : stage s.st = 2 := by rw [hst]; rfl
  obtain ⟨h1, h2, h3, h4⟩ := handshake_run s hsub steps (by rw [hst]; exact hv) (by omega) (by omega)
    (abilityOk_of_split s steps hab)
  have hne : steps ≠ [] := by intro h; rw [h] at hlen; cases hlen
  obtain ⟨k1, k2, k3⟩ := h4 hne (by omega)
  refine ⟨?_, k1, k2, k3, h3⟩
  have : stage (run s (hsScript steps)).1.st = 8 := by omega
  cases hf : (run s (hsScript steps)).1.st <;> simp [hf, stage] at this
  rfl

/-! ### what is exposed -/

/-- the names message: every named group (distinct numbers) becomes a zone with that id, that name and the
    default status; from an empty dictionary the zones are exactly the named groups, in message order -/
theorem exposed_zones_at4 (s : State) (hinv : Inv s) (names : List (Nat × Bytes)) (hnd : (names.map (·.1)).Nodup) :
    (∀ p ∈ names, (processGroupNames s names).zoneOf p.1 = some (mkZone p.1 p.2)) ∧
    (s.zoneDict = [] → (processGroupNames s names).zoneDict.map (·.1) = names.map (·.1)) :=
  ⟨fun p hp => processGroupNames_spec hinv names hnd p hp,
   fun h0 => keys_processGroupNames_fresh s h0 names hnd⟩

/-- the ability message (distinct AC numbers, no `KeyError`): every record gets an air-conditioner with that
    record, no subscribers, and **each zone under the right air-conditioner** - the group bitmap when present (in
    CPython's set order), all named zones for a single air-conditioner without bitmap, the `start_group` /
    `group_count` range otherwise -/
theorem exposed_air_conditioners_at4 (s : State) (hinv : Inv s) (hnd : (s.zoneDict.map (·.1)).Nodup)
    (acs : List FF11.AcAbility) (hnum : (acs.map (·.ac_number)).Nodup)
    (hok : (processAbility s (acs.length == 1) acs).2 = true) (ab : FF11.AcAbility) (hab : ab ∈ acs) :
    ∃ a, (processAbility s (acs.length == 1) acs).1.findAc ab.ac_number = some a ∧ a.ability = ab ∧
      a.subs = [] ∧ a.stateSubs = [] ∧
      a.zones.map (zoneIdAt s) = (describedIds (s.zoneDict.map (·.1)) (acs.length == 1) ab).map some :=
  (processAbility_spec hinv hnd _ acs hnum hok ab hab).2.2

theorem describedIds_cases_at4 (named : List Nat) (ab : FF11.AcAbility) :
    (∀ gs, ab.groups = some gs → ∀ single, describedIds named single ab = pySetOrder gs) ∧
    (ab.groups = none → describedIds named true ab = named) ∧
    (ab.groups = none → describedIds named false ab = List.range' ab.start_group ab.group_count) := by
  refine ⟨?_, ?_, ?_⟩
  · intro gs h single; simp [describedIds, h]
  · intro h; simp [describedIds, h]
  · intro h; simp [describedIds, h]

/-- CPython's iteration order of the decoded group set is ascending for five or more groups -/
theorem pySetOrder_large_at4 (gs : List Nat) (h : 5 ≤ gs.length) : pySetOrder gs = gs := by
  unfold pySetOrder
  have : ¬ gs.length ≤ 4 := by omega
  simp [this]

/-- after the ability answer nothing that arrives changes the exposed installation (same objects under the
    same numbers, ids, names, ability records, zone lists) -/
theorem installation_stable_at4 (s : State) (hinv : Inv s) (hsub : s.subscribed = true) (h5 : 5 ≤ stage s.st)
    (ops : List Op) (hops : ∀ op ∈ ops, passive op = true) : shape (run s ops).1 = shape s :=
  shape_passive_run hinv hsub h5 ops hops

/-! ### the answers stop -/

/-- while the handshake is incomplete the initialised event stays as it was and the waiting `init()` calls keep
    waiting, whatever frames arrive -/
theorem incomplete_keeps_waiting_at4 (s : State) (hsub : s.subscribed = true) (ops : List Op)
    (hops : ∀ op ∈ ops, passive op = true) (hle : stage (run s ops).1.st ≤ 7) :
    (run s ops).1.initialised = s.initialised ∧ (run s ops).1.initWaits = s.initWaits := by
  have := initView_passive_run s hsub ops hops hle
  exact ⟨congrArg Prod.fst this, congrArg Prod.snd this⟩

/-- … and then `init()` yields `False` exactly when its 5 s are over (`RESULT init False` once, at the deadline),
    the initialised event still unset, nothing raised, nobody notified -/
theorem init_times_out_at4 (s : State) (d : Nat) (hi : s.initialised = false) (hw : s.initWaits = [d]) (hd : s.now < d) :
    (apiStep s (.adv (d - s.now - 1))).2.count initFalse = 0 ∧
    (apiStep s (.adv (d - s.now))).2.count initFalse = 1 ∧
    (apiStep s (.adv (d - s.now))).1.initialised = false ∧
    (apiStep s (.adv (d - s.now))).1.initWaits = [] ∧
    ∀ e ∈ (apiStep s (.adv (d - s.now))).2, (∀ c, e ≠ Ev.subscriberExc c) ∧ e.isNotify = false := by
  obtain ⟨a1, _, _⟩ := advance_init (d - s.now - 1) s d hi hw hd
  obtain ⟨b1, b2, b3⟩ := advance_init (d - s.now) s d hi hw hd
  have e1 : s.now + (d - s.now - 1) < d := by omega
  have e2 : ¬ s.now + (d - s.now) < d := by omega
  simp only [e1, ↓reduceIte] at a1
  simp only [e2, ↓reduceIte] at b1 b2
  exact ⟨a1, b1, b2.1, b2.2.1, b3⟩

/-! ### non-vacuity -/

example : afterConn.st = .INIT_VERSION ∧ afterConn.subscribed = true ∧ afterConn.initialised = false ∧
    afterConn.initWaits = [40] ∧ afterConn.now < 40 := by decide

example : ValidSteps .INIT_VERSION demoSteps := by
  simp only [demoSteps, ValidSteps, Junk, nextState]
  decide

example : (run afterConn (hsScript demoSteps)).1.st = .CONNECTED ∧
    hsSends (run afterConn (hsScript demoSteps)).2 =
      [namesRequest, abilityRequest, acStatusRequest, timerStatusRequest, groupStatusRequest] := by decide

example : hsSends (run (apiStep State.initial .init).1 [.conn true, .recv demoVersionMsg, .recv demoNamesMsg]).2 =
    handshakeRequests.take 3 := by decide

example : (apiStep afterConn (.adv 40)).2 = [initFalse] := by decide

/-- the state in which the last answer is awaited, and what the last answer does there -/
example : (run afterConn (hsScript (demoSteps.take 5))).1.st = .INIT_GROUP_STATUS ∧
    (apiStep (run afterConn (hsScript (demoSteps.take 5))).1 (.recv demoGroupMsg)).2 =
      [Ev.hbStart, Ev.result "init True"] := by decide      -- (the junk contained `conn 0`: no first beat)

example : Inv demo ∧ 5 ≤ stage demo.st ∧ demo.subscribed = true := ⟨demo_inv, by rw [demo_connected]; decide, demo_subscribed⟩

example : (demo.findAc 0).map (fun a => a.zones.map (zoneIdAt demo)) = some [some 0, some 1] := by rw [demo_eq]; decide

example : pySetOrder [1, 8] = [8, 1] ∧ pySetOrder [0, 8] = [0, 8] ∧ pySetOrder [3, 9, 11] = [11, 9, 3] := by decide

/-- a group without a name: `KeyError`, state kept -/
example : (apiStep (run afterConn [.recv demoVersionMsg, .recv demoNamesMsg]).1
    (.recv (.extended (.acAbility (.ability [{ demoAbility with groups := some [0, 5] }]))))).2 =
      [Ev.subscriberExc "KeyError"] := by decide

end PyAirtouch.Props.C09
