import PyAirtouch.Lemmas.Api5Script
import PyAirtouch.Lemmas.Api5Entities
import PyAirtouch.Lemmas.Api5Subs
/-!
# C09 (AirTouch 5) — initialisation

The handshake of `AirTouch5` is the chain
`CONNECTING → INIT_VERSION → INIT_ZONE_NAMES → INIT_AC_ABILITY → INIT_AC_STATUS → INIT_AC_TIMER_STATUS → INIT_ZONE_STATUS → CONNECTED`
(`rank` numbers the states, `requestFor st` is the request sent on entering `st`, `answers st toAddr m` says that the frame
`m` with header `to_address = toAddr` is accepted as the answer in state `st`).  `Handshaking s`: socket open, the API's
callbacks registered, state at or beyond INIT_VERSION.  `HbIdle`: the heartbeat manager is not running (true until the
first handshake completes).

1. order / one request at a time: the connection coming up sends the version request; an accepted answer sends exactly
   the next request (plus error-information requests for ACs reporting an error); any other frame sends nothing and
   leaves the state machine alone;
2. the handshake completes against any console that answers each request, whatever frames are interleaved (the answer
   to the ability request must name zones the API knows — otherwise the real code raises `KeyError` and waits);
3. the exposed ACs and zones are what the console described; zero zones;
4. silence: `init()` answers `False` exactly 40 ticks (5 s) after it was called, the event stays clear, nothing raises.
-/
namespace PyAirtouch.Props.C09
open PyAirtouch.Model PyAirtouch.Model.Api5 PyAirtouch.Model.At5 PyAirtouch.Model.At5.Registry
open PyAirtouch.Gen PyAirtouch.Gen.Api5 PyAirtouch.Lemmas.Api5

/-! ## 1. order, one request at a time -/

/-- the connection comes up while CONNECTING: the version request, nothing else -/
theorem C09_handshake_starts_at5 (s : State) (hsub : s.sockSubscribed = true) (hopen : s.sockOpen = true)
    (hst : s.st = .CONNECTING) :
    (apiStep s (.conn true)).2 = [.send .connected msgConsoleVersionRequest false] ∧
    (apiStep s (.conn true)).1.st = .INIT_VERSION := by
  show (doConn s true).2 = _ ∧ (doConn s true).1.st = _
  rw [doConn_eq, if_pos hsub]
  simp [handleConnection, hst, sendMsg_open, hopen, excOut]

/-- an accepted answer (in the five states before the last): the state machine moves on by one and the only send that
is not an error-information request is the request of the new state, with the connected-only policy -/
theorem C09_one_request_per_answer_at5 (s : State) (toAddr : Nat) (m : Msg) (hs : Handshaking s)
    (h6 : rank s.st ≤ 6) (hi : HbIdle s.hb) (ha : answers s.st toAddr m = true) (hok : abilityOk s m) :
    (apiStep s (.msg toAddr m)).1.st = nextState s.st ∧
    handshakeSends (apiStep s (.msg toAddr m)).2 =
      ((requestFor (nextState s.st)).map fun r => (Policy.connected, r)).toList :=
  ⟨answer_advances s toAddr m hs ha hok, answer_sends s toAddr m hs h6 hi ha hok⟩

/-- a frame that is not the answer to the outstanding request (handshake not complete): no send at all, the state
machine stays where it is -/
theorem C09_no_request_without_answer_at5 (s : State) (toAddr : Nat) (m : Msg) (hne : s.st ≠ .CONNECTED)
    (hi : HbIdle s.hb) (ha : answers s.st toAddr m = false) :
    (apiStep s (.msg toAddr m)).1.st = s.st ∧ ∀ o ∈ (apiStep s (.msg toAddr m)).2, o.isNotify = true :=
  not_answer_out s toAddr m hne hi ha

/-- the requests, in order -/
theorem C09_request_order_at5 :
    [AirTouchState.INIT_VERSION, .INIT_ZONE_NAMES, .INIT_AC_ABILITY, .INIT_AC_STATUS, .INIT_AC_TIMER_STATUS,
      .INIT_ZONE_STATUS].map requestFor =
    [some msgConsoleVersionRequest, some msgZoneNamesRequestAll, some msgAcAbilityRequestAll, some msgAcStatusRequest,
      some msgAcTimerStatusRequest, some msgZoneStatusRequest] ∧ requestFor .CONNECTED = none := ⟨rfl, rfl⟩

def exS0 : State := State.new [] [] [] []
def exVersion : Msg := .extended (.consoleVer (.message ⟨false, [[49]]⟩))
def exNames : Msg := .extended (.zoneNames (.message ⟨[(0, [76]), (1, [66])]⟩))
def exAbility : FF11.AcAbility :=
  { ac_number := 0, ac_name := [77], start_zone := 0, zone_count := 2,
    ac_mode_support := FF11.decModeSupport 31, fan_speed_support := FF11.decFanSpeedSupport 255,
    min_cool_set_point := 17, max_cool_set_point := 30, min_heat_set_point := 16, max_heat_set_point := 28 }
def exAbilities : Msg := .extended (.acAbility (.ability [exAbility]))
def exAcStatus : Msg := .controlStatus (.acStatus (.status [{ (newAc exAbility [] [] []).status with error_code := 5 }]))
def exTimers : Msg := .controlStatus (.acTimerStatus (.status []))
def exZones : Msg := .controlStatus (.zoneStatus (.status []))

/-- a whole handshake: one request per step (and the error-information request for the AC that reports error 5) -/
example : (Api5.run exS0 [.init, .conn true, .msg 176 exVersion, .msg 176 exNames, .msg 176 exAbilities, .msg 176 exAcStatus,
      .msg 176 exTimers, .msg 176 exZones]).2 =
    [[.opened], [.send .connected msgConsoleVersionRequest false], [.send .connected msgZoneNamesRequestAll false],
     [.send .connected msgAcAbilityRequestAll false], [.send .connected msgAcStatusRequest false],
     [.send .connected (msgErrInfoRequest 0) false, .send .connected msgAcTimerStatusRequest false],
     [.send .connected msgZoneStatusRequest false],
     [.hbStart, .result "init True", .send .connected hbMessage false]] := by decide +kernel

/-! ## 2. completion -/

/-- the last answer: CONNECTED, heartbeat manager started, the event set, every waiting `init()` answers `True` -/
theorem C09_last_answer_completes_at5 (s : State) (toAddr : Nat) (m : Msg) (hs : Handshaking s)
    (hst : s.st = .INIT_ZONE_STATUS) (ha : answers .INIT_ZONE_STATUS toAddr m = true) :
    (apiStep s (.msg toAddr m)).1.st = .CONNECTED ∧ (apiStep s (.msg toAddr m)).1.initialised = true ∧
    (apiStep s (.msg toAddr m)).1.pendingInits = [] ∧
    ∃ pre post, (apiStep s (.msg toAddr m)).2 =
        pre ++ [.hbStart] ++ s.pendingInits.map (fun _ => Out.result "init True") ++ post ∧
      (∀ o ∈ pre, o.isNotify = true) ∧ (∀ o ∈ post, o = .send .connected hbMessage false ∨ o = .reset) := by
  exact last_answer_spec s toAddr m hs.sockSubscribed hst ha

/-- **the handshake completes**: start in INIT_VERSION (the version request is out); let the console send any frames
`n₁ … n₇` (unsolicited reports, duplicates, unknown or undecodable frames, answers to other steps, …) around one
acceptable answer per step `a₁ … a₆`, in order.  Then the API ends CONNECTED with the event set.  The only demand on an
answer beyond its shape is `hok`: when the ability answer arrives while the API is waiting for it, the zones it refers to
are known (otherwise the real code raises `KeyError` inside the handler and keeps waiting). -/
theorem C09_handshake_completes_at5 (s : State) (hs : Handshaking s) (hst : s.st = .INIT_VERSION)
    (n1 n2 n3 n4 n5 n6 n7 : List Op) (a1 a2 a3 a4 a5 a6 : Nat × Msg)
    (hn : ∀ o : Op, o ∈ n1 ++ n2 ++ n3 ++ n4 ++ n5 ++ n6 ++ n7 → Op.isFrame o = true)
    (h1 : answers .INIT_VERSION a1.1 a1.2 = true) (h2 : answers .INIT_ZONE_NAMES a2.1 a2.2 = true)
    (h3 : answers .INIT_AC_ABILITY a3.1 a3.2 = true) (h4 : answers .INIT_AC_STATUS a4.1 a4.2 = true)
    (h5 : answers .INIT_AC_TIMER_STATUS a5.1 a5.2 = true) (h6 : answers .INIT_ZONE_STATUS a6.1 a6.2 = true)
    (hok : (runS s (n1 ++ [.msg a1.1 a1.2] ++ (n2 ++ [.msg a2.1 a2.2]) ++ n3)).st = .INIT_AC_ABILITY →
      abilityOk (runS s (n1 ++ [.msg a1.1 a1.2] ++ (n2 ++ [.msg a2.1 a2.2]) ++ n3)) a3.2) :
    let final := runS s (n1 ++ [.msg a1.1 a1.2] ++ (n2 ++ [.msg a2.1 a2.2]) ++ (n3 ++ [.msg a3.1 a3.2]) ++
      (n4 ++ [.msg a4.1 a4.2]) ++ (n5 ++ [.msg a5.1 a5.2]) ++ (n6 ++ [.msg a6.1 a6.2]) ++ n7)
    final.st = .CONNECTED ∧ final.initialised = true := by
  intro final
  obtain ⟨⟨⟨⟨⟨⟨hn1, hn2⟩, hn3⟩, hn4⟩, hn5⟩, hn6⟩, hn7⟩ := by simpa only [List.forall_mem_append] using hn
  have other : ∀ {s' : State} {st : AirTouchState} {a : Nat × Msg}, answers st a.1 a.2 = true → st ≠ .INIT_AC_ABILITY →
      s'.st = st → abilityOk s' a.2 := fun ha hne _ => abilityOk_of_other _ _ _ _ ha hne
  -- the script of six answered steps, then `n7`
  have key := handshake_completes s hs hst
    [(n1, a1.1, a1.2), (n2, a2.1, a2.2), (n3, a3.1, a3.2), (n4, a4.1, a4.2), (n5, a5.1, a5.2), (n6, a6.1, a6.2)]
    ⟨hn1, h1, other h1 (by decide), hn2, h2, other h2 (by decide), hn3, h3, (by simp only [runS_append] at hok ⊢; exact hok),
      hn4, h4, other h4 (by decide), hn5, h5, other h5 (by decide), hn6, h6, other h6 (by decide), trivial⟩ rfl n7 hn7
  simpa only [final, script, List.flatMap_cons, List.flatMap_nil, List.append_nil, runS_append] using key

/-- noise before, between and after the answers (an unknown frame, an undecodable frame, a zone status nobody asked
for, a duplicate of the version answer): the handshake still completes -/
example : (runS (runS exS0 [.init, .conn true])
    ([.msg 176 (.unsupported 43 [1, 2])] ++ [.msg 176 exVersion] ++ ([.undecodable "DecodeError"] ++ [.msg 176 exNames]) ++
     ([.msg 176 exZones, .msg 176 exVersion] ++ [.msg 176 exAbilities]) ++ ([] ++ [.msg 176 exAcStatus]) ++
     ([.msg 176 exAcStatus] ++ [.msg 176 exTimers]) ++ ([] ++ [.msg 176 exZones]) ++ [.msg 176 exZones])).st = .CONNECTED := by
  decide +kernel

/-! ## 3. the exposed entities -/

/-- from a state without entities (fresh or after `shutdown()`), the zone names `zn` and then the abilities `abs`
arrive as the accepted answers.  Afterwards:
* every zone of `zn` is in the zone dict, and every dict entry is a zone object with that number, a name given for that
  number in `zn`, and the initial status;
* every AC of `abs` is exposed, and every exposed AC is a freshly built object for an ability of `abs` with that number:
  its zone list has `zone_count` entries, the `k`-th being the object of zone `start_zone + k`, which forwards its
  updates to this AC. -/
theorem C09_entities_as_described_at5 (s : State) (hs : Handshaking s) (hst : s.st = .INIT_ZONE_NAMES)
    (hz0 : s.zones = []) (ha0 : s.acs = []) (t1 t2 : Nat) (zn : FF13.ZoneNamesMessage) (abs : List FF11.AcAbility)
    (hok : (processAcAbility abs { processZoneNames zn.zone_names s with st := .INIT_AC_ABILITY }).exc = none) :
    let s3 := runS s [.msg t1 (.extended (.zoneNames (.message zn))), .msg t2 (.extended (.acAbility (.ability abs)))]
    s3.st = .INIT_AC_STATUS ∧
    (∀ p ∈ zn.zone_names, (s3.zones.lookup p.1).isSome) ∧
    (∀ n r, s3.zones.lookup n = some r →
      ∃ z, s3.zobjs[r]? = some z ∧ z.id = n ∧ (n, z.name) ∈ zn.zone_names ∧ z.status = (newZone n z.name).status) ∧
    (∀ ab ∈ abs, (s3.acs.lookup ab.ac_number).isSome) ∧
    (∀ n r a, s3.ac? n = some (r, a) →
      ∃ ab ∈ abs, ab.ac_number = n ∧ a = newAc ab a.zones a.supportedModes a.supportedFanSpeeds ∧
        a.zones.length = ab.zone_count ∧
        ∀ k, k < ab.zone_count → ∃ zr z, a.zones[k]? = some zr ∧ s3.zobjs[zr]? = some z ∧
          z.id = ab.start_zone + k ∧ (ab.start_zone + k, z.name) ∈ zn.zone_names ∧ r ∈ z.fwd) := by
  intro s3
  -- the two steps
  have hsub2 : ({ processZoneNames zn.zone_names s with st := .INIT_AC_ABILITY } : State).sockSubscribed = true :=
    (sameSt_processZoneNames _ _).sockSubscribed.trans hs.sockSubscribed
  have e2 : s3 = { (processAcAbility abs { processZoneNames zn.zone_names s with st := .INIT_AC_ABILITY }).s with
      st := .INIT_AC_STATUS } := by
    show runS s _ = _
    simp only [runS_cons, runS_nil]
    rw [step_zoneNames s t1 zn hs.sockSubscribed hst, step_ability _ t2 abs hsub2 rfl hok]
  -- what the zone names, then the abilities built
  obtain ⟨c1, hz, c2, ha⟩ := described_from_empty s hz0 ha0 zn.zone_names abs .INIT_AC_ABILITY hok
  rw [e2]
  exact ⟨rfl, c1, hz, c2, fun n r a hac => ha.exposed hz hac⟩

/-- the example handshake: AC 0 exposes zones 0 and 1, named as the console said, both forwarding to it -/
example : (runS exS0 [.init, .conn true, .msg 176 exVersion, .msg 176 exNames, .msg 176 exAbilities]).airConditioners.map
      (fun a => (a.id, a.zones)) = [(0, [0, 1])] ∧
    (runS exS0 [.init, .conn true, .msg 176 exVersion, .msg 176 exNames, .msg 176 exAbilities]).zobjs.map
      (fun z => (z.id, z.name, z.fwd)) = [(0, [76], [0]), (1, [66], [0])] := by decide +kernel

/-- zero zones: the console echoes the zone-names request / the zone-status request.  The echo counts as the answer only
when it is addressed to the client (`to_address` 0xB0); a frame with any other address is ignored -/
theorem C09_zero_zones_echo_at5 (toAddr : Nat) (r : FF13.ZoneNamesRequest) :
    answers .INIT_ZONE_NAMES toAddr (.extended (.zoneNames (.request r))) = (toAddr == Gen.At5.Hdr.ADDRESS_CLIENT) ∧
    answers .INIT_ZONE_STATUS toAddr (.controlStatus (.zoneStatus .request)) = (toAddr == Gen.At5.Hdr.ADDRESS_CLIENT) ∧
    Gen.At5.Hdr.ADDRESS_CLIENT = 0xB0 := ⟨rfl, rfl, rfl⟩

/-- an AC described with `zone_count = 0` is exposed without zones (its zone list is `[]` whatever `start_zone` says) -/
theorem C09_zero_zone_ac_at5 (zones : List (Nat × Nat)) (start : Nat) : zoneRange zones start 0 = some [] := rfl

def exAbility0 : FF11.AcAbility := { exAbility with zone_count := 0 }

/-- a console without zones: request echoes instead of zone names / zone status; the API ends CONNECTED with one AC
that has no zones; an echo that is not addressed to the client (0x90) changes nothing -/
example :
    (runS exS0 [.init, .conn true, .msg 176 exVersion, .msg 144 (.extended (.zoneNames (.request ⟨none⟩)))]).st = .INIT_ZONE_NAMES ∧
    (runS exS0 [.init, .conn true, .msg 176 exVersion, .msg 176 (.extended (.zoneNames (.request ⟨none⟩))),
      .msg 176 (.extended (.acAbility (.ability [exAbility0]))), .msg 176 exAcStatus, .msg 176 exTimers,
      .msg 176 (.controlStatus (.zoneStatus .request))]).st = .CONNECTED ∧
    (runS exS0 [.init, .conn true, .msg 176 exVersion, .msg 176 (.extended (.zoneNames (.request ⟨none⟩))),
      .msg 176 (.extended (.acAbility (.ability [exAbility0]))), .msg 176 exAcStatus, .msg 176 exTimers,
      .msg 176 (.controlStatus (.zoneStatus .request))]).airConditioners.map (fun a => (a.id, a.zones)) = [(0, [])] := by
  decide +kernel

/-! ## 4. silence -/

/-- `init()` is called at time `t₀` on an API whose event is clear (nobody waiting, heartbeat manager idle); afterwards
only *quiet* ops happen: time passes, the connection comes and goes, undecodable frames and any frames that are not an
answer to the zone-status request arrive (the console never finishes the handshake).  Then, op by op:
* the event stays clear (`initialised` false) and the state machine never reaches CONNECTED;
* `RESULT init False` is emitted by exactly that `adv` during which the elapsed time reaches 40 ticks (5 s);
* nothing else is reported: no other `RESULT`, no exception except one raised inside a frame handler by a frame. -/
theorem C09_silence_at5 (s : State) (hi : HbIdle s.hb) (hn : s.initialised = false) (hp : s.pendingInits = [])
    (pre : List Op) (o : Op) (hq : ∀ x ∈ pre ++ [o], Op.isQuiet x = true) :
    let sk := runS s (.init :: pre)
    let elapsed := (pre.map Op.ticks).sum
    sk.initialised = false ∧ sk.st ≠ .CONNECTED ∧ (apiStep sk o).1.initialised = false ∧
    (Out.result "init False" ∈ (apiStep sk o).2 ↔ ∃ n, o = .adv n ∧ elapsed < 40 ∧ 40 ≤ elapsed + n) ∧
    (∀ x ∈ (apiStep sk o).2, SilentOut sk (s.now + 40) o x) := by
  intro sk elapsed
  obtain ⟨h0, _, hnow0⟩ := silent_init s hi hn hp
  obtain ⟨h1, hnow1⟩ : Silent _ sk ∧ sk.now = (apiStep s .init).1.now + elapsed :=
    silent_run _ _ pre h0 (fun x hx => hq x (by simp [hx]))
  obtain ⟨g1, g2, g3, _⟩ := silent_step _ sk o h1 (hq o (by simp))
  refine ⟨h1.ninit, h1.notConn, g1.ninit, ?_, g2⟩
  rw [g3, hnow1, hnow0]
  have ht : initTimeout = 40 := rfl
  exact ⟨fun ⟨n, e, a, b⟩ => ⟨n, e, by omega, by omega⟩, fun ⟨n, e, a, b⟩ => ⟨n, e, by omega, by omega⟩⟩

/-- silence after the version answer: nothing at +39 ticks, `RESULT init False` at +40, nothing afterwards; `initialised`
stays false -/
example :
    (Api5.run exS0 [.init, .conn true, .msg 176 exVersion, .adv 39, .adv 1, .adv 5000]).2 =
      [[.opened], [.send .connected msgConsoleVersionRequest false], [.send .connected msgZoneNamesRequestAll false],
       [], [.result "init False"], []] ∧
    (runS exS0 [.init, .conn true, .msg 176 exVersion, .adv 39, .adv 1, .adv 5000]).initialised = false := by decide +kernel

end PyAirtouch.Props.C09
