import PyAirtouch.Lemmas.Api5Defs
/-!
# C11 (AirTouch 5) — commands: refusals, exactly one send, set-point arithmetic, quick timers

`s.ac? id = some (r, a)` says that the public AC list has an AC `id` (object `a`); `s.zone? id = some (r, z)` that a
zone `id` is reachable through the zone lists of the public ACs (as the harness looks zones up).  All statements hold
for every state.
-/
namespace PyAirtouch.Props.C11
open PyAirtouch.Model PyAirtouch.Model.Api5 PyAirtouch.Model.At5 PyAirtouch.Model.At5.Registry
open PyAirtouch.Model.TimerCommon (AcTimerState AcTimerStatusData)
open PyAirtouch.Gen PyAirtouch.Gen.Api5 PyAirtouch.Lemmas.Api5

def exAbility : FF11.AcAbility :=
  { ac_number := 1, ac_name := [], start_zone := 0, zone_count := 1, ac_mode_support := [], fan_speed_support := [],
    min_cool_set_point := 17, max_cool_set_point := 30, min_heat_set_point := 16, max_heat_set_point := 28 }

/-- AC 1 supporting HEAT / COOL and LOW / HIGH, with zone 0 (no sensor) attached -/
def exState : State :=
  { State.new [] [] [] [] with
    st := .CONNECTED, sockOpen := true, sockSubscribed := true,
    aobjs := [newAc exAbility [0] [.HEAT, .COOL] [.LOW, .HIGH]], acs := [(1, 0)],
    zobjs := [{ newZone 0 [] with fwd := [0] }], zones := [(0, 0)] }

/-! ## 1. refusals: `ValueError`, nothing sent, nothing changed -/

theorem C11_unsupported_mode_refused_at5 (s : State) (id r : Nat) (a : AcObj) (m : ApiEnums.AcMode) (po : Bool)
    (h : s.ac? id = some (r, a)) (hm : m ∉ a.supportedModes) :
    apiStep s (.callAc id (.setMode m po)) = (s, [.result "ValueError"]) := by
  simp [apiStep, h, acCall, hm, raise, callOut]

example : (apiStep exState (.callAc 1 (.setMode .DRY true))).2 = [.result "ValueError"] := by decide +kernel

theorem C11_unsupported_fan_speed_refused_at5 (s : State) (id r : Nat) (a : AcObj) (f : ApiEnums.AcFanSpeed)
    (h : s.ac? id = some (r, a)) (hf : f ∉ a.supportedFanSpeeds) :
    apiStep s (.callAc id (.setFanSpeed f)) = (s, [.result "ValueError"]) := by
  simp [apiStep, h, acCall, hf, raise, callOut]

example : (apiStep exState (.callAc 1 (.setFanSpeed .TURBO))).2 = [.result "ValueError"] := by decide +kernel

theorem C11_unsupported_power_control_refused_at5 (s : State) (id r : Nat) (a : AcObj) (p : ApiEnums.AcPowerControl)
    (h : s.ac? id = some (r, a)) (hp : p ∉ supportedPowerControls) :
    apiStep s (.callAc id (.setPower p)) = (s, [.result "ValueError"]) := by
  simp [apiStep, h, acCall, hp, raise, callOut]

/-- … but an AirTouch 5 AC supports every power control (the hypothesis above is never met) -/
theorem C11_all_power_controls_supported_at5 (p : ApiEnums.AcPowerControl) : p ∈ supportedPowerControls := by
  cases p <;> decide

theorem C11_unsupported_zone_power_refused_at5 (s : State) (id r : Nat) (z : ZoneObj) (p : ApiEnums.ZonePowerState)
    (h : s.zone? id = some (r, z)) (hp : p ∉ supportedZonePowerStates) :
    apiStep s (.callZone id (.setPower p)) = (s, [.result "ValueError"]) := by
  simp [apiStep, h, zoneCall, hp, raise, callOut]

/-- … likewise every zone power state is supported -/
theorem C11_all_zone_power_states_supported_at5 (p : ApiEnums.ZonePowerState) : p ∈ supportedZonePowerStates := by
  cases p <;> decide

theorem C11_damper_out_of_range_refused_at5 (s : State) (id r : Nat) (z : ZoneObj) (p : Int)
    (h : s.zone? id = some (r, z)) (hp : p < 0 ∨ 100 < p) :
    apiStep s (.callZone id (.setDamperPercentage p)) = (s, [.result "ValueError"]) := by
  have : (p < 0 ∨ p > 100) := hp
  simp [apiStep, h, zoneCall, this, raise, callOut]

example : (apiStep exState (.callZone 0 (.setDamperPercentage 101))).2 = [.result "ValueError"] ∧
    (apiStep exState (.callZone 0 (.setDamperPercentage (-1)))).2 = [.result "ValueError"] := by decide +kernel

theorem C11_set_point_without_sensor_refused_at5 (s : State) (id r : Nat) (z : ZoneObj) (t : Int)
    (h : s.zone? id = some (r, z)) (hs : z.status.has_sensor = false) :
    apiStep s (.callZone id (.setTargetTemperature t)) = (s, [.result "ValueError"]) := by
  simp [apiStep, h, zoneCall, hs, raise, callOut]

example : (apiStep exState (.callZone 0 (.setTargetTemperature 2100))).2 = [.result "ValueError"] := by decide +kernel

/-! ## 2. every call leaves the state alone and sends exactly one message iff it answers OK -/

/-- every AC call: state unchanged; either one `SEND` followed by `RESULT OK`, or only `RESULT <exception>` -/
theorem C11_ac_call_one_send_at5 (s : State) (id : Nat) (c : AcCall) :
    (apiStep s (.callAc id c)).1 = s ∧
    ((∃ p m b, (apiStep s (.callAc id c)).2 = [.send p m b, .result "OK"]) ∨
     (∃ e, (apiStep s (.callAc id c)).2 = [.result e] ∧ e ≠ "OK")) := by
  simp only [apiStep]
  cases h : s.ac? id with
  | none => exact ⟨rfl, .inr ⟨"KeyError", rfl, by decide⟩⟩
  | some ra => exact ⟨(acCall_shape s ra.2 c).1, callOut_shape _ (acCall_shape s ra.2 c).2⟩

theorem C11_zone_call_one_send_at5 (s : State) (id : Nat) (c : ZoneCall) :
    (apiStep s (.callZone id c)).1 = s ∧
    ((∃ p m b, (apiStep s (.callZone id c)).2 = [.send p m b, .result "OK"]) ∨
     (∃ e, (apiStep s (.callZone id c)).2 = [.result e] ∧ e ≠ "OK")) := by
  simp only [apiStep]
  cases h : s.zone? id with
  | none => exact ⟨rfl, .inr ⟨"KeyError", rfl, by decide⟩⟩
  | some rz => exact ⟨(zoneCall_shape s rz.2 c).1, callOut_shape _ (zoneCall_shape s rz.2 c).2⟩

/-- an accepted `set_mode`: exactly the one control message for this AC -/
theorem C11_set_mode_sends_at5 (s : State) (id r : Nat) (a : AcObj) (m : ApiEnums.AcMode) (po : Bool)
    (c : Gen.At5.XC022AcCtrl.AcModeControl) (h : s.ac? id = some (r, a)) (hopen : s.sockOpen = true)
    (hm : m ∈ a.supportedModes) (hc : API_MODE_CONTROL_MAPPING m = some c) :
    apiStep s (.callAc id (.setMode m po)) =
      (s, [.send .idempotent (msgAcControl ⟨a.id, if po then .TURN_ON else .UNCHANGED, c, .UNCHANGED, none⟩) false, .result "OK"]) := by
  cases po <;> simp [apiStep, h, acCall, hm, hc, sendAcControl, sendMsg, hopen, callOut]

example : (apiStep exState (.callAc 1 (.setMode .HEAT true))).2 =
    [.send .idempotent (msgAcControl ⟨1, .TURN_ON, .HEAT, .UNCHANGED, none⟩) false, .result "OK"] := by decide +kernel

theorem C11_set_fan_speed_sends_at5 (s : State) (id r : Nat) (a : AcObj) (f : ApiEnums.AcFanSpeed)
    (c : Gen.At5.XC022AcCtrl.AcFanSpeedControl) (h : s.ac? id = some (r, a)) (hopen : s.sockOpen = true)
    (hf : f ∈ a.supportedFanSpeeds) (hc : API_FAN_SPEED_CONTROL_MAPPING f = some c) :
    apiStep s (.callAc id (.setFanSpeed f)) =
      (s, [.send .idempotent (msgAcControl ⟨a.id, .UNCHANGED, .UNCHANGED, c, none⟩) false, .result "OK"]) := by
  simp [apiStep, h, acCall, hf, hc, sendAcControl, sendMsg, hopen, callOut]

example : (apiStep exState (.callAc 1 (.setFanSpeed .HIGH))).2 =
    [.send .idempotent (msgAcControl ⟨1, .UNCHANGED, .UNCHANGED, .HIGH, none⟩) false, .result "OK"] := by decide +kernel

theorem C11_set_power_sends_at5 (s : State) (id r : Nat) (a : AcObj) (p : ApiEnums.AcPowerControl)
    (c : Gen.At5.XC022AcCtrl.AcPowerControl) (h : s.ac? id = some (r, a)) (hopen : s.sockOpen = true)
    (hc : API_POWER_CONTROL_MAPPING p = some c) :
    apiStep s (.callAc id (.setPower p)) =
      (s, [.send (if c = .TOGGLE then .nonIdempotent else .idempotent)
            (msgAcControl ⟨a.id, c, .UNCHANGED, .UNCHANGED, none⟩)
            false, .result "OK"]) := by
  have hp := C11_all_power_controls_supported_at5 p
  simp [apiStep, h, acCall, hp, hc, sendAcControl, sendMsg, hopen, callOut]

example : (apiStep exState (.callAc 1 (.setPower .SET_TO_SLEEP))).2 =
    [.send .idempotent (msgAcControl ⟨1, .SET_TO_SLEEP, .UNCHANGED, .UNCHANGED, none⟩) false, .result "OK"] := by decide +kernel

/-! ## 3. set-points -/

/-- `set_target_temperature` on an AC: one control message whose set-point is the argument rounded to 0.1 °C
(`roundTenths`, Python's `round(x, 1)`) and clipped into the limits of the current mode -/
theorem C11_ac_set_point_sends_at5 (s : State) (id r : Nat) (a : AcObj) (t : Int)
    (h : s.ac? id = some (r, a)) (hopen : s.sockOpen = true) :
    apiStep s (.callAc id (.setTargetTemperature t)) =
      (s, [.send .idempotent (msgAcControl ⟨a.id, .UNCHANGED, .UNCHANGED, .UNCHANGED, some (clip a.minTarget a.maxTarget (roundTenths t)).1⟩)
            (clip a.minTarget a.maxTarget (roundTenths t)).2, .result "OK"]) := by
  simp [apiStep, h, acCall, sendAcControl, sendMsg, hopen, callOut]

/-- rounding: the result is a whole number of tenths within 0.05 °C of the argument (hundredths); an argument with
one decimal is not changed -/
theorem C11_rounding_at5 (t : Int) :
    10 * roundTenths t - t ≤ 5 ∧ t - 10 * roundTenths t ≤ 5 ∧ roundTenths (10 * (roundTenths t)) = roundTenths t :=
  ⟨(roundTenths_close t).1, (roundTenths_close t).2, roundTenths_exact _⟩

/-- clipping (for limits `lo ≤ hi`, whole degrees): inside the range the rounded value is kept, below / above it the
limit is sent; the result always lies in the range -/
theorem C11_clipping_at5 (lo hi : Nat) (r : Int) (h : lo ≤ hi) :
    10 * (lo : Int) ≤ (clip lo hi r).1 ∧ (clip lo hi r).1 ≤ 10 * (hi : Int) ∧
    (10 * (lo : Int) ≤ r → r ≤ 10 * (hi : Int) → (clip lo hi r).1 = r) ∧
    (r ≤ 10 * (lo : Int) → (clip lo hi r).1 = 10 * (lo : Int)) ∧
    (10 * (hi : Int) ≤ r → (clip lo hi r).1 = 10 * (hi : Int)) := by
  have hlh : 10 * (lo : Int) ≤ 10 * (hi : Int) := by omega
  rw [clip_fst]
  exact ⟨Int.le_min.2 ⟨hlh, Int.le_max_right _ _⟩, Int.min_le_left _ _,
    fun h1 h2 => by rw [Int.max_eq_left h1, Int.min_eq_right h2],
    fun h1 => by rw [Int.max_eq_right h1, Int.min_eq_right hlh],
    fun h1 => Int.min_eq_left (Int.le_trans h1 (Int.le_max_left _ _))⟩

/-- 21.55 → 21.6 (the double nearest to 21.55 lies above the tie); 21.25 → 21.2 and 21.75 → 21.8 (exact ties, half to
even); 31.0 in AUTO mode with limits 16 … 30 → the limit 30 -/
example : roundTenths 2155 = 216 ∧ roundTenths 2125 = 212 ∧ roundTenths 2175 = 218 ∧ roundTenths (-2155) = -216 ∧
    (apiStep exState (.callAc 1 (.setTargetTemperature 3100))).2 =
      [.send .idempotent (msgAcControl ⟨1, .UNCHANGED, .UNCHANGED, .UNCHANGED, some 300⟩) true, .result "OK"] ∧
    (apiStep exState (.callAc 1 (.setTargetTemperature 2155))).2 =
      [.send .idempotent (msgAcControl ⟨1, .UNCHANGED, .UNCHANGED, .UNCHANGED, some 216⟩) false, .result "OK"] := by decide +kernel

/-- `set_target_temperature` on a zone with a sensor: rounded only, never clipped -/
theorem C11_zone_set_point_sends_at5 (s : State) (id r : Nat) (z : ZoneObj) (t : Int)
    (h : s.zone? id = some (r, z)) (hopen : s.sockOpen = true) (hs : z.status.has_sensor = true) :
    apiStep s (.callZone id (.setTargetTemperature t)) =
      (s, [.send .idempotent (msgZoneControl ⟨z.id, .UNCHANGED, some (.setPoint (roundTenths t))⟩) false, .result "OK"]) := by
  simp [apiStep, h, zoneCall, hs, sendZoneControl, sendMsg, hopen, callOut]

def exSensorState : State :=
  { exState with zobjs := [{ newZone 0 [] with fwd := [0], status := { (newZone 0 []).status with has_sensor := true } }] }

/-- 99.99 °C on a zone: sent as 100.0 °C -/
example : (apiStep exSensorState (.callZone 0 (.setTargetTemperature 9999))).2 =
    [.send .idempotent (msgZoneControl ⟨0, .UNCHANGED, some (.setPoint 1000)⟩) false, .result "OK"] := by decide +kernel

theorem C11_damper_sends_at5 (s : State) (id r : Nat) (z : ZoneObj) (p : Nat)
    (h : s.zone? id = some (r, z)) (hopen : s.sockOpen = true) (hp : p ≤ 100) :
    apiStep s (.callZone id (.setDamperPercentage p)) =
      (s, [.send .idempotent (msgZoneControl ⟨z.id, .UNCHANGED, some (.damper p)⟩) false, .result "OK"]) := by
  have h1 : ¬ ((p : Int) < 0 ∨ (p : Int) > 100) := by omega
  simp [apiStep, h, zoneCall, h1, sendZoneControl, sendMsg, hopen, callOut]

example : (apiStep exState (.callZone 0 (.setDamperPercentage 100))).2 =
    [.send .idempotent (msgZoneControl ⟨0, .UNCHANGED, some (.damper 100)⟩) false, .result "OK"] := by decide +kernel

theorem C11_zone_power_sends_at5 (s : State) (id r : Nat) (z : ZoneObj) (p : ApiEnums.ZonePowerState)
    (c : Gen.At5.XC020ZoneCtrl.ZonePowerControl) (h : s.zone? id = some (r, z)) (hopen : s.sockOpen = true)
    (hc : API_ZONE_POWER_MAPPING p = some c) :
    apiStep s (.callZone id (.setPower p)) =
      (s, [.send (if c = .TOGGLE then .nonIdempotent else .idempotent)
            (msgZoneControl ⟨z.id, c, none⟩) false, .result "OK"]) := by
  have hp := C11_all_zone_power_states_supported_at5 p
  simp [apiStep, h, zoneCall, hp, hc, sendZoneControl, sendMsg, hopen, callOut]

example : (apiStep exState (.callZone 0 (.setPower .TURBO))).2 =
    [.send .idempotent (msgZoneControl ⟨0, .TURBO, none⟩) false, .result "OK"] := by decide +kernel

/-! ## 4. quick timers: the other timer is re-sent exactly as last reported -/

theorem C11_set_quick_timer_time_at5 (s : State) (id r : Nat) (a : AcObj) (tt : ApiEnums.AcTimerType) (hour minute : Nat)
    (h : s.ac? id = some (r, a)) (hopen : s.sockOpen = true) (hh : hour < 24) (hm : minute < 60) :
    apiStep s (.callAc id (.setQuickTimerTime tt hour minute)) =
      (s, [.send .idempotent (msgTimerControl ⟨a.id, (timerPair a tt ⟨false, hour, minute⟩).1, (timerPair a tt ⟨false, hour, minute⟩).2⟩)
            false, .result "OK"]) := by
  cases tt <;> simp [apiStep, h, acCall, hh, hm, sendTimerControl, sendMsg, hopen, callOut, timerPair]

theorem C11_clear_quick_timer_at5 (s : State) (id r : Nat) (a : AcObj) (tt : ApiEnums.AcTimerType)
    (h : s.ac? id = some (r, a)) (hopen : s.sockOpen = true) :
    apiStep s (.callAc id (.clearQuickTimer tt)) =
      (s, [.send .idempotent (msgTimerControl ⟨a.id, (timerPair a tt ⟨true, 0, 0⟩).1, (timerPair a tt ⟨true, 0, 0⟩).2⟩)
            false, .result "OK"]) := by
  cases tt <;> simp [apiStep, h, acCall, sendTimerControl, sendMsg, hopen, callOut, timerPair]

/-- the duration form goes out as the quick-timer message of that timer only -/
theorem C11_set_quick_timer_duration_at5 (s : State) (id r : Nat) (a : AcObj) (tt : ApiEnums.AcTimerType) (secs : Nat)
    (c : Gen.At5.X1FFF49QuickTimer.TimerType) (h : s.ac? id = some (r, a)) (hopen : s.sockOpen = true)
    (hc : API_TIMER_TYPE_MAPPING tt = some c) :
    apiStep s (.callAc id (.setQuickTimerDuration tt secs)) =
      (s, [.send .idempotent (msgQuickTimer a.id c secs) false, .result "OK"]) := by
  simp [apiStep, h, acCall, hc, sendMsg, hopen, callOut]

def exTimerState : State :=
  { exState with aobjs := [{ newAc exAbility [0] [.HEAT] [.LOW] with timer := ⟨1, ⟨false, 6, 45⟩, ⟨false, 22, 15⟩⟩ }] }

/-- console reported ON 06:45 / OFF 22:15; setting OFF to 23:00 re-sends ON 06:45, clearing ON re-sends OFF 22:15 -/
example : (apiStep exTimerState (.callAc 1 (.setQuickTimerTime .OFF_TIMER 23 0))).2 =
      [.send .idempotent (msgTimerControl ⟨1, ⟨false, 6, 45⟩, ⟨false, 23, 0⟩⟩) false, .result "OK"] ∧
    (apiStep exTimerState (.callAc 1 (.clearQuickTimer .ON_TIMER))).2 =
      [.send .idempotent (msgTimerControl ⟨1, ⟨true, 0, 0⟩, ⟨false, 22, 15⟩⟩) false, .result "OK"] := by decide +kernel

end PyAirtouch.Props.C11
