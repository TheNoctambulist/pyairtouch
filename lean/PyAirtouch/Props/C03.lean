import PyAirtouch.Lemmas.At4X2A
import PyAirtouch.Lemmas.At4X2B
import PyAirtouch.Lemmas.At4X2C
import PyAirtouch.Lemmas.At4X2D
import PyAirtouch.Lemmas.At4X36
import PyAirtouch.Lemmas.At4X37
import PyAirtouch.Lemmas.At4FF10
import PyAirtouch.Lemmas.At4FF11
import PyAirtouch.Lemmas.At4FF12
import PyAirtouch.Lemmas.At4FF20
import PyAirtouch.Lemmas.At4FF30
import PyAirtouch.Lemmas.At5C020
import PyAirtouch.Lemmas.At5C021
import PyAirtouch.Lemmas.At5C022
import PyAirtouch.Lemmas.At5C023
import PyAirtouch.Lemmas.At5C032
import PyAirtouch.Lemmas.At5C033
import PyAirtouch.Lemmas.At5FF10
import PyAirtouch.Lemmas.At5FF11
import PyAirtouch.Lemmas.At5FF13
import PyAirtouch.Lemmas.At5FF49
import PyAirtouch.Lemmas.At5FF30
/-!
# C03 — every message frames and parses back identically, lengths agree (per message module)

For each of the 22 message modules (18 message and request classes per generation) two property
theorems, restated here from the module's lemma file with their exact types (`type_of%`):

* `C03_<module>_length`  — the number of bytes the encoder produces equals the length `size` computes in
  advance for the header (for AirTouch 5 control/status sub-messages: `non_repeat_size + repeat_size *
  repeat_count`, the three numbers written into the 0xC0 sub-header);
* `C03_<module>_roundtrip` — for every well-formed message `m` (`WF m`: field values in their protocol
  domains; `wfBool_iff` makes it decidable at run time) decoding the encoder's bytes followed by `rest`, with the
  header the send path builds from `size m`, returns exactly `m` and leaves exactly `rest`.

The statements come in three shapes, after the encoder model: where `encode` is total (it cannot raise, or a
checked variant `encodeE` is modelled beside it) they speak of `encode m`; where `encode` returns `Except`
they say `encode m = .ok bs → …` for the length and `∃ bs, encode m = .ok bs ∧ …` for the round trip; the timer
codecs (X36, X37, C032, C033, FF20, FF49) state the round trip of the total `encodeBytes` that `encode_ok` shows
`encode` to return.

Record counts, names and all field values are universally quantified.  The bit fields are read by
`Lemmas/BitField.lean`.  The lists of fixed-size records (X2B, X2D, C020-C023, the decoder of C033) go through
`Lemmas/Records.lean`; FF11 (records of announced length, walked by offset), FF12 and FF13 (a dict built with an
accumulator, keys distinct), X37 (four positional slots in one buffer) and the encoder of C033 (a `map`, not a
bind) have loops of their own.  Whole-frame theorems (header, wrappers, CRC) are in `Props/C03Frame.lean`.
-/
namespace PyAirtouch.Props.C03

theorem C03_At4X2A_length : type_of% @PyAirtouch.Lemmas.At4X2A.encode_length := @PyAirtouch.Lemmas.At4X2A.encode_length
theorem C03_At4X2A_roundtrip : type_of% @PyAirtouch.Lemmas.At4X2A.decode_encode := @PyAirtouch.Lemmas.At4X2A.decode_encode
theorem C03_At4X2B_length : type_of% @PyAirtouch.Lemmas.At4X2B.encode_length := @PyAirtouch.Lemmas.At4X2B.encode_length
theorem C03_At4X2B_roundtrip : type_of% @PyAirtouch.Lemmas.At4X2B.decode_encode := @PyAirtouch.Lemmas.At4X2B.decode_encode
theorem C03_At4X2C_length : type_of% @PyAirtouch.Lemmas.At4X2C.encode_length := @PyAirtouch.Lemmas.At4X2C.encode_length
theorem C03_At4X2C_roundtrip : type_of% @PyAirtouch.Lemmas.At4X2C.decode_encode := @PyAirtouch.Lemmas.At4X2C.decode_encode
theorem C03_At4X2D_length : type_of% @PyAirtouch.Lemmas.At4X2D.encode_length := @PyAirtouch.Lemmas.At4X2D.encode_length
theorem C03_At4X2D_roundtrip : type_of% @PyAirtouch.Lemmas.At4X2D.decode_encode := @PyAirtouch.Lemmas.At4X2D.decode_encode
theorem C03_At4X36_length : type_of% @PyAirtouch.Lemmas.At4X36.encode_length := @PyAirtouch.Lemmas.At4X36.encode_length
theorem C03_At4X36_roundtrip : type_of% @PyAirtouch.Lemmas.At4X36.decode_encode := @PyAirtouch.Lemmas.At4X36.decode_encode
theorem C03_At4X37_length : type_of% @PyAirtouch.Lemmas.At4X37.encode_length := @PyAirtouch.Lemmas.At4X37.encode_length
theorem C03_At4X37_roundtrip : type_of% @PyAirtouch.Lemmas.At4X37.decode_encode := @PyAirtouch.Lemmas.At4X37.decode_encode
theorem C03_At4FF10_length : type_of% @PyAirtouch.Lemmas.At4FF10.encode_length := @PyAirtouch.Lemmas.At4FF10.encode_length
theorem C03_At4FF10_roundtrip : type_of% @PyAirtouch.Lemmas.At4FF10.decode_encode := @PyAirtouch.Lemmas.At4FF10.decode_encode
theorem C03_At4FF11_length : type_of% @PyAirtouch.Lemmas.At4FF11.encode_length := @PyAirtouch.Lemmas.At4FF11.encode_length
theorem C03_At4FF11_roundtrip : type_of% @PyAirtouch.Lemmas.At4FF11.decode_encode := @PyAirtouch.Lemmas.At4FF11.decode_encode
theorem C03_At4FF12_length : type_of% @PyAirtouch.Lemmas.At4FF12.encode_length := @PyAirtouch.Lemmas.At4FF12.encode_length
theorem C03_At4FF12_roundtrip : type_of% @PyAirtouch.Lemmas.At4FF12.decode_encode := @PyAirtouch.Lemmas.At4FF12.decode_encode
theorem C03_At4FF20_length : type_of% @PyAirtouch.Lemmas.At4FF20.encode_length := @PyAirtouch.Lemmas.At4FF20.encode_length
theorem C03_At4FF20_roundtrip : type_of% @PyAirtouch.Lemmas.At4FF20.decode_encode := @PyAirtouch.Lemmas.At4FF20.decode_encode
theorem C03_At4FF30_length : type_of% @PyAirtouch.Lemmas.At4FF30.encode_length := @PyAirtouch.Lemmas.At4FF30.encode_length
theorem C03_At4FF30_roundtrip : type_of% @PyAirtouch.Lemmas.At4FF30.decode_encode := @PyAirtouch.Lemmas.At4FF30.decode_encode
theorem C03_At5C020_length : type_of% @PyAirtouch.Lemmas.At5C020.encode_length := @PyAirtouch.Lemmas.At5C020.encode_length
theorem C03_At5C020_roundtrip : type_of% @PyAirtouch.Lemmas.At5C020.decode_encode := @PyAirtouch.Lemmas.At5C020.decode_encode
theorem C03_At5C021_length : type_of% @PyAirtouch.Lemmas.At5C021.encode_length := @PyAirtouch.Lemmas.At5C021.encode_length
theorem C03_At5C021_roundtrip : type_of% @PyAirtouch.Lemmas.At5C021.decode_encode := @PyAirtouch.Lemmas.At5C021.decode_encode
theorem C03_At5C022_length : type_of% @PyAirtouch.Lemmas.At5C022.encode_length := @PyAirtouch.Lemmas.At5C022.encode_length
theorem C03_At5C022_roundtrip : type_of% @PyAirtouch.Lemmas.At5C022.decode_encode := @PyAirtouch.Lemmas.At5C022.decode_encode
theorem C03_At5C023_length : type_of% @PyAirtouch.Lemmas.At5C023.encode_length := @PyAirtouch.Lemmas.At5C023.encode_length
theorem C03_At5C023_roundtrip : type_of% @PyAirtouch.Lemmas.At5C023.decode_encode := @PyAirtouch.Lemmas.At5C023.decode_encode
theorem C03_At5C032_length : type_of% @PyAirtouch.Lemmas.At5C032.encode_length := @PyAirtouch.Lemmas.At5C032.encode_length
theorem C03_At5C032_roundtrip : type_of% @PyAirtouch.Lemmas.At5C032.decode_encode := @PyAirtouch.Lemmas.At5C032.decode_encode
theorem C03_At5C033_length : type_of% @PyAirtouch.Lemmas.At5C033.encode_length := @PyAirtouch.Lemmas.At5C033.encode_length
theorem C03_At5C033_roundtrip : type_of% @PyAirtouch.Lemmas.At5C033.decode_encode := @PyAirtouch.Lemmas.At5C033.decode_encode
theorem C03_At5FF10_length : type_of% @PyAirtouch.Lemmas.At5FF10.encode_length := @PyAirtouch.Lemmas.At5FF10.encode_length
theorem C03_At5FF10_roundtrip : type_of% @PyAirtouch.Lemmas.At5FF10.decode_encode := @PyAirtouch.Lemmas.At5FF10.decode_encode
theorem C03_At5FF11_length : type_of% @PyAirtouch.Lemmas.At5FF11.encode_length := @PyAirtouch.Lemmas.At5FF11.encode_length
theorem C03_At5FF11_roundtrip : type_of% @PyAirtouch.Lemmas.At5FF11.decode_encode := @PyAirtouch.Lemmas.At5FF11.decode_encode
theorem C03_At5FF13_length : type_of% @PyAirtouch.Lemmas.At5FF13.encode_length := @PyAirtouch.Lemmas.At5FF13.encode_length
theorem C03_At5FF13_roundtrip : type_of% @PyAirtouch.Lemmas.At5FF13.decode_encode := @PyAirtouch.Lemmas.At5FF13.decode_encode
theorem C03_At5FF49_length : type_of% @PyAirtouch.Lemmas.At5FF49.encode_length := @PyAirtouch.Lemmas.At5FF49.encode_length
theorem C03_At5FF49_roundtrip : type_of% @PyAirtouch.Lemmas.At5FF49.decode_encode := @PyAirtouch.Lemmas.At5FF49.decode_encode
theorem C03_At5FF30_length : type_of% @PyAirtouch.Lemmas.At5FF30.encode_length := @PyAirtouch.Lemmas.At5FF30.encode_length
theorem C03_At5FF30_roundtrip : type_of% @PyAirtouch.Lemmas.At5FF30.decode_encode := @PyAirtouch.Lemmas.At5FF30.decode_encode

-- non-vacuity: a concrete well-formed AirTouch 4 group status message (the vendor example) round-trips
open PyAirtouch.Model.At4.X2B in
example : ∃ m rest, decode [0x40,0x64,0x00,0x00,0xff,0x00,0x41,0xe4,0x1a,0x80,0x61,0x80] 12 = .ok (m, rest) ∧
    wfBool m = true ∧ encode m = [0x40,0x64,0x00,0x00,0xff,0x00,0x41,0xe4,0x1a,0x80,0x61,0x80] ∧ size m = 12 := by
  refine ⟨_, _, rfl, ?_, ?_, ?_⟩ <;> decide

end PyAirtouch.Props.C03
