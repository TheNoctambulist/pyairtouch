import PyAirtouch.Lemmas.Api4Calls
import PyAirtouch.Lemmas.Api4Demo
/-!
# C11 (AirTouch 4): argument validation, exactly one send per accepted call, set-point rounding and clamping,
quick timers

A public call is the op `.call c`; `apiStep s (.call c) = (s, doCall s c)`: a call never changes the model state.
`s.findAc i = some a` / `s.findZone i = some zi` say which object the call addresses.
-/
namespace PyAirtouch.Props.C11
open PyAirtouch.Model PyAirtouch.Model.Api4 PyAirtouch.Model.At4 PyAirtouch.Lemmas.Api4 PyAirtouch.Gen
open PyAirtouch.Model.TimerCommon (AcTimerState AcTimerStatusData)

/-- a call leaves the state alone and either sends exactly one message and returns, or raises without sending -/
theorem call_one_send_or_raise_at4 (s : State) (c : Call) :
    (apiStep s (.call c)).1 = s ∧
    ((∃ p m, callResult s c = .ok (p, m) ∧ s.sockOpen = true ∧
        (apiStep s (.call c)).2 = [Ev.send p m, Ev.result "OK"]) ∨
     (∃ e : Exc, (apiStep s (.call c)).2 = [Ev.result e.name])) :=
  ⟨rfl, call_cases s c⟩

/-- every accepted call (`RESULT OK`) produces exactly one send, every rejected one none -/
theorem accepted_call_sends_once_at4 (s : State) (c : Call) :
    (Ev.result "OK" ∈ (apiStep s (.call c)).2 → ((apiStep s (.call c)).2.filter Ev.isSend).length = 1) ∧
    (Ev.result "OK" ∉ (apiStep s (.call c)).2 → (apiStep s (.call c)).2.filter Ev.isSend = []) := by
  obtain ⟨_, h⟩ := call_one_send_or_raise_at4 s c
  rcases h with ⟨p, m, _, _, he⟩ | ⟨e, he⟩
  · rw [he]; constructor
    · intro _; rfl
    · intro hn; exact absurd (by simp) hn
  · rw [he]; constructor
    · intro hm
      simp only [List.mem_singleton, Ev.result.injEq] at hm
      cases e <;> simp [Exc.name] at hm
    · intro _; rfl

/-! ### rejected arguments: `ValueError`, nothing sent -/

theorem unsupported_power_control_at4 (s : State) (i : Nat) (a : AcObj) (hf : s.findAc i = some a)
    (p : ApiEnums.AcPowerControl) (hp : p ∉ supportedPowerControls) :
    apiStep s (.call (.acSetPower i p)) = (s, valueError) := by
  simp [apiStep, doCall, callResult, Call.acId?, hf, callAc, hp, valueError, Exc.name]

/-- the power controls the AirTouch 4 does not have -/
theorem away_sleep_unsupported_at4 :
    ApiEnums.AcPowerControl.SET_TO_AWAY ∉ supportedPowerControls ∧
    ApiEnums.AcPowerControl.SET_TO_SLEEP ∉ supportedPowerControls := by
  decide

theorem unsupported_mode_at4 (s : State) (i : Nat) (a : AcObj) (hf : s.findAc i = some a)
    (m : ApiEnums.AcMode) (po : Bool) (hm : m ∉ a.supportedModes) :
    apiStep s (.call (.acSetMode i m po)) = (s, valueError) := by
  simp [apiStep, doCall, callResult, Call.acId?, hf, callAc, hm, valueError, Exc.name]

theorem unsupported_fan_speed_at4 (s : State) (i : Nat) (a : AcObj) (hf : s.findAc i = some a)
    (f : ApiEnums.AcFanSpeed) (hm : f ∉ a.supportedFanSpeeds) :
    apiStep s (.call (.acSetFanSpeed i f)) = (s, valueError) := by
  simp [apiStep, doCall, callResult, Call.acId?, hf, callAc, hm, valueError, Exc.name]

theorem unsupported_zone_power_at4 (s : State) (i zi : Nat) (z : ZoneObj) (hf : s.findZone i = some zi)
    (hz : s.zoneObjs[zi]? = some z) (p : ApiEnums.ZonePowerState) (hp : p ∉ z.supportedPowerStates) :
    apiStep s (.call (.zoneSetPower i p)) = (s, valueError) := by
  simp [apiStep, doCall, callResult, Call.acId?, Call.zoneId?, hf, hz, callZone, hp, valueError, Exc.name]

/-- TURBO is a supported zone power state exactly when the last group status said `supports_turbo` -/
theorem turbo_supported_iff_at4 (z : ZoneObj) :
    (ApiEnums.ZonePowerState.TURBO ∈ z.supportedPowerStates ↔ z.status.supports_turbo = true) ∧
    ApiEnums.ZonePowerState.ON ∈ z.supportedPowerStates ∧ ApiEnums.ZonePowerState.OFF ∈ z.supportedPowerStates := by
  unfold ZoneObj.supportedPowerStates
  cases z.status.supports_turbo <;> simp

theorem damper_out_of_range_at4 (s : State) (i zi : Nat) (z : ZoneObj) (hf : s.findZone i = some zi)
    (hz : s.zoneObjs[zi]? = some z) (p : Int) (hp : p < 0 ∨ 100 < p) :
    apiStep s (.call (.zoneSetDamper i p)) = (s, valueError) := by
  have : (p < 0 ∨ p > 100) := hp
  simp [apiStep, doCall, callResult, Call.acId?, Call.zoneId?, hf, hz, callZone, this, valueError, Exc.name]

theorem set_point_without_sensor_at4 (s : State) (i zi : Nat) (z : ZoneObj) (hf : s.findZone i = some zi)
    (hz : s.zoneObjs[zi]? = some z) (h : Int) (hs : z.status.has_sensor = false) :
    apiStep s (.call (.zoneSetTemp i h)) = (s, valueError) := by
  simp [apiStep, doCall, callResult, Call.acId?, Call.zoneId?, hf, hz, callZone, hs, valueError, Exc.name]

/-- a time of day that `datetime.time` refuses never reaches the API -/
theorem invalid_time_at4 (s : State) (i : Nat) (a : AcObj) (hf : s.findAc i = some a) (tt : ApiEnums.AcTimerType)
    (hour minute : Nat) (h : 24 ≤ hour ∨ 60 ≤ minute) :
    apiStep s (.call (.acSetTimerTime i tt hour minute)) = (s, valueError) := by
  have : ¬ (hour < 24 ∧ minute < 60) := by omega
  simp [apiStep, doCall, callResult, Call.acId?, hf, callAc, this, valueError, Exc.name]

/-! ### accepted calls: what is sent -/

theorem damper_in_range_at4 (s : State) (i zi : Nat) (z : ZoneObj) (hf : s.findZone i = some zi)
    (hz : s.zoneObjs[zi]? = some z) (ho : s.sockOpen = true) (p : Nat) (hp : p ≤ 100) :
    (apiStep s (.call (.zoneSetDamper i p))).2 =
      [Ev.send .idempotent (.reg (.groupCtrl { group_number := z.status.group_number, power := .UNCHANGED, control_method := .DAMPER, setting := .damper p })), Ev.result "OK"] := by
  have h1 : ¬ ((p : Int) < 0 ∨ (p : Int) > 100) := by omega
  simp [apiStep, doCall, callResult, Call.acId?, Call.zoneId?, hf, hz, callZone, h1, ho, groupControl]

/-! ### set-points: rounding (half to even) and clamping -/

/-- `roundHundredths h` is the integer nearest to `h / 100`, a tie going to the even neighbour -/
theorem round_spec_at4 (h : Int) :
    100 * roundHundredths h - 50 ≤ h ∧ h ≤ 100 * roundHundredths h + 50 ∧
    ((h = 100 * roundHundredths h + 50 ∨ h = 100 * roundHundredths h - 50) → roundHundredths h % 2 = 0) := by
  unfold roundHundredths
  simp only
  split
  · omega
  · split
    · omega
    · split <;> omega

/-- the AC set-point call sends the rounded temperature clamped into `[min, max]` of the ability record, as
    an `AcSetPointValue`, power / mode / fan speed unchanged, with the idempotent policy -/
theorem ac_set_point_at4 (s : State) (i : Nat) (a : AcObj) (hf : s.findAc i = some a) (ho : s.sockOpen = true)
    (h : Int) :
    ∃ v : Nat,
      (apiStep s (.call (.acSetTemp i h))).2 =
        [Ev.send .idempotent (.reg (.acCtrl { ac_number := a.status.ac_number, power := .UNCHANGED, mode := .UNCHANGED, fan_speed := .UNCHANGED, set_point_control := .value v })), Ev.result "OK"] ∧
      (v : Int) = min (max (a.ability.min_set_point : Int) (roundHundredths h)) (a.ability.max_set_point : Int) ∧
      (a.ability.min_set_point ≤ a.ability.max_set_point →
        a.ability.min_set_point ≤ v ∧ v ≤ a.ability.max_set_point) ∧
      ((a.ability.min_set_point : Int) ≤ roundHundredths h → roundHundredths h ≤ (a.ability.max_set_point : Int) →
        (v : Int) = roundHundredths h) := by
  refine ⟨(min (max (a.ability.min_set_point : Int) (roundHundredths h)) (a.ability.max_set_point : Int)).toNat, ?_, ?_, ?_, ?_⟩
  · simp [apiStep, doCall, callResult, Call.acId?, hf, callAc, ho, acControl, AcObj.acId]
  · omega
  · intro hle; omega
  · intro h1 h2; omega

/-- the zone set-point call sends the rounded temperature (no clamp) and switches the zone to temperature
    control -/
theorem zone_set_point_at4 (s : State) (i zi : Nat) (z : ZoneObj) (hf : s.findZone i = some zi)
    (hz : s.zoneObjs[zi]? = some z) (ho : s.sockOpen = true) (hs : z.status.has_sensor = true) (h : Int)
    (hpos : 0 ≤ roundHundredths h) :
    (apiStep s (.call (.zoneSetTemp i h))).2 =
      [Ev.send .idempotent (.reg (.groupCtrl { group_number := z.status.group_number, power := .UNCHANGED, control_method := .TEMPERATURE, setting := .setPoint (roundHundredths h).toNat })), Ev.result "OK"] := by
  simp [apiStep, doCall, callResult, Call.acId?, Call.zoneId?, hf, hz, callZone, hs, hpos, ho, groupControl]

/-! ### quick timers -/

/-- setting a timer to a time of day sends an `AcTimerControlMessage` whose *other* timer is exactly the
    last reported one -/
theorem set_timer_keeps_other_at4 (s : State) (i : Nat) (a : AcObj) (hf : s.findAc i = some a)
    (ho : s.sockOpen = true) (hour minute : Nat) (hh : hour < 24) (hm : minute < 60) :
    (apiStep s (.call (.acSetTimerTime i .ON_TIMER hour minute))).2 =
      [Ev.send .idempotent (.reg (.acTimerCtrl { ac_timer_status := [{ ac_number := a.status.ac_number, on_timer := { disabled := false, hour := hour, minute := minute }, off_timer := a.timer.off_timer }] })),
       Ev.result "OK"] ∧
    (apiStep s (.call (.acSetTimerTime i .OFF_TIMER hour minute))).2 =
      [Ev.send .idempotent (.reg (.acTimerCtrl { ac_timer_status := [{ ac_number := a.status.ac_number, on_timer := a.timer.on_timer, off_timer := { disabled := false, hour := hour, minute := minute } }] })),
       Ev.result "OK"] := by
  constructor <;>
    simp [apiStep, doCall, callResult, Call.acId?, hf, callAc, hh, hm, ho, timerControl, AcObj.acId]

/-- clearing a timer likewise -/
theorem clear_timer_keeps_other_at4 (s : State) (i : Nat) (a : AcObj) (hf : s.findAc i = some a)
    (ho : s.sockOpen = true) :
    (apiStep s (.call (.acClearTimer i .ON_TIMER))).2 =
      [Ev.send .idempotent (.reg (.acTimerCtrl { ac_timer_status := [{ ac_number := a.status.ac_number, on_timer := { disabled := true, hour := 0, minute := 0 }, off_timer := a.timer.off_timer }] })),
       Ev.result "OK"] ∧
    (apiStep s (.call (.acClearTimer i .OFF_TIMER))).2 =
      [Ev.send .idempotent (.reg (.acTimerCtrl { ac_timer_status := [{ ac_number := a.status.ac_number, on_timer := a.timer.on_timer, off_timer := { disabled := true, hour := 0, minute := 0 } }] })),
       Ev.result "OK"] := by
  constructor <;>
    simp [apiStep, doCall, callResult, Call.acId?, hf, callAc, ho, timerControl, AcObj.acId]

/-- a duration goes out as a `QuickTimerMessage` -/
theorem set_timer_duration_at4 (s : State) (i : Nat) (a : AcObj) (hf : s.findAc i = some a)
    (ho : s.sockOpen = true) (secs : Nat) :
    (apiStep s (.call (.acSetTimerDuration i .ON_TIMER secs))).2 =
      [Ev.send .idempotent (.reg (.extended (.quickTimer { ac_number := a.status.ac_number, timer_type := .ON_TIMER, duration := secs }))), Ev.result "OK"] ∧
    (apiStep s (.call (.acSetTimerDuration i .OFF_TIMER secs))).2 =
      [Ev.send .idempotent (.reg (.extended (.quickTimer { ac_number := a.status.ac_number, timer_type := .OFF_TIMER, duration := secs }))), Ev.result "OK"] := by
  constructor <;> simp only [apiStep, doCall, callResult, Call.acId?, hf, ho, ↓reduceIte] <;> rfl


/-! ### accepted enum arguments: the message carries the table's translation -/

theorem set_power_accepted_at4 (s : State) (i : Nat) (a : AcObj) (hf : s.findAc i = some a) (ho : s.sockOpen = true) :
    (apiStep s (.call (.acSetPower i .TOGGLE))).2 =
      [Ev.send .nonIdempotent (acCtl a .TOGGLE .UNCHANGED .UNCHANGED), Ev.result "OK"] ∧
    (apiStep s (.call (.acSetPower i .TURN_OFF))).2 =
      [Ev.send .idempotent (acCtl a .TURN_OFF .UNCHANGED .UNCHANGED), Ev.result "OK"] ∧
    (apiStep s (.call (.acSetPower i .TURN_ON))).2 =
      [Ev.send .idempotent (acCtl a .TURN_ON .UNCHANGED .UNCHANGED), Ev.result "OK"] := by
  refine ⟨?_, ?_, ?_⟩ <;> simp only [apiStep, doCall, callResult, Call.acId?, hf, ho, ↓reduceIte] <;> rfl

theorem modeCtl_is_table_at4 (m : ApiEnums.AcMode) : lookupE Api4.API_MODE_CONTROL_MAPPING m = .ok (modeCtl m) := by
  cases m <;> rfl

theorem set_mode_accepted_at4 (s : State) (i : Nat) (a : AcObj) (hf : s.findAc i = some a) (ho : s.sockOpen = true)
    (m : ApiEnums.AcMode) (po : Bool) (hm : m ∈ a.supportedModes) :
    (apiStep s (.call (.acSetMode i m po))).2 =
      [Ev.send .idempotent (acCtl a (if po then .TURN_ON else .UNCHANGED) (modeCtl m) .UNCHANGED), Ev.result "OK"] := by
  have hc : a.supportedModes.contains m = true := by simpa using hm
  simp only [apiStep, doCall, callResult, Call.acId?, hf, callAc, hc, ↓reduceIte, modeCtl_is_table_at4, ho]
  cases po <;> rfl

theorem set_fan_speed_accepted_at4 (s : State) (i : Nat) (a : AcObj) (hf : s.findAc i = some a)
    (ho : s.sockOpen = true) (f : ApiEnums.AcFanSpeed) (hm : f ∈ a.supportedFanSpeeds)
    (c : At4.X2CAcCtrl.AcFanSpeedControl) (hc : fanCtl f = some c) :
    (apiStep s (.call (.acSetFanSpeed i f))).2 =
      [Ev.send .idempotent (acCtl a .UNCHANGED .UNCHANGED c), Ev.result "OK"] := by
  have hcn : a.supportedFanSpeeds.contains f = true := by simpa using hm
  have hl : lookupE Api4.API_FAN_SPEED_CONTROL_MAPPING f = .ok c := by
    cases f <;> simp only [fanCtl, Option.some.injEq, reduceCtorEq] at hc <;> subst hc <;> rfl
  simp only [apiStep, doCall, callResult, Call.acId?, hf, callAc, hcn, ↓reduceIte, hl, ho]
  rfl

/-- the air-conditioner objects the handshake builds never list `INTELLIGENT_AUTO` (or anything else outside
    the translation table) as supported -/
theorem mkAc_supported_fans_at4 (ab : FF11.AcAbility) (zs : List Nat) (a : AcObj) (h : mkAc ab zs = some a)
    (f : ApiEnums.AcFanSpeed) (hf : f ∈ a.supportedFanSpeeds) : (fanCtl f).isSome := by
  -- a supported fan speed is a key of the translation table, and `INTELLIGENT_AUTO` is not one
  have hk := supportedOf_keys _ _ _ (mkAc_supported h).2 f hf
  revert hk
  cases f <;> decide

theorem zone_power_accepted_at4 (s : State) (i zi : Nat) (z : ZoneObj) (hf : s.findZone i = some zi)
    (hz : s.zoneObjs[zi]? = some z) (ho : s.sockOpen = true) (p : ApiEnums.ZonePowerState)
    (hp : p ∈ z.supportedPowerStates) :
    (apiStep s (.call (.zoneSetPower i p))).2 =
      [Ev.send .idempotent (.reg (.groupCtrl { group_number := z.status.group_number, power := zonePowerCtl p, control_method := .UNCHANGED, setting := .none })),
       Ev.result "OK"] := by
  have hc : z.supportedPowerStates.contains p = true := by simpa using hp
  have hl : lookupE Api4.API_ZONE_POWER_MAPPING p = .ok (zonePowerCtl p) := by cases p <;> rfl
  simp only [apiStep, doCall, callResult, Call.acId?, Call.zoneId?, hf, hz, Option.bind_some, callZone, hc, ↓reduceIte, hl, ho]
  rfl

/-! ### non-vacuity: the theorems above applied to the state after a concrete handshake -/

example : (apiStep demo (.call (.acSetTemp 0 2250))).2 =
    [Ev.send .idempotent (.reg (.acCtrl { ac_number := 0, power := .UNCHANGED, mode := .UNCHANGED, fan_speed := .UNCHANGED, set_point_control := .value 22 })), Ev.result "OK"] := by rw [demo_eq]; decide
example : (apiStep demo (.call (.acSetTemp 0 2350))).2 =
    [Ev.send .idempotent (.reg (.acCtrl { ac_number := 0, power := .UNCHANGED, mode := .UNCHANGED, fan_speed := .UNCHANGED, set_point_control := .value 24 })), Ev.result "OK"] := by rw [demo_eq]; decide
example : (apiStep demo (.call (.acSetTemp 0 9900))).2 =
    [Ev.send .idempotent (.reg (.acCtrl { ac_number := 0, power := .UNCHANGED, mode := .UNCHANGED, fan_speed := .UNCHANGED, set_point_control := .value 30 })), Ev.result "OK"] := by rw [demo_eq]; decide
example : (apiStep demo (.call (.acSetPower 0 .SET_TO_AWAY))).2 = valueError := by rw [demo_eq]; decide
example : (apiStep demo (.call (.acSetFanSpeed 0 .INTELLIGENT_AUTO))).2 = valueError := by rw [demo_eq]; decide
example : (apiStep demo (.call (.zoneSetTemp 0 2000))).2 = valueError := by rw [demo_eq]; decide        -- zone 0 has no sensor
example : (apiStep demo (.call (.zoneSetPower 0 .TURBO))).2 = valueError := by rw [demo_eq]; decide
example : (apiStep demo (.call (.zoneSetDamper 1 101))).2 = valueError := by rw [demo_eq]; decide
example : (apiStep demo (.call (.zoneSetDamper 1 (-1)))).2 = valueError := by rw [demo_eq]; decide
example : ∃ zi z, demo.findZone 1 = some zi ∧ demo.zoneObjs[zi]? = some z ∧ z.status.has_sensor = true ∧
    ApiEnums.ZonePowerState.TURBO ∈ z.supportedPowerStates := by
  rw [demo_eq]; exact ⟨1, _, by decide, rfl, by decide, by decide⟩
example : ∃ a, demo.findAc 0 = some a ∧ demo.sockOpen = true ∧ ApiEnums.AcMode.DRY ∈ a.supportedModes ∧
    ApiEnums.AcFanSpeed.TURBO ∈ a.supportedFanSpeeds ∧ a.timer.on_timer = { disabled := false, hour := 7, minute := 30 } := by
  rw [demo_eq]; exact ⟨_, rfl, by decide, by decide, by decide, by decide⟩
example : (apiStep demo (.call (.acClearTimer 0 .OFF_TIMER))).2 =
    [Ev.send .idempotent (.reg (.acTimerCtrl { ac_timer_status := [{ ac_number := 0, on_timer := { disabled := false, hour := 7, minute := 30 }, off_timer := { disabled := true, hour := 0, minute := 0 } }] })), Ev.result "OK"] := by rw [demo_eq]; decide
/-- an air-conditioner that supports only AUTO mode and AUTO fan speed -/
example : ∃ (s : State) (a : AcObj), s.findAc 0 = some a ∧ ApiEnums.AcMode.DRY ∉ a.supportedModes ∧
    ApiEnums.AcFanSpeed.TURBO ∉ a.supportedFanSpeeds ∧ (apiStep s (.call (.acSetMode 0 .DRY true))).2 = valueError :=
  ⟨{ demoState with acObjs := [(mkAc { demoAbility with ac_mode_support := FF11.decModeSupport 1, fan_speed_support := FF11.decFanSpeedSupport 1 } []).get (by decide)] },
   _, rfl, by decide, by decide, by decide⟩

example : roundHundredths 2250 = 22 ∧ roundHundredths 2350 = 24 ∧ roundHundredths (-50) = 0 ∧ roundHundredths (-150) = -2 ∧
    roundHundredths 2249 = 22 ∧ roundHundredths 2251 = 23 := by decide

end PyAirtouch.Props.C11
