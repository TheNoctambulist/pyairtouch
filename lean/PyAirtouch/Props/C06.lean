import PyAirtouch.Lemmas.Crc
import PyAirtouch.Lemmas.CrcDetect
/-!
# C06 — the checksum is CRC-16/MODBUS

In the statements `Bytes bs` is the predicate `CrcDetect.Bytes` ("every element below 256", the same as
`Model.AllBytes`, which the lemmas use), not the type `Model.Bytes`: both namespaces are open here.
-/
namespace PyAirtouch.Props.C06
open PyAirtouch.Gen PyAirtouch.Model PyAirtouch.Spec PyAirtouch.Lemmas.Crc PyAirtouch.Lemmas.CrcDetect

/-- Each of the 256 words of the table in the source (regenerated on every run) is eight shifts of
    the reflected polynomial 0xA001 applied to its index. -/
theorem C06_table_is_bitwise : ∀ i : Fin 256, crcTable.getD i.val 0 =
    bitStep (bitStep (bitStep (bitStep (bitStep (bitStep (bitStep (bitStep i.val))))))) :=
  fun i => table_spec i.val i.isLt

/-- the table has exactly 256 entries, so the masked index never falls outside it -/
theorem C06_table_index_in_range (crc val : Nat) : ((val ^^^ crc) &&& 0x00FF) < crcTable.length := by
  rw [table_length]
  exact Nat.lt_succ_of_le Nat.and_le_right

/-- For **every** byte string, `calculate` returns the CRC-16/MODBUS check bytes (initial value
    0xFFFF, reflected polynomial 0xA001), high byte first; `to_bytes` never overflows. -/
theorem C06_calculate_eq_modbus (bs : List Nat) (h : Bytes bs) :
    crcCalculate bs = some (checkBytes bs) :=
  calculate_eq_modbus bs h

/-- `validate` accepts exactly the correct two check bytes -/
theorem C06_validate_iff (d k : List Nat) (hd : Bytes d) (hk : k.length = 2) :
    crcValidate d k = .result (decide (k = checkBytes d)) :=
  validate_iff d k hd hk

/-- a check value that is not two bytes long raises `ValueError` (it is never accepted) -/
theorem C06_validate_wrong_length (d k : List Nat) (hk : k.length ≠ 2) :
    crcValidate d k = .valueError := by
  unfold crcValidate
  have hlen : crcChecksumLength = 2 := by decide
  simp [hlen, hk]

-- non-vacuity: the vendor's group-status request frame (AirTouch 4 protocol v1.6, 0x2B example)
example : Bytes [0x80, 0xb0, 0x01, 0x2b, 0x00, 0x00] ∧
    crcValidate [0x80, 0xb0, 0x01, 0x2b, 0x00, 0x00] [0xf5, 0x2f] = .result true ∧
    crcValidate [0x80, 0xb0, 0x01, 0x2b, 0x00, 0x00] [0xf5, 0x2e] = .result false := by
  have hb : Bytes [0x80, 0xb0, 0x01, 0x2b, 0x00, 0x00] := by decide
  refine ⟨hb, ?_, ?_⟩ <;> rw [C06_validate_iff _ _ hb rfl] <;> decide +kernel

/-! ### Damage detection

A received frame is `(xorL d e, xorL (checkBytes d) ke)`: covered bytes `d` damaged by the error
pattern `e`, the two check bytes (sent high byte first) damaged by `ke`.  `weight` counts damaged
bits; `bitsOf` lists bits in the order CRC-16/MODBUS consumes them (byte by byte, least
significant bit first); `reg0 e` is the register the error pattern alone produces from 0. -/

/-- Exact characterisation: the damaged frame passes `validate` iff the error pattern's register
    equals the error on the check value (linearity of the CRC register). -/
theorem C06_undetected_iff (d e ke : List Nat) (hd : Bytes d) (he : Bytes e) (hk : Bytes ke)
    (hlen : e.length = d.length) (hk2 : ke.length = 2) :
    crcValidate (xorL d e) (xorL (checkBytes d) ke) = .result (decide (reg0 e = word2 ke)) :=
  validate_damaged d e ke hd he hk hlen hk2

/-- any single damaged bit, in the covered bytes or in the check bytes, is rejected -/
theorem C06_detects_single_bit (d e ke : List Nat) (hd : Bytes d) (he : Bytes e) (hk : Bytes ke)
    (hlen : e.length = d.length) (hk2 : ke.length = 2) (hw : weight e + weight ke = 1) :
    crcValidate (xorL d e) (xorL (checkBytes d) ke) = .result false := by
  rw [C06_undetected_iff d e ke hd he hk hlen hk2, decide_eq_false (detects_single_bit e ke he hk hk2 hw)]

/-- any two damaged bits anywhere in a frame whose covered part is at most 4093 bytes (every
    frame of this protocol is far shorter; the polynomial's period is 32 767 bit positions) -/
theorem C06_detects_double_bit (d e ke : List Nat) (hd : Bytes d) (he : Bytes e) (hk : Bytes ke)
    (hlen : e.length = d.length) (hk2 : ke.length = 2) (hw : weight e + weight ke = 2)
    (hshort : d.length ≤ 4093) :
    crcValidate (xorL d e) (xorL (checkBytes d) ke) = .result false := by
  rw [C06_undetected_iff d e ke hd he hk hlen hk2,
    decide_eq_false (detects_double_bit e ke he hk hk2 hw (hlen ▸ hshort))]

/-- any non-zero error confined to 16 consecutive bit positions of the covered bytes -/
theorem C06_detects_burst16_in_covered_bytes (d e : List Nat) (hd : Bytes d) (he : Bytes e)
    (hlen : e.length = d.length) (hb : Burst16 (bitsOf e)) (hw : weight e ≠ 0) :
    crcValidate (xorL d e) (xorL (checkBytes d) [0, 0]) = .result false := by
  rw [C06_undetected_iff d e [0, 0] hd he (by decide) hlen rfl, reg0_eq_feedBits e he]
  exact congrArg _ (decide_eq_false (feedBits_burst_ne_zero _ hb hw))

/-- any non-zero error confined to the two check bytes -/
theorem C06_detects_errors_confined_to_check_bytes (d e ke : List Nat) (hd : Bytes d) (he : Bytes e)
    (hk : Bytes ke) (hlen : e.length = d.length) (hk2 : ke.length = 2)
    (hwe : weight e = 0) (hwk : weight ke ≠ 0) :
    crcValidate (xorL d e) (xorL (checkBytes d) ke) = .result false := by
  rw [C06_undetected_iff d e ke hd he hk hlen hk2,
    decide_eq_false (detects_errors_confined_to_check_bytes e ke he hk2 hwe hwk)]

/-- Limit of the class, kept visible: "every burst of at most 16 bits at every position" is *false*
    for the vendor's frame format, because the check value travels high byte first.  A 9-bit burst
    straddling the last covered byte and the first check byte passes validation. -/
theorem C06_burst16_across_check_boundary_witness :
    ∃ d e ke : List Nat, Bytes d ∧ Bytes e ∧ Bytes ke ∧ e.length = d.length ∧ ke.length = 2 ∧
      Burst16 (bitsOf (e ++ ke)) ∧ weight e ≠ 0 ∧ weight ke ≠ 0 ∧
      crcValidate (xorL d e) (xorL (checkBytes d) ke) = .result true := by
  -- covered bytes `12 34`, error `00 0c` on them and `05 00` on the check bytes: the damaged bits are wire
  -- positions 10, 11 (last covered byte) and 16, 18 (first check byte)
  refine ⟨[0x12, 0x34], [0x00, 0x0c], [0x05, 0x00], ?_, ?_, ?_, rfl, rfl, ⟨10, fun i hi => ?_⟩, ?_, ?_, ?_⟩
  · decide
  · decide
  · decide
  · have hlt : i < 32 := Nat.lt_of_not_le fun h => by
      rw [List.getD_eq_getElem?_getD, List.getElem?_eq_none h] at hi
      cases hi
    exact (by decide +kernel : ∀ i : Fin 32, (bitsOf ([0x00, 0x0c] ++ [0x05, 0x00])).getD i false = true →
      10 ≤ i.val ∧ i.val < 10 + 16) ⟨i, hlt⟩ hi
  · decide +kernel
  · decide +kernel
  · decide +kernel

-- non-vacuity of the damage hypotheses: one flipped bit in the vendor's request frame
example : weight [0, 0, 0, 4, 0, 0] + weight [0, 0] = 1 ∧
    crcValidate (xorL [0x80, 0xb0, 0x01, 0x2b, 0x00, 0x00] [0, 0, 0, 4, 0, 0]) (xorL [0xf5, 0x2f] [0, 0]) = .result false := by
  refine ⟨by decide +kernel, ?_⟩
  rw [C06_validate_iff _ _ (by decide) rfl]
  decide +kernel

end PyAirtouch.Props.C06
