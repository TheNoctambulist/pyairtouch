import PyAirtouch.Lemmas.Registry4
import PyAirtouch.Lemmas.Registry5
/-!
# C03 — whole frames: send path, wrappers, headers, CRC, receive path

Restated (with their exact types) from `Lemmas/Registry4.lean`, `Lemmas/Registry5.lean`, `Lemmas/Hdr.lean`,
`Lemmas/Frame.lean`.
`g4_` / `g5_` = AirTouch 4 / 5.

* `…_size_eq_length` — for every well-formed message (`WFMsg`, decidable through `wfMsgBool_iff`), nested
  sub-messages included, the length computed in advance for the header equals the number of payload bytes
  produced (`2 + size sub` for 0x1F, `8 + nr + count·stride` for 0xC0; `…_extended_layout`,
  `C03_g5_controlStatus_layout` give the sub-header fields).
* `…_frame_roundtrip` — the frame written by the send path (`size` → header factory → header → payload →
  CRC) for packet id `pid` is delivered by the receive path (`_read_one_message`) with an equal header and an
  equal message and leaves exactly the bytes that followed it, for every packet id and every `rest`.
* `…_frameOf_ok` — the send path does not raise on a well-formed message whose payload fits the length field.
* `…_mkHeader_*` — to-address 0x90 iff extended, else 0x80; from-address 0xB0; packet ids stay below the modulus.
* `C03_frame_at4/at5_hdr_*` — header round trips, checksum span (address … length), AT5 outer lengths `10 + len + 2` twice.
-/
namespace PyAirtouch.Props.C03
theorem C03_g4_size_eq_length : type_of% @PyAirtouch.Lemmas.Registry4.size_eq_length := @PyAirtouch.Lemmas.Registry4.size_eq_length
theorem C03_g4_decodeMsg_encodeMsg : type_of% @PyAirtouch.Lemmas.Registry4.decodeMsg_encodeMsg := @PyAirtouch.Lemmas.Registry4.decodeMsg_encodeMsg
theorem C03_g4_extended_layout : type_of% @PyAirtouch.Lemmas.Registry4.extended_layout := @PyAirtouch.Lemmas.Registry4.extended_layout
theorem C03_g4_frame_roundtrip : type_of% @PyAirtouch.Lemmas.Registry4.frame_roundtrip := @PyAirtouch.Lemmas.Registry4.frame_roundtrip
theorem C03_g4_frameOf_ok : type_of% @PyAirtouch.Lemmas.Registry4.frameOf_ok := @PyAirtouch.Lemmas.Registry4.frameOf_ok
theorem C03_g4_encodeMsg_ok : type_of% @PyAirtouch.Lemmas.Registry4.encodeMsg_ok := @PyAirtouch.Lemmas.Registry4.encodeMsg_ok
theorem C03_g4_mkHeader_to_address : type_of% @PyAirtouch.Lemmas.Registry4.mkHeader_to_address := @PyAirtouch.Lemmas.Registry4.mkHeader_to_address
theorem C03_g4_mkHeader_to_address_wf : type_of% @PyAirtouch.Lemmas.Registry4.mkHeader_to_address_wf := @PyAirtouch.Lemmas.Registry4.mkHeader_to_address_wf
theorem C03_g4_mkHeader_from_address : type_of% @PyAirtouch.Lemmas.Registry4.mkHeader_from_address := @PyAirtouch.Lemmas.Registry4.mkHeader_from_address
theorem C03_g4_toAddress_values : type_of% @PyAirtouch.Lemmas.Registry4.toAddress_values := @PyAirtouch.Lemmas.Registry4.toAddress_values
theorem C03_g4_nextPacketId_lt : type_of% @PyAirtouch.Lemmas.Registry4.nextPacketId_lt := @PyAirtouch.Lemmas.Registry4.nextPacketId_lt
theorem C03_g4_wfMsgBool_iff : type_of% @PyAirtouch.Lemmas.Registry4.wfMsgBool_iff := @PyAirtouch.Lemmas.Registry4.wfMsgBool_iff
theorem C03_g5_size_eq_length : type_of% @PyAirtouch.Lemmas.Registry5.size_eq_length := @PyAirtouch.Lemmas.Registry5.size_eq_length
theorem C03_g5_decodeMsg_encodeMsg : type_of% @PyAirtouch.Lemmas.Registry5.decodeMsg_encodeMsg := @PyAirtouch.Lemmas.Registry5.decodeMsg_encodeMsg
theorem C03_g5_extended_layout : type_of% @PyAirtouch.Lemmas.Registry5.extended_layout := @PyAirtouch.Lemmas.Registry5.extended_layout
theorem C03_g5_controlStatus_layout : type_of% @PyAirtouch.Lemmas.Registry5.controlStatus_layout := @PyAirtouch.Lemmas.Registry5.controlStatus_layout
theorem C03_g5_frame_roundtrip : type_of% @PyAirtouch.Lemmas.Registry5.frame_roundtrip := @PyAirtouch.Lemmas.Registry5.frame_roundtrip
theorem C03_g5_frameOf_ok : type_of% @PyAirtouch.Lemmas.Registry5.frameOf_ok := @PyAirtouch.Lemmas.Registry5.frameOf_ok
theorem C03_g5_encodeMsg_ok : type_of% @PyAirtouch.Lemmas.Registry5.encodeMsg_ok := @PyAirtouch.Lemmas.Registry5.encodeMsg_ok
theorem C03_g5_mkHeader_to_address : type_of% @PyAirtouch.Lemmas.Registry5.mkHeader_to_address := @PyAirtouch.Lemmas.Registry5.mkHeader_to_address
theorem C03_g5_mkHeader_to_address_wf : type_of% @PyAirtouch.Lemmas.Registry5.mkHeader_to_address_wf := @PyAirtouch.Lemmas.Registry5.mkHeader_to_address_wf
theorem C03_g5_mkHeader_from_address : type_of% @PyAirtouch.Lemmas.Registry5.mkHeader_from_address := @PyAirtouch.Lemmas.Registry5.mkHeader_from_address
theorem C03_g5_toAddress_values : type_of% @PyAirtouch.Lemmas.Registry5.toAddress_values := @PyAirtouch.Lemmas.Registry5.toAddress_values
theorem C03_g5_nextPacketId_lt : type_of% @PyAirtouch.Lemmas.Registry5.nextPacketId_lt := @PyAirtouch.Lemmas.Registry5.nextPacketId_lt
theorem C03_g5_wfMsgBool_iff : type_of% @PyAirtouch.Lemmas.Registry5.wfMsgBool_iff := @PyAirtouch.Lemmas.Registry5.wfMsgBool_iff
theorem C03_frame_at4_hdr_roundtrip : type_of% @PyAirtouch.Lemmas.Frame.at4_hdr_roundtrip := @PyAirtouch.Lemmas.Frame.at4_hdr_roundtrip
theorem C03_frame_at5_hdr_roundtrip : type_of% @PyAirtouch.Lemmas.Frame.at5_hdr_roundtrip := @PyAirtouch.Lemmas.Frame.at5_hdr_roundtrip
theorem C03_frame_at4_hdr_checksum_span : type_of% @PyAirtouch.Lemmas.Frame.at4_hdr_checksum_span := @PyAirtouch.Lemmas.Frame.at4_hdr_checksum_span
theorem C03_frame_at5_hdr_checksum_span : type_of% @PyAirtouch.Lemmas.Frame.at5_hdr_checksum_span := @PyAirtouch.Lemmas.Frame.at5_hdr_checksum_span
theorem C03_frame_at5_hdr_outer_lengths : type_of% @PyAirtouch.Lemmas.Frame.at5_hdr_outer_lengths := @PyAirtouch.Lemmas.Frame.at5_hdr_outer_lengths
theorem C03_frame_frame_roundtrip : type_of% @PyAirtouch.Lemmas.Frame.frame_roundtrip := @PyAirtouch.Lemmas.Frame.frame_roundtrip

-- non-vacuity: the vendor's AirTouch 4 group-status request is what the send path writes for packet id 1
open PyAirtouch.Model.At4.Registry in
example : frameOf 1 (.groupStatus .request) = .ok [0x55, 0x55, 0x80, 0xb0, 0x01, 0x2b, 0x00, 0x00, 0xf5, 0x2f] ∧
    wfMsgBool (.groupStatus .request) = true := by
  constructor <;> decide +kernel

end PyAirtouch.Props.C03
