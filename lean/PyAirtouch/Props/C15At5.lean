import PyAirtouch.Lemmas.Api5Shutdown
import PyAirtouch.Lemmas.Api5Demo
/-!
# C15 (AirTouch 5, API level) — `shutdown()` is final, leak-free and reversible

Statements about the model `PyAirtouch.Model.Api5` of `pyairtouch/at5/api.py` over the stub socket.

1. `shutdown_state_at5`: from EVERY state the op `shutdown` leads to a `Closed` state (state machine `CLOSED`, event clear,
   dictionaries and object heaps empty, stub socket closed, heartbeat manager stopped) and outputs exactly
   `HBSTOP, CLOSE, RESULT shutdown OK`.
   **Finding** `shutdown_pending_init_refuted_at5`: an `init()` caller still waiting inside `wait_for` is neither resolved nor
   removed: its 5 s timer stays scheduled after `shutdown()` has returned and fires `RESULT init False` later (or the
   caller is answered `True` by a handshake started by a *later* `init()`).
2. `closed_step_at5`, `quiet_after_shutdown_at5`: in a closed state every op other than `init` keeps the state closed; what
   it outputs is given exactly by `closedOut`: nothing for any received frame, nothing when the link goes down,
   `SUBSCRIBER-EXC NotOpenError` when the link comes up on an object on which `init()` was ever called (its callbacks stay
   registered: the refresh requests of `_connection_changed` meet the closed socket - no `SEND`), `RESULT NotOpenError` for
   `check_for_updates()`, `RESULT KeyError` for every entity call (the model is empty), and for `adv` only the time-outs of `init()` callers left waiting (none: nothing at all).  Hence no
   `SEND`, `NOTIFY`, `OPEN`, `RESET`, `HBSTART`, `RESULT init True` ever.
3. `reinit_as_fresh_at5`: `init()` in a closed state outputs what it outputs on a new object (`OPEN`), and the two objects
   are then related by `FreshSim`, which is a simulation (`sim_step_at5`, `sim_run_at5`): related states give equal
   outputs for every op and related successors - except that `view` may show the console version of the previous session
   until the first answer of the new handshake has overwritten it (`reinit_stale_version_at5`); from then on (`FreshSimV`)
   all outputs are equal, `view` included.
-/
namespace PyAirtouch.Props.C15
open PyAirtouch.Model PyAirtouch.Model.Api5 PyAirtouch.Model.At5 PyAirtouch.Model.At5.Registry
open PyAirtouch.Model.Heartbeat PyAirtouch.Lemmas.Heartbeat
open PyAirtouch.Gen PyAirtouch.Gen.Api5 PyAirtouch.Lemmas.Api5

/-! ## 1. the state after `shutdown()` -/

/-- from every state whatsoever: closed afterwards, the stub socket closed (`CLOSE`) and nothing sent; the socket's
`is_connected` seen by the heartbeat manager is false; the AirTouch-level subscribers, the console version, the waiting
`init()` calls, the callback registration, the clock, the identity and the heartbeat parameters are what they were -/
theorem shutdown_state_at5 : type_of% @doShutdown_spec := @doShutdown_spec

/-- the definition of `Closed`, spelled out -/
theorem closed_iff_at5 (s : State) : Closed s ↔
    s.st = .CLOSED ∧ s.initialised = false ∧ s.zones = [] ∧ s.acs = [] ∧ s.zobjs = [] ∧ s.aobjs = [] ∧
    s.sockOpen = false ∧ s.hb.tl = .idle ∧ s.hb.hl = .idle :=
  ⟨fun h => ⟨h.st, h.ninit, h.zones, h.acs, h.zobjs, h.aobjs, h.sockOpen, h.idle.1, h.idle.2⟩,
   fun ⟨a, b, c, d, e, f, g, i, j⟩ => ⟨a, b, c, d, e, f, g, ⟨i, j⟩⟩⟩

/-- shutdown of the connected demo object, and of an object in the middle of its handshake -/
example : Closed (apiStep demo5 .shutdown).1 ∧ (apiStep demo5 .shutdown).2 = [.hbStop, .closed, .result "shutdown OK"] ∧
    Closed (apiStep demo5Mid .shutdown).1 ∧ ¬ Closed demo5 ∧ ¬ Closed demo5Mid :=
  ⟨shutdown_closed demo5, (shutdown_state_at5 demo5).2.1, shutdown_closed demo5Mid,
   fun h => (by have := h.st; rw [demo5_facts.1] at this; cases this),
   fun h => (by have := h.st; rw [demo5Mid_facts.1] at this; cases this)⟩

/-- **finding**: `shutdown()` does not resolve an `init()` that is still waiting.  `init(); shutdown()`: the waiter is
still there; 5 s later, long after `shutdown()` returned, its timer fires and it answers `False`; and if `init()` is called
again and the handshake completes in time, the waiter of the *first* `init()` answers `True` as well. -/
theorem shutdown_pending_init_refuted_at5 :
    (runS demo5New [.init, .shutdown]).pendingInits = [40] ∧
    (Api5.run demo5New [.init, .shutdown, .adv 40]).2 =
      [[.opened], [.hbStop, .closed, .result "shutdown OK"], [.result "init False"]] ∧
    (Api5.run demo5New ([.init, .shutdown, .init] ++ demo5Handshake)).2.getLast? =
      some [.hbStart, .result "init True", .result "init True", .send .connected hbMessage false] := by
  decide +kernel

/-- with nobody waiting before, nobody is waiting after -/
theorem shutdown_no_waiters_at5 (s : State) (h : s.pendingInits = []) : (apiStep s .shutdown).1.pendingInits = [] := by
  rw [show apiStep s .shutdown = _ from doShutdown_eq s]; exact h

/-! ## 2. nothing of the client acts after `shutdown()` -/

/-- one op (anything but `init`) in a closed state: still closed, outputs exactly `closedOut`, and the surviving parts of
the state change as `ClosedFrame` says -/
theorem closed_step_at5 : type_of% @closed_step := @closed_step

/-- received frames of every kind, decodable or not -/
theorem frames_after_shutdown_at5 {s : State} (h : Closed s) (toAddr : Nat) (m : Msg) (cls : String) :
    (apiStep s (.msg toAddr m)).2 = [] ∧ (apiStep s (.undecodable cls)).2 = [.undecodable cls] :=
  ⟨closed_out h (.msg toAddr m) rfl, closed_out h (.undecodable cls) rfl⟩

/-- connection notifications: no connected notification leads to a `SEND`; the refresh requests meet the closed socket -/
theorem conn_after_shutdown_at5 {s : State} (h : Closed s) :
    (apiStep s (.conn false)).2 = [] ∧
    (apiStep s (.conn true)).2 = if s.sockSubscribed then [.subscriberExc "NotOpenError"] else [] := by
  refine ⟨?_, ?_⟩
  · rw [closed_out h (.conn false) rfl]; simp [closedOut]
  · rw [closed_out h (.conn true) rfl]; simp [closedOut]

/-- no timer fires: `adv` outputs nothing but the time-outs of `init()` callers left waiting (see the finding above) -/
theorem time_after_shutdown_at5 {s : State} (h : Closed s) (n : Nat) :
    (apiStep s (.adv n)).2 = (s.pendingInits.filter (· ≤ s.now + n)).map (fun _ => Out.result "init False") ∧
    (s.pendingInits = [] → (apiStep s (.adv n)).2 = []) := by
  have := closed_out h (.adv n) rfl
  refine ⟨this, fun hp => ?_⟩
  rw [this]; simp [closedOut, hp]

/-- sending raises the not-open error; the entities are gone -/
theorem calls_after_shutdown_at5 {s : State} (h : Closed s) (id : Nat) (ca : AcCall) (cz : ZoneCall) :
    (apiStep s .callAt).2 = [.result "NotOpenError"] ∧ (apiStep s (.callAc id ca)).2 = [.result "KeyError"] ∧
    (apiStep s (.callZone id cz)).2 = [.result "KeyError"] :=
  ⟨closed_out h .callAt rfl, closed_out h (.callAc id ca) rfl, closed_out h (.callZone id cz) rfl⟩

/-- every output of `closedOut` is quiet -/
theorem closedOut_quiet_at5 : type_of% @closedOut_quiet := @closedOut_quiet

/-- **quiet after shutdown**: any sequence of ops other than `init` -/
theorem quiet_after_shutdown_at5 : type_of% @closed_run := @closed_run

/-- … and when no `init()` caller was left waiting: none is waiting afterwards, and no `RESULT init …` of either kind -/
theorem quiet_after_shutdown_no_waiters_at5 : type_of% @closed_run_noWaiters := @closed_run_noWaiters

/-- the definition of `QuietOut` on the outputs that matter -/
example : ¬ QuietOut (.send .connected hbMessage false) ∧ ¬ QuietOut (.notifyAt "w") ∧ ¬ QuietOut .opened ∧
    ¬ QuietOut .reset ∧ ¬ QuietOut .hbStart ∧ ¬ QuietOut (.result "init True") ∧ QuietOut (.result "init False") ∧
    QuietOut (.subscriberExc "NotOpenError") ∧ QuietOut .closed := by
  simp [QuietOut]

/-- the demo object after `shutdown()`: the link flaps, ten minutes pass, the console goes on talking, the user calls -/
example : (Api5.run demo5 [.shutdown, .conn false, .conn true, .adv 5000, .msg 176 demo5Version, .msg 176 demo5Zones,
      .msg 176 demo5AcStatus, .callAt, .callAc 0 (.setPower .TOGGLE), .callZone 1 (.setPower .ON), .sub (.ac 0 false) "x" false]).2 =
    [[.hbStop, .closed, .result "shutdown OK"], [], [.subscriberExc "NotOpenError"], [], [], [], [],
     [.result "NotOpenError"], [.result "KeyError"], [.result "KeyError"], [.result "KeyError"]] := by decide +kernel

/-- … whereas before `shutdown()` the same object does act -/
example : (Api5.run demo5 [.conn true, .callAt]).2 =
    [[.send .connected msgAcStatusRequest false, .send .connected msgZoneStatusRequest false],
     [.send .idempotent msgConsoleVersionRequest false, .result "OK"]] := by decide +kernel

/-! ## 3. a later `init()` works as on a fresh object -/

/-- the relation, field by field (`k = false`: `FreshSim`, `k = true`: `FreshSimV`) -/
theorem freshSim_iff_at5 : type_of% @freshSim_iff := @freshSim_iff

/-- `HbEquiv`, field by field: the two managers agree on everything a step reads -/
theorem hbEquiv_iff_at5 (h h' : HB) : HbEquiv h h' ↔
    h.now = h'.now ∧ h.interval = h'.interval ∧ h.timeout = h'.timeout ∧ h.tl = h'.tl ∧ h.hl = h'.hl ∧
    h.connected = h'.connected ∧ (h.tl ≠ .idle → h.flag = h'.flag) ∧ (h.tl = .resetting → h.resetAt = h'.resetAt) :=
  ⟨fun e => ⟨e.now, e.interval, e.timeout, e.tl, e.hl, e.connected, e.flag, e.resetAt⟩,
   fun ⟨a, b, c, d, e, f, g, i⟩ => ⟨a, b, c, d, e, f, g, i⟩⟩

/-- **simulation, one op**: related states give related successors, and equal outputs - for `view` provided the console
versions agree -/
theorem sim_step_at5 : type_of% @apiStep_sim := @apiStep_sim

/-- **simulation, any sequence** (no `view` unless the console versions agree): equal outputs op by op, related final
states -/
theorem sim_run_at5 : type_of% @run_sim := @run_sim

/-- beyond the first answer of the handshake the console versions agree (`FreshSimV`) … -/
theorem sim_late_at5 : type_of% @FreshSimG.strict_of_late := @FreshSimG.strict_of_late

/-- … so: ops without `view` that bring the handshake that far, then any ops at all: equal outputs throughout -/
theorem sim_run_then_at5 : type_of% @run_sim_then := @run_sim_then

/-- **`init()` after `shutdown()`**: on a closed object it outputs `OPEN`, as on the fresh object `freshAt c`, and the two
objects are then related by `FreshSim` -/
theorem reinit_as_fresh_at5 : type_of% @reinit_as_fresh := @reinit_as_fresh

/-- the comparator is a new object on which the clock was advanced (when `shutdown()` left no `init()` caller waiting and
nobody subscribed at the AirTouch level; such subscribers are simply carried over) -/
theorem freshAt_is_new_adv_at5 : type_of% @freshAt_is_new_adv := @freshAt_is_new_adv

/-- the hypotheses of `reinit_as_fresh_at5` (closed, the two parameters) and the last two of `freshAt_is_new_adv_at5` (the
manager's clock is the API's, the link is down) hold after `shutdown()` in every state reachable from a new object -/
theorem reachable_shutdown_wf_at5 (a b c d : Bytes) (ops : List Op) :
    let s := runS (State.new a b c d) ops
    let cl := (apiStep s .shutdown).1
    Closed cl ∧ cl.hb.interval = Api5.heartbeatInterval ∧ cl.hb.timeout = Api5.heartbeatTimeout ∧ cl.hb.now = cl.now ∧
      cl.hb.connected = false := by
  intro s cl
  have wf : HbWf s := hbWf_run (hbWf_new a b c d) ops
  have wf' : HbWf cl := hbWf_step wf .shutdown
  have hnow : cl.now = s.now := congrArg (·.1.now) (doShutdown_eq s)
  obtain ⟨_, _, hconn, _⟩ := doShutdown_spec s
  exact ⟨shutdown_closed s, wf'.interval, wf'.timeout, (doShutdown_hb_now wf.now_le).trans hnow.symm, hconn⟩

/-- **every later behaviour is that of a fresh object**: after `shutdown()` (of a well-formed object), `init()` followed
by any ops: the outputs are those of the fresh object `freshAt c` - for `view` from the first answer of the handshake on -/
theorem reinit_then_run_at5 {c : State} (h : Closed c) (wf : HbWf c) (ops1 ops2 : List Op)
    (hv : ∀ op ∈ ops1, Op.isView op = false) (hl : ¬ earlySt (runS c (.init :: ops1)).st) :
    (Api5.run c (.init :: ops1)).2 = (Api5.run (freshAt c) (.init :: ops1)).2 ∧
    (Api5.run (runS c (.init :: ops1)) ops2).2 = (Api5.run (runS (freshAt c) (.init :: ops1)) ops2).2 := by
  obtain ⟨o1, o2, hs⟩ := reinit_as_fresh h wf.interval wf.timeout
  obtain ⟨r1, r2, _⟩ := run_sim_then hs ops1 ops2 hv hl
  refine ⟨?_, r2⟩
  simp only [Api5.run]
  rw [o1, o2]
  have : (Api5.run (apiStep c .init).1 ops1).2 = (Api5.run (apiStep (freshAt c) .init).1 ops1).2 := r1
  rw [this]

set_option maxRecDepth 8000 in
/-- what persists legitimately: the demo object after `shutdown()` keeps its AirTouch-level subscriber, and after a
second handshake that subscriber is notified of a console version change like on any connected object -/
example : (runS demo5 [.shutdown]).subs = ["w"] ∧
    (Api5.run demo5 ([.shutdown, .init] ++ demo5Handshake ++ [.msg 176 (.extended (.consoleVer (.message ⟨false, [[50]]⟩)))])).2.getLast? =
      some [.notifyAt "w"] := by decide +kernel

/-- **observation**: the console version of the previous session survives `shutdown()`; `view` (the properties
`update_available` / `console_versions`) shows it while closed and after the next `init()`, until the first answer of the
new handshake replaces it.  No other output depends on it (`sim_step_at5`). -/
theorem reinit_stale_version_at5 :
    (Api5.run demo5 [.shutdown, .init, .view]).2.getLast? = some [.view
      "AirTouch(initialised=False,airtouch_id=s61,serial=s62,name=s63,host=s64,model=AIRTOUCH_5,update_available=True,console_versions=[s31],air_conditioners=[])"] ∧
    (Api5.run (freshAt (runS demo5 [.shutdown])) [.init, .view]).2.getLast? = some [.view
      "AirTouch(initialised=False,airtouch_id=s61,serial=s62,name=s63,host=s64,model=AIRTOUCH_5,update_available=False,console_versions=[],air_conditioners=[])"] := by
  decide +kernel

set_option maxRecDepth 8000 in
/-- non-vacuity of `reinit_as_fresh_at5` / `reinit_then_run_at5` on the demo object: the re-initialised object and the
fresh one go through the handshake with the same outputs, and afterwards even `view` agrees -/
example :
    let c := runS demo5 [.shutdown]
    Closed c ∧ HbWf c ∧ ¬ earlySt (runS c (.init :: demo5Handshake)).st ∧
    (Api5.run c (.init :: demo5Handshake)).2 = (Api5.run (freshAt c) (.init :: demo5Handshake)).2 ∧
    (Api5.run (runS c (.init :: demo5Handshake)) [.view, .adv 2400]).2 =
      (Api5.run (runS (freshAt c) (.init :: demo5Handshake)) [.view, .adv 2400]).2 := by
  intro c
  have hc : Closed c := shutdown_closed demo5
  have wf : HbWf c := hbWf_run (hbWf_run (hbWf_new _ _ _ _) demo5Ops) [.shutdown]
  have hl : ¬ earlySt (runS c (.init :: demo5Handshake)).st := by
    have : (runS c (.init :: demo5Handshake)).st = .CONNECTED := by decide +kernel
    rw [this]; simp [earlySt]
  obtain ⟨r1, r2⟩ := reinit_then_run_at5 hc wf demo5Handshake [.view, .adv 2400] (by decide) hl
  exact ⟨hc, wf, hl, r1, r2⟩

end PyAirtouch.Props.C15
