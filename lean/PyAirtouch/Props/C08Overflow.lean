import PyAirtouch.Lemmas.HeartbeatXInv
import PyAirtouch.Props.C08
/-!
# C08 with refused heartbeats (the send buffer is full when a heartbeat is due)

Model: `PyAirtouch.Model.Heartbeat` extended by `Model/HeartbeatX.lean` with the label `beatRefused` - the heartbeat
loop's sleep is over, the link is up, and `socket.send()` raises `QueueOverflowError`.  `stepX` is the repaired code
(`/repo` 481ce10: the request is skipped, the loop goes on), `stepOld` the code before the repair (the exception
escaped through `asyncio.gather` and ended the task of `_heartbeat_loop`).  All statements quantify over `ReachableX`
states: every interleaving of the two tasks, the environment and the clock, and any number of refusals, for
arbitrary `interval` and `timeout`.  Proofs: `Lemmas/HeartbeatXInv.lean` (in every step lemma the `base` labels are
left to the base model's lemma, the `beatRefused` case is new).

**The heartbeat loop is never ended by a refusal** (section 1).  **The timeout side of C08 holds verbatim**
(sections 2-6: the theorems of `Props/C08.lean`, in its order, for the extended system).  What a refusal still
costs is that one request: nothing is outstanding at the console, so unless a response arrives for another reason the
deadline armed by the last response expires and the (healthy) connection is reset once - the residual finding recorded
under the key `C08:api:skipped-beat-full-buffer` in `known_findings.txt`; the example on `exOverflow` in section 1 is
exactly that history, and it shows that the heartbeats go on afterwards.  **The code before the repair is refuted** (section 7).
-/
namespace PyAirtouch.Props.C08X
open PyAirtouch.Model.Heartbeat PyAirtouch.Spec.Heartbeat PyAirtouch.Lemmas.Heartbeat
open PyAirtouch.Lemmas.HeartbeatX

/-! ## 0. the extension -/

/-- every state of the base model is a state of the extended one -/
theorem C08X_extends_base {i t : Nat} {h : HB} : Reachable i t h → ReachableX i t h :=
  reachableX_of_reachable

/-- a heartbeat can be refused exactly when an iteration of the heartbeat loop is due and the link is up -/
theorem C08X_refused_enabled_iff {h : HB} :
    (stepX h .beatRefused).isSome = true ↔ (step h .hlBeat).isSome = true ∧ h.connected = true := by
  simp only [stepX, refuse, step]
  cases h.hl with
  | idle => simp
  | sleeping u =>
    by_cases hu : u ≤ h.now <;> cases hc : h.connected <;> simp [hu, hc]

/-! ## 1. a refusal does not end the heartbeat loop -/

/-- a refused heartbeat schedules the next iteration `interval` later and changes nothing else: not the timeout
loop, not the record (no `beat` event), no other field -/
theorem C08X_refused_keeps_loop {h h' : HB} (hs : stepX h .beatRefused = some h') :
    h'.hl = .sleeping (h.now + h.interval) ∧ h'.tl = h.tl ∧ h'.trace = h.trace ∧
      h' = { h with hl := .sleeping (h.now + h.interval) } := by
  obtain ⟨u, _, _, _, rfl⟩ := refuse_eq hs
  exact ⟨rfl, rfl, rfl, rfl⟩

/-- … it happens exactly at the wake-up time of the heartbeat loop, while the link is up -/
theorem C08X_refused_at_wake {i t : Nat} {h h' : HB} (hr : ReachableX i t h)
    (hs : stepX h .beatRefused = some h') :
    h.hl = .sleeping h.now ∧ h.connected = true ∧ h'.hl = .sleeping (h.now + i) := by
  obtain ⟨u, hu, hle, hc, rfl⟩ := refuse_eq hs
  have b := reachableX_basic hr
  have := (b.wake u hu).1
  have hi := b.interval_eq
  have : u = h.now := by omega
  subst this
  exact ⟨hu, hc, by rw [← hi]⟩

/-- the invariant `HlAlive`: in every reachable state of the extended system, monitoring is started (the latest
`start` / `stop` event of the record is a `start`) iff the heartbeat loop is alive (`.sleeping _`), iff the timeout
loop is alive -/
theorem C08X_loop_alive_iff_started {i t : Nat} {h : HB} (hr : ReachableX i t h) :
    (started h.trace = true ↔ ∃ u, h.hl = .sleeping u) ∧ (started h.trace = true ↔ h.tl ≠ .idle) :=
  have a := reachableX_hlAlive hr
  ⟨a.hl, a.tl⟩

/-- along any extended label sequence without `stop` - any number of refusals included - a heartbeat loop that is
alive stays alive -/
theorem C08X_refusals_never_end_loop {h h' : HB} {ls : List LabelX} (hrun : runX h ls = some h')
    (hls : ∀ l ∈ ls, l ≠ .base .stop) (hu : ∃ u, h.hl = .sleeping u) : ∃ u', h'.hl = .sleeping u' :=
  runX_keeps_loop ls h h' hrun hls hu

/-- … and therefore after any such continuation of a started reachable state the next iteration is pending at some
`u'` with `now ≤ u' ≤ now + interval`, and as soon as the clock is there `hlBeat` is enabled, sends a request iff the
link is up, and schedules the iteration after it -/
theorem C08X_beat_after_refusals {i t : Nat} {h h' : HB} {ls : List LabelX} (hr : ReachableX i t h)
    (hst : started h.trace = true) (hrun : runX h ls = some h') (hls : ∀ l ∈ ls, l ≠ .base .stop) :
    ∃ u', h'.hl = .sleeping u' ∧ h'.now ≤ u' ∧ u' ≤ h'.now + i ∧
      (h'.now = u' → ∃ h'', stepX h' (.base .hlBeat) = some h'' ∧ h''.hl = .sleeping (u' + i) ∧
        (h'.connected = true → h''.trace = h'.trace ++ [.beat u']) ∧
        (h'.connected = false → h''.trace = h'.trace)) := by
  obtain ⟨u', hu'⟩ := runX_keeps_loop ls h h' hrun hls ((reachableX_hlAlive hr).hl.1 hst)
  have b := reachableX_basic (reachableX_run hr hrun)
  have hw := b.wake u' hu'
  have hi := b.interval_eq
  refine ⟨u', hu', hw.1, by omega, fun hn => ?_⟩
  cases hc : h'.connected <;> simp [stepX, step, hu', hn, hc, hi, HB.emit]

/-- the first heartbeat (at 0) is refused: the loop is alive, and at 2400 the heartbeat is sent -/
example : ∃ h h', runX (init 2400 2640) exRefusedFirst = some h ∧ h.hl = .sleeping 2400 ∧ h.trace = [.conn true 0, .start 0] ∧
    runX h [.base (.advance 2400), .base .hlBeat] = some h' ∧ h'.trace = [.conn true 0, .start 0, .beat 2400] :=
  ⟨_, _, rfl, by decide, by decide, rfl, by decide⟩

/-- three refusals in a row (0, 2400, 4800; the link is down at the two expiries in between … so no reset), then the
heartbeat of 7200 is sent -/
example : ∃ h, runX (init 2400 2640)
      [.base (.conn true), .base .start, .beatRefused, .base (.advance 2400), .beatRefused,
       .base (.advance 2640), .base (.conn false), .base .tlFire, .base (.conn true),
       .base (.advance 4800), .beatRefused, .base (.advance 5280), .base (.conn false), .base .tlFire, .base (.conn true),
       .base (.advance 7200), .base .hlBeat] = some h ∧
    h.trace = [.conn true 0, .start 0, .conn false 2640, .conn true 2640, .conn false 5280, .conn true 5280,
               .beat 7200] ∧ h.hl = .sleeping 9600 :=
  ⟨_, rfl, by decide, by decide⟩

/-- **non-vacuity, and the residual finding.**  Interval 2400, timeout 2640: start; heartbeat at 0, answered; link
lost at 2352, back at 2400 with a full send buffer: the heartbeat of 2400 is refused; the deadline 2640 expires with the
link up: reset (this single reset of a healthy connection is the finding `C08:api:skipped-beat-full-buffer` of
`known_findings.txt`); the reset completes; at 4800 the heartbeat loop is still there and sends. -/
example : ∃ h h', runX (init 2400 2640) exOverflow = some h ∧ ReachableX 2400 2640 h ∧
    h.now = 4800 ∧ h.hl = .sleeping 4800 ∧ h.connected = true ∧ started h.trace = true ∧
    stepX h (.base .hlBeat) = some h' ∧
    h'.trace = [.conn true 0, .start 0, .beat 0, .resp 0, .conn false 2352, .conn true 2400, .reset 2640,
                .resetDone 2640, .beat 4800] ∧
    h'.hl = .sleeping 7200 :=
  ⟨_, _, rfl, ⟨exOverflow, rfl⟩, by decide, by decide, by decide, by decide, rfl, by decide, by decide⟩

/-- the refusal in that history: enabled at 2400 (and `hlBeat` too: the two are alternatives), not enabled while
the link is down or before the wake-up time -/
example : ∃ h, runX (init 2400 2640) (exOverflow.take 9) = some h ∧ (stepX h .beatRefused).isSome = true ∧
      (stepX h (.base .hlBeat)).isSome = true ∧
    (∃ h1, runX (init 2400 2640) (exOverflow.take 8) = some h1 ∧ h1.connected = false ∧ stepX h1 .beatRefused = none) ∧
    (∃ h2, runX (init 2400 2640) (exOverflow.take 6) = some h2 ∧ h2.now = 2352 ∧ stepX h2 .beatRefused = none) :=
  ⟨_, rfl, by decide, by decide, ⟨_, rfl, by decide, by decide⟩, ⟨_, rfl, by decide, by decide⟩⟩

/-! ## 2. the deadline -/

/-- time never passes a pending deadline, and the deadline is exactly `timeout` after the latest arm point; the
parameters never change -/
theorem C08X_deadline_never_missed {i t : Nat} {h : HB} (hr : ReachableX i t h) :
    (∀ d, h.tl = .waiting d → h.now ≤ d ∧ d = h.lastArm + h.timeout) ∧ h.timeout = t ∧ h.interval = i :=
  have b := reachableX_basic hr
  ⟨b.deadline, b.timeout_eq, b.interval_eq⟩

example : ∃ h, ReachableX 2400 2640 h ∧ h.tl = .waiting 2640 ∧ h.now = 2400 ∧ h.lastArm = 0 ∧ h.hl = .sleeping 4800 :=
  ⟨_, ⟨exOverflow.take 10, rfl⟩, by decide⟩

/-! ## 3. arm points -/

/-- the latest arm point only moves at `start`, when a response is consumed, when a reset completes and at an expiry
while the link is down - and then it moves to the current instant; never at a refusal -/
theorem C08X_arm_points {h h' : HB} {l : LabelX} (hs : stepX h l = some h')
    (hne : h'.lastArm ≠ h.lastArm) :
    (l = .base .start ∨ l = .base .tlWake ∨ l = .base .tlResetDone ∨
      (l = .base .tlFire ∧ h.connected = false)) ∧ h'.lastArm = h.now := by
  cases l with
  | base l =>
    obtain ⟨a, b⟩ := C08.C08_arm_points hs hne
    exact ⟨a.imp (congrArg _) (Or.imp (congrArg _) (Or.imp (congrArg _) (And.imp_left (congrArg _)))), b⟩
  | beatRefused =>
    obtain ⟨u, _, _, _, rfl⟩ := refuse_eq hs
    exact absurd rfl hne

example : ∃ h h', ReachableX 2400 2640 h ∧ stepX h (.base .tlResetDone) = some h' ∧ h'.lastArm ≠ h.lastArm :=
  ⟨_, _, ⟨exOverflow.take 12, rfl⟩, rfl, by decide⟩

/-! ## 4. a reset only after a full `timeout` of silence -/

/-- an expiry while the link is up issues a reset, exactly `timeout` after the latest arm point -/
theorem C08X_reset_at_deadline {i t : Nat} {h h' : HB} (hr : ReachableX i t h)
    (hs : stepX h (.base .tlFire) = some h') (hc : h.connected = true) :
    h'.trace = h.trace ++ [.reset h.now] ∧ h.now = h.lastArm + t :=
  (reachableX_basic hr).fire hs hc

example : ∃ h h', ReachableX 2400 2640 h ∧ stepX h (.base .tlFire) = some h' ∧ h.connected = true :=
  ⟨_, _, ⟨exOverflow.take 11, rfl⟩, rfl, by decide⟩

/-- conversely the only extended step that adds a `reset` event is an expiry while the link is up -/
theorem C08X_reset_only_by_expiry {h h' : HB} {l : LabelX} {r : Nat} (hs : stepX h l = some h')
    (hin : HEv.reset r ∈ h'.trace) (hout : HEv.reset r ∉ h.trace) :
    l = .base .tlFire ∧ h.connected = true ∧ r = h.now ∧ h'.trace = h.trace ++ [.reset h.now] := by
  cases l with
  | base l =>
    obtain ⟨rfl, b⟩ := step_reset hs hin hout
    exact ⟨rfl, b⟩
  | beatRefused =>
    obtain ⟨u, -, -, -, rfl⟩ := refuse_eq hs
    exact absurd hin hout

example : ∃ h h' l r, ReachableX 2400 2640 h ∧ stepX h l = some h' ∧ HEv.reset r ∈ h'.trace ∧
    HEv.reset r ∉ h.trace :=
  ⟨_, _, .base .tlFire, 2640, ⟨exOverflow.take 11, rfl⟩, rfl, by decide, by decide⟩

/-- in the recorded events: a reset never comes earlier than `timeout`, and no response lies in the `timeout` ticks
before it -/
theorem C08X_reset_only_after_full_silence {i t : Nat} {h : HB} (hr : ReachableX i t h) :
    ∀ r, HEv.reset r ∈ h.trace → t ≤ r ∧ ∀ x, HEv.resp x ∈ h.trace → ¬ (r - t < x ∧ x < r) := by
  intro r hrm
  have k := (reachableX_armInv hr).silence r hrm
  refine ⟨k.1, fun x hx => ?_⟩
  have := k.2 x hx
  omega

example : ∃ h, ReachableX 2400 2640 h ∧ HEv.reset 2640 ∈ h.trace ∧ HEv.resp 0 ∈ h.trace :=
  ⟨_, ⟨exOverflow, rfl⟩, by decide, by decide⟩

/-- every recorded reset comes a whole number `k + 1` of timeouts after a recorded arm point `a` (a `start`, a
response, a completed reset; `k` expiries in between found the link down), and no response at all lies strictly
between `a` and the reset -/
theorem C08X_reset_origin {i t : Nat} {h : HB} (hr : ReachableX i t h) :
    ∀ r, HEv.reset r ∈ h.trace → ∃ k a, r = a + (k + 1) * t ∧
      (HEv.start a ∈ h.trace ∨ HEv.resp a ∈ h.trace ∨ HEv.resetDone a ∈ h.trace) ∧
      ∀ x, HEv.resp x ∈ h.trace → x ≤ a ∨ r ≤ x :=
  (reachableX_armInv hr).resets

/-! ## 5. silence is detected -/

/-- the clock cannot be moved past a pending deadline … -/
theorem C08X_silence_detected {h h' : HB} {d t' : Nat} (hw : h.tl = .waiting d)
    (hs : stepX h (.base (.advance t')) = some h') : t' ≤ d :=
  C08.C08_silence_detected hw hs

/-- … on any extended path: without an expiry, a consumed response or `stop` the same deadline stays pending and
the clock stays on this side of it - refusals do not move it -/
theorem C08X_silence_detected_run {i t : Nat} {h h' : HB} {d : Nat} {ls : List LabelX}
    (hr : ReachableX i t h) (hw : h.tl = .waiting d) (hrun : runX h ls = some h')
    (hls : ∀ l ∈ ls, l ≠ .base .tlFire ∧ l ≠ .base .tlWake ∧ l ≠ .base .stop) :
    h'.tl = .waiting d ∧ h'.now ≤ d ∧ h'.lastArm = h.lastArm :=
  foldlM_inv ls h h' (fun l hm _ _ hk hs => stepX_keeps_deadline hs hk (hls l hm))
    ⟨hw, ((reachableX_basic hr).deadline d hw).1, rfl⟩ (runX_eq_foldlM ls h ▸ hrun)

example : ∃ h h' ls, ReachableX 2400 2640 h ∧ h.tl = .waiting 2640 ∧ runX h ls = some h' ∧ ls.length = 5 ∧
    LabelX.beatRefused ∈ ls ∧ ∀ l ∈ ls, l ≠ .base .tlFire ∧ l ≠ .base .tlWake ∧ l ≠ .base .stop :=
  ⟨_, _, (exOverflow.drop 5).take 5, ⟨exOverflow.take 5, rfl⟩, by decide, rfl, rfl, by decide, by decide⟩

/-- when the deadline is reached the expiry is enabled; it resets the connection iff the link is up, and otherwise
starts a new period at once -/
theorem C08X_expiry_enabled {h : HB} {d : Nat} (hw : h.tl = .waiting d) (hn : h.now = d) :
    ∃ h', stepX h (.base .tlFire) = some h' ∧
      (h.connected = true → h'.trace = h.trace ++ [.reset d] ∧ h'.tl = .resetting) ∧
      (h.connected = false → h'.trace = h.trace ∧ h'.tl = .waiting (d + h.timeout) ∧ h'.lastArm = d) :=
  C08.C08_expiry_enabled hw hn

example : ∃ h, ReachableX 2400 2640 h ∧ h.tl = .waiting 2640 ∧ h.now = 2640 :=
  ⟨_, ⟨exOverflow.take 11, rfl⟩, by decide⟩

/-! ## 6. the period, and no false reset -/

/-- time never passes a pending wake-up of the heartbeat loop -/
theorem C08X_wake_never_missed {i t : Nat} {h : HB} {u : Nat} (hr : ReachableX i t h)
    (hu : h.hl = .sleeping u) : h.now ≤ u :=
  ((reachableX_basic hr).wake u hu).1

/-- every iteration of the heartbeat loop in which the socket takes the request happens exactly at its wake-up time,
schedules the next one `interval` later, and sends a request iff the link is up -/
theorem C08X_period {i t : Nat} {h h' : HB} (hr : ReachableX i t h) (hs : stepX h (.base .hlBeat) = some h') :
    ∃ u, h.hl = .sleeping u ∧ h.now = u ∧ h'.hl = .sleeping (u + i) ∧
      (h.connected = true → h'.trace = h.trace ++ [.beat u]) ∧
      (h.connected = false → h'.trace = h.trace) :=
  (reachableX_basic hr).iteration hs

example : ∃ h h', ReachableX 2400 2640 h ∧ stepX h (.base .hlBeat) = some h' ∧ h.now = 4800 :=
  ⟨_, _, ⟨exOverflow, rfl⟩, rfl, by decide⟩

/-- If every iteration of the heartbeat loop - a refused one included - at an instant `b` is followed by a consumed
response before time reaches `b + (timeout − interval)` (`GoodRunX`, a check on the label sequence alone), the
connection is never reset and the deadline is never even reached.  (After a refused iteration no request is
outstanding: only a response that arrives for another reason can keep such a run good - hence the residual
finding.) -/
theorem C08X_no_false_reset {i t : Nat} (hit : i < t) :
    ∀ ls h, runX (init i t) ls = some h → GoodRunX (t - i) ls →
      (∀ r, HEv.reset r ∉ h.trace) ∧ h.tl ≠ .resetting ∧ ∀ d, h.tl = .waiting d → h.now < d := by
  intro ls h hr hg
  have k := no_reset_addedX (m := t - i) (by omega) (by omega) ls _ h _ (sim_init _ i t _) hr hg
  exact ⟨fun r m => (nomatch k.1 r m), k.2⟩

/-- the heartbeat of 2400 is refused, a stray response at 2500 keeps the run good -/
example : ∃ h, runX (init 2400 2640)
      [.base (.conn true), .base .start, .base .hlBeat, .base .response, .base .tlWake, .base (.advance 2400),
       .beatRefused, .base (.advance 2500), .base .response, .base .tlWake, .base (.advance 4800), .base .hlBeat] = some h ∧
    GoodRunX (2640 - 2400)
      [.base (.conn true), .base .start, .base .hlBeat, .base .response, .base .tlWake, .base (.advance 2400),
       .beatRefused, .base (.advance 2500), .base .response, .base .tlWake, .base (.advance 4800), .base .hlBeat] ∧
    beats h.trace = [0, 4800] ∧ h.tl = .waiting 5140 :=
  ⟨_, rfl, by decide, by decide, by decide⟩

/-- … and `exOverflow` (no such response) is not a good run: its reset is not excluded -/
example : ¬ GoodRunX (2640 - 2400) exOverflow := by decide

/-! ## 7. the code before the repair -/

/-- **Under the unrepaired code (`stepOld`: a refused heartbeat ends the task of the heartbeat loop) the property
"started ⇒ the heartbeat loop is alive" is false**: the first heartbeat refused gives a reachable state in which
monitoring is started, the timeout loop is waiting, and the heartbeat loop is gone; and along every continuation
without `stop` (a further `start` changes nothing: "already started") it stays gone - neither kind of iteration is ever
enabled again and no `beat` event is ever added to the record. -/
theorem C08X_pre_fix_behaviour_refuted :
    ∃ h, ReachableOld 2400 2640 h ∧ started h.trace = true ∧ h.connected = true ∧ h.tl = .waiting 2640 ∧
      h.hl = .idle ∧
      ∀ ls h', runOld h ls = some h' → (∀ l ∈ ls, l ≠ .base .stop) →
        h'.hl = .idle ∧ stepOld h' (.base .hlBeat) = none ∧ stepOld h' .beatRefused = none ∧
        beats h'.trace = [] := by
  refine ⟨_, ⟨exRefusedFirst, rfl⟩, by decide, by decide, by decide, by decide, ?_⟩
  intro ls h' hrun hls
  obtain ⟨hd, hb⟩ := runOld_dead ls _ h' ⟨by decide, by decide⟩ hrun hls
  have ⟨n1, n2⟩ : stepOld h' (.base .hlBeat) = none ∧ stepOld h' .beatRefused = none := by
    simp [stepOld, step, refuse, hd.1]
  exact ⟨hd.1, n1, n2, hb.trans (by decide)⟩

/-- the same run under the repaired code: the heartbeat loop is alive and the heartbeat of 2400 is sent -/
example : ∃ h h', runX (init 2400 2640) exRefusedFirst = some h ∧ started h.trace = true ∧ h.hl = .sleeping 2400 ∧
    runX h [.base (.advance 2400), .base .hlBeat] = some h' ∧ beats h'.trace = [2400] :=
  ⟨_, _, rfl, by decide, by decide, rfl, by decide⟩

/-- … while under the unrepaired code the healthy connection is then reset every `timeout`: 2640, 5280, … and not one
heartbeat is sent -/
example : ∃ h, runOld (init 2400 2640)
      (exRefusedFirst ++ [.base (.advance 2640), .base .tlFire, .base .tlResetDone,
        .base (.advance 5280), .base .tlFire, .base .tlResetDone]) = some h ∧
    h.trace = [.conn true 0, .start 0, .reset 2640, .resetDone 2640, .reset 5280, .resetDone 5280] ∧ h.hl = .idle :=
  ⟨_, rfl, by decide, by decide⟩

end PyAirtouch.Props.C08X
