import PyAirtouch.Lemmas.SockRetry
/-!
# C02, last clause — "A single transient write failure does not lose an idempotent command: it is re-sent first on the
next connection"

Model: `PyAirtouch.Model.Sock`, whose `drainLoop` starts every iteration with the test
`if self._writer is None or self._writer.is_closing(): return` of `_drain_message_queue`.
Proofs: `Lemmas/SockRetry.lean`.  Vocabulary:

* `down c` — the number of transports of `c.conns` that are no longer open (`dying` or `dead`);
  `pot c w = down c + 1` if transport `w` is still open, `down c` otherwise.
* `isFault l` — `l` is an environment fault: `envLost _` (the peer resets a transport) or `envFailWrites _ true` (the
  next write on a transport will fail).
* `gentle s l` / `runG` — histories in which a transport only goes down through such a fault: no `apiClose` /
  `apiReset`; a reader is woken with `readBad` / `readEof` / `readErr` only on a transport that is already down; and
  wake-ups are prompt: at `openOk` no task is blocked (`drainAwait w` / `readWait w`) on a transport that is down.
  Pausing (`envPause`), refusals, any number of sends, any schedule otherwise.

Results, in three groups:

* (a) no write attempt is ever made on a transport that is closing or lost (no `deadWrite` event), so every attempt is
  a frame or a write fault, and the drain loop never raises;
* (b) the retries a message has used up are bounded by the number of transports that went down, and along a gentle
  history that number is bounded by the number of fault labels; hence the Spec monitor `keptAcrossSingleFault`, with
  the harness marker `fault` inserted anywhere, accepts the trace of every gentle history with at most one fault label.
  `C02_single_fault_cascade`: the promptness hypothesis cannot be dropped - with one `envLost`, congestion and late
  wake-ups a message accepted with one retry is dropped for `maxRetries`;
* (c) "re-sent first", as a fact about the queue: the failed-write path puts the entry back at the head, and re-queued
  entries stay ahead of everything accepted later, in every reachable state.  (No theorem here speaks of the transport
  on which the entry is written next.)
-/
namespace PyAirtouch.Props.C02
open PyAirtouch.Model.Sock PyAirtouch.Spec.Trace PyAirtouch.Lemmas.Sock PyAirtouch.Lemmas.SockRetry

/-! ### (a) no write on a lost connection -/

/-- **(a)** No write attempt is ever made on a transport that is closing or lost: the trace contains no `deadWrite`
    event.  (Holds for every `Reachable` state, in particular for every `ReachableWF` one.) -/
theorem C02_no_write_on_lost_connection {s : Sys} (h : Reachable s) :
    ∀ ev ∈ s.core.trace, ∀ cid sid t, ev ≠ .deadWrite cid sid t := by
  intro ev hev cid sid t heq
  have := noDW_reachable h ev hev
  rw [heq] at this; cases this

theorem C02_no_write_on_lost_connection_wf {s : Sys} (h : ReachableWF s) :
    ∀ ev ∈ s.core.trace, ∀ cid sid t, ev ≠ .deadWrite cid sid t :=
  C02_no_write_on_lost_connection h.reachable

/-- … so every attempt is a whole frame on an open transport or a write fault (a real failure of an open
    transport), and the failed attempts the monitors count are exactly the write faults -/
theorem C02_attempts_are_frames_or_faults {s : Sys} (h : Reachable s) (sid : Nat) :
    writeAttempts s.core.trace sid = wireCount s.core.trace sid + writeFaults s.core.trace sid ∧
    failedAttempts s.core.trace sid = writeFaults s.core.trace sid :=
  writeAttempts_split (noDW_reachable h) sid

/-- the drain loop never reaches its `except OSError` arm through `_write` itself: a retry is only ever spent when a
    `drain()` that was blocked fails (label `drainErr`, enabled only on a transport that is down) -/
theorem C02_drain_never_raises (c : Core) (w : Nat) (q : List Entry) (e : Entry) : (drainLoop c w q).2 ≠ .raised e :=
  fun h => Lemmas.SockDrain.drainLoop_not_raised (c' := (drainLoop c w q).1) (Prod.ext rfl h)

/-- the drain loop leaves the queue alone when the transport is not open -/
theorem C02_drain_skips_lost_transport (c : Core) (w : Nat) (q : List Entry)
    (h : (c.conns[w]?.map ConnSt.isLive).getD false = false) :
    (drainLoop c w q).1.queue = q ∧ (drainLoop c w q).1.trace = c.trace := by
  cases q with
  | nil => exact ⟨rfl, rfl⟩
  | cons e rest => simp [drainLoop, h]

def lostThenSend : List Label :=
  [.apiOpen, .run 1 .go, .run 1 .openOk, .run 1 .go, .run 2 .go, .envLost 0, .apiSend 1 1 240 true, .apiSend 2 1 240 true]

/-- non-vacuity: the peer resets the transport, then two sends: the drain loop sees that the writer is closing, so
    there is no attempt at all and both stay queued with their retries; after the reset and the
    reconnect both are written, in order, each exactly once -/
example : ∃ s, ReachableWF s ∧ s.core.isConnected = true ∧
    writeAttempts s.core.trace 1 = 0 ∧ writeAttempts s.core.trace 2 = 0 ∧
    s.core.queue.map (fun e => (e.sid, e.retries)) = [(1, 1), (2, 1)] ∧
    ∃ s', run s [.run 2 .readErr, .envLostRan 0, .run 2 .go, .run 2 .go, .run 5 .go, .run 5 .openOk, .run 5 .go] = some s' ∧
      s'.core.queue = [] ∧ wiredSids s'.core.trace = [1, 2] ∧ writeAttempts s'.core.trace 1 = 1 ∧
      writeAttempts s'.core.trace 2 = 1 :=
  ⟨_, ⟨lostThenSend, by decide, rfl⟩, by decide, by decide, by decide, by decide, _, rfl, by decide, by decide,
    by decide, by decide⟩

/-! ### (b) retries are spent on transports that went down -/

/-- **(b)** Retries are only spent on real failures.  With `r` the number of retries granted at acceptance:
    * an entry in the queue has used up at most `down` retries (`r ≤ retries + down`);
    * an entry written to transport `w` whose `drain()` has not returned has used up at most `down` retries, not counting
      the attempt in progress while `w` is open, counting it once `w` is down (`r + 1 ≤ retries + pot w`);
    * a message dropped for `maxRetries` has `r + 1 ≤ down`: each of its `r + 1` failed attempts was made on a different
      transport, open when written to, that went down before `drain()` returned. -/
theorem C02_attempts_need_faults {s : Sys} (h : ReachableWF s) :
    (∀ x ∈ s.core.queue, ∀ t e r ok, acceptedAt s.core.trace x.sid = some (t, e, r, ok) → r ≤ x.retries + down s.core) ∧
    (∀ k ∈ s.tasks, ∀ w x ret, k.pc = .drainAwait w x ret → ∀ t e r ok,
      acceptedAt s.core.trace x.sid = some (t, e, r, ok) → r + 1 ≤ x.retries + pot s.core w) ∧
    (∀ sid t, Ev.qdrop sid t .maxRetries ∈ s.core.trace → ∀ t0 e r ok,
      acceptedAt s.core.trace sid = some (t0, e, r, ok) → r + 1 ≤ down s.core) :=
  retries_spent_bounded h

/-- along a gentle history the number of transports that went down is at most the number of environment faults
    (`envLost`, `envFailWrites _ true`) in the label sequence -/
theorem C02_faults_bound_down {ls : List Label} {s : Sys} (h : runG init ls = some s) :
    down s.core ≤ ls.countP isFault :=
  down_runG h

/-- a gentle history with at most one environment fault: no message accepted with `retries ≥ 1` is ever dropped for
    `maxRetries` -/
theorem C02_single_fault_keeps_retryable {ls : List Label} {s : Sys} (hnd : (sendSids ls).Nodup)
    (hr : runG init ls = some s) (hf : ls.countP isFault ≤ 1) :
    ∀ sid t, Ev.qdrop sid t .maxRetries ∈ s.core.trace → ∀ t0 e r ok,
      acceptedAt s.core.trace sid = some (t0, e, r, ok) → r = 0 :=
  kept_single_fault hnd hr hf

/-- the Spec monitor `keptAcrossSingleFault` accepts the trace of every gentle history with at most one fault label,
    wherever the harness marker `fault tf` is put (the model does not emit `fault`; without the marker the monitor is
    trivially true) -/
theorem C02_kept_across_single_fault {ls : List Label} {s : Sys} (hnd : (sendSids ls).Nodup)
    (hr : runG init ls = some s) (hf : ls.countP isFault ≤ 1) (pre post : List Ev) (tf : Nat)
    (htr : s.core.trace = pre ++ post) : keptAcrossSingleFault (pre ++ Ev.fault tf :: post) = true :=
  keptAcrossSingleFault_marked (kept_single_fault hnd hr hf) pre post tf htr

/-- the same for every `ReachableWF` state (any schedule, any user calls) in which at most one transport has gone
    down -/
theorem C02_kept_while_one_transport_down {s : Sys} (h : ReachableWF s) (hd : down s.core ≤ 1) (pre post : List Ev)
    (tf : Nat) (htr : s.core.trace = pre ++ post) : keptAcrossSingleFault (pre ++ Ev.fault tf :: post) = true :=
  keptAcrossSingleFault_marked (kept_of_down_le_one h hd) pre post tf htr

/-- one write fault; message 1 (one retry) is hit by it, message 2 is sent while the transport is closing, message 3
    (no retry) while the reader resets the connection; reconnect -/
def singleFault : List Label :=
  [.apiOpen, .run 1 .go, .run 1 .openOk, .run 1 .go, .run 2 .go,
   .envFailWrites 0 true, .apiSend 1 1 240 true, .apiSend 2 1 240 true, .envLostRan 0, .run 3 .drainErr,
   .run 2 .readErr, .apiSend 3 0 240 true, .run 3 .go, .run 3 .go, .run 2 .go,
   .run 6 .go, .run 6 .openOk, .run 6 .go, .run 7 .go, .run 8 .go]

/-- non-vacuity of (b): the history is gentle and has one fault label; one transport went down (the bound of
    `C02_faults_bound_down` is attained); message 1 was attempted twice - one write fault, one frame - and no message is
    dropped; the monitors `keptAcrossSingleFault` and `resentFirst` see the marker and accept -/
example : ∃ s, runG init singleFault = some s ∧ (sendSids singleFault).Nodup ∧ singleFault.countP isFault = 1 ∧
    down s.core = 1 ∧ writeFaults s.core.trace 1 = 1 ∧ wireCount s.core.trace 1 = 1 ∧
    s.core.trace.all (fun ev => match ev with | .qdrop .. => false | _ => true) = true ∧
    faultCount (s.core.trace.take 5 ++ Ev.fault 0 :: s.core.trace.drop 5) = 1 ∧
    keptAcrossSingleFault (s.core.trace.take 5 ++ Ev.fault 0 :: s.core.trace.drop 5) = true ∧
    resentFirst (s.core.trace.take 5 ++ Ev.fault 0 :: s.core.trace.drop 5) = true :=
  ⟨_, rfl, by decide, by decide, by decide, by decide, by decide,
    by decide, by decide,
    C02_kept_across_single_fault (ls := singleFault) (by decide) rfl (by decide) _ _ 0 (List.take_append_drop 5 _).symm,
    by decide⟩

/-- the bound of `C02_attempts_need_faults` is attained in the middle of that history: after the failed `drain()` entry 1
    is back in the queue with `retries = 0 = 1 - down` -/
example : ∃ s, runG init (singleFault.take 10) = some s ∧ down s.core = 1 ∧
    s.core.queue.map (fun e => (e.sid, e.retries, e.requeued)) = [(1, 0, true), (2, 1, false)] :=
  ⟨_, rfl, by decide, by decide⟩

/-- the monitor's `r == 0` case does occur: a message without retries hit by the single fault is dropped -/
example : ∃ s, runG init [.apiOpen, .run 1 .go, .run 1 .openOk, .envFailWrites 0 true, .apiSend 1 0 240 true,
      .envLostRan 0, .run 2 .drainErr] = some s ∧
    Ev.qdrop 1 0 .maxRetries ∈ s.core.trace ∧ acceptedAt s.core.trace 1 = some (0, 240, 0, true) ∧
    keptAcrossSingleFault (Ev.fault 0 :: s.core.trace) = true :=
  ⟨_, rfl, by decide, by decide, by decide⟩

/-- … and the monitor does reject the loss of a retryable message -/
example : keptAcrossSingleFault [.accept 1 0 240 1 true, .fault 0, .writeFault 0 1 0, .qdrop 1 0 .maxRetries] = false := by
  decide

/-- one `envLost`, no other fault label, no `apiClose` / `apiReset`, no error handed to a reader of an open transport -
    but congestion (`envPause _ true`) and late wake-ups: the send task of message 1, blocked in `drain()` on transport 0,
    is resumed only after transport 1 is up and resets *that* connection; the send task of message 3, blocked on
    transport 1, is resumed only after transport 2 is up and resets that one -/
def cascade : List Label :=
  [.apiOpen, .run 1 .go, .run 1 .openOk, .run 1 .go, .run 2 .go,
   .envPause 0 true, .apiSend 1 1 240 true,
   .envLost 0, .run 2 .readErr, .envLostRan 0, .run 2 .go, .run 2 .go,
   .run 4 .go, .run 4 .openOk, .run 4 .go, .envPause 1 true, .apiSend 2 1 240 true, .apiSend 3 1 240 true,
   .run 3 .drainErr, .run 6 .drainErr, .envLostRan 1, .run 3 .go, .run 3 .go,
   .run 8 .go, .run 8 .openOk, .envPause 2 true, .run 8 .go, .run 7 .drainErr, .run 8 .drainErr]

/-- **the promptness hypothesis is necessary.**  With a single environment fault, message 2 - accepted with one retry
    *after* the fault, on the healthy transport 1 - is dropped for `maxRetries`: both its attempts were whole frames on
    open transports that the client then closed itself (`clientClose 1`, `clientClose 2`) from the
    `reset_connection()` of a send task that had been blocked on an older, lost transport.  The history is not gentle
    (the `openOk` of transport 1 happens while task 3 is still blocked on transport 0), three transports are down, and
    the monitor `keptAcrossSingleFault` rejects the trace. -/
theorem C02_single_fault_cascade :
    ∃ s, run init cascade = some s ∧ (sendSids cascade).Nodup ∧ cascade.countP isFault = 1 ∧
      cascade.all (fun l => l ≠ .apiClose && l ≠ .apiReset) = true ∧ runG init cascade = none ∧
      acceptedAt s.core.trace 2 = some (0, 240, 1, true) ∧ Ev.qdrop 2 0 .maxRetries ∈ s.core.trace ∧
      down s.core = 3 ∧
      s.core.trace.all (fun ev => match ev with | .deadWrite .. | .writeFault .. => false | _ => true) = true ∧
      keptAcrossSingleFault (s.core.trace.take 6 ++ Ev.fault 0 :: s.core.trace.drop 6) = false :=
  ⟨_, rfl, by decide, by decide, by decide, by decide, by decide, by decide, by decide, by decide, by decide⟩

/-! ### (c) re-queued entries go first -/

/-- **(c), first half.**  The failed-write path (`drain()` raises) puts the entry back at the head of the queue, with
    one retry fewer and the re-queued mark. -/
theorem C02_requeued_first {s s' : Sys} {t w : Nat} {e : Entry} {r : Ret} (hp : pcAt s t = some (.drainAwait w e r))
    (hk : e.retries ≠ 0) (h : step s (.run t .drainErr) = some s') :
    s'.core.queue = { e with retries := e.retries - 1, requeued := true } :: s.core.queue :=
  drainErr_requeues hp hk h

/-- how the queue evolves along any run from any state: in front, entries re-queued since; then what is left of the old
    queue, in its old order; at the back, entries accepted since -/
theorem C02_queue_evolution {ls : List Label} {s s' : Sys} (h : run s ls = some s') :
    ∃ pre mid post, s'.core.queue = pre ++ mid ++ post ∧ mid.Sublist s.core.queue ∧
      (∀ x ∈ pre, x.requeued = true) ∧ (∀ y ∈ post, y.requeued = false) :=
  run_qrel ls h

/-- **(c), second half.**  A re-queued entry stays ahead of every entry accepted later, for as long as it is in the
    queue (i.e. until it is written or dropped): whatever happens between `s` and `s'`, if `x` (re-queued) is still
    queued in `s'` and `y` is an entry of `s'` that was not queued in `s` and is not a re-queued one, then `x` comes
    before `y`. -/
theorem C02_requeued_stays_ahead {ls : List Label} {s s' : Sys} (h : run s ls = some s') {x y : Entry}
    (hx : x ∈ s'.core.queue) (hxr : x.requeued = true)
    (hy : y ∈ s'.core.queue) (hyn : y ∉ s.core.queue) (hyr : y.requeued = false) :
    ∃ l1 l2, s'.core.queue = l1 ++ l2 ∧ x ∈ l1 ∧ y ∈ l2 :=
  requeued_stays_ahead h hx hxr hy hyn hyr

/-- in every reachable state the re-queued entries form a prefix of the queue: no entry that was never attempted is
    ever ahead of one that is waiting for its retry -/
theorem C02_requeued_prefix {s : Sys} (h : Reachable s) :
    ∃ pre post, s.core.queue = pre ++ post ∧ (∀ x ∈ pre, x.requeued = true) ∧ (∀ y ∈ post, y.requeued = false) :=
  requeued_prefix h

/-- non-vacuity of (c): in `singleFault`, step 10 is the failed `drain()` of message 1 (hypotheses of
    `C02_requeued_first` hold, queue before: `[2]`, after: `[1', 2]`); message 3 is accepted later and goes behind; on the
    next transport the frames go out in the order 1, 2, 3 and message 1 is the first frame on it -/
example : ∃ s s' s'', run init (singleFault.take 9) = some s ∧ pcAt s 3 = some (.drainAwait 0 ⟨1, 1, 240, true, false⟩ .done) ∧
    step s (.run 3 .drainErr) = some s' ∧ s.core.queue.map (·.sid) = [2] ∧
    s'.core.queue = [⟨1, 0, 240, true, true⟩, ⟨2, 1, 240, true, false⟩] ∧
    run s' (singleFault.drop 10) = some s'' ∧ wiredSids s''.core.trace = [1, 2, 3] ∧
    firstWireOn s''.core.trace 1 = some 1 ∧
    ∃ m, run s' [.run 2 .readErr, .apiSend 3 0 240 true] = some m ∧ m.core.queue.map (·.sid) = [1, 2, 3] :=
  ⟨_, _, _, rfl, by decide, rfl, by decide, by decide, rfl, by decide, by decide, _, rfl, by decide⟩

end PyAirtouch.Props.C02
