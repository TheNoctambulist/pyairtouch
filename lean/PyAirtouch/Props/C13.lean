import PyAirtouch.Lemmas.Frame
import PyAirtouch.Model.At4.Registry
import PyAirtouch.Model.At5.Registry
/-!
# C13 — reception is independent of TCP segmentation

`feed` is the read loop (`readexactly`-driven `_read_one_message`); `feedAll` feeds a list of segments one by
one.  For EVERY list of segments (empty ones, single bytes, cuts inside prefixes / length fields / check bytes,
many frames in one segment) the deliveries, their order and the final state equal those of feeding the
concatenation at once; hence any two segmentations of the same byte stream deliver exactly the same messages,
once each, in the order sent.  Stated generically (`C13_*`) and for the two real protocols (`C13_g4_*`, `C13_g5_*`).
-/
namespace PyAirtouch.Props.C13
open PyAirtouch.Model PyAirtouch.Model.Frame PyAirtouch.Lemmas.Frame
theorem C13_feedAll_eq_feed_flatten : type_of% @PyAirtouch.Lemmas.Frame.feedAll_eq_feed_flatten := @PyAirtouch.Lemmas.Frame.feedAll_eq_feed_flatten
theorem C13_any_two_segmentations : type_of% @PyAirtouch.Lemmas.Frame.any_two_segmentations := @PyAirtouch.Lemmas.Frame.any_two_segmentations
theorem C13_feed_append : type_of% @PyAirtouch.Lemmas.Frame.feed_append := @PyAirtouch.Lemmas.Frame.feed_append
theorem C13_parseOne_deliver_append : type_of% @PyAirtouch.Lemmas.Frame.parseOne_deliver_append := @PyAirtouch.Lemmas.Frame.parseOne_deliver_append
theorem C13_parseOne_reject_append : type_of% @PyAirtouch.Lemmas.Frame.parseOne_reject_append := @PyAirtouch.Lemmas.Frame.parseOne_reject_append
theorem C13_parseAll_fuel : type_of% @PyAirtouch.Lemmas.Frame.parseAll_fuel := @PyAirtouch.Lemmas.Frame.parseAll_fuel

theorem C13_g4_any_two_segmentations (segs1 segs2 : List Bytes) (h : segs1.flatten = segs2.flatten) :
    feedAll At4.Registry.proto ⟨[], false⟩ segs1 = feedAll At4.Registry.proto ⟨[], false⟩ segs2 :=
  any_two_segmentations At4.Registry.proto (by decide) segs1 segs2 h

theorem C13_g5_any_two_segmentations (segs1 segs2 : List Bytes) (h : segs1.flatten = segs2.flatten) :
    feedAll At5.Registry.proto ⟨[], false⟩ segs1 = feedAll At5.Registry.proto ⟨[], false⟩ segs2 :=
  any_two_segmentations At5.Registry.proto (by decide) segs1 segs2 h

-- non-vacuity: the vendor frame cut inside its check bytes, with an empty segment in between
example : (feedAll At4.Registry.proto ⟨[], false⟩
      [[0x55, 0x55, 0x80, 0xb0, 0x01], [], [0x2b, 0x00, 0x00, 0xf5], [0x2f]]).1.length = 1 := by decide +kernel

end PyAirtouch.Props.C13
