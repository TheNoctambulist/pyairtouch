import PyAirtouch.Lemmas.Api5Tables
import PyAirtouch.Lemmas.Api5Step
/-!
# C10 (AirTouch 5) — the object model reflects the console's reports

Statements about `Model.Api5.apiStep` (the model of `pyairtouch/at5/api.py`) and about the generated mapping
tables `Gen.Api5.*` (evaluated from the Python dicts).  "Object `r`" is a heap reference: the AC / zone object a
dict entry points to; the statements hold for every state, reachable or not.

* last writer wins, per entity: after a status frame the status of every object is the last record of the frame
  addressed to it (or what it was); nothing else about the object changes;
* every getter is total on every defined protocol value (no `KeyError`);
* selected mode / fan speed report AUTO / INTELLIGENT_AUTO for the automatic variants, the active getters the
  concrete HEAT / COOL and the concrete speed (`C10_active_fan_concrete_at5`, for every protocol value);
* set-point limits follow the current mode exactly as the code does (HEAT, COOL: that mode's limits; every other mode,
  including AUTO_HEAT / AUTO_COOL: the outer hull);
* error details iff error code ≠ 0; quick-timer time iff the timer is not disabled.
-/
namespace PyAirtouch.Props.C10
open PyAirtouch.Model PyAirtouch.Model.Api5 PyAirtouch.Model.At5 PyAirtouch.Model.At5.Registry
open PyAirtouch.Model.TimerCommon (AcTimerState AcTimerStatusData)
open PyAirtouch.Gen PyAirtouch.Gen.Api5 PyAirtouch.Lemmas.Api5

/-! ## 1. last writer wins -/

/-- AC status frame while CONNECTED: every AC object ends with the last record addressed to it; its ability, zones,
subscribers and timer status are untouched; the dict is untouched -/
theorem C10_last_writer_wins_ac_status_at5 (s : State) (toAddr : Nat) (l : List C023.AcStatusData)
    (hsub : s.sockSubscribed = true) (hst : s.st = .CONNECTED) (hopen : s.sockOpen = true)
    (r : Nat) (a : AcObj) (ha : s.aobjs[r]? = some a) :
    let s' := (apiStep s (.msg toAddr (.controlStatus (.acStatus (.status l))))).1
    s'.acs = s.acs ∧ ∃ a', s'.aobjs[r]? = some a' ∧
      a'.status = lastWriter (·.ac_number) s.acs r l a.status ∧ fixedOf a' = fixedOf a ∧ a'.timer = a.timer := by
  rw [apiStep_acStatus_connected s toAddr l hsub hst hopen]
  obtain ⟨h1, a', h2, h3, h4⟩ := runSteps_lastWriter State.aobjs State.acs (fun d : C023.AcStatusData => d.ac_number)
    acAfterStatus (·.status) acStatusStep_acs acStatusStep_get acAfterStatus_status l s r a ha
  -- a status update keeps the fixed part and the timer
  exact ⟨h1, a', h2, h3, h4 _ fixedOf acAfterStatus_fixed, h4 _ (·.timer) acAfterStatus_timer⟩

/-- … in particular the last record for the AC in the frame is what the AC shows -/
theorem C10_last_record_wins_ac_status_at5 (s : State) (toAddr : Nat) (l1 l2 : List C023.AcStatusData)
    (d : C023.AcStatusData) (hsub : s.sockSubscribed = true) (hst : s.st = .CONNECTED) (hopen : s.sockOpen = true)
    (r : Nat) (a : AcObj) (ha : s.aobjs[r]? = some a) (hd : s.acRef d.ac_number = some r)
    (h2 : ∀ e ∈ l2, s.acRef e.ac_number ≠ some r) :
    ∃ a', (apiStep s (.msg toAddr (.controlStatus (.acStatus (.status (l1 ++ d :: l2)))))).1.aobjs[r]? = some a' ∧
      a'.status = d := by
  obtain ⟨_, a', h1, h3, _⟩ := C10_last_writer_wins_ac_status_at5 s toAddr (l1 ++ d :: l2) hsub hst hopen r a ha
  exact ⟨a', h1, by rw [h3]; exact lastWriter_last _ _ _ _ _ _ _ hd h2⟩

def exAc : AcObj :=
  newAc { ac_number := 1, ac_name := [], start_zone := 0, zone_count := 0, ac_mode_support := [], fan_speed_support := [],
          min_cool_set_point := 17, max_cool_set_point := 30, min_heat_set_point := 16, max_heat_set_point := 28 } [] [] []

def exState : State :=
  { State.new [] [] [] [] with st := .CONNECTED, sockOpen := true, sockSubscribed := true, aobjs := [exAc], acs := [(1, 0)] }

def exRec (sp : Int) : C023.AcStatusData := { exAc.status with set_point := sp }

/-- two records for AC 1 in one frame: the second one stays -/
example : ((apiStep exState (.msg 176 (.controlStatus (.acStatus (.status [exRec 215, exRec 230]))))).1.aobjs[0]?.map
    (·.status.set_point)) = some 230 := by decide +kernel

/-- AC timer status frame while CONNECTED (an `AcTimerControlMessage` is handled identically) -/
theorem C10_last_writer_wins_ac_timer_at5 (s : State) (toAddr : Nat) (l : List AcTimerStatusData)
    (hsub : s.sockSubscribed = true) (hst : s.st = .CONNECTED) (r : Nat) (a : AcObj) (ha : s.aobjs[r]? = some a) :
    let s' := (apiStep s (.msg toAddr (.controlStatus (.acTimerStatus (.status l))))).1
    s'.acs = s.acs ∧ ∃ a', s'.aobjs[r]? = some a' ∧
      a'.timer = lastWriter (·.ac_number) s.acs r l a.timer ∧ fixedOf a' = fixedOf a ∧ a'.status = a.status ∧
      a'.errInfo = a.errInfo := by
  rw [apiStep_acTimer_connected s toAddr l hsub hst]
  obtain ⟨h1, a', h2, h3, h4⟩ := runSteps_lastWriter State.aobjs State.acs (fun d : AcTimerStatusData => d.ac_number)
    acAfterTimer (·.timer) acTimerStep_acs acTimerStep_get (fun _ _ => rfl) l s r a ha
  -- a timer update keeps everything but the timer
  exact ⟨h1, a', h2, h3, h4 _ fixedOf fun _ _ => rfl, h4 _ (·.status) fun _ _ => rfl, h4 _ (·.errInfo) fun _ _ => rfl⟩

example : ((apiStep exState (.msg 176 (.controlStatus (.acTimerStatus (.status
    [⟨1, ⟨false, 7, 30⟩, ⟨true, 0, 0⟩⟩, ⟨1, ⟨false, 8, 0⟩, ⟨true, 0, 0⟩⟩]))))).1.aobjs[0]?.map (·.timer.on_timer.hour)) = some 8 := by
  decide +kernel

/-- zone status frame while CONNECTED: name, subscribers and AC attachment are untouched -/
theorem C10_last_writer_wins_zone_status_at5 (s : State) (toAddr : Nat) (l : List C021.ZoneStatusData)
    (hsub : s.sockSubscribed = true) (hst : s.st = .CONNECTED) (r : Nat) (z : ZoneObj) (hz : s.zobjs[r]? = some z) :
    let s' := (apiStep s (.msg toAddr (.controlStatus (.zoneStatus (.status l))))).1
    s'.zones = s.zones ∧ ∃ z', s'.zobjs[r]? = some z' ∧
      z'.status = lastWriter (·.zone_number) s.zones r l z.status ∧ z'.name = z.name ∧ z'.subs = z.subs ∧ z'.fwd = z.fwd := by
  rw [apiStep_zoneStatus_connected s toAddr l hsub hst]
  obtain ⟨h1, z', h2, h3, h4⟩ := runSteps_lastWriter State.zobjs State.zones (fun d : C021.ZoneStatusData => d.zone_number)
    zoneAfterStatus (·.status) zoneStatusStep_zones zoneStatusStep_get (fun _ _ => rfl) l s r z hz
  -- a status update keeps the name, the subscribers and the AC attachment
  exact ⟨h1, z', h2, h3, h4 _ (·.name) fun _ _ => rfl, h4 _ (·.subs) fun _ _ => rfl, h4 _ (·.fwd) fun _ _ => rfl⟩

def exZState : State :=
  { exState with zobjs := [newZone 3 []], zones := [(3, 0)] }

example : ((apiStep exZState (.msg 176 (.controlStatus (.zoneStatus (.status
    [{ (newZone 3 []).status with damper_percentage := 40 }, { (newZone 3 []).status with damper_percentage := 55 }]))))).1.zobjs[0]?.map
    (·.status.damper_percentage)) = some 55 := by decide +kernel

/-- error information (any state): the addressed AC shows the text of the message -/
theorem C10_error_info_stored_at5 (s : State) (toAddr : Nat) (e : FF10.AcErrorInformationMessage)
    (hsub : s.sockSubscribed = true) (r : Nat) (a : AcObj) (hr : s.acRef e.ac_number = some r)
    (ha : s.aobjs[r]? = some a) :
    (apiStep s (.msg toAddr (.extended (.errInfo (.message e))))).1.aobjs[r]? = some { a with errInfo := e.error_info } := by
  rw [apiStep_errInfo s toAddr e hsub hr ha]
  simp [State.setAc, acAfterErrInfo, modifyAt_get_same, ha]

example : ((apiStep exState (.msg 176 (.extended (.errInfo (.message ⟨1, some [69]⟩))))).1.aobjs[0]?.map (·.errInfo)) =
    some (some [69]) := by decide +kernel

/-- console version while CONNECTED -/
theorem C10_console_version_stored_at5 (s : State) (toAddr : Nat) (v : FF30.ConsoleVersionMessage)
    (hsub : s.sockSubscribed = true) (hst : s.st = .CONNECTED) :
    (apiStep s (.msg toAddr (.extended (.consoleVer (.message v))))).1.consoleVersion = v := by
  obtain ⟨hb', e⟩ := doMsg_fst s toAddr (.extended (.consoleVer (.message v))) hsub
  simp only [apiStep, e, handleMessage_consoleVer_connected s toAddr v hst, processConsoleVersionUpdate_spec]

example : (apiStep exState (.msg 176 (.extended (.consoleVer (.message ⟨true, [[49]]⟩))))).1.consoleVersion = ⟨true, [[49]]⟩ := by
  exact C10_console_version_stored_at5 exState 176 _ rfl rfl

/-! ## 2. getters are total on every defined protocol value (no `KeyError`) -/

theorem C10_zone_power_state_total_at5 : ∀ k, ZONE_POWER_STATE_MAPPING k ≠ none := by intro k; cases k <;> decide
theorem C10_zone_control_method_total_at5 : ∀ k, ZONE_CONTROL_METHOD_MAPPING k ≠ none := by intro k; cases k <;> decide
theorem C10_sensor_battery_total_at5 : ∀ k, SENSOR_BATTERY_STATUS_MAPPING k ≠ none := by intro k; cases k <;> decide
theorem C10_ac_power_state_total_at5 : ∀ k, AC_POWER_STATE_MAPPING k ≠ none := by intro k; cases k <;> decide
theorem C10_ac_selected_mode_total_at5 : ∀ k, AC_SELECTED_MODE_MAPPING k ≠ none :=
  fun k h => Option.some_ne_none _ ((selectedMode_table k).symm.trans h)
theorem C10_ac_active_mode_total_at5 : ∀ k, AC_ACTIVE_MODE_MAPPING k ≠ none :=
  fun k h => Option.some_ne_none _ ((activeMode_table k).symm.trans h)
theorem C10_ac_selected_fan_total_at5 : ∀ k, AC_SELECTED_FAN_SPEED_MAPPING k ≠ none :=
  fun k h => Option.some_ne_none _ ((selectedFan_table k).symm.trans h)
theorem C10_ac_active_fan_total_at5 : ∀ k, AC_ACTIVE_FAN_SPEED_MAPPING k ≠ none :=
  fun k h => Option.some_ne_none _ ((activeFan_table k).symm.trans h)
/-- the tables used by the setters are total on the public enums too -/
theorem C10_api_tables_total_at5 :
    (∀ k, API_ZONE_POWER_MAPPING k ≠ none) ∧ (∀ k, API_POWER_CONTROL_MAPPING k ≠ none) ∧
    (∀ k, API_MODE_CONTROL_MAPPING k ≠ none) ∧ (∀ k, API_FAN_SPEED_CONTROL_MAPPING k ≠ none) ∧
    (∀ k, API_TIMER_TYPE_MAPPING k ≠ none) := by
  refine ⟨?_, ?_, ?_, ?_, ?_⟩ <;> intro k <;> cases k <;> decide

/-- every enum-valued getter of every AC object answers -/
theorem C10_ac_getters_total_at5 (a : AcObj) :
    a.powerState.isSome ∧ a.selectedMode.isSome ∧ a.activeMode.isSome ∧ a.selectedFanSpeed.isSome ∧
      a.activeFanSpeed.isSome := by
  exact ⟨Option.isSome_iff_ne_none.2 (C10_ac_power_state_total_at5 _), Option.isSome_iff_ne_none.2 (C10_ac_selected_mode_total_at5 _),
    Option.isSome_iff_ne_none.2 (C10_ac_active_mode_total_at5 _), Option.isSome_iff_ne_none.2 (C10_ac_selected_fan_total_at5 _),
    Option.isSome_iff_ne_none.2 (C10_ac_active_fan_total_at5 _)⟩

/-- every enum-valued getter of every zone object answers -/
theorem C10_zone_getters_total_at5 (z : ZoneObj) :
    z.powerState.isSome ∧ z.controlMethod.isSome ∧ z.batteryStatus.isSome := by
  exact ⟨Option.isSome_iff_ne_none.2 (C10_zone_power_state_total_at5 _), Option.isSome_iff_ne_none.2 (C10_zone_control_method_total_at5 _),
    Option.isSome_iff_ne_none.2 (C10_sensor_battery_total_at5 _)⟩

example : exAc.powerState = some .OFF ∧ (newZone 0 []).powerState = some .OFF := by decide +kernel

/-! ## 3. selected vs. active -/

theorem C10_selected_mode_at5 (a : AcObj) : a.selectedMode = some (selectedModeSpec a.status.mode) :=
  selectedMode_table _

theorem C10_active_mode_at5 (a : AcObj) : a.activeMode = some (activeModeSpec a.status.mode) :=
  activeMode_table _

example : ({ exAc with status := { exAc.status with mode := .AUTO_HEAT } } : AcObj).selectedMode = some .AUTO ∧
    ({ exAc with status := { exAc.status with mode := .AUTO_HEAT } } : AcObj).activeMode = some .HEAT := by decide +kernel

theorem C10_selected_fan_at5 (a : AcObj) : a.selectedFanSpeed = some (selectedFanSpec a.status.fan_speed) :=
  selectedFan_table _

/-- the active fan speed is the concrete speed in effect, for every protocol value (the table entry for
`INTELLIGENT_AUTO_TURBO` was `INTELLIGENT_AUTO` in pyairtouch as released: found by the C10 check, repaired in /repo) -/
theorem C10_active_fan_concrete_at5 (a : AcObj) :
    a.activeFanSpeed = some (concreteFanSpec a.status.fan_speed) :=
  activeFan_table _

example : ({ exAc with status := { exAc.status with fan_speed := .INTELLIGENT_AUTO_TURBO } } : AcObj).activeFanSpeed = some .TURBO := by
  decide +kernel

example : ({ exAc with status := { exAc.status with fan_speed := .INTELLIGENT_AUTO_HIGH } } : AcObj).activeFanSpeed = some .HIGH ∧
    ({ exAc with status := { exAc.status with fan_speed := .INTELLIGENT_AUTO_HIGH } } : AcObj).selectedFanSpeed =
      some .INTELLIGENT_AUTO := by decide +kernel

/-! ## 4. limits follow the current mode -/

theorem C10_limits_follow_mode_at5 (a : AcObj) :
    (a.status.mode = .HEAT → a.minTarget = a.ability.min_heat_set_point ∧ a.maxTarget = a.ability.max_heat_set_point) ∧
    (a.status.mode = .COOL → a.minTarget = a.ability.min_cool_set_point ∧ a.maxTarget = a.ability.max_cool_set_point) ∧
    (a.status.mode ≠ .HEAT → a.status.mode ≠ .COOL →
      a.minTarget = min a.ability.min_heat_set_point a.ability.min_cool_set_point ∧
      a.maxTarget = max a.ability.max_heat_set_point a.ability.max_cool_set_point) := by
  unfold AcObj.minTarget AcObj.maxTarget
  refine ⟨fun h => ?_, fun h => ?_, fun h1 h2 => ?_⟩
  · rw [h]; exact ⟨rfl, rfl⟩
  · rw [h]; exact ⟨rfl, rfl⟩
  · constructor <;> split <;> first | contradiction | rfl

/-- AUTO_HEAT is *not* treated like HEAT: the hull applies (16 … 30 here, HEAT alone would be 16 … 28) -/
example : ({ exAc with status := { exAc.status with mode := .AUTO_HEAT } } : AcObj).minTarget = 16 ∧
    ({ exAc with status := { exAc.status with mode := .AUTO_HEAT } } : AcObj).maxTarget = 30 ∧
    ({ exAc with status := { exAc.status with mode := .HEAT } } : AcObj).maxTarget = 28 := by decide +kernel

/-! ## 5. error details iff error code ≠ 0 -/

theorem C10_error_info_iff_at5 (a : AcObj) :
    (a.errorInfo.isSome ↔ a.status.error_code ≠ 0) ∧
    (∀ e, a.errorInfo = some e → e = (a.status.error_code, a.errInfo)) := by
  unfold AcObj.errorInfo
  by_cases h : a.status.error_code ≠ 0 <;> simp [h]

/-- a status that clears the error code also clears the stored description (and a changed status with an error
code asks the console for the description: see `C02` / `C14`) -/
theorem C10_error_cleared_at5 (a : AcObj) (d : C023.AcStatusData) (hne : a.status ≠ d) (h0 : d.error_code = 0) :
    (acAfterStatus a d).errInfo = none ∧ (acAfterStatus a d).errorInfo = none := by
  simp [acAfterStatus, hne, h0, AcObj.errorInfo]

example : ({ exAc with status := { exAc.status with error_code := 5 }, errInfo := some [69] } : AcObj).errorInfo =
    some (5, some [69]) ∧ exAc.errorInfo = none := by decide +kernel

/-! ## 6. quick-timer time iff not disabled -/

/-- `next_quick_timer` answers `None` exactly for a disabled timer; otherwise the reported hour and minute
(`datetime.time` raises `ValueError` outside 0..23 / 0..59 — the timer field can carry 0..31 / 0..63) -/
theorem C10_quick_timer_iff_at5 (a : AcObj) (tt : ApiEnums.AcTimerType) :
    (a.nextQuickTimer tt = .ok none ↔ (a.timerState tt).disabled = true) ∧
    ((a.timerState tt).disabled = false → (a.timerState tt).hour < 24 → (a.timerState tt).minute < 60 →
      a.nextQuickTimer tt = .ok (some ((a.timerState tt).hour, (a.timerState tt).minute))) := by
  simp only [AcObj.nextQuickTimer]
  generalize a.timerState tt = t
  rcases t with ⟨dis, hr, mi⟩
  cases dis
  · simp only [Bool.false_eq_true, if_false, iff_false]
    refine ⟨?_, ?_⟩
    · split <;> simp
    · intro _ h2 h3; simp [h2, h3]
  · simp

example : ({ exAc with timer := ⟨1, ⟨false, 7, 30⟩, ⟨true, 9, 9⟩⟩ } : AcObj).nextQuickTimer .ON_TIMER = .ok (some (7, 30)) ∧
    ({ exAc with timer := ⟨1, ⟨false, 7, 30⟩, ⟨true, 9, 9⟩⟩ } : AcObj).nextQuickTimer .OFF_TIMER = .ok none := ⟨rfl, rfl⟩

end PyAirtouch.Props.C10
