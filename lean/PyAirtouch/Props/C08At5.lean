import PyAirtouch.Lemmas.Api5Heartbeat
import PyAirtouch.Props.C08
import PyAirtouch.Props.C09At5
/-!
# C08 (AirTouch 5) — the heartbeat manager as wired into the API object

`Props/C08.lean` proves property C08 for the heartbeat model `Model.Heartbeat` on its own.  This file proves that the
AirTouch 5 API model (`Model.Api5`) drives that model the way the property needs it:

1. the manager is started exactly by the frame that completes the handshake, stopped by `shutdown()` only, its parameters
   (2400 / 2640 ticks of 1/8 s = 300 s / 330 s) never change;
2. what it sends is the console-version request with the connected-only policy, what it accepts as a response is an
   extended message carrying a console-version sub-message; no other frame re-arms the deadline;
3. `adv n` drives the embedded manager by `n` ticks: a ghost manager that is fed the same inputs but keeps its whole
   trace is `Reachable` in the heartbeat model and stays equivalent (`HbEquiv`) to the embedded one, and the `RESET`s the
   API outputs are the `reset` events of the ghost - so what `Props/C08.lean` proves about deadlines and resets holds of the
   API object (the heartbeat requests output are not tied to the ghost's `beat` events: the handshake's version request is
   the same output).  API-level corollaries: a `RESET` exactly 2640 ticks after the last arm point and not earlier; no
   `RESET` while console version frames keep arriving; an `adv` up to the next wake-up (before the deadline) outputs the
   one request and schedules the next 2400 ticks later.

Model limit: the scheduler `Model.Heartbeat.settle` has a fuel of 100000 actions per call, and each `.finish` input of an
`adv` calls it twice; statements that need the scheduler to finish carry `n ≤ advBound` (= 6·10⁷ ticks, 86 days per
single `adv`), a round bound up to which that is certainly enough.
-/
namespace PyAirtouch.Props.C08
open PyAirtouch.Model PyAirtouch.Model.Api5 PyAirtouch.Model.At5 PyAirtouch.Model.At5.Registry
open PyAirtouch.Model.Heartbeat PyAirtouch.Spec.Heartbeat PyAirtouch.Lemmas.Heartbeat
open PyAirtouch.Gen PyAirtouch.Gen.Api5 PyAirtouch.Lemmas.Api5
open PyAirtouch.Props.C09 (exS0 exVersion exNames exAbilities exAcStatus exTimers exZones)

/-! ## 0. the example states -/

/-- the handshake of `Props/C09At5.lean` up to the last request: waiting for the zone status -/
def exWaiting5 : State :=
  runS exS0 [.init, .conn true, .msg 176 exVersion, .msg 176 exNames, .msg 176 exAbilities, .msg 176 exAcStatus,
    .msg 176 exTimers]

/-- … completed: connected, the heartbeat manager running -/
def exConn5 : State := runS exWaiting5 [.msg 176 exZones]

theorem exWaiting5_facts_at5 : exWaiting5.sockSubscribed = true ∧ exWaiting5.st = .INIT_ZONE_STATUS ∧
    exWaiting5.hb.tl = .idle ∧ exWaiting5.hb.hl = .idle ∧ exWaiting5.hb.now = 0 ∧ exWaiting5.now = 0 ∧
    exWaiting5.hb.connected = true ∧ exWaiting5.pendingInits = [40] ∧ exWaiting5.initialised = false := by decide +kernel

theorem exConn5_facts_at5 : exConn5.st = .CONNECTED ∧ exConn5.initialised = true ∧ exConn5.hb.tl = .waiting 2640 ∧
    exConn5.hb.hl = .sleeping 2400 ∧ exConn5.hb.connected = true ∧ exConn5.hb.flag = false ∧ exConn5.now = 0 ∧
    exConn5.hb.now = 0 ∧ exConn5.pendingInits = [] ∧ exConn5.sockSubscribed = true := by decide +kernel

theorem exConn5_ok_at5 : HbOk exConn5 := by
  have : exConn5 = runS exS0 [.init, .conn true, .msg 176 exVersion, .msg 176 exNames, .msg 176 exAbilities,
      .msg 176 exAcStatus, .msg 176 exTimers, .msg 176 exZones] := rfl
  rw [this]
  refine hbOk_run _ _ (hbOk_new [] [] [] []) ?_
  intro o ho n e
  subst e
  simp at ho

/-! ## 1. started exactly when the handshake completes, stopped by `shutdown()` only -/

/-- (a) the frame that completes the handshake (`answers .INIT_ZONE_STATUS`: a zone-status message, or the echo of the
request addressed to the client) while the manager is not running: the API becomes CONNECTED, every waiting `init()`
answers `True`, `HBSTART` is output, and the manager is in its started state - deadline `now + 2640`, next wake-up
`now + 2400` (both tasks took their first step at once), parameters 2400 / 2640; the first heartbeat request is output
iff the link is up.  `pre`: the notifications of the zone-status update that precedes `CONNECTED` in the handler.
(`Lemmas.Api5.last_answer_spec` is the same step without any assumption on the manager.) -/
theorem hb_started_on_connected_at5 : type_of% @hb_started_on_connected := @hb_started_on_connected

/-- the two frames that complete the handshake -/
theorem completing_frames_at5 (toAddr : Nat) (m : Msg) :
    answers .INIT_ZONE_STATUS toAddr m = true ↔
      (∃ l, m = .controlStatus (.zoneStatus (.status l))) ∨
      (m = .controlStatus (.zoneStatus .request) ∧ toAddr = Gen.At5.Hdr.ADDRESS_CLIENT) := by
  constructor
  · intro h
    rcases answers_zoneStatus_inv h with h | ⟨h1, h2⟩
    · exact .inl h
    · exact .inr ⟨h1, by simpa using h2⟩
  · rintro (⟨l, rfl⟩ | ⟨rfl, rfl⟩) <;> simp [answers]

/-- the zone-status message, in full -/
theorem hb_started_by_zone_status_at5 (s : State) (toAddr : Nat) (l : List C021.ZoneStatusData)
    (hsub : s.sockSubscribed = true) (hst : s.st = .INIT_ZONE_STATUS) (hi : HbIdle s.hb) (hn : s.hb.now ≤ s.now)
    (hiv : s.hb.interval = Gen.Api5.heartbeatInterval) (hto : s.hb.timeout = Gen.Api5.heartbeatTimeout) :
    let r := apiStep s (.msg toAddr (.controlStatus (.zoneStatus (.status l))))
    Out.hbStart ∈ r.2 ∧ r.2.count (.result "init True") = s.pendingInits.length ∧
    r.1.initialised = true ∧ r.1.st = .CONNECTED ∧
    r.1.hb.tl = .waiting (s.now + 2640) ∧ r.1.hb.hl = .sleeping (s.now + 2400) ∧
    r.1.hb.interval = Gen.Api5.heartbeatInterval ∧ r.1.hb.timeout = Gen.Api5.heartbeatTimeout ∧
    (Out.send .connected hbMessage false ∈ r.2 ↔ s.hb.connected = true) := by
  intro r
  obtain ⟨h1, h2, _, h4, h5, _, _, _, h9, h10, _, pre, hp, ho⟩ :=
    hb_started_on_connected s toAddr (.controlStatus (.zoneStatus (.status l))) hsub hst rfl hi hn hiv hto
  have c1 : pre.count (.result "init True") = 0 := List.count_eq_zero.2 fun hm => by simpa [Out.isNotify] using hp _ hm
  have c2 : Out.send .connected hbMessage false ∉ pre := fun hm => by simpa [Out.isNotify] using hp _ hm
  refine ⟨by show _ ∈ (apiStep _ _).2; rw [ho]; simp, ?_, h2, h1, h4, h5, h9, h10, ?_⟩
  · show (apiStep _ _).2.count _ = _
    rw [ho]
    cases s.hb.connected <;> simp [List.count_append, c1, List.map_const', List.count_replicate_self]
  · show _ ∈ (apiStep _ _).2 ↔ _
    rw [ho]
    cases s.hb.connected <;> simp [c2]

/-- the handshake of `Props/C09At5.lean`: its last frame starts the manager at time 0 with the link up -/
example : (apiStep exWaiting5 (.msg 176 exZones)).2 = [.hbStart, .result "init True", .send .connected hbMessage false] ∧
    (apiStep exWaiting5 (.msg 176 exZones)).1.hb.tl = .waiting 2640 ∧
    (apiStep exWaiting5 (.msg 176 exZones)).1.hb.hl = .sleeping 2400 := by decide +kernel

example : Out.hbStart ∈ (apiStep exWaiting5 (.msg 176 exZones)).2 := by
  obtain ⟨hsub, hst, htl, hhl, hbn, hn, _⟩ := exWaiting5_facts_at5
  exact (hb_started_by_zone_status_at5 exWaiting5 176 [] hsub hst ⟨htl, hhl⟩ (by rw [hbn, hn]; exact Nat.le_refl 0)
    (by decide) (by decide)).1

/-- … and so does the echo of the request when it is addressed to the client (a console without zones) -/
example : (apiStep exWaiting5 (.msg 176 (.controlStatus (.zoneStatus .request)))).2 =
      [.hbStart, .result "init True", .send .connected hbMessage false] ∧
    (apiStep exWaiting5 (.msg 144 (.controlStatus (.zoneStatus .request)))).2 = [] := by decide +kernel

/-- (b) `HBSTART` is output by exactly one kind of op, in any state whatsoever: a frame, while the API listens to the
socket in state INIT_ZONE_STATUS, that answers the zone-status request (`Finishing`); afterwards the API is CONNECTED and
initialised -/
theorem hbStart_only_on_connected_at5 (s : State) (op : Op) (h : Out.hbStart ∈ (apiStep s op).2) :
    (∃ toAddr m, op = .msg toAddr m ∧ answers .INIT_ZONE_STATUS toAddr m = true) ∧ s.sockSubscribed = true ∧
    s.st = .INIT_ZONE_STATUS ∧ (apiStep s op).1.st = .CONNECTED ∧ (apiStep s op).1.initialised = true := by
  obtain ⟨toAddr, m, rfl, hsub, hst, ha⟩ := (hbStart_iff s op).1 h
  have p := last_answer_spec s toAddr m hsub hst ha
  exact ⟨⟨toAddr, m, rfl, ha⟩, hsub, hst, p.1, p.2.1⟩

theorem hbStart_iff_at5 : type_of% @hbStart_iff := @hbStart_iff

/-- conversely: an op that sets the event outputs `HBSTART` -/
theorem initialised_set_outputs_hbStart_at5 (s : State) (op : Op) (h0 : s.initialised = false)
    (h1 : (apiStep s op).1.initialised = true) : Out.hbStart ∈ (apiStep s op).2 :=
  (hbStart_iff s op).2 (initialised_only_by_finishing s op h0 h1)

/-- a frame that makes a waiting `init()` answer `True` outputs `HBSTART` too -/
theorem init_true_implies_hbStart_at5 (s : State) (toAddr : Nat) (m : Msg)
    (h : Out.result "init True" ∈ (apiStep s (.msg toAddr m)).2) : Out.hbStart ∈ (apiStep s (.msg toAddr m)).2 := by
  exact (apiStep_marks s _ h (.inr (.inr ⟨rfl, _, _, rfl⟩))).elim (fun h => by cases h.1) (fun h => (hbStart_iff s _).2 h.2)

example : Out.hbStart ∈ (apiStep exWaiting5 (.msg 176 exZones)).2 ∧ exWaiting5.initialised = false ∧
    (apiStep exWaiting5 (.msg 176 exZones)).1.initialised = true ∧
    Out.result "init True" ∈ (apiStep exWaiting5 (.msg 176 exZones)).2 := by decide +kernel

/-- (c) a running manager is stopped by `shutdown()` only - any state, any op -/
theorem hb_stopped_only_by_shutdown_at5 : type_of% @hb_stopped_only_by_shutdown := @hb_stopped_only_by_shutdown

/-- `HBSTOP` is output by `shutdown()` and by nothing else -/
theorem hbStop_iff_shutdown_at5 : type_of% @hbStop_iff := @hbStop_iff

/-- no op ever changes the manager's parameters -/
theorem hb_params_const_at5 : type_of% @hb_params_const := @hb_params_const

/-- the pure fact behind (c): a manager that is running is still running after any input but `stop` -/
theorem feed_keeps_running_at5 : type_of% @feed_idle_back := @feed_idle_back

example : ¬ HbIdle exConn5.hb ∧ HbIdle (apiStep exConn5 .shutdown).1.hb ∧ Out.hbStop ∈ (apiStep exConn5 .shutdown).2 := by
  refine ⟨fun h => ?_, ⟨by decide, by decide⟩, (hbStop_iff _ _).2 rfl⟩
  obtain ⟨_, _, htl, _⟩ := exConn5_facts_at5
  have := h.1
  rw [htl] at this
  cases this

example : (apiStep exConn5 (.conn false)).1.hb.tl = .waiting 2640 ∧ (apiStep exConn5 (.adv 100)).1.hb.tl = .waiting 2640 := by
  decide +kernel

/-! ## 2. the message emitted, the response matcher -/

/-- the heartbeat request is the console-version request; its policy is `CONNECTED`: no retry, 8 ticks (1 s) of life -/
theorem hbMessage_at5 : hbMessage = msgConsoleVersionRequest ∧ msgConsoleVersionRequest = .extended (.consoleVer .request) ∧
    Policy.connected.value = Gen.retryConnected ∧ Gen.retryConnected = (0, 8) := ⟨rfl, rfl, rfl, rfl⟩

/-- whatever the manager makes the API output is that request (with that policy) or a `RESET` -/
theorem hbFeed_sends_at5 (s : State) (i : HIn) (p : Policy) (m : Msg) (b : Bool) (h : Out.send p m b ∈ (hbFeed s i).2) :
    p = .connected ∧ m = hbMessage ∧ b = false := by
  rcases hbFeed_out s i _ h with h | h
  · cases h; exact ⟨rfl, rfl, rfl⟩
  · cases h

/-- the matcher, as the model has it: an extended message whose sub-message has the console-version id -/
theorem isHeartbeatResponse_iff_at5 : type_of% @isHeartbeatResponse_iff := @isHeartbeatResponse_iff

theorem isHeartbeatResponse_cases_at5 : type_of% @isHeartbeatResponse_cases := @isHeartbeatResponse_cases

/-- every console-version sub-message is accepted - the version message and (the matcher looks at the id only) the request -/
theorem consoleVer_is_response_at5 (v : FF30.ConsoleVersionMessage) :
    isHeartbeatResponse (.extended (.consoleVer (.message v))) = true ∧
    isHeartbeatResponse (.extended (.consoleVer .request)) = true := ⟨rfl, rfl⟩

/-- no control/status message and no other extended sub-message is -/
theorem other_frames_are_no_response_at5 :
    (∀ x, isHeartbeatResponse (.controlStatus x) = false) ∧
    (∀ x, isHeartbeatResponse (.controlStatus (.acStatus x)) = false) ∧
    (∀ x, isHeartbeatResponse (.controlStatus (.zoneStatus x)) = false) ∧
    (∀ x, isHeartbeatResponse (.controlStatus (.acTimerStatus x)) = false) ∧
    (∀ x, isHeartbeatResponse (.controlStatus (.acTimerCtrl x)) = false) ∧
    (∀ x, isHeartbeatResponse (.controlStatus (.acCtrl x)) = false) ∧
    (∀ x, isHeartbeatResponse (.controlStatus (.zoneCtrl x)) = false) ∧
    (∀ x, isHeartbeatResponse (.extended (.errInfo x)) = false) ∧
    (∀ x, isHeartbeatResponse (.extended (.zoneNames x)) = false) ∧
    (∀ x, isHeartbeatResponse (.extended (.acAbility x)) = false) ∧
    (∀ x, isHeartbeatResponse (.extended (.quickTimer x)) = false) ∧
    (∀ id raw, isHeartbeatResponse (.unsupported id raw) = false) := by
  repeat' constructor
  all_goals intros; rfl

/-- a frame that is not a response, while CONNECTED: the manager is untouched (the deadline is not re-armed) -/
theorem non_response_does_not_rearm_at5 (s : State) (toAddr : Nat) (m : Msg) (hst : s.st = .CONNECTED)
    (hr : isHeartbeatResponse m = false) : (apiStep s (.msg toAddr m)).1.hb = s.hb :=
  non_response_keeps_hb s toAddr m hr (not_finishing_of_st (by rw [hst]; simp))

/-- in any state: a frame that is not a response leaves the manager untouched unless it outputs `HBSTART` -/
theorem non_response_keeps_hb_at5 (s : State) (toAddr : Nat) (m : Msg) (hr : isHeartbeatResponse m = false)
    (hs : Out.hbStart ∉ (apiStep s (.msg toAddr m)).2) : (apiStep s (.msg toAddr m)).1.hb = s.hb :=
  non_response_keeps_hb s toAddr m hr (fun hf => hs ((hbStart_iff s _).2 hf))

/-- a response while the manager waits for one (nothing overdue): the deadline is re-armed to `now + timeout`, the arm point
is `now`; no `RESET`, no `HBSTART` -/
theorem response_rearms_at5 : type_of% @response_rearms := @response_rearms

/-- a zone status 1000 ticks after the start re-arms nothing; a console version does (and is processed as an update) -/
example :
    (runS exConn5 [.adv 1000, .msg 176 exZones]).hb.tl = .waiting 2640 ∧
    (runS exConn5 [.adv 1000, .msg 176 exVersion]).hb.tl = .waiting 3640 ∧
    (runS exConn5 [.adv 1000, .msg 176 exVersion]).hb.lastArm = 1000 ∧
    (runS exConn5 [.adv 1000, .msg 176 (.extended (.consoleVer .request))]).hb.tl = .waiting 3640 := by decide +kernel

example : (apiStep exConn5 (.msg 176 exVersion)).1.hb.tl = .waiting (exConn5.now + exConn5.hb.timeout) :=
  by
  obtain ⟨_, _, htl, hhl, _, hf, hn, hbn, _, hsub⟩ := exConn5_facts_at5
  exact (response_rearms_at5 exConn5 176 exVersion 2640 2400 hsub rfl htl hf hhl (by rw [hbn, hn]; exact Nat.le_refl 0)
    (by rw [hn]; decide) (by rw [hn]; decide)).1

/-! ## 3. the bridge to `Props/C08.lean` -/

/-- (a) every `feed` of the deterministic scheduler is a run of the heartbeat model -/
theorem feed_is_run_at5 : type_of% @feed_run := @feed_run

/-- one `hbFeed`, followed by a ghost manager that keeps the whole trace: a run of the heartbeat model, the same visible
state afterwards, and the API outputs exactly what the ghost recorded meanwhile -/
theorem hbFeed_track_at5 : type_of% @hbFeed_track := @hbFeed_track

/-- the manager after any op is the manager fed `feedsOf s op` (the inputs listed in the model, in order), and the `RESET`s
of the op are the `reset` events recorded on the way - except that `shutdown` and `conn` discard them -/
theorem apiStep_feeds_at5 : type_of% @apiStep_feeds := @apiStep_feeds

/-- one op: the ghost follows by a run of the heartbeat model, stays equivalent, and records a new `reset` iff the op
outputs `RESET`.  `Quiet s.hb s.now` (nothing pending is overdue; part of `HbOk`) is what makes `shutdown` / `conn`, which
discard the manager's report, hide nothing -/
theorem apiStep_track_at5 : type_of% @apiStep_track := @apiStep_track
theorem apiStep_track_count_at5 : type_of% @apiStep_track_count := @apiStep_track_count
/-- without that hypothesis: the ghost still follows, and no `RESET` is output that the ghost did not record -/
theorem apiStep_track_any_at5 : type_of% @apiStep_track_any := @apiStep_track_any

/-- the hypothesis is needed (for the ghost that is fed the same inputs): a hand-made state whose manager is 2360 ticks
overdue; `shutdown()` makes it catch up - it records the reset that was due at 2640 - and discards the report -/
def exOverdue5 : State := { exConn5 with now := 5000 }

example : (apiStep exOverdue5 .shutdown).2.count .reset = 0 ∧
    resetEvs (hbSteps exOverdue5.hb (feedsOf exOverdue5 .shutdown)).2 = 1 := by decide +kernel

/-- op lists from a fresh object (every single `adv` at most `advBound` ticks): a `Reachable` state of the heartbeat model
shadows the embedded manager, and the number of `RESET`s output so far is the number of `reset` events in its trace -/
theorem C08_bridge_at5 : type_of% @new_track := @new_track
/-- … for arbitrary op lists: shadowed all the same; every `RESET` output is a recorded `reset` -/
theorem C08_bridge_any_at5 : type_of% @new_track_any := @new_track_any
/-- … and from any state that satisfies the invariant -/
theorem run_track_at5 : type_of% @run_track_count := @run_track_count

/-- `C08_deadline_never_missed` for the API object: after any op list the embedded manager's clock has not passed a
pending deadline or wake-up, and its parameters are 2400 / 2640 -/
theorem C08_deadline_never_missed_at5 (a b c d : Bytes) (ops : List Op) :
    let s := runS (State.new a b c d) ops
    (∀ dl, s.hb.tl = .waiting dl → s.hb.now ≤ dl) ∧ (∀ u, s.hb.hl = .sleeping u → s.hb.now ≤ u) ∧
    s.hb.timeout = 2640 ∧ s.hb.interval = 2400 := by
  intro s
  have k : Basic 2400 2640 s.hb := basic_runS ops _ (basic_init _ _)
  exact ⟨fun dl e => (k.deadline dl e).1, fun u e => (k.wake u e).1, k.timeout_eq, k.interval_eq⟩

/-- `C08_reset_only_after_full_silence` and `C08_reset_origin` for the API object: as many `reset` events as `RESET`s
output are in the trace of a reachable ghost; each of them comes at least 2640 ticks after time 0, has no response in the
2640 ticks before it, and lies a whole number of timeouts after a recorded arm point (start, response, completed reset)
with no response in between -/
theorem C08_reset_only_after_full_silence_at5 (a b c d : Bytes) (ops : List Op) (hb : AdvBounded ops) :
    ∃ g, Reachable 2400 2640 g ∧ HbEquiv g (runS (State.new a b c d) ops).hb ∧
      (runOut (State.new a b c d) ops).count .reset = resetEvs g.trace ∧
      (∀ r, HEv.reset r ∈ g.trace → 2640 ≤ r ∧ ∀ x, HEv.resp x ∈ g.trace → ¬ (r - 2640 < x ∧ x < r)) ∧
      (∀ r, HEv.reset r ∈ g.trace → ∃ k o, r = o + (k + 1) * 2640 ∧
        (HEv.start o ∈ g.trace ∨ HEv.resp o ∈ g.trace ∨ HEv.resetDone o ∈ g.trace) ∧
        ∀ x, HEv.resp x ∈ g.trace → x ≤ o ∨ r ≤ x) := by
  obtain ⟨g, hr, e, c⟩ := new_track a b c d ops hb
  exact ⟨g, hr, e, c, C08_reset_only_after_full_silence hr, C08_reset_origin hr⟩

/-- the example handshake followed by 330 s of silence: one `RESET`, and the ghost of the bridge has one `reset` -/
example : ∃ g, Reachable 2400 2640 g ∧ resetEvs g.trace = 1 := by
  obtain ⟨g, hr, _, c, _⟩ := C08_reset_only_after_full_silence_at5 [] [] [] []
    [.init, .conn true, .msg 176 exVersion, .msg 176 exNames, .msg 176 exAbilities, .msg 176 exAcStatus,
      .msg 176 exTimers, .msg 176 exZones, .adv 2640]
    (by intro o ho n e; subst e; simp at ho; subst ho; decide)
  exact ⟨g, hr, c.symm.trans (by decide +kernel)⟩

/-! ### (b) `adv n` drives the embedded manager by `n` ticks -/

/-- the invariant of the API object, spelled out: the embedded manager satisfies the timing invariant of
`Lemmas.Heartbeat` for 2400 / 2640, its clock is the API's clock, the event is consumed, no reset is in progress, a
pending deadline lies within `[now, now + 2640]` and is `lastArm + 2640`, a pending wake-up within `[now, now + 2400]`,
both tasks exist together, the manager runs exactly while the API is initialised, and then no `init()` is waiting and the
API listens to the socket -/
theorem hbOk_bounds_at5 {s : State} (h : HbOk s) :
    s.hb.now = s.now ∧ s.hb.flag = false ∧ s.hb.tl ≠ .resetting ∧
    (∀ d, s.hb.tl = .waiting d → s.now ≤ d ∧ d ≤ s.now + 2640 ∧ d = s.hb.lastArm + 2640) ∧
    (∀ u, s.hb.hl = .sleeping u → s.now ≤ u ∧ u ≤ s.now + 2400) ∧
    (s.hb.tl = .idle ↔ s.hb.hl = .idle) ∧ s.hb.interval = Gen.Api5.heartbeatInterval ∧
    s.hb.timeout = Gen.Api5.heartbeatTimeout ∧ s.hb.lastArm ≤ s.now ∧
    (s.initialised = true ↔ s.hb.tl ≠ .idle) ∧ (s.initialised = true → s.pendingInits = [] ∧ s.sockSubscribed = true) := by
  refine ⟨h.now_eq, h.hq.flag, h.hq.notResetting, fun d hd => ⟨(h.deadline_le hd).1, (h.deadline_le hd).2, ?_⟩,
    fun u hu => h.wake_le hu, h.hq.basic.both, h.hq.interval, h.hq.timeout, ?_, h.running,
    fun e => ⟨h.pending e, h.subscribed e⟩⟩
  · have := (h.hq.basic.deadline d hd).2
    rw [h.hq.timeout] at this; exact this
  · have := h.hq.basic.arm_le
    rw [h.now_eq] at this; exact this

/-- it holds for a fresh object … -/
theorem hbOk_new_at5 : type_of% @hbOk_new := @hbOk_new
/-- … and is preserved by every op; for `adv n` under the proviso `n ≤ advBound` (the fuel of the model's scheduler) -/
theorem hbOk_step_at5 : type_of% @hbOk_step := @hbOk_step
theorem hbOk_run_at5 : type_of% @hbOk_run := @hbOk_run
theorem advBound_at5 : advBound = 60000000 := rfl

/-- the API's clock advances by `n`, and (invariant, `n ≤ advBound`) the embedded clock follows -/
theorem adv_drives_by_n_at5 (s : State) (n : Nat) :
    (apiStep s (.adv n)).1.now = s.now + n ∧
    (HbOk s → n ≤ advBound → (apiStep s (.adv n)).1.hb.now = s.now + n ∧ HbOk (apiStep s (.adv n)).1) := by
  refine ⟨apiStep_now s (.adv n), fun h hn => ?_⟩
  have h' := hbOk_step s (.adv n) h (fun n' e => by cases e; exact hn)
  exact ⟨h'.now_eq.trans (apiStep_now s (.adv n)), h'⟩

example : HbOk exConn5 ∧ (apiStep exConn5 (.adv 777)).1.hb.now = 777 :=
  ⟨exConn5_ok_at5, by
    obtain ⟨_, _, _, _, _, _, hn, _⟩ := exConn5_facts_at5
    have := ((adv_drives_by_n_at5 exConn5 777).2 exConn5_ok_at5 (by decide)).1
    rw [hn] at this; simpa using this⟩

/-! ### (c) API-level corollaries -/

/-- (i) **silence is detected at the deadline, not earlier.**  Whatever the rest of the state: an `adv` that ends before the
pending deadline `d` outputs no `RESET` and leaves `d` pending (no assumption about the fuel) -/
theorem no_reset_before_deadline_at5 : type_of% @adv_before_deadline := @adv_before_deadline

/-- … under the invariant (`d = lastArm + 2640`), link up: an `adv` that reaches or passes `d` outputs a `RESET` … -/
theorem silence_detected_at5 : type_of% @silence_reset := @silence_reset

/-- … and the `adv` that ends exactly at `d` outputs exactly one; the reset of the stub socket returns at once and the next
deadline is `d + 2640` -/
theorem silence_detected_exact_at5 : type_of% @silence_reset_exact := @silence_reset_exact

/-- link down: the heartbeat never resets; at the deadline the next period simply starts -/
theorem no_reset_while_down_at5 : type_of% @silence_down := @silence_down
theorem deadline_moves_on_while_down_at5 : type_of% @silence_down_exact := @silence_down_exact

/-- 329.875 s of silence after the handshake: nothing; at 330 s: `RESET` -/
example : Out.reset ∉ (apiStep exConn5 (.adv 2639)).2 ∧ (apiStep exConn5 (.adv 2639)).1.hb.tl = .waiting 2640 := by
  obtain ⟨_, _, htl, _, _, hf, hn, _⟩ := exConn5_facts_at5
  have := no_reset_before_deadline_at5 exConn5 2639 2640 htl hf (by rw [hn]; decide)
  exact ⟨this.1, this.2.1⟩

example : (apiStep exConn5 (.adv 2640)).2.count .reset = 1 ∧ (apiStep exConn5 (.adv 2640)).1.hb.tl = .waiting 5280 := by
  obtain ⟨_, _, htl, _, hc, _, hn, _⟩ := exConn5_facts_at5
  have := silence_detected_exact_at5 exConn5 2640 exConn5_ok_at5 htl hc
  rw [hn] at this
  exact ⟨this.1, this.2.1⟩

example : Out.reset ∈ (apiStep exConn5 (.adv 1000000)).2 := by
  obtain ⟨_, _, htl, _, hc, _, hn, _⟩ := exConn5_facts_at5
  exact silence_detected_at5 exConn5 1000000 2640 exConn5_ok_at5 htl hc (by rw [hn]; decide) (by decide)

/-- the link goes down first: no `RESET` at 330 s, the deadline moves on -/
example : Out.reset ∉ (apiStep (apiStep exConn5 (.conn false)).1 (.adv 2640)).2 := by
  have ok := hbOk_step exConn5 (.conn false) exConn5_ok_at5 (fun n e => by cases e)
  exact no_reset_while_down_at5 _ 2640 ok (by decide) (by decide) (by decide)

/-- (ii) **no false reset** -/
theorem no_false_reset_at5 : type_of% @no_false_reset := @no_false_reset

/-- a console version frame every 2639 ticks, with connection changes, other frames and calls in between: never a `RESET` -/
example : Out.reset ∉ runOut exConn5 [.adv 2639, .msg 176 exVersion, .conn false, .adv 2000, .conn true, .callAt,
    .msg 176 exZones, .adv 639, .msg 176 (.extended (.consoleVer .request)), .adv 2639] := by
  obtain ⟨hst, _, htl, _, _, _, hn, _⟩ := exConn5_facts_at5
  exact (no_false_reset_at5 ⟨exConn5_ok_at5, hst, htl⟩ _ (by rw [hn]; decide)).1

/-- the check is tight: one tick more of silence and the `RESET` comes -/
example : responsive 2640 [.adv 2640] = false ∧ Out.reset ∈ (apiStep exConn5 (.adv 2640)).2 := by
  obtain ⟨_, _, htl, _, hc, _, hn, _⟩ := exConn5_facts_at5
  exact ⟨by decide, silence_detected_at5 exConn5 2640 2640 exConn5_ok_at5 htl hc (by rw [hn]; decide) (by decide)⟩

/-- relation to `C08_no_false_reset`: the ghost of the bridge has no `reset` event either -/
theorem no_false_reset_ghost_at5 (a b c d : Bytes) (pre ops : List Op) (hb : AdvBounded (pre ++ ops)) (dl : Nat)
    (ha : Alive (runS (State.new a b c d) pre) dl) (hr : responsive (dl - (runS (State.new a b c d) pre).now) ops = true) :
    ∃ g, Reachable 2400 2640 g ∧ HbEquiv g (runS (State.new a b c d) (pre ++ ops)).hb ∧
      resetEvs g.trace = (runOut (State.new a b c d) pre).count .reset := by
  obtain ⟨g, hreach, e, c⟩ := new_track a b c d (pre ++ ops) hb
  refine ⟨g, hreach, e, ?_⟩
  rw [← c, runOut_append, List.count_append]
  have := (no_false_reset ha ops hr).1
  rw [List.count_eq_zero.2 this]
  rfl

/-- (iii) **one request per interval** -/
theorem beats_none_between_at5 : type_of% @beats_none := @beats_none
theorem beats_every_interval_at5 : type_of% @beats_one := @beats_one

/-- after the handshake (first request at 0): nothing for 2399 ticks; the second request at 2400, and the loop then
sleeps until 4800 -/
example : (apiStep exConn5 (.adv 2399)).2 = [] := by
  obtain ⟨_, _, htl, hhl, _, _, hn, _⟩ := exConn5_facts_at5
  exact (beats_none_between_at5 exConn5 2399 2640 2400 exConn5_ok_at5 htl hhl (by rw [hn]; decide) (by rw [hn]; decide)).1

example : (apiStep exConn5 (.adv 2400)).2 = [.send .connected hbMessage false] ∧
    (apiStep exConn5 (.adv 2400)).1.hb.hl = .sleeping 4800 := by
  obtain ⟨_, _, htl, hhl, hc, _, hn, _⟩ := exConn5_facts_at5
  have := beats_every_interval_at5 exConn5 2640 2400 exConn5_ok_at5 htl hhl (by decide)
  rw [hn, hc] at this
  exact ⟨this.1, this.2.1⟩

end PyAirtouch.Props.C08
