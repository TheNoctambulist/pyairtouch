import PyAirtouch.Lemmas.Api4Heartbeat
import PyAirtouch.Lemmas.Api4Handshake
import PyAirtouch.Lemmas.Api4Demo
import PyAirtouch.Lemmas.Registry4
import PyAirtouch.Props.C08
/-!
# C08 (AirTouch 4): the heartbeat as wired into the API object

`Props/C08.lean` is about the heartbeat model `Heartbeat.HB` alone.  This file is about the model of
`pyairtouch/at4/api.py` (`Model/Api4.lean`), which embeds an `HB` in its state and drives it from `apiStep`:

1. the heartbeat is started exactly by the message that completes the handshake and stopped by `shutdown()` only;
2. the message it emits and the messages it accepts as responses;
3. `HbWf`, an invariant of every reachable API state, under which every op acts on the embedded `HB` as a run of
   enabled labels of the heartbeat model - so all theorems of `Props/C08.lean` hold for the `hb` of every
   reachable API state - and the API-level consequences: a `RESET` exactly one timeout after the last arm point,
   a heartbeat request every interval, no `RESET` along a responsive run.

Time is in ticks of 1/8 s: interval 2400 (300 s), timeout 2640 (330 s).  `hbEv` is the output event
`SEND CONNECTED ExtendedMessage(ConsoleVersionRequest())`.
-/
namespace PyAirtouch.Props.C08
open PyAirtouch.Model PyAirtouch.Model.Api4 PyAirtouch.Model.At4 PyAirtouch.Lemmas.Api4 PyAirtouch.Gen
open PyAirtouch.Model.Heartbeat (HB TL HL Label Reachable)
open PyAirtouch.Spec.Heartbeat (HEv)

/-! ## 0. the parameters -/

/-- interval 300 s, timeout 330 s, in ticks of 1/8 s; the API object is built with them -/
theorem hb_params_at4 :
    heartbeatDefaultIntervalField = 2400 ∧ heartbeatDefaultTimeoutField = 2640 ∧
    State.initial.hb.interval = heartbeatDefaultIntervalField ∧
    State.initial.hb.timeout = heartbeatDefaultTimeoutField ∧ hbIdle State.initial.hb = true :=
  ⟨rfl, rfl, rfl, rfl, rfl⟩

example : heartbeatDefaultIntervalField = 300 * 8 ∧ heartbeatDefaultTimeoutField = 330 * 8 := by decide

/-! ## 1. started exactly when the handshake completes, stopped by `shutdown()` only -/

/-- The group status received in `INIT_GROUP_STATUS` with the heartbeat idle: `HBSTART`, every waiting `init()`
    answers `True`, the initialised event is set, and the embedded heartbeat is in its started state - deadline
    one timeout ahead, armed now, the first iteration of the heartbeat loop already taken (next wake-up one interval
    ahead); the first heartbeat request is output iff the socket is connected. -/
theorem hb_started_on_connected_at4 (s : State) (l : List X2B.GroupStatusData) (hsub : s.subscribed = true)
    (hst : s.st = .INIT_GROUP_STATUS) (hidle : hbIdle s.hb = true)
    (hi : s.hb.interval = heartbeatDefaultIntervalField) (ht : s.hb.timeout = heartbeatDefaultTimeoutField) :
    Ev.hbStart ∈ (apiStep s (.recv (.groupStatus (.status l)))).2 ∧
    (apiStep s (.recv (.groupStatus (.status l)))).2.count (Ev.result "init True") = s.initWaits.length ∧
    (apiStep s (.recv (.groupStatus (.status l)))).1.initialised = true ∧
    (apiStep s (.recv (.groupStatus (.status l)))).1.st = .CONNECTED ∧
    (apiStep s (.recv (.groupStatus (.status l)))).1.hb.tl = .waiting (s.now + 2640) ∧
    (apiStep s (.recv (.groupStatus (.status l)))).1.hb.hl = .sleeping (s.now + 2400) ∧
    (apiStep s (.recv (.groupStatus (.status l)))).1.hb.lastArm = s.now ∧
    (apiStep s (.recv (.groupStatus (.status l)))).1.hb.flag = false ∧
    (apiStep s (.recv (.groupStatus (.status l)))).1.hb.interval = 2400 ∧
    (apiStep s (.recv (.groupStatus (.status l)))).1.hb.timeout = 2640 ∧
    (apiStep s (.recv (.groupStatus (.status l)))).2.count hbEv = (if s.sockConnected then 1 else 0) ∧
    (hbEv ∈ (apiStep s (.recv (.groupStatus (.status l)))).2 ↔ s.sockConnected = true) := by
  obtain ⟨a1, a2, _, _, _, a6, a7, _, _⟩ := recv_final_answer s hsub l hst
  have hc : completes s (.groupStatus (.status l)) = true := (completes_iff s _).mpr ⟨hst, l, rfl⟩
  obtain ⟨a, hl, _⟩ := startedHB_ran (h := { s.hb with now := s.now }) hidle
  have hcnt : (recv s (.groupStatus (.status l))).2.count hbEv = (if s.sockConnected then 1 else 0) := by
    rw [(recv_counts s _).beats, numBeats_completes hsub hc, hidle]; rfl
  simp only [apiStep]
  rw [recv_hb, recvHB_completes hsub hc, startHB_idle hidle]
  refine ⟨a6, a7, a2, a1, by rw [a.tl]; simp only; rw [ht]; rfl, by rw [hl]; simp only; rw [hi]; rfl, a.lastArm, a.flag,
    a.interval.trans hi, a.timeout.trans ht, hcnt, ?_⟩
  rw [← List.count_pos_iff, hcnt]
  cases s.sockConnected <;> simp

/-- which message an op delivers -/
theorem opMsg_iff_at4 (op : Op) (m : RMsg) :
    opMsg op = some m ↔ op = .recv m ∨ ∃ mid p, op = .msg mid p ∧ decodeTop mid p = .ok m := by
  cases op <;> simp [opMsg, and_assoc]
  split <;> simp_all

/-- For every state and every op: `HBSTART` is output only by the delivery (`recv` / a decodable `msg`) of a group
    status message in state `INIT_GROUP_STATUS` to the subscribed API object - the step into `CONNECTED` that sets
    the initialised event - and by every such delivery; an op that sets the initialised event outputs `HBSTART`; and
    a delivered message that makes an `init()` answer `True` outputs `HBSTART`. -/
theorem hbStart_only_on_connected_at4 (s : State) (op : Op) :
    (Ev.hbStart ∈ (apiStep s op).2 ↔
      ∃ l, opMsg op = some (.groupStatus (.status l)) ∧ s.subscribed = true ∧ s.st = .INIT_GROUP_STATUS) ∧
    (Ev.hbStart ∈ (apiStep s op).2 →
      (apiStep s op).1.st = .CONNECTED ∧ (apiStep s op).1.initialised = true) ∧
    (s.initialised = false → (apiStep s op).1.initialised = true → Ev.hbStart ∈ (apiStep s op).2) ∧
    (∀ m, opMsg op = some m → Ev.result "init True" ∈ (apiStep s op).2 → Ev.hbStart ∈ (apiStep s op).2) := by
  refine ⟨hbStart_iff s op, ?_, initialised_set_only_with_hbStart s op, ?_⟩
  · intro h
    obtain ⟨l, hm, hsub, hst⟩ := (hbStart_iff s op).mp h
    rw [apiStep_of_opMsg hm]
    exact ⟨(recv_final_answer s hsub l hst).1, (recv_final_answer s hsub l hst).2.1⟩
  · intro m hm hres
    rw [apiStep_of_opMsg hm] at hres
    -- only the completing message outputs a `RESULT`
    by_cases hx : (s.subscribed && completes s m) = true
    · simp only [Bool.and_eq_true] at hx
      obtain ⟨hst, l, rfl⟩ := (completes_iff s m).mp hx.2
      exact (hbStart_iff s op).mpr ⟨l, hm, hx.1, hst⟩
    · exact absurd hres ((plain_recv s m (by simpa using hx)).not_mem rfl)

/-- For every state and every op: a running heartbeat becomes idle only by `shutdown()`; `HBSTOP` is output by
    `shutdown()` and by nothing else; `shutdown()` leaves the heartbeat idle; no op changes the parameters. -/
theorem hb_stopped_only_by_shutdown_at4 (s : State) (op : Op) :
    (hbIdle s.hb = false → hbIdle (apiStep s op).1.hb = true → op = .shutdown) ∧
    (Ev.hbStop ∈ (apiStep s op).2 ↔ op = .shutdown) ∧
    hbIdle (apiStep s .shutdown).1.hb = true ∧
    (apiStep s op).1.hb.interval = s.hb.interval ∧ (apiStep s op).1.hb.timeout = s.hb.timeout := by
  refine ⟨?_, hbStop_iff s op, ?_, (hb_params_const s op).1, (hb_params_const s op).2⟩
  · intro h0 h1
    by_cases hop : op = .shutdown
    · exact hop
    · rw [(hbKeep_apiStep s op hop).running h0] at h1; cases h1
  · have k := hbApply_stop { s.hb with now := s.now }
    exact (hbIdle_iff _).mpr ⟨k.1, k.2.1⟩

/-- A handshake completed again while the heartbeat runs (`init()` repeated without `shutdown()`): `HBSTART` is
    output, but the heartbeat is left exactly as it is - `start()` on a running heartbeat does nothing; in
    particular the deadline is not re-armed. -/
theorem rehandshake_keeps_heartbeat_at4 (s : State) (l : List X2B.GroupStatusData) (hsub : s.subscribed = true)
    (hst : s.st = .INIT_GROUP_STATUS) (hrun : hbIdle s.hb = false) :
    Ev.hbStart ∈ (apiStep s (.recv (.groupStatus (.status l)))).2 ∧
    (apiStep s (.recv (.groupStatus (.status l)))).1.hb = s.hb ∧
    hbEv ∉ (apiStep s (.recv (.groupStatus (.status l)))).2 := by
  have hc : completes s (.groupStatus (.status l)) = true := (completes_iff s _).mpr ⟨hst, l, rfl⟩
  refine ⟨(hbStart_iff s _).mpr ⟨l, rfl, hsub, hst⟩, ?_, List.count_eq_zero.mp ?_⟩
  · simp only [apiStep]; rw [recv_hb, recvHB_completes hsub hc, startHB_running hrun]
  · simp only [apiStep]; rw [(recv_counts s _).beats, numBeats_completes hsub hc, hrun]; rfl

/-! ### non-vacuity -/

/-- `init()` again on the connected demo state at tick 10, and the handshake up to the last message (its version
    message is a heartbeat response: the deadline is 10 + 2640) -/
def reinitBeforeLast : State := (run demo ([.adv 10, .init, .conn true] ++ (demoAnswers.take 5).map Op.recv)).1

example : reinitBeforeLast.subscribed = true ∧ reinitBeforeLast.st = .INIT_GROUP_STATUS ∧
    hbIdle reinitBeforeLast.hb = false ∧ reinitBeforeLast.hb.tl = .waiting 2650 ∧ reinitBeforeLast.now = 10 := by decide

/-- the state before the last handshake message -/
def beforeLast : State := (run State.initial ([.init, .conn true] ++ (demoAnswers.take 5).map Op.recv)).1

example : beforeLast.subscribed = true ∧ beforeLast.st = .INIT_GROUP_STATUS ∧ hbIdle beforeLast.hb = true ∧
    beforeLast.hb.interval = heartbeatDefaultIntervalField ∧ beforeLast.hb.timeout = heartbeatDefaultTimeoutField ∧
    beforeLast.sockConnected = true ∧ beforeLast.initialised = false ∧ beforeLast.initWaits.length = 1 := by decide

example : Ev.hbStart ∈ (apiStep beforeLast (.recv demoGroupMsg)).2 ∧
    hbEv ∈ (apiStep beforeLast (.recv demoGroupMsg)).2 := by decide

example : hbIdle demo.hb = false ∧ hbIdle (apiStep demo .shutdown).1.hb = true ∧
    Ev.hbStop ∈ (apiStep demo .shutdown).2 := by rw [demo_eq]; decide

/-! ## 2. the message emitted and the response matcher -/

/-- the heartbeat message is the extended console-version request, sent with the connected-only policy
    (no retries, lifetime 8 ticks = 1 s) -/
theorem hb_message_at4 :
    hbMessage = versionRequest ∧ hbMessage = .reg (.extended (.consoleVer .request)) ∧
    hbEv = Ev.send .connected hbMessage ∧
    Policy.connected.pair = Gen.retryConnected ∧ Gen.retryConnected = (0, 8) :=
  ⟨rfl, rfl, rfl, rfl, rfl⟩

/-- whatever the heartbeat loop outputs is that event -/
theorem fireBeat_outputs_at4 (s : State) : ∀ e ∈ (fireBeat s).2, e = Ev.send .connected hbMessage := by
  rw [fireBeat_eq]
  simp only [beatEvs]
  intro e he
  repeat' split at he
  all_goals simp at he
  exact he

/-- the matcher as the code has it: an extended message whose sub-message has the console-version message id -/
theorem isHeartbeatResponse_iff_at4 (m : RMsg) :
    isHeartbeatResponse m = true ↔
      ∃ sub, m = .extended sub ∧ sub.messageId = Gen.At4.X1FFF30ConsoleVer.MESSAGE_ID := by
  cases m <;> simp [isHeartbeatResponse]

/-- … concretely: true for an extended message carrying a console-version sub-message - the version message *and*
    the version request - and for an extended message with an undecoded sub-message whose id is `0xFF30` (a value
    the decoder never builds, `decoder_never_builds_unsupported_ff30_at4`); false for everything else -/
theorem isHeartbeatResponse_cases_at4 :
    (∀ v, isHeartbeatResponse (.extended (.consoleVer (.message v))) = true) ∧
    isHeartbeatResponse (.extended (.consoleVer .request)) = true ∧
    (∀ id raw, isHeartbeatResponse (.extended (.unsupported id raw)) = (id == 0xFF30)) ∧
    (∀ x, isHeartbeatResponse (.extended (.errInfo x)) = false) ∧
    (∀ x, isHeartbeatResponse (.extended (.groupNames x)) = false) ∧
    (∀ x, isHeartbeatResponse (.extended (.acAbility x)) = false) ∧
    (∀ x, isHeartbeatResponse (.extended (.quickTimer x)) = false) ∧
    (∀ x, isHeartbeatResponse (.acStatus x) = false) ∧
    (∀ x, isHeartbeatResponse (.groupStatus x) = false) ∧
    (∀ x, isHeartbeatResponse (.acTimerStatus x) = false) ∧
    (∀ x, isHeartbeatResponse (.acTimerCtrl x) = false) ∧
    (∀ x, isHeartbeatResponse (.acCtrl x) = false) ∧
    (∀ x, isHeartbeatResponse (.groupCtrl x) = false) ∧
    (∀ id raw, isHeartbeatResponse (.unsupported id raw) = false) := by
  repeat' constructor
  all_goals (intros; rfl)

example : Gen.At4.X1FFF30ConsoleVer.MESSAGE_ID = 0xFF30 := by decide

/-- the sub-message decoder never yields an undecoded sub-message with the console-version id -/
theorem decoder_never_builds_unsupported_ff30_at4 (subId subLen : Nat) (body rest raw : Bytes) (id : Nat)
    (h : At4.Registry.decodeSub subId subLen body = .ok (.unsupported id raw, rest)) : id ≠ 0xFF30 := by
  obtain ⟨rfl, hn⟩ := Lemmas.Registry4.decodeSub_unsupported_inv _ _ _ _ _ _ h
  exact fun e => hn (e ▸ by decide)

/-- A message the matcher rejects does not touch the embedded heartbeat - unless it is the group status that
    completes the handshake while the heartbeat is idle (which starts it).  In particular in state `CONNECTED`,
    and whenever the heartbeat is running, deadline and arm point are unchanged. -/
theorem non_response_does_not_rearm_at4 (s : State) (m : RMsg) (h : isHeartbeatResponse m = false) :
    (apiStep s (.recv m)).1.hb = (if s.subscribed && completes s m then startHB s.now s.hb else s.hb) ∧
    ((s.subscribed && completes s m && hbIdle s.hb) = false → (apiStep s (.recv m)).1.hb = s.hb) ∧
    (s.st = .CONNECTED → (apiStep s (.recv m)).1.hb = s.hb) ∧
    (hbIdle s.hb = false → (apiStep s (.recv m)).1.hb = s.hb) := by
  have e : (apiStep s (.recv m)).1.hb = (if s.subscribed && completes s m then startHB s.now s.hb else s.hb) :=
    (recv_hb s m).trans (by simp only [recvHB, h, Bool.false_eq_true, ↓reduceIte])
  have e3 : (s.subscribed && completes s m && hbIdle s.hb) = false → (apiStep s (.recv m)).1.hb = s.hb := by
    intro hx
    rw [e]
    split
    · next hc =>
      rw [hc, Bool.true_and] at hx
      exact startHB_running hx
    · rfl
  exact ⟨e, e3, fun hst => e3 (by simp [completes, hst]), fun hi => e3 (by simp [hi])⟩

/-- A message the matcher accepts, delivered while the timeout loop waits: the deadline moves to now + timeout and
    the arm point to now; the event is consumed at once; the heartbeat loop is untouched. -/
theorem response_rearms_at4 (s : State) (m : RMsg) (d : Nat) (h : isHeartbeatResponse m = true)
    (hw : s.hb.tl = .waiting d) :
    (apiStep s (.recv m)).1.hb.tl = .waiting (s.now + s.hb.timeout) ∧
    (apiStep s (.recv m)).1.hb.lastArm = s.now ∧
    (apiStep s (.recv m)).1.hb.flag = false ∧
    (apiStep s (.recv m)).1.hb.hl = s.hb.hl ∧
    (apiStep s (.recv m)).1.hb.trace = s.hb.trace ++ [.resp s.now] := by
  obtain ⟨a, hl, r⟩ := respondedHB_ran (h := { s.hb with now := s.now }) hw
  simp only [apiStep]
  rw [recv_hb, recvHB_response h]
  exact ⟨a.tl, a.lastArm, a.flag, hl, r.trace⟩

/-! ### non-vacuity -/

example : isHeartbeatResponse demoVersionMsg = true ∧ isHeartbeatResponse demoGroupMsg = false ∧
    isHeartbeatResponse demoAcStatusMsg = false := by decide

example : demo.hb.tl = .waiting 2640 ∧ demo.hb.hl = .sleeping 2400 ∧ demo.hb.lastArm = 0 ∧ demo.now = 0 := demo_hb

/-- a version message 10 ticks after the handshake moves the deadline from 2640 to 2650; a group status does not -/
example : (run demo [.adv 10, .recv demoVersionMsg]).1.hb.tl = .waiting 2650 ∧
    (run demo [.adv 10, .recv demoVersionMsg]).1.hb.lastArm = 10 ∧
    (run demo [.adv 10, .recv demoGroupMsg]).1.hb.tl = .waiting 2640 := by rw [demo_eq]; decide

/-! ## 3. the invariant `HbWf` and the bridge to `Props/C08.lean` -/

/-- `HbWf s`: the embedded heartbeat's clock is the API object's clock; it is a reachable state of the heartbeat
    model with interval 2400 and timeout 2640; no response event is pending; no reset is in progress; a pending
    deadline and a pending wake-up lie strictly ahead; its connection flag is the socket's. -/
theorem hbWf_def_at4 (s : State) :
    HbWf s ↔ (s.hb.now = s.now ∧ Reachable heartbeatDefaultIntervalField heartbeatDefaultTimeoutField s.hb ∧
      s.hb.flag = false ∧ s.hb.tl ≠ .resetting ∧ (∀ d, s.hb.tl = .waiting d → s.now < d) ∧
      (∀ u, s.hb.hl = .sleeping u → s.now < u) ∧ s.hb.connected = s.sockConnected) :=
  ⟨fun ⟨a, b, c, d, e, f, g⟩ => ⟨a, b, c, d, e, f, g⟩, fun ⟨a, b, c, d, e, f, g⟩ => ⟨a, b, c, d, e, f, g⟩⟩

theorem hbWf_initial_at4 : HbWf State.initial := hbWf_initial

/-- preserved by EVERY op -/
theorem hbWf_step_at4 {s : State} (op : Op) (wf : HbWf s) : HbWf (apiStep s op).1 := hbWf_apiStep op wf

theorem hbWf_run_from_at4 {s : State} (ops : List Op) (wf : HbWf s) : HbWf (run s ops).1 := hbWf_run ops wf

/-- hence it holds in every state reachable from the initial one -/
theorem hbWf_run_at4 (ops : List Op) : HbWf (run State.initial ops).1 := hbWf_run ops hbWf_initial

theorem demo_hbWf_at4 : HbWf demo := hbWf_run demoOps hbWf_initial

/-- One `tick` acts on the embedded heartbeat as the labels `advance (now+1)`, then - if the deadline is due -
    `tlFire, tlResetDone` (socket connected) or `tlFire` (not connected), then - if the wake-up is due - `hlBeat`,
    each of them enabled; the `RESET`s / heartbeat requests output are the `reset` / `beat` events recorded, all
    stamped `now + 1`. -/
theorem tick_hb_run_at4 : type_of% @tick_hb_run := @tick_hb_run

example (c : Bool) (t : Nat) (h : HB) : tickLabels c t h =
    [.advance t] ++
    (match h.tl with
     | .waiting d => if d ≤ t then (if c then [.tlFire, .tlResetDone] else [.tlFire]) else []
     | _ => []) ++
    (match h.hl with
     | .sleeping u => if u ≤ t then [.hlBeat] else []
     | .idle => []) := rfl

/-- Every op acts on the embedded heartbeat as the run `opLabels s op` of the heartbeat model (`adv n`: the labels
    of `n` ticks; `conn up`: `conn up`; `shutdown`: `stop, conn false`; a delivered message: `start, hlBeat` when it
    completes the handshake with the heartbeat idle, `response, tlWake` when the matcher accepts it while the
    timeout loop waits, nothing otherwise; every other op: nothing); the events recorded are `opTrace s op`, stamped
    within the op's time span; the `RESET`s output are the `reset` events recorded. -/
theorem apiStep_hb_run_at4 : type_of% @apiStep_hb_run := @apiStep_hb_run

/-- the heartbeat requests output by the clock or by a delivered message are the `beat` events recorded -/
theorem beat_count_at4 : type_of% @beat_count_apiStep := @beat_count_apiStep

/-- the same for whole scripts -/
theorem run_hb_run_at4 : type_of% @run_hb_run := @run_hb_run

/-- from the initial state: the `RESET`s a script outputs are exactly the `reset` events in the heartbeat's trace -/
theorem reset_outputs_are_trace_resets_at4 (ops : List Op) :
    (run State.initial ops).2.count Ev.reset = numResets (run State.initial ops).1.hb.trace :=
  by
  obtain ⟨r, a3⟩ := run_ran ops hbWf_initial
  rw [a3, r.trace]; rfl

/-- no op but `adv` outputs `RESET` -/
theorem reset_only_by_clock_at4 (s : State) (op : Op) (h : Ev.reset ∈ (apiStep s op).2) : ∃ n, op = .adv n :=
  reset_only_adv s op h

/-- the embedded heartbeat of every reachable API state is a reachable state of the heartbeat model -/
theorem hb_reachable_at4 (ops : List Op) :
    Reachable heartbeatDefaultIntervalField heartbeatDefaultTimeoutField (run State.initial ops).1.hb :=
  (hbWf_run ops hbWf_initial).reach

/-! ### the theorems of `Props/C08.lean` on API states -/

theorem deadline_never_missed_at4 {s : State} (wf : HbWf s) :
    (∀ d, s.hb.tl = .waiting d → s.hb.now ≤ d ∧ d = s.hb.lastArm + s.hb.timeout) ∧
    s.hb.timeout = heartbeatDefaultTimeoutField ∧ s.hb.interval = heartbeatDefaultIntervalField :=
  C08_deadline_never_missed wf.reach

theorem reset_only_after_full_silence_at4 {s : State} (wf : HbWf s) :
    ∀ r, HEv.reset r ∈ s.hb.trace → heartbeatDefaultTimeoutField ≤ r ∧
      ∀ x, HEv.resp x ∈ s.hb.trace → ¬ (r - heartbeatDefaultTimeoutField < x ∧ x < r) :=
  C08_reset_only_after_full_silence wf.reach

theorem reset_origin_at4 {s : State} (wf : HbWf s) :
    ∀ r, HEv.reset r ∈ s.hb.trace → ∃ k a, r = a + (k + 1) * heartbeatDefaultTimeoutField ∧
      (HEv.start a ∈ s.hb.trace ∨ HEv.resp a ∈ s.hb.trace ∨ HEv.resetDone a ∈ s.hb.trace) ∧
      ∀ x, HEv.resp x ∈ s.hb.trace → x ≤ a ∨ r ≤ x :=
  C08_reset_origin wf.reach

theorem wake_never_missed_at4 {s : State} (wf : HbWf s) {u : Nat} (hu : s.hb.hl = .sleeping u) : s.hb.now ≤ u :=
  C08_wake_never_missed wf.reach hu

/-- … in every state reachable from the initial one -/
theorem reset_only_after_full_silence_run_at4 (ops : List Op) :
    ∀ r, HEv.reset r ∈ (run State.initial ops).1.hb.trace → 2640 ≤ r ∧
      ∀ x, HEv.resp x ∈ (run State.initial ops).1.hb.trace → ¬ (r - 2640 < x ∧ x < r) :=
  reset_only_after_full_silence_at4 (hbWf_run_at4 ops)

/-! ### (i) silence is detected: a `RESET` exactly one timeout after the last arm point -/

/-- With the timeout loop waiting for `d`: `d` is the last arm point + 2640 and lies ahead.  During one `adv n` (no
    message in between) the timeout expires at `d`, `d + 2640`, `d + 5280`, … as far as the clock gets; each expiry
    outputs one `RESET` iff the socket is connected, and re-arms at once. -/
theorem silence_detected_at4 {s : State} (d : Nat) (wf : HbWf s) (hw : s.hb.tl = .waiting d) :
    d = s.hb.lastArm + 2640 ∧ s.now < d ∧
    (∀ n, (apiStep s (.adv n)).2.count Ev.reset =
      (if s.sockConnected then deadlinesUpTo d 2640 (s.now + n) else 0)) ∧
    (∀ n, (apiStep s (.adv n)).1.hb.tl = .waiting (d + 2640 * deadlinesUpTo d 2640 (s.now + n))) ∧
    (∀ n, (apiStep s (.adv n)).1.hb.lastArm =
      (if deadlinesUpTo d 2640 (s.now + n) = 0 then s.hb.lastArm
       else d + 2640 * (deadlinesUpTo d 2640 (s.now + n) - 1))) := by
  have hd := ((deadline_never_missed_at4 wf).1 d hw).2
  rw [wf.ok.timeout_eq] at hd
  refine ⟨hd, wf.deadline d hw, fun n => (advance_resets n d wf hw).1, fun n => (advance_resets n d wf hw).2, fun n => ?_⟩
  have wf' := hbWf_step_at4 (.adv n) wf
  have hd' : d + 2640 * deadlinesUpTo d 2640 (s.now + n) = _ :=
    ((deadline_never_missed_at4 wf').1 _ (advance_resets n d wf hw).2).2
  rw [wf'.ok.timeout_eq] at hd'
  split
  · next h0 => rw [h0] at hd'; omega
  · next h0 =>
    generalize deadlinesUpTo d 2640 (s.now + n) = K at h0 hd'
    cases K with
    | zero => exact absurd rfl h0
    | succ K => simp only [Nat.add_sub_cancel]; rw [Nat.mul_add] at hd'; omega

/-- nothing before the deadline; exactly one `RESET` when the clock reaches it (socket connected), the next deadline
    2640 ticks after it -/
theorem reset_at_deadline_at4 {s : State} (d : Nat) (wf : HbWf s) (hw : s.hb.tl = .waiting d)
    (hconn : s.sockConnected = true) :
    (∀ n, s.now + n < d → Ev.reset ∉ (apiStep s (.adv n)).2 ∧ (apiStep s (.adv n)).1.hb.tl = .waiting d) ∧
    (apiStep s (.adv (d - s.now))).2.count Ev.reset = 1 ∧
    (apiStep s (.adv (d - s.now))).1.hb.tl = .waiting (d + 2640) ∧
    (apiStep s (.adv (d - s.now))).1.hb.lastArm = d ∧
    (apiStep s (.adv (d - s.now))).1.now = d := by
  obtain ⟨_, hlt, a1, a2, a3⟩ := silence_detected_at4 d wf hw
  have e := deadlinesUpTo_at d 2640 s.now hlt
  refine ⟨?_, ?_, ?_, ?_, ?_⟩
  · intro n hn
    have h1 := a1 n
    have h2 := a2 n
    rw [deadlinesUpTo_before _ _ _ hn] at h1 h2
    simp only [hconn, ↓reduceIte] at h1
    exact ⟨List.count_eq_zero.mp h1, by simpa using h2⟩
  · have := a1 (d - s.now); rw [e, hconn] at this; exact this
  · have := a2 (d - s.now); rw [e] at this; exact this
  · have := a3 (d - s.now); rw [e] at this; simpa using this
  · rw [apiStep_now]; show s.now + (d - s.now) = d; omega

/-- with the socket not connected no `RESET` is ever output by the clock; the deadline still moves on -/
theorem no_reset_while_disconnected_at4 {s : State} (d : Nat) (wf : HbWf s) (hw : s.hb.tl = .waiting d)
    (hconn : s.sockConnected = false) :
    (∀ n, Ev.reset ∉ (apiStep s (.adv n)).2) ∧
    (apiStep s (.adv (d - s.now))).1.hb.tl = .waiting (d + 2640) := by
  obtain ⟨_, hlt, a1, a2, _⟩ := silence_detected_at4 d wf hw
  refine ⟨fun n => ?_, ?_⟩
  · have := a1 n
    simp only [hconn, Bool.false_eq_true, ↓reduceIte] at this
    exact List.count_eq_zero.mp this
  · have := a2 (d - s.now); rw [deadlinesUpTo_at _ _ _ hlt] at this; exact this

/-! ### (ii) a heartbeat request every interval -/

/-- With the heartbeat loop sleeping until `u`: during one `adv n` it wakes at `u`, `u + 2400`, `u + 4800`, … as far
    as the clock gets and outputs one heartbeat request each time iff the socket is connected (nothing else the
    clock does outputs that event). -/
theorem beats_every_interval_at4 {s : State} (u : Nat) (wf : HbWf s) (hw : s.hb.hl = .sleeping u) :
    s.now < u ∧ u ≤ s.now + 2400 ∧
    (∀ n, (apiStep s (.adv n)).2.count hbEv = (if s.sockConnected then deadlinesUpTo u 2400 (s.now + n) else 0)) ∧
    (∀ n, (apiStep s (.adv n)).1.hb.hl = .sleeping (u + 2400 * deadlinesUpTo u 2400 (s.now + n))) := by
  have hb := (Lemmas.Heartbeat.reachable_basic wf.reach).wake u hw
  have hi := (Lemmas.Heartbeat.reachable_basic wf.reach).interval_eq
  have h2400 : heartbeatDefaultIntervalField = 2400 := rfl
  rw [hi, h2400, wf.now_eq] at hb
  exact ⟨wf.wake u hw, hb.2, fun n => (advance_beats n u wf hw).1, fun n => (advance_beats n u wf hw).2⟩

/-! ### (iii) no false reset -/

/-- `responsive rem ops`: `rem` ticks are left until the deadline; an `adv n` needs `n < rem`; a delivered message
    accepted by the matcher puts `rem` back to 2640; `shutdown` is not allowed; anything else leaves `rem` alone. -/
theorem responsive_def_at4 (rem : Nat) (op : Op) (ops : List Op) :
    responsive rem [] = true ∧
    responsive rem (op :: ops) =
      (match op with
       | .adv n => decide (n < rem) && responsive (rem - n) ops
       | .shutdown => false
       | _ =>
         match opMsg op with
         | some m => responsive (if isHeartbeatResponse m then 2640 else rem) ops
         | none => responsive rem ops) := by
  refine ⟨rfl, ?_⟩
  cases op <;> rfl

/-- **If fewer than 2640 ticks pass between one message that `is_heartbeat_response` accepts (any console-version
    sub-message) and the next, no `RESET` is ever output**: along a responsive script (starting with the `d - now` ticks left until the deadline) no
    `RESET` is output and the timeout loop is still waiting, its deadline ahead. -/
theorem no_false_reset_at4 (ops : List Op) {s : State} {d : Nat} (wf : HbWf s) (hw : s.hb.tl = .waiting d)
    (hr : responsive (d - s.now) ops = true) :
    Ev.reset ∉ (run s ops).2 ∧ ∃ d', (run s ops).1.hb.tl = .waiting d' ∧ (run s ops).1.now < d' :=
  responsive_run ops wf hw hr

/-- the link to `C08_no_false_reset`: if the labels by which a script drives the heartbeat form a `GoodRun` (every
    iteration of the heartbeat loop is followed by a consumed response within `timeout − interval` = 240 ticks), the
    script outputs no `RESET` -/
theorem no_false_reset_goodrun_at4 (ops : List Op)
    (hg : Lemmas.Heartbeat.GoodRun (heartbeatDefaultTimeoutField - heartbeatDefaultIntervalField)
      (runLabels State.initial ops)) :
    Ev.reset ∉ (run State.initial ops).2 := by
  have hno := C08_no_false_reset (i := heartbeatDefaultIntervalField) (t := heartbeatDefaultTimeoutField)
    (by decide) _ _ (run_ran ops hbWf_initial).1.run hg
  have h0 : numResets (run State.initial ops).1.hb.trace = 0 := by
    unfold numResets
    rw [List.countP_eq_zero]
    intro e he hr
    cases e <;> simp [isResetEv] at hr
    exact hno _ he
  have := reset_outputs_are_trace_resets_at4 ops
  rw [h0] at this
  exact List.count_eq_zero.mp this

/-! ### non-vacuity -/

set_option maxRecDepth 8192 in
example : Lemmas.Heartbeat.GoodRun (heartbeatDefaultTimeoutField - heartbeatDefaultIntervalField)
    (runLabels State.initial (demoOps ++ [.adv 20, .recv demoVersionMsg, .adv 5])) := by decide

example : runLabels State.initial (demoOps ++ [.adv 2, .recv demoVersionMsg, .conn false]) =
    [.conn true, .start, .hlBeat, .advance 1, .advance 2, .response, .tlWake, .conn false] := by decide

example : ¬ Ev.hbStart ∈ (apiStep demo (.recv demoGroupMsg)).2 := by rw [demo_eq]; decide

example : HbWf demo ∧ demo.hb.tl = .waiting 2640 ∧ demo.hb.hl = .sleeping 2400 ∧ demo.sockConnected = true ∧
    demo.now = 0 ∧ demo.hb.lastArm = 0 :=
  ⟨demo_hbWf_at4, demo_tl, demo_hl, demo_connectedSock, demo_now, demo_hb.2.2.1⟩

example : deadlinesUpTo 2640 2640 2639 = 0 ∧ deadlinesUpTo 2640 2640 2640 = 1 ∧ deadlinesUpTo 2640 2640 5279 = 1 ∧
    deadlinesUpTo 2640 2640 5280 = 2 ∧ deadlinesUpTo 2400 2400 7200 = 3 := by decide

/-- 2639 ticks of silence after the handshake: no `RESET` -/
example : (apiStep demo (.adv 2639)).2.count Ev.reset = 0 := by
  rw [(silence_detected_at4 2640 demo_hbWf_at4 demo_tl).2.2.1, demo_connectedSock, demo_now]; decide

/-- 2640 ticks: one `RESET`, the next deadline at 5280 -/
example : (apiStep demo (.adv 2640)).2.count Ev.reset = 1 ∧ (apiStep demo (.adv 2640)).1.hb.tl = .waiting 5280 := by
  have h := reset_at_deadline_at4 2640 demo_hbWf_at4 demo_tl demo_connectedSock
  have e : 2640 - demo.now = 2640 := by rw [demo_now]
  rw [e] at h
  exact ⟨h.2.1, h.2.2.1⟩

/-- 2 h of silence (57600 ticks): 21 `RESET`s and 24 heartbeat requests -/
example : (apiStep demo (.adv 57600)).2.count Ev.reset = 21 ∧ (apiStep demo (.adv 57600)).2.count hbEv = 24 := by
  constructor
  · rw [(silence_detected_at4 2640 demo_hbWf_at4 demo_tl).2.2.1, demo_connectedSock, demo_now]; decide
  · rw [(beats_every_interval_at4 2400 demo_hbWf_at4 demo_hl).2.2.1, demo_connectedSock, demo_now]; decide

/-- the socket loses its connection right after the handshake: the clock outputs no `RESET` -/
example : Ev.reset ∉ (apiStep (apiStep demo (.conn false)).1 (.adv 10000)).2 :=
  (no_reset_while_disconnected_at4 2640 (hbWf_step_at4 _ demo_hbWf_at4) (by decide) (by decide)).1 10000

/-- a responsive script: 7239 ticks, a version message after 2000 and after 4600 -/
example : responsive (2640 - 0) [.adv 2000, .recv demoVersionMsg, .adv 2600, .recv demoVersionMsg, .adv 2639] = true := by
  decide

example : Ev.reset ∉ (run demo [.adv 2000, .recv demoVersionMsg, .adv 2600, .recv demoVersionMsg, .adv 2639]).2 :=
  (no_false_reset_at4 _ demo_hbWf_at4 (d := 2640) demo_tl (by rw [demo_now]; decide)).1

/-- … and one tick more at the end is not responsive -/
example : responsive (2640 - 0) [.adv 2000, .recv demoVersionMsg, .adv 2600, .recv demoVersionMsg, .adv 2640] = false := by
  decide

/-- a message the matcher rejects does not help -/
example : responsive (2640 - 0) [.adv 2000, .recv demoGroupMsg, .adv 640] = false := by decide

end PyAirtouch.Props.C08
