import PyAirtouch.Lemmas.Api4Notify
import PyAirtouch.Lemmas.Api4Demo
/-!
# C10 (AirTouch 4): the API objects report what the console last said

All statements are about `Model.Api4.apiStep` (a sequence of arriving messages is `run s (msgs.map Op.recv)`,
written `recvAll s msgs`).  `Inv` is the heap invariant of reachable states (`Lemmas.Api4.Inv_initial`,
`Inv_apiStep`).  `lastFor key k l` is the last record of `l` whose number is `k`.
-/
namespace PyAirtouch.Props.C10
open PyAirtouch.Model PyAirtouch.Model.Api4 PyAirtouch.Model.At4 PyAirtouch.Lemmas.Api4 PyAirtouch.Gen
open PyAirtouch.Model.TimerCommon (AcTimerState AcTimerStatusData)

/-! ### the stored records -/

/-- After any sequence of messages in state `CONNECTED` the stored AC status of air-conditioner `k` is the record
    of the most recent AC-status message mentioning `k` (the last such record inside that message); if none
    mentions it the record is unchanged; an unknown `k` stays unknown. -/
theorem stored_ac_status_at4 (s : State) (hinv : Inv s) (hst : s.st = .CONNECTED) (hsub : s.subscribed = true)
    (msgs : List RMsg) (k : Nat) :
    ((recvAll s msgs).1.findAc k).map (·.status) =
      (s.findAc k).map fun a => (lastFor (·.ac_number) k (msgs.flatMap acStatusRecords)).getD a.status := by
  rw [findAc_recvAll hinv hst hsub, Option.map_map]
  congr 1; funext a
  exact foldl_steps_proj (acStep_status k) msgs a

example :
    ((recvAll demo [.acStatus (.status [{ demoAcStatus with set_point := 25 }, { demoAcStatus with ac_number := 3 }]),
                    .acTimerStatus (.status [demoTimer]),
                    .acStatus (.status [{ demoAcStatus with set_point := 19 }])]).1.findAc 0).map (·.status)
      = some { demoAcStatus with set_point := 19 } := by
  rw [stored_ac_status_at4 demo demo_inv demo_connected demo_subscribed, demo_eq]; decide

/-- the same for the AC timer status (an `AcTimerControlMessage`, which is a subclass instance of the
    timer-status message, counts) -/
theorem stored_ac_timer_at4 (s : State) (hinv : Inv s) (hst : s.st = .CONNECTED) (hsub : s.subscribed = true)
    (msgs : List RMsg) (k : Nat) :
    ((recvAll s msgs).1.findAc k).map (·.timer) =
      (s.findAc k).map fun a => (lastFor (·.ac_number) k (msgs.flatMap acTimerRecords)).getD a.timer := by
  rw [findAc_recvAll hinv hst hsub, Option.map_map]
  congr 1; funext a
  exact foldl_steps_proj (acStep_timer k) msgs a

example :
    ((recvAll demo [.acTimerCtrl { ac_timer_status := [{ demoTimer with on_timer := { disabled := true, hour := 0, minute := 0 } }] }]).1.findAc 0).map (·.timer)
      = some { demoTimer with on_timer := { disabled := true, hour := 0, minute := 0 } } := by
  rw [stored_ac_timer_at4 demo demo_inv demo_connected demo_subscribed, demo_eq]; decide

/-- the same for the group status of zone `k` -/
theorem stored_group_status_at4 (s : State) (hinv : Inv s) (hst : s.st = .CONNECTED) (hsub : s.subscribed = true)
    (msgs : List RMsg) (k : Nat) :
    ((recvAll s msgs).1.zoneOf k).map (·.status) =
      (s.zoneOf k).map fun z => (lastFor (·.group_number) k (msgs.flatMap groupRecords)).getD z.status := by
  rw [zoneOf_recvAll hinv hst hsub, Option.map_map]
  congr 1; funext z
  exact foldl_steps_proj (zoneStep_status k) msgs z

example :
    ((recvAll demo [.groupStatus (.status [{ demoGroup with damper_percentage := 10 }, { demoGroup with group_number := 9 }])]).1.zoneOf 1).map (·.status)
      = some { demoGroup with damper_percentage := 10 } := by
  rw [stored_group_status_at4 demo demo_inv demo_connected demo_subscribed, demo_eq]; decide

/-- An error-information message is processed in *every* state: the text of the named air-conditioner
    becomes the message's text, nothing else about any air-conditioner changes. -/
theorem stored_error_info_at4 (s : State) (hinv : Inv s) (hsub : s.subscribed = true)
    (e : FF10.AcErrorInformationMessage) (k : Nat) :
    (apiStep s (.recv (.extended (.errInfo (.message e))))).1.findAc k =
      (s.findAc k).map fun a => if k = e.ac_number then { a with errInfo := e.error_info } else a := by
  show (recv s _).1.findAc k = _
  rw [recv_errInfo hsub e, ← acTable_find]
  refine (errInfoK.find_update hinv e k).trans ?_
  simp only [errInfoK.after_eq_put fun m a h => by cases a; cases h; rfl]
  rfl

example : ((apiStep demo (.recv (.extended (.errInfo (.message { ac_number := 0, error_info := some [69] }))))).1.findAc 0).map (·.errInfo)
    = some (some [69]) := by
  rw [stored_error_info_at4 demo demo_inv demo_subscribed, demo_eq]; decide

/-- a status change to error code 0 clears the stored text, a change to a non-zero code keeps it -/
theorem error_text_after_status_at4 (r : X2D.AcStatusData) (a : AcObj) (h : a.status ≠ r) :
    (acAfterStatus r a).errInfo = if r.error_code = 0 then none else a.errInfo := by
  simp only [acAfterStatus, h, ↓reduceIte]
  by_cases hc : r.error_code = 0 <;> simp [hc]

example : ∃ r a, a.status ≠ r ∧ a.errInfo = some [69] ∧ (acAfterStatus r a).errInfo = none :=
  ⟨demoAcStatus, { (mkAc demoAbility []).get (by decide) with errInfo := some [69] }, by decide, rfl, by decide⟩

/-- in state `CONNECTED` a console-version message replaces the stored version; no other message touches it -/
theorem stored_version_at4 (s : State) (hst : s.st = .CONNECTED) (hsub : s.subscribed = true) (m : RMsg) :
    (apiStep s (.recv m)).1.version = (versionOf m).getD s.version :=
  (version_recvAll hst hsub [m]).trans (by rw [List.reverse_singleton, List.findSome?_singleton])

example : (apiStep demo (.recv (.extended (.consoleVer (.message { update_available := true, versions := [[50]] }))))).1.version
    = { update_available := true, versions := [[50]] } := by
  rw [stored_version_at4 demo demo_connected demo_subscribed]; rfl

/-! ### unknown ids change nothing -/

theorem unknown_ac_status_at4 (s : State) (l : List X2D.AcStatusData)
    (h : ∀ r ∈ l, s.findAc r.ac_number = none) : foldEv updateAcStatus s l = (s, []) :=
  (foldEv_congr updateAcStatus_kind s l).trans (acStatusK.fold_unknown s l h)

theorem unknown_ac_timer_at4 (s : State) (l : List AcTimerStatusData)
    (h : ∀ r ∈ l, s.findAc r.ac_number = none) : foldEv updateAcTimer s l = (s, []) :=
  (foldEv_congr updateAcTimer_kind s l).trans (acTimerK.fold_unknown s l h)

theorem unknown_group_status_at4 (s : State) (l : List X2B.GroupStatusData)
    (h : ∀ g ∈ l, s.zoneOf g.group_number = none) : foldEv updateGroupStatus s l = (s, []) :=
  (foldEv_congr updateGroupStatus_kind s l).trans (groupK.fold_unknown s l h)

/-- an AC-status message that only mentions unknown air-conditioners is a no-op: same state, no output -/
theorem unknown_ac_status_message_at4 (s : State) (hst : s.st = .CONNECTED) (hsub : s.subscribed = true)
    (l : List X2D.AcStatusData) (h : ∀ r ∈ l, s.findAc r.ac_number = none) :
    apiStep s (.recv (.acStatus (.status l))) = (s, []) := by
  show recv s _ = _
  rw [recv_connected hst hsub, absorb_acStatus hst, acStatusK.fold_unknown s l h]
  rfl

example : ∀ r ∈ [{ demoAcStatus with ac_number := 3 }], demo.findAc r.ac_number = none := by rw [demo_eq]; decide

theorem unknown_error_info_at4 (s : State) (e : FF10.AcErrorInformationMessage) (h : s.findAc e.ac_number = none) :
    updateErrInfo s e = (s, []) := by
  simp [updateErrInfo, h]

/-! ### the getters are total: no `KeyError` from a mapping table -/

theorem tables_total_at4 :
    (∀ x ∈ At4.X2BGroupStatus.GroupPowerState.all, (Api4.ZONE_POWER_STATE_MAPPING.lookup x).isSome) ∧
    (∀ x ∈ At4.X2BGroupStatus.GroupControlMethod.all, (Api4.ZONE_CONTROL_METHOD_MAPPING.lookup x).isSome) ∧
    (∀ x ∈ At4.X2BGroupStatus.SensorBatteryStatus.all, (Api4.SENSOR_BATTERY_STATUS_MAPPING.lookup x).isSome) ∧
    (∀ x ∈ At4.X2DAcStatus.AcPowerState.all, (Api4.AC_POWER_STATE_MAPPING.lookup x).isSome) ∧
    (∀ x ∈ At4.X2DAcStatus.AcMode.all, (Api4.AC_SELECTED_MODE_MAPPING.lookup x).isSome) ∧
    (∀ x ∈ At4.X2DAcStatus.AcMode.all, (Api4.AC_ACTIVE_MODE_MAPPING.lookup x).isSome) ∧
    (∀ x ∈ At4.X2DAcStatus.AcFanSpeed.all, (Api4.AC_FAN_SPEED_MAPPING.lookup x).isSome) ∧
    (∀ x ∈ ApiEnums.AcTimerType.all, (Api4.API_TIMER_TYPE_MAPPING.lookup x).isSome) ∧
    (∀ x ∈ ApiEnums.ZonePowerState.all, (Api4.API_ZONE_POWER_MAPPING.lookup x).isSome) := by
  decide

theorem zone_getters_total_at4 (z : ZoneObj) :
    (∃ v, z.powerState = .ok v) ∧ (∃ v, z.controlMethod = .ok v) ∧ (∃ v, z.batteryStatus = .ok v) := by
  refine ⟨?_, ?_, ?_⟩
  · unfold ZoneObj.powerState; cases z.status.power_state <;> exact ⟨_, rfl⟩
  · unfold ZoneObj.controlMethod; cases z.status.control_method <;> exact ⟨_, rfl⟩
  · unfold ZoneObj.batteryStatus; cases z.status.battery_status <;> exact ⟨_, rfl⟩

theorem ac_getters_total_at4 (a : AcObj) :
    (∃ v, a.powerState = .ok v) ∧ (∃ v, a.selectedMode = .ok v) ∧ (∃ v, a.activeMode = .ok v) ∧
    (∃ v, a.fanSpeed = .ok v) := by
  refine ⟨?_, ?_, ?_, ?_⟩
  · unfold AcObj.powerState; cases a.status.power_state <;> exact ⟨_, rfl⟩
  · unfold AcObj.selectedMode; cases a.status.mode <;> exact ⟨_, rfl⟩
  · unfold AcObj.activeMode; cases a.status.mode <;> exact ⟨_, rfl⟩
  · unfold AcObj.fanSpeed; cases a.status.fan_speed <;> exact ⟨_, rfl⟩

example : (demo.findAc 0).map (fun a => (a.selectedMode, a.activeMode, a.fanSpeed)) =
    some (.ok .AUTO, .ok .HEAT, .ok .LOW) := by rw [demo_eq]; rfl

/-- the whole zone view is computable for every stored record -/
theorem view_zone_total_at4 (z : ZoneObj) : ∃ t, viewZone z = .ok t := by
  obtain ⟨⟨p, hp⟩, ⟨c, hc⟩, ⟨b, hb⟩⟩ := zone_getters_total_at4 z
  simp only [viewZone, hp, hc, hb]
  exact ⟨_, rfl⟩

/-! ### AUTO variants -/

/-- selected mode is AUTO for AUTO / AUTO_HEAT / AUTO_COOL; the active mode tells HEAT / COOL apart -/
theorem auto_modes_at4 (a : AcObj) :
    (a.status.mode = .AUTO → a.selectedMode = .ok .AUTO ∧ a.activeMode = .ok .AUTO) ∧
    (a.status.mode = .AUTO_HEAT → a.selectedMode = .ok .AUTO ∧ a.activeMode = .ok .HEAT) ∧
    (a.status.mode = .AUTO_COOL → a.selectedMode = .ok .AUTO ∧ a.activeMode = .ok .COOL) ∧
    (∀ m, a.status.mode = m → m ≠ .AUTO → m ≠ .AUTO_HEAT → m ≠ .AUTO_COOL → a.selectedMode = a.activeMode) := by
  refine ⟨?_, ?_, ?_, ?_⟩
  · intro h; simp only [AcObj.selectedMode, AcObj.activeMode, h]; exact ⟨rfl, rfl⟩
  · intro h; simp only [AcObj.selectedMode, AcObj.activeMode, h]; exact ⟨rfl, rfl⟩
  · intro h; simp only [AcObj.selectedMode, AcObj.activeMode, h]; exact ⟨rfl, rfl⟩
  · intro m h h1 h2 h3
    simp only [AcObj.selectedMode, AcObj.activeMode, h]
    cases m <;> first | rfl | contradiction

example : ∃ a : AcObj, a.status.mode = .AUTO_COOL := ⟨{ (mkAc demoAbility []).get (by decide) with status := { demoAcStatus with mode := .AUTO_COOL } }, rfl⟩

/-! ### error details, quick timers -/

/-- `error_info` is present iff the error code is non-zero, and then carries that code and the stored text -/
theorem error_info_iff_at4 (a : AcObj) :
    (a.errorInfo.isSome ↔ a.status.error_code ≠ 0) ∧
    (a.status.error_code ≠ 0 → a.errorInfo = some (a.status.error_code, a.errInfo)) := by
  unfold AcObj.errorInfo
  by_cases h : a.status.error_code = 0 <;> simp [h]

example : ∃ a : AcObj, a.errorInfo = some (7, some [69]) :=
  ⟨{ (mkAc demoAbility []).get (by decide) with status := { demoAcStatus with error_code := 7 }, errInfo := some [69] }, by decide⟩

/-- `next_quick_timer` is `None` iff the timer is disabled; an enabled timer with a valid time of day is
    reported as that time -/
theorem quick_timer_iff_at4 (a : AcObj) (tt : ApiEnums.AcTimerType) :
    (a.nextQuickTimer tt = .ok none ↔ (a.timerState tt).disabled = true) ∧
    ((a.timerState tt).disabled = false → (a.timerState tt).hour < 24 → (a.timerState tt).minute < 60 →
      a.nextQuickTimer tt = .ok (some ((a.timerState tt).hour, (a.timerState tt).minute))) := by
  unfold AcObj.nextQuickTimer
  constructor
  · constructor
    · intro h
      by_cases hd : (a.timerState tt).disabled = true
      · exact hd
      · have hd' : (a.timerState tt).disabled = false := by simpa using hd
        simp only [hd', Bool.false_eq_true, ↓reduceIte] at h
        split at h
        · simp at h
        · cases h
    · intro hd; simp [hd]
  · intro hd hh hm; simp [hd, hh, hm]

example : (demo.findAc 0).map (fun a => (a.nextQuickTimer .ON_TIMER, a.nextQuickTimer .OFF_TIMER)) =
    some (.ok (some (7, 30)), .ok none) := by rw [demo_eq]; rfl

/-- FINDING (getter not total): the timer-status decoder yields hours up to 31 and minutes up to 63; for an
    enabled timer outside the range of `datetime.time` the getter raises `ValueError` -/
theorem quick_timer_value_error_at4 (a : AcObj) (tt : ApiEnums.AcTimerType)
    (hd : (a.timerState tt).disabled = false) (h : 24 ≤ (a.timerState tt).hour ∨ 60 ≤ (a.timerState tt).minute) :
    a.nextQuickTimer tt = .error .valueError := by
  unfold AcObj.nextQuickTimer
  have : ¬ ((a.timerState tt).hour < 24 ∧ (a.timerState tt).minute < 60) := by omega
  simp [hd, this]

example : ∃ a : AcObj, a.nextQuickTimer .ON_TIMER = .error .valueError :=
  ⟨{ (mkAc demoAbility []).get (by decide) with timer := { demoTimer with on_timer := { disabled := false, hour := 31, minute := 0 } } }, by rfl⟩

end PyAirtouch.Props.C10
