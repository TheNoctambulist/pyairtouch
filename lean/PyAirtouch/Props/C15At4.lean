import PyAirtouch.Lemmas.Api4Discipline
/-!
# C15 (AirTouch 4 API object): shutdown is final, leak-free and reversible

Vocabulary (`PyAirtouch.Lemmas.Api4Shutdown`, the last item `PyAirtouch.Lemmas.Api4Discipline`):

* `Closed s` - state `CLOSED`, initialised event clear, both dictionaries and the object heap empty, no current poll task,
  heartbeat manager stopped (`hbIdle`: no pending beat, no pending deadline), socket not open;
* `quietClosed e` - `e` is not a `SEND`, not a `NOTIFY`, not `HBSTART`, not `RESET`, not `OPEN`, not `RESULT init True`;
  `op.afterShutdown` - every op except `init`; `isInitResult e` - `RESULT init True` / `RESULT init False`;
* `FreshSim a b` - the simulation relation between a re-initialised object and a fresh one (everything equal, heartbeat
  managers `HbEquiv`, the console version may differ while the state is `CLOSED` / `CONNECTING` / `INIT_VERSION`);
* `HbWf0 s` - the embedded heartbeat manager has the API object's clock, the default configuration and the socket's
  connection flag (an invariant of every run from `State.initial`);
* `freshAt c` - a fresh object with `c`'s constructor arguments, clock, AirTouch-level subscribers and socket
  connection flag;
* `NoOrphan s` - no orphaned poll task and a current poll task only in state `CONNECTED`; `disciplined true ops` -
  `init` occurs only first or after a `shutdown` with no `init` in between.

**Findings** (proved below as `…_refuted_at4`): `shutdown()` cancels only the *current* poll task and does not touch
`init()` callers blocked in `wait_for`:
(a) orphaned poll tasks (they arise when `init()` is called on a connected object without `shutdown()`) survive
    `shutdown()`, stay scheduled while the object is closed and send group-status requests after the next `init()`;
(b) a pending `init()` waiter survives `shutdown()`: it returns `False` when its 5 s are over - after `shutdown()`
    returned - or `True` if a later `init()` completes the handshake in time.
-/
namespace PyAirtouch.Props.C15
open PyAirtouch.Model PyAirtouch.Model.Api4 PyAirtouch.Model.At4 PyAirtouch.Lemmas.Api4 PyAirtouch.Gen
open PyAirtouch.Lemmas.Heartbeat (HbEquiv)

/-! ## 1. the state after `shutdown()` -/

/-- `shutdown()` from EVERY state: the object is `Closed`, the socket neither open nor connected (the heartbeat manager
    knows), the outputs are exactly `HBSTOP`, `CLOSE`, `RESULT shutdown OK` - the connection is closed, nothing is
    sent - and exactly this persists: the AirTouch-level subscribers, the stored console version, the socket
    subscription, the clock, the constructor arguments - and the pending `init()` waiters and the orphaned poll
    tasks (the two findings). -/
theorem shutdown_state_at4 : type_of% @shutdown_state := @shutdown_state

example : ¬ Closed demo := fun h => by have := h.st; rw [demo_connected] at this; cases this
example : (apiStep demo .shutdown).2 = [Ev.hbStop, Ev.closed, Ev.result "shutdown OK"] := (shutdown_state_at4 demo).2.2.2.1
example : hbIdle demo.hb = false ∧ demo.pollCur = some 2400 ∧ demo.acDict ≠ [] ∧ demo.sockOpen = true := by decide

/-- positive part of the findings: `shutdown()` creates neither an orphan nor a waiter -/
theorem shutdown_keeps_clean_at4 (s : State) :
    (s.pollOrphans = [] → (apiStep s .shutdown).1.pollOrphans = []) ∧
    (s.initWaits = [] → (apiStep s .shutdown).1.initWaits = []) :=
  ⟨fun h => h, fun h => h⟩

/-! ### finding (a): orphaned poll tasks -/

/-- a poll task at its timeout: socket not connected - silently re-armed 300 s ahead (open or not); connected but not
    open - the task dies silently; connected and open - it sends a group-status request and re-arms -/
theorem orphan_poll_cases_at4 : type_of% @firePoll_cases := @firePoll_cases

/-- one tick of a `Closed` object treats every orphan by `firePoll` with `sockOpen = false`: none sends; while
    the socket is not connected they stay scheduled for ever -/
theorem orphans_while_closed_at4 : type_of% @tick_closed_orphans := @tick_closed_orphans

/-- the only place where a poll task is orphaned is the transition to `CONNECTED`, and only if a poll task is alive -/
theorem orphans_only_from_enterConnected_at4 : type_of% @enterConnected_orphans := @enterConnected_orphans

/-- every op preserves "no orphan, poll task only while `CONNECTED`" - except `init()` while a poll task is alive -/
theorem no_orphan_step_at4 : type_of% @NoOrphan_apiStep := @NoOrphan_apiStep

/-- when `init()` is only called on a fresh object or after `shutdown()`, no poll task is ever orphaned -/
theorem no_orphans_disciplined_at4 : type_of% @noOrphans_disciplined := @noOrphans_disciplined

example : disciplined true (demoOps ++ [.shutdown, .init, .adv 3, .shutdown, .adv 5, .init]) = true := by decide
example : disciplined true orphanOps = false := by decide

/-- **REFUTED: "no timer or task of the client remains scheduled"** - a complete handshake, `init()` again without
    `shutdown()`, the handshake again, `shutdown()`: the object is `Closed` but the first poll task (deadline tick
    2400 = 300 s) is still there.  Consequence: after a later `init()` and connection, at 300 s the orphan sends a
    group-status request that the fresh object does not send. -/
theorem shutdown_orphans_refuted_at4 :
    Closed orphanState ∧ HbWf0 orphanState ∧ orphanState.initWaits = [] ∧
    orphanState.pollOrphans = [2400] ∧ orphanState.pollOrphans ≠ [] ∧
    (run orphanState [.init, .conn true, .adv 2400]).2 =
      [Ev.opened, Ev.send .connected versionRequest, initFalse, pollEv] ∧
    (run (freshAt orphanState) [.init, .conn true, .adv 2400]).2 =
      [Ev.opened, Ev.send .connected versionRequest, initFalse] := by
  have h := shutdown_reachable_wf (demoOps ++ [.init, .conn true] ++ demoAnswers.map Op.recv)
  refine ⟨h.1, h.2, by decide, by decide, by decide, ?_, ?_⟩ <;> rw [run_eq_J] <;> decide +kernel

/-- while closed and not connected the orphan is re-armed, silently, every 300 s -/
example : (apiStep orphanState (.adv 2400)).2 = [] ∧ (apiStep orphanState (.adv 2400)).1.pollOrphans = [4800] := by
  rw [apiStep_eq_J]; decide +kernel

/-! ### finding (b): pending `init()` waiters -/

/-- **REFUTED: "no timer … remains scheduled" / "shutdown is final"** - `init()`, `shutdown()` before the 5 s are
    over: the object is `Closed` but the waiter (deadline tick 40) is still pending; it answers `RESULT init False`
    at tick 40, after `shutdown()` returned; and if instead a new `init()` completes the handshake in time, the
    *first* call returns `True` as well (two `RESULT init True` where a fresh object gives one). -/
theorem shutdown_initWaits_refuted_at4 :
    Closed waiterState ∧ HbWf0 waiterState ∧ waiterState.pollOrphans = [] ∧ waiterState.initWaits = [40] ∧
    (run State.initial [.init, .shutdown, .adv 40]).2 =
      [Ev.opened, Ev.hbStop, Ev.closed, Ev.result "shutdown OK", initFalse] ∧
    (apiStep waiterState (.adv 39)).2 = [] ∧ (apiStep waiterState (.adv 40)).2 = [initFalse] ∧
    (run waiterState ([.init, .conn true] ++ demoAnswers.map Op.recv)).2.count (Ev.result "init True") = 2 ∧
    (run (freshAt waiterState) ([.init, .conn true] ++ demoAnswers.map Op.recv)).2.count (Ev.result "init True") = 1 := by
  have h := shutdown_reachable_wf [.init]
  exact ⟨h.1, h.2, by decide⟩

/-! ## 2. quiet after shutdown -/

/-- a message arrives: no output, nothing changes but the stopped heartbeat manager's clock field -/
theorem closed_recv_at4 {s : State} (hc : Closed s) (m : RMsg) :
    (apiStep s (.recv m)).2 = [] ∧ Closed (apiStep s (.recv m)).1 ∧
    ((apiStep s (.recv m)).1 = s ∨ (apiStep s (.recv m)).1 = { s with hb := { s.hb with now := s.now } }) :=
  ⟨(recv_closed hc m).1, recv_closed_state hc m, (recv_closed hc m).2⟩

/-- a frame arrives: nothing, or `UNDECODABLE` -/
theorem closed_msg_at4 {s : State} (hc : Closed s) (mid : Nat) (payload : Bytes) :
    ((apiStep s (.msg mid payload)).2 = [] ∨ ∃ cls, (apiStep s (.msg mid payload)).2 = [Ev.undecodable cls]) ∧
    Closed (apiStep s (.msg mid payload)).1 := by
  refine ⟨?_, (closed_step hc _ rfl).1⟩
  simp only [apiStep]
  split
  · exact Or.inl (recv_closed hc _).1
  · next cls _ => exact Or.inr ⟨cls, rfl⟩

/-- the socket reports a connection change: only the two flags change; if the connection came up the connection
    handler's `send` raises `NotOpenError` (when the object ever subscribed to the socket), nothing is sent -/
theorem closed_conn_at4 {s : State} (hc : Closed s) (up : Bool) :
    (apiStep s (.conn up)).2 = (if up && s.subscribed then [Ev.subscriberExc "NotOpenError"] else []) ∧
    (apiStep s (.conn up)).1 =
      { s with sockConnected := up, hb := hbApply { s.hb with now := s.now } (.conn up) } ∧
    Closed (apiStep s (.conn up)).1 :=
  ⟨(conn_closed hc up).1, (conn_closed hc up).2, conn_closed_state hc up⟩

/-- the socket subscription made by the first `init()` is never undone: a connection event delivered to a shut-down
    object reaches the connection handler, whose `send` raises `NotOpenError` (logged by the socket); an object that was
    never initialised has no handler.  (Only while closed; `init()` subscribes anyway.) -/
theorem closed_conn_subscription_persists_at4 :
    (apiStep (apiStep demo .shutdown).1 (.conn true)).2 = [Ev.subscriberExc "NotOpenError"] ∧
    (apiStep State.initial (.conn true)).2 = [] := by decide

/-- one tick: the only possible outputs are `RESULT init False` of pending `init()` calls falling due -/
theorem closed_tick_at4 : type_of% @tick_closed := @tick_closed

/-- time passes: exactly one `RESULT init False` for every pending `init()` call that falls due - nothing when none is
    pending; in particular no orphaned poll task sends -/
theorem closed_adv_at4 {s : State} (hc : Closed s) (n : Nat) :
    Closed (apiStep s (.adv n)).1 ∧
    (0 < n → (apiStep s (.adv n)).2 =
        List.replicate (s.initWaits.filter (fun d => decide (d ≤ s.now + n))).length initFalse ∧
      (apiStep s (.adv n)).1.initWaits = s.initWaits.filter (fun d => !decide (d ≤ s.now + n))) ∧
    (s.initWaits = [] → (apiStep s (.adv n)).2 = [] ∧ (apiStep s (.adv n)).1.initWaits = []) :=
  ⟨(advance_closed n hc).1, (advance_closed n hc).2.2, advance_closed_noWaits n hc⟩

/-- **sending raises the not-open error**; the entity calls find no entity (the model is empty) -/
theorem closed_call_at4 {s : State} (hc : Closed s) (c : Call) :
    apiStep s (.call c) = (s, [Ev.result (if c = .atCheckForUpdates then "NotOpenError" else "KeyError")]) := by
  simp only [apiStep, call_closed hc]

/-- subscriptions: the AirTouch-level set is still there, no air-conditioner / zone exists -/
theorem closed_sub_at4 {s : State} (hc : Closed s) (t : Target) (sid : String) (raises : Bool) :
    apiStep s (.sub t sid raises) =
      (match t with
       | .airtouch => ({ s with subs := subAdd s.subs { sid := sid, raises := raises } }, [])
       | _ => (s, [Ev.result "KeyError"])) ∧
    apiStep s (.unsub t sid) =
      (match t with
       | .airtouch => ({ s with subs := subRemove s.subs sid }, [])
       | _ => (s, [Ev.result "KeyError"])) :=
  ⟨subUnsub_closed hc t (subAdd · { sid := sid, raises := raises }), subUnsub_closed hc t (subRemove · sid)⟩

/-- the view: not initialised, no air-conditioners, the stored console version -/
theorem closed_view_at4 {s : State} (hc : Closed s) : apiStep s .view = (s, [Ev.view (closedViewText s)]) := by
  simp only [apiStep, viewAt_closed hc]

/-- one op other than `init` -/
theorem closed_step_at4 : type_of% @closed_step := @closed_step

/-- **quiet after shutdown**: from a `Closed` state, under EVERY sequence of ops other than `init` - messages, frames,
    connection changes, time, calls, subscriptions, views, further shutdowns - the object stays `Closed` and every
    output is quiet: no `SEND`, no `NOTIFY`, no `HBSTART`, no `RESET`, no `OPEN`, no `RESULT init True` (the only
    exception is the harness echoing `callBad "init True"`).  Holds also with orphaned poll tasks and pending
    waiters present. -/
theorem quiet_after_shutdown_at4 {s : State} (hc : Closed s) (ops : List Op)
    (hops : ∀ op ∈ ops, op.afterShutdown = true) :
    Closed (run s ops).1 ∧
    ∀ e ∈ (run s ops).2, quietClosed e = true ∨ (e = Ev.result "init True" ∧ Op.callBad "init True" ∈ ops) :=
  ⟨(closed_run hc ops hops).1, (closed_run hc ops hops).2.1⟩

/-- without pending waiters: none appears, and no result of an `init()` call is ever output (except by the harness
    echoing a `callBad`) -/
theorem quiet_after_shutdown_noWaits_at4 {s : State} (hc : Closed s) (hw : s.initWaits = []) (ops : List Op)
    (hops : ∀ op ∈ ops, op.afterShutdown = true) :
    (run s ops).1.initWaits = [] ∧
    ∀ e ∈ (run s ops).2, isInitResult e = true → ∃ cls, Op.callBad cls ∈ ops ∧ e = Ev.result cls :=
  (closed_run hc ops hops).2.2 hw

/-- after `shutdown()` from any state whatsoever -/
theorem quiet_after_any_shutdown_at4 (s : State) (ops : List Op) (hops : ∀ op ∈ ops, op.afterShutdown = true) :
    Closed (run s (.shutdown :: ops)).1 ∧
    ∀ e ∈ (run (apiStep s .shutdown).1 ops).2,
      quietClosed e = true ∨ (e = Ev.result "init True" ∧ Op.callBad "init True" ∈ ops) :=
  quiet_after_shutdown_at4 (shutdown_state s).1 ops hops

/-- the demo installation with its four subscribers, shut down -/
def closedDemo : State := (apiStep demoSub .shutdown).1

def quietScript : List Op :=
  [.conn true, .recv demoGroupMsg, .recv demoVersionMsg, .msg 0x2B [1], .adv 3000, .call .atCheckForUpdates,
   .call (.acSetPower 0 .TURN_ON), .sub (.ac 0 true) "x" false, .sub .airtouch "y" false, .unsub (.zone 1) "z", .view,
   .conn false, .callBad "KeyError", .shutdown, .adv 10]

example : Closed closedDemo := (shutdown_state demoSub).1
example : ∀ op ∈ quietScript, op.afterShutdown = true := by decide
example : closedDemo.subscribed = true ∧ closedDemo.subs.length = 1 := by decide
example : (run closedDemo quietScript).2.length = 11 ∧
    (run closedDemo quietScript).2.take 4 =
      [Ev.subscriberExc "NotOpenError", Ev.undecodable "DecodeError", Ev.result "NotOpenError", Ev.result "KeyError"] := by
  rw [run_eq_J]; decide +kernel
example : (run orphanState [.conn true, .adv 2400]).2 = [Ev.subscriberExc "NotOpenError"] ∧
    (run orphanState [.conn true, .adv 2400]).1.pollOrphans = [] := by rw [run_eq_J]; decide +kernel

/-! ## 3. `init()` again -/

/-- **the simulation, one op**: related states have related successors under EVERY op; the outputs are equal for every
    op other than `view`; once the console versions agree the outputs are equal for `view` too and the versions
    agree for ever -/
theorem freshSim_step_at4 : type_of% @freshSim_step := @freshSim_step

/-- … over op lists -/
theorem freshSim_run_at4 : type_of% @freshSim_run := @freshSim_run

/-- … `ops₁` without `view`, after which the versions agree, then any `ops₂` (with `view`) -/
theorem freshSim_run_split_at4 : type_of% @freshSim_run_split := @freshSim_run_split

/-- the console-version answer (in `INIT_VERSION`, or an update in `CONNECTED`) makes the versions agree -/
theorem freshSim_version_answer_at4 : type_of% @freshSim_version_answer := @freshSim_version_answer

example : FreshSim demo demo := FreshSim.refl demo

/-- the well-formedness of the embedded heartbeat manager is an invariant -/
theorem hbWf0_invariant_at4 :
    HbWf0 State.initial ∧ (∀ s op, HbWf0 s → HbWf0 (apiStep s op).1) ∧ ∀ ops, HbWf0 (run State.initial ops).1 :=
  ⟨HbWf0_initial, fun _ op k => HbWf0_apiStep k op, fun ops => HbWf0_run HbWf0_initial ops⟩

/-- why `freshAt` is "fresh": on a fresh object `adv n` outputs nothing and only moves the two clocks to `n`; and
    `freshAt` of that state is that state -/
theorem advance_fresh_at4 (n : Nat) :
    apiStep State.initial (.adv n) =
      ({ State.initial with now := n, hb := { State.initial.hb with now := n } }, []) ∧
    freshAt (apiStep State.initial (.adv n)).1 = (apiStep State.initial (.adv n)).1 :=
  ⟨advance_initial n, freshAt_of_initial n⟩

/-- **a later `init()` works as on a fresh object**: `c` `Closed`, no pending waiter, no orphaned poll task
    (well-formed heartbeat manager - an invariant): `init()` outputs exactly `OPEN` on `c` and on the fresh object
    `freshAt c`, and the successor states are related by the simulation relation -/
theorem reinit_as_fresh_at4 : type_of% @reinit_fresh := @reinit_fresh

/-- … so every later behaviour is that of the fresh object: all outputs of any continuation without `view`; and with
    `view` from the moment the console versions agree -/
theorem reinit_behaviour_at4 {c : State} (hc : Closed c) (hw : c.initWaits = []) (ho : c.pollOrphans = [])
    (hb : HbWf0 c) :
    (∀ ops, FreshSim (run c (.init :: ops)).1 (run (freshAt c) (.init :: ops)).1 ∧
      ((∀ op ∈ ops, op ≠ .view) → (run c (.init :: ops)).2 = (run (freshAt c) (.init :: ops)).2)) ∧
    (∀ ops₁ ops₂, (∀ op ∈ ops₁, op ≠ .view) →
      (run c (.init :: ops₁)).1.version = (run (freshAt c) (.init :: ops₁)).1.version →
      (run c (.init :: (ops₁ ++ ops₂))).2 = (run (freshAt c) (.init :: (ops₁ ++ ops₂))).2) :=
  ⟨fun ops => reinit_run hc hw ho hb ops, fun o1 o2 h1 hv => reinit_run_split hc hw ho hb o1 o2 h1 hv⟩

/-- the hypotheses `Closed` and `HbWf0` hold after every `shutdown()` reachable from a fresh object; what remains to
    be assumed is exactly the absence of the two leaks -/
theorem reinit_applies_at4 : type_of% @shutdown_reachable_wf := @shutdown_reachable_wf

/-- the state in which the demo installation was shut down -/
def demoClosed : State := (run State.initial (demoOps ++ [.shutdown])).1

example : Closed demoClosed ∧ HbWf0 demoClosed := shutdown_reachable_wf demoOps
example : demoClosed.initWaits = [] ∧ demoClosed.pollOrphans = [] := by decide

/-- the whole second session - handshake, a view, a status change, a poll, a call - equals the fresh object's -/
example :
    (run demoClosed (.init :: ([.conn true, .recv demoVersionMsg] ++ ([.view] ++ (demoAnswers.drop 1).map Op.recv ++
        [.view, .call (.acSetPower 0 .TURN_ON), .adv 50])))).2 =
    (run (freshAt demoClosed) (.init :: ([.conn true, .recv demoVersionMsg] ++ ([.view] ++
        (demoAnswers.drop 1).map Op.recv ++ [.view, .call (.acSetPower 0 .TURN_ON), .adv 50])))).2 :=
  (reinit_behaviour_at4 (shutdown_reachable_wf demoOps).1 (by decide) (by decide) (shutdown_reachable_wf demoOps).2).2
    _ _ (by intro op hop h; subst h; simp at hop) (by decide)

/-- **what legitimately persists and shows**: the console version of the previous session is still stored (and shown by
    `view`) until the first answer of the new handshake overwrites it; a fresh object shows none -/
theorem reinit_stale_version_at4 :
    (run demoClosed [.init, .view]).2 = [Ev.opened, Ev.view (closedViewText demoClosed)] ∧
    (run (freshAt demoClosed) [.init, .view]).2 = [Ev.opened, Ev.view (closedViewText (freshAt demoClosed))] ∧
    demoClosed.version.versions = [[49]] ∧ (freshAt demoClosed).version.versions = [] ∧
    closedViewText demoClosed ≠ closedViewText (freshAt demoClosed) ∧
    (run demoClosed [.init, .conn true, .recv demoVersionMsg, .view]).2 =
      (run (freshAt demoClosed) [.init, .conn true, .recv demoVersionMsg, .view]).2 := by
  have w := shutdown_reachable_wf demoOps
  refine ⟨init_view_closed w.1, init_view_closed (freshAt_closed _), by decide, rfl, by decide +kernel, ?_⟩
  exact (reinit_behaviour_at4 w.1 (by decide) (by decide) w.2).2 [.conn true, .recv demoVersionMsg] [.view]
    (by intro op hop h; subst h; simp at hop) (by decide)

end PyAirtouch.Props.C15
