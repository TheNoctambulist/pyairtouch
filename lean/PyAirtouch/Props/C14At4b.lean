import PyAirtouch.Lemmas.Api4Reach
import PyAirtouch.Props.C14At4
/-!
# C14 (AirTouch 4), continued: the 300 s group-status poll in every reachable state

`Props/C14At4` gives the closed form of the poll under the hypotheses "no orphaned poll task", "deadline ahead",
"socket open".  Here the hypotheses are discharged:

* `ReachD4 s` - `s` is reached from the fresh object by an op list that keeps the calling discipline (`init()` only
  first or after `shutdown()`): no orphans (`reachD_discFacts`), the deadline is ahead and the socket
  open (`open_of_poll`).  What is left is a fact about the environment (the
  socket reports a connection) and the name of the deadline.
* `Reach4 s` - any op list: every poll task, the current one and every orphan, keeps polling with its own phase
  (`poll_requests_orphans_at4`); on a shut-down object an orphan re-arms silently while the socket is not connected
  and dies at its deadline when it is (`orphan_dies_at4`).

Time is in ticks of 1/8 s (`Gen.Api4.GROUP_STATUS_TIMEOUT = 2400`); `pollEv` is `SEND CONNECTED GroupStatusRequest()`.
-/
namespace PyAirtouch.Props.C14
open PyAirtouch.Model PyAirtouch.Model.Api4 PyAirtouch.Model.At4 PyAirtouch.Lemmas.Api4 PyAirtouch.Gen
open PyAirtouch.Lemmas.Api4Reach

/-! ### under the discipline -/

/-- in a disciplined reachable state a poll task exists exactly in `CONNECTED`; there it is the only one, its
    deadline is strictly ahead and at most 300 s away, and the socket is open -/
theorem poll_task_at4 (s : State) (h : ReachD4 s) :
    s.pollOrphans = [] ∧ (s.pollCur.isSome = true ↔ s.st = .CONNECTED) ∧
    (s.st = .CONNECTED → s.sockOpen = true ∧
      ∃ d, s.pollCur = some d ∧ s.now < d ∧ d ≤ s.now + Api4.GROUP_STATUS_TIMEOUT) := by
  have df := reachD_discFacts h
  refine ⟨df.orphans, df.poll_iff, fun hc => ?_⟩
  have hs := df.poll_iff.mpr hc
  cases hp : s.pollCur with
  | none => rw [hp] at hs; cases hs
  | some d =>
    have p := open_of_poll h.reach hp
    exact ⟨p.sockOpen, d, rfl, p.ahead, p.within⟩

/-- `poll_requests_at4` for every disciplined reachable state: the live poll task (deadline `d`) sends at `d`,
    `d + 2400`, `d + 4800`, … while the socket is connected.  No hypothesis about orphans, the deadline or the
    socket being open. -/
theorem poll_requests_disciplined_at4 (s : State) (h : ReachD4 s) (n d : Nat) (hc : s.pollCur = some d)
    (hconn : s.sockConnected = true) :
    (apiStep s (.adv n)).2.count pollEv = deadlinesUpTo d Api4.GROUP_STATUS_TIMEOUT (s.now + n) ∧
    (apiStep s (.adv n)).1.pollCur =
      some (d + Api4.GROUP_STATUS_TIMEOUT * deadlinesUpTo d Api4.GROUP_STATUS_TIMEOUT (s.now + n)) ∧
    (apiStep s (.adv n)).1.pollOrphans = [] := by
  have p := open_of_poll h.reach hc
  have ho := (reachD_discFacts h).orphans
  obtain ⟨p1, p2⟩ := poll_requests_at4 s n d ho hc p.ahead hconn p.sockOpen
  exact ⟨p1, p2, (advance_polls n s).2.1.trans (by rw [ho]; rfl)⟩

/-- … nothing before the deadline, exactly one request when the clock reaches it, the next deadline 300 s later -/
theorem poll_at_deadline_disciplined_at4 (s : State) (h : ReachD4 s) (d : Nat) (hc : s.pollCur = some d)
    (hconn : s.sockConnected = true) :
    (apiStep s (.adv (d - s.now - 1))).2.count pollEv = 0 ∧
    (apiStep s (.adv (d - s.now))).2.count pollEv = 1 ∧
    (apiStep s (.adv (d - s.now))).1.pollCur = some (d + Api4.GROUP_STATUS_TIMEOUT) := by
  have p := open_of_poll h.reach hc
  exact poll_at_deadline_at4 s d (reachD_discFacts h).orphans hc p.ahead hconn p.sockOpen

set_option linter.unusedVariables false in -- the proof does not use `h`
/-- … and nothing at all while the socket is not connected -/
theorem poll_disconnected_disciplined_at4 (s : State) (h : ReachD4 s) (n : Nat) (hconn : s.sockConnected = false) :
    (apiStep s (.adv n)).2.count pollEv = 0 :=
  advance_polls_silent n s (.inl hconn)

/-- **the poll in state `CONNECTED`**: in every disciplined reachable `CONNECTED` state with the socket connected there
    is a deadline `d`, strictly ahead and at most 300 s away, such that `adv n` sends exactly the requests due at
    `d`, `d + 2400`, … -/
theorem poll_connected_at4 (s : State) (h : ReachD4 s) (hst : s.st = .CONNECTED) (hconn : s.sockConnected = true)
    (n : Nat) :
    ∃ d, s.pollCur = some d ∧ s.now < d ∧ d ≤ s.now + Api4.GROUP_STATUS_TIMEOUT ∧
      (apiStep s (.adv n)).2.count pollEv = deadlinesUpTo d Api4.GROUP_STATUS_TIMEOUT (s.now + n) := by
  obtain ⟨_, _, h3⟩ := poll_task_at4 s h
  obtain ⟨_, d, hp, a1, a2⟩ := h3 hst
  exact ⟨d, hp, a1, a2, (poll_requests_disciplined_at4 s h n d hp hconn).1⟩

/-- hence the rate: over `n` ticks at least `⌊n / 2400⌋` and at most `⌊n / 2400⌋ + 1` group-status requests - one
    every 300 s, whatever the phase -/
theorem poll_rate_at4 (s : State) (h : ReachD4 s) (hst : s.st = .CONNECTED) (hconn : s.sockConnected = true)
    (n : Nat) :
    n / 2400 ≤ (apiStep s (.adv n)).2.count pollEv ∧ (apiStep s (.adv n)).2.count pollEv ≤ n / 2400 + 1 := by
  obtain ⟨d, _, a1, a2, a3⟩ := poll_connected_at4 s h hst hconn n
  rw [a3]
  have hT : Api4.GROUP_STATUS_TIMEOUT = 2400 := rfl
  rw [hT] at a2 ⊢
  unfold deadlinesUpTo
  split <;> omega

/-! ### without the discipline: orphaned poll tasks -/

/-- how a poll task gets orphaned: the group status that completes a handshake while a poll task is alive (only
    possible when `init()` was called again without `shutdown()`) keeps the old task and starts a new one -/
theorem orphaned_by_completion_at4 (s : State) (hsub : s.subscribed = true) (hst : s.st = .INIT_GROUP_STATUS)
    (l : List X2B.GroupStatusData) :
    (apiStep s (.recv (.groupStatus (.status l)))).1.pollOrphans = s.pollOrphans ++ s.pollCur.toList ∧
    (apiStep s (.recv (.groupStatus (.status l)))).1.pollCur = some (s.now + Api4.GROUP_STATUS_TIMEOUT) :=
  recv_completes_polls hsub ((completes_iff _ _).mpr ⟨hst, l, rfl⟩)

/-- **every poll task keeps polling with its own phase**: in any reachable state with the socket open, during `adv n`
    the task with deadline `d` - the current one or an orphan - sends at `d`, `d + 2400`, … (while the socket is
    connected) and re-arms; the number of group-status requests is the sum over all of them -/
theorem poll_requests_orphans_at4 (s : State) (h : Reach4 s) (n : Nat) (hopen : s.sockOpen = true) :
    (apiStep s (.adv n)).2.count pollEv =
      (if s.sockConnected then
        ((s.pollOrphans ++ s.pollCur.toList).map
          (fun d => deadlinesUpTo d Api4.GROUP_STATUS_TIMEOUT (s.now + n))).sum
       else 0) ∧
    (apiStep s (.adv n)).1.pollCur =
      s.pollCur.map (fun d => d + Api4.GROUP_STATUS_TIMEOUT * deadlinesUpTo d Api4.GROUP_STATUS_TIMEOUT (s.now + n)) ∧
    (apiStep s (.adv n)).1.pollOrphans =
      s.pollOrphans.map (fun d => d + Api4.GROUP_STATUS_TIMEOUT * deadlinesUpTo d Api4.GROUP_STATUS_TIMEOUT (s.now + n)) := by
  obtain ⟨p1, p2, p3⟩ := advance_polls_closed n s (fun _ => hopen) (reach_ahead h).all
  exact ⟨p3, p1, p2⟩

/-- a group status in `CONNECTED` re-arms them all to the same deadline: from then on the orphans poll in unison with
    the current task (`k` orphans: `k + 1` requests every 300 s) -/
theorem orphans_in_unison_at4 (s : State) (h : Reach4 s) (hst : s.st = .CONNECTED) (l : List X2B.GroupStatusData)
    (n : Nat) (hconn : s.sockConnected = true) :
    (apiStep (apiStep s (.recv (.groupStatus (.status l)))).1 (.adv n)).2.count pollEv =
      (s.pollOrphans.length + 1) * deadlinesUpTo (s.now + Api4.GROUP_STATUS_TIMEOUT) Api4.GROUP_STATUS_TIMEOUT (s.now + n) := by
  have f := reach_sockFacts h
  have hne : s.st ≠ .CLOSED := by rw [hst]; intro h; cases h
  have hsub := f.subscribed hne
  have hopen := f.open_iff.mpr hne
  obtain ⟨r1, r2⟩ := group_status_rearms_at4 s hst hsub l
  have h' : Reach4 (apiStep s (.recv (.groupStatus (.status l)))).1 := h.step _
  have hs := recv_sock s (.groupStatus (.status l))
  obtain ⟨p1, _, _⟩ := poll_requests_orphans_at4 _ h' n (hs.sockOpen.trans hopen)
  rw [p1, show (apiStep s (.recv _)).1.sockConnected = true from hs.sockConnected.trans hconn, r1, r2,
    show (apiStep s (.recv _)).1.now = s.now from hs.now]
  simp only [↓reduceIte]
  have hp : s.pollCur.isSome = true := by rw [f.poll_iff]; exact f.connected_init hst
  cases hc : s.pollCur with
  | none => rw [hc] at hp; cases hp
  | some d0 =>
    simp only [Option.map_some, Option.toList_some, List.map_append, List.map_map, List.map_cons, List.map_nil,
      List.sum_append, List.sum_cons, List.sum_nil, Nat.add_zero]
    rw [show (List.map ((fun d => deadlinesUpTo d Api4.GROUP_STATUS_TIMEOUT (s.now + n)) ∘
        fun x => s.now + Api4.GROUP_STATUS_TIMEOUT) s.pollOrphans) =
      s.pollOrphans.map (fun _ => deadlinesUpTo (s.now + Api4.GROUP_STATUS_TIMEOUT) Api4.GROUP_STATUS_TIMEOUT (s.now + n))
      from rfl, List.map_const', List.sum_replicate_nat, Nat.add_mul, Nat.one_mul]

/-- **an orphan on a shut-down object**: `shutdown()` does not cancel it.  While the socket is not connected it
    re-arms silently every 300 s (`poll_requests_orphans_at4` with `sockConnected = false` needs an open socket;
    this one does not); if the closed socket reports a connection (`conn 1` after `shutdown()`), it dies at its
    deadline without sending (`NotOpenError`). -/
theorem orphan_dies_at4 (s : State) (h : Reach4 s) (n : Nat) (hopen : s.sockOpen = false) :
    (apiStep s (.adv n)).2.count pollEv = 0 ∧
    (s.sockConnected = true →
      (apiStep s (.adv n)).1.pollOrphans = s.pollOrphans.filter (fun d => decide (s.now + n < d))) ∧
    (s.sockConnected = false →
      (apiStep s (.adv n)).1.pollOrphans =
        s.pollOrphans.map (fun d => d + Api4.GROUP_STATUS_TIMEOUT * deadlinesUpTo d Api4.GROUP_STATUS_TIMEOUT (s.now + n))) := by
  have a := reach_ahead h
  have hcl := (closed_iff_not_open h).mp hopen
  refine ⟨advance_polls_silent n s (.inr hopen), ?_, ?_⟩
  · intro hc
    exact (advance_polls_dead n s hc hopen (fun d hd => (a.orphans d hd).1)).1
  · intro hc
    exact (advance_polls_closed n s (by rw [hc]; intro h; cases h) a.all).2.1

/-! ### non-vacuity -/

example : ReachD4 demo := demo_reachD

example : demo.st = .CONNECTED ∧ demo.sockConnected = true ∧ demo.pollCur = some 2400 ∧ demo.now = 0 :=
  ⟨demo_connected, demo_connectedSock, demo_poll, demo_now⟩

example : (apiStep demo (.adv 7200)).2.count pollEv = 3 := by
  rw [(poll_requests_disciplined_at4 demo demo_reachD 7200 2400 demo_poll demo_connectedSock).1, demo_now]; decide

example : 3 ≤ (apiStep demo (.adv 7200)).2.count pollEv :=
  (poll_rate_at4 demo demo_reachD demo_connected demo_connectedSock 7200).1

namespace At4

/-- the discipline violated: a handshake, 100 ticks, `init()` again without `shutdown()`, the handshake again -/
def twoPolls : State :=
  (run State.initial (demoOps ++ [.adv 100, .init, .conn true] ++ demoAnswers.map Op.recv)).1

theorem twoPolls_reach : Reach4 twoPolls := ⟨_, rfl⟩

example : twoPolls.pollOrphans = [2400] ∧ twoPolls.pollCur = some 2500 ∧ twoPolls.now = 100 ∧
    twoPolls.sockOpen = true ∧ twoPolls.sockConnected = true ∧ twoPolls.st = .CONNECTED := by
  rw [show twoPolls = _ from run_fst_eq_J _ _]; decide

/-- within the next 300 s two group-status requests instead of one: the orphan's at tick 2400, the current task's at
    2500 -/
example : (apiStep twoPolls (.adv 2400)).2.count pollEv = 2 := by
  have e : twoPolls = _ := run_fst_eq_J _ _
  rw [(poll_requests_orphans_at4 twoPolls twoPolls_reach 2400 (by rw [e]; decide)).1, e]; decide

/-- … and after `shutdown()` and a stale `conn 1` the orphan is gone once its deadline has passed -/
example : (run twoPolls [.shutdown, .conn true]).1.pollOrphans = [2400] ∧
    (run twoPolls [.shutdown, .conn true]).1.sockOpen = false ∧
    (run twoPolls [.shutdown, .conn true]).1.sockConnected = true := by
  rw [show twoPolls = _ from run_fst_eq_J _ _]; decide

example : (apiStep (run twoPolls [.shutdown, .conn true]).1 (.adv 2300)).1.pollOrphans = [] := by
  have e : twoPolls = _ := run_fst_eq_J _ _
  rw [(orphan_dies_at4 _ (twoPolls_reach.run _) 2300 (by rw [e]; decide)).2.1 (by rw [e]; decide), e]; decide

/-- after a group status in `CONNECTED` both tasks have the deadline 100 + 2400: two requests at tick 2500 -/
example : (apiStep (apiStep twoPolls (.recv (.groupStatus (.status [])))).1 (.adv 2400)).2.count pollEv = 2 := by
  have e : twoPolls = _ := run_fst_eq_J _ _
  rw [orphans_in_unison_at4 twoPolls twoPolls_reach (by rw [e]; decide) [] 2400 (by rw [e]; decide), e]; decide

/-- the state in which the second handshake's last answer arrives: the first handshake's poll task is alive -/
def beforeSecondCompletion : State :=
  (run State.initial (demoOps ++ [.init, .conn true] ++ (demoAnswers.take 5).map Op.recv)).1

example : beforeSecondCompletion.subscribed = true ∧ beforeSecondCompletion.st = .INIT_GROUP_STATUS ∧
    beforeSecondCompletion.pollCur = some 2400 ∧ beforeSecondCompletion.pollOrphans = [] := by decide

example : (apiStep beforeSecondCompletion (.recv (.groupStatus (.status [demoGroup])))).1.pollOrphans = [2400] :=
  (orphaned_by_completion_at4 beforeSecondCompletion (by decide) (by decide) [demoGroup]).1

/-- the disciplined demo state after a connection loss: nothing is polled -/
def demoDown : State := (run State.initial (demoOps ++ [.conn false])).1

theorem demoDown_reachD : ReachD4 demoDown := ⟨_, by decide, rfl⟩

example : demoDown.sockConnected = false ∧ demoDown.pollCur = some 2400 := by decide

example : (apiStep demoDown (.adv 100000)).2.count pollEv = 0 :=
  poll_disconnected_disciplined_at4 demoDown demoDown_reachD 100000 (by decide)

example : (apiStep demo (.adv 2399)).2.count pollEv = 0 ∧ (apiStep demo (.adv 2400)).2.count pollEv = 1 := by
  have h := poll_at_deadline_disciplined_at4 demo demo_reachD 2400 demo_poll demo_connectedSock
  rw [demo_now] at h
  exact ⟨h.1, h.2.1⟩

example : demo.pollOrphans = [] ∧ demo.sockOpen = true := by
  obtain ⟨h1, _, h3⟩ := poll_task_at4 demo demo_reachD
  exact ⟨h1, (h3 demo_connected).1⟩

end At4

end PyAirtouch.Props.C14
