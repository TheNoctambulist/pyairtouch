import PyAirtouch.Lemmas.Hdr
import PyAirtouch.Model.At4.Registry
/-! # C06 — receive path: what the check covers, and damaged frames are never delivered

`C06_delivered_only_if_valid` and `C06_bad_check_rejected` are stated again, under C17, as
`C17_delivered_only_if_valid` and `C17_bad_crc_rejected` (`Props/C17.lean`). -/
namespace PyAirtouch.Props.C06

/-- the check covers address … payload: for AirTouch 4 the header bytes after the 2-byte prefix -/
theorem C06_span_at4 : type_of% @PyAirtouch.Lemmas.Frame.at4_hdr_checksum_span := @PyAirtouch.Lemmas.Frame.at4_hdr_checksum_span
/-- … for AirTouch 5 the last six header bytes (the outer header and both prefixes are excluded) -/
theorem C06_span_at5 : type_of% @PyAirtouch.Lemmas.Frame.at5_hdr_checksum_span := @PyAirtouch.Lemmas.Frame.at5_hdr_checksum_span
/-- whatever the byte stream: a frame reaches the decoder and the subscribers only if `validate` accepted its check bytes -/
theorem C06_delivered_only_if_valid : type_of% @PyAirtouch.Lemmas.Frame.parseOne_deliver_valid :=
  @PyAirtouch.Lemmas.Frame.parseOne_deliver_valid
/-- a frame whose check bytes do not validate is rejected (the read loop then resets the connection, see C17_reject_resets) -/
theorem C06_bad_check_rejected : type_of% @PyAirtouch.Lemmas.Frame.parseOne_bad_crc := @PyAirtouch.Lemmas.Frame.parseOne_bad_crc

-- non-vacuity: the vendor frame with one flipped payload-side bit is rejected by the AirTouch 4 receive path
open PyAirtouch.Model in
example : (match Frame.parseOne At4.Registry.proto [0x55, 0x55, 0x80, 0xb0, 0x01, 0x2b, 0x00, 0x00, 0xf5, 0x2e] with | .reject none => true | _ => false) = true := by
  decide +kernel

end PyAirtouch.Props.C06
