import PyAirtouch.Lemmas.Registry4
import PyAirtouch.Lemmas.Registry5
import PyAirtouch.Model.Sock
/-!
# C17 — unknown and malformed input is tolerated, never misread

* `…_decodeMsg_unknown` / `…_decodeMsg_unknown_sub` / `C17_g5_decodeMsg_unknown_cs` — for EVERY unregistered type byte, 0x1F sub-id and 0xC0
  sub-type and every payload: the result is an unsupported message carrying the payload unchanged, nothing left
  over (so the frame is delivered and the connection untouched).
* `…_decodeMsg_unsupported_inv` — conversely an unsupported result can only come from an unregistered id and carries exactly
  the declared payload.
* `C17_delivered_only_if_valid`, `C17_bad_crc_rejected` (the statements of `C06_delivered_only_if_valid`,
  `C06_bad_check_rejected` in `Props/C06Frame.lean`, under this property's name) — whatever the byte stream, a message is delivered only if its header decoded, the
  check value validated and the registered decoder accepted exactly the declared payload (`parseOne` is a total
  function: every other stream is `needMore` or `reject`).  The two `while offset < length` decoders terminate
  (`At4.FF11.decLoop` and `At5.FF11.decLoop` are defined by well-founded recursion with a proved decrease:
  every iteration advances by `2 + following length`).
* `C17_reject_resets` — in the socket model a rejected frame (`readBad`) or any exception out of the read path
  (`readErr`) makes the read task run `reset_connection`; it never simply dies (C07 gives the rest).
-/
namespace PyAirtouch.Props.C17
theorem C17_g4_decodeMsg_unknown : type_of% @PyAirtouch.Lemmas.Registry4.decodeMsg_unknown := @PyAirtouch.Lemmas.Registry4.decodeMsg_unknown
theorem C17_g4_decodeMsg_unknown_sub : type_of% @PyAirtouch.Lemmas.Registry4.decodeMsg_unknown_sub := @PyAirtouch.Lemmas.Registry4.decodeMsg_unknown_sub
theorem C17_g4_decodeMsg_unknown_sub' : type_of% @PyAirtouch.Lemmas.Registry4.decodeMsg_unknown_sub' := @PyAirtouch.Lemmas.Registry4.decodeMsg_unknown_sub'
theorem C17_g4_decodeMsg_unsupported_inv : type_of% @PyAirtouch.Lemmas.Registry4.decodeMsg_unsupported_inv := @PyAirtouch.Lemmas.Registry4.decodeMsg_unsupported_inv
theorem C17_g5_decodeMsg_unknown : type_of% @PyAirtouch.Lemmas.Registry5.decodeMsg_unknown := @PyAirtouch.Lemmas.Registry5.decodeMsg_unknown
theorem C17_g5_decodeMsg_unknown_sub : type_of% @PyAirtouch.Lemmas.Registry5.decodeMsg_unknown_sub := @PyAirtouch.Lemmas.Registry5.decodeMsg_unknown_sub
theorem C17_g5_decodeMsg_unknown_sub' : type_of% @PyAirtouch.Lemmas.Registry5.decodeMsg_unknown_sub' := @PyAirtouch.Lemmas.Registry5.decodeMsg_unknown_sub'
theorem C17_g5_decodeMsg_unknown_cs : type_of% @PyAirtouch.Lemmas.Registry5.decodeMsg_unknown_cs := @PyAirtouch.Lemmas.Registry5.decodeMsg_unknown_cs
theorem C17_g5_decodeMsg_unsupported_inv : type_of% @PyAirtouch.Lemmas.Registry5.decodeMsg_unsupported_inv := @PyAirtouch.Lemmas.Registry5.decodeMsg_unsupported_inv
theorem C17_delivered_only_if_valid : type_of% @PyAirtouch.Lemmas.Frame.parseOne_deliver_valid :=
  @PyAirtouch.Lemmas.Frame.parseOne_deliver_valid
theorem C17_bad_crc_rejected : type_of% @PyAirtouch.Lemmas.Frame.parseOne_bad_crc := @PyAirtouch.Lemmas.Frame.parseOne_bad_crc

open PyAirtouch.Model.Sock in
/-- a frame that fails the CRC or the decoder (`readBad`) and any other exception of the read path (`readErr`)
    lead the read task into `reset_connection`.  The continuation `.disconnect (.resetTail r)` is that coroutine:
    close the writer and wait for `connection_lost` (`disconnect`), tell the subscribers the connection is down, then
    (`resetTail`) spawn a new `_connect` task if the socket is still open, and go on with `r`: back to the read loop
    (`readLoop`, which ends because there is no reader any more) after `readBad`, finished (`done`) after `readErr`. -/
theorem C17_reject_resets (s : Sys) (t c : Nat) (h : pcAt s t = some (.readWait c)) :
    step s (.run t .readBad) = some (upd s t (exec FUEL s.core [] (.disconnect (.resetTail .readLoop)))) ∧
    step s (.run t .readErr) = some (upd s t (exec FUEL s.core [] (.disconnect (.resetTail .done)))) := by
  simp [step, h]

-- non-vacuity: an unregistered type byte 0x77 with a 3-byte payload on AirTouch 4
open PyAirtouch.Model.At4.Registry in
example : decodeMsg ⟨0xB0, 0x80, 1, 0x77, 3⟩ [1, 2, 3] = .ok (.unsupported 0x77 [1, 2, 3], []) := by decide +kernel

end PyAirtouch.Props.C17
