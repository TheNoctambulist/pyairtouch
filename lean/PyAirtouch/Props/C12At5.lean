import PyAirtouch.Lemmas.Api5Step
import PyAirtouch.Lemmas.Api5Subs
/-!
# C12 (AirTouch 5) — subscriber notifications

A subscriber is identified by its `sid` within one subscriber set (the AirTouch object's, an AC's general or
AC-state set, a zone's).  All statements hold for every state of the model; "object `r`" is the AC / zone object a
dict entry or the public look-up resolves to.

* a report that changes nothing notifies nobody, a report that changes an entity notifies exactly that entity's
  subscribers (once each), with that entity's id;
* a zone change is forwarded to the *general* subscribers of the AC objects the zone is attached to, with the AC's id,
  never to AC-state subscribers;
* subscribing twice is subscribing once; after unsubscribing the subscriber is in the set no more, so it is not
  notified again;
* whether a subscriber raises is not part of the model's state: `apiStep` ignores the flag (the differential run
  checks that the real object behaves like that).
-/
namespace PyAirtouch.Props.C12
open PyAirtouch.Model PyAirtouch.Model.Api5 PyAirtouch.Model.At5 PyAirtouch.Model.At5.Registry
open PyAirtouch.Model.TimerCommon (AcTimerState AcTimerStatusData)
open PyAirtouch.Gen PyAirtouch.Gen.Api5 PyAirtouch.Lemmas.Api5

/-! ## 1. notified iff changed, with the right id -/

/-- one zone record while CONNECTED: silent when nothing changed; otherwise the zone's subscribers with the zone id and
the general subscribers of the attached AC objects -/
theorem C12_zone_notified_iff_changed_at5 (s : State) (toAddr : Nat) (d : C021.ZoneStatusData) (r : Nat) (z : ZoneObj)
    (hsub : s.sockSubscribed = true) (hst : s.st = .CONNECTED)
    (hr : s.zones.lookup d.zone_number = some r) (hz : s.zobjs[r]? = some z) :
    (apiStep s (.msg toAddr (.controlStatus (.zoneStatus (.status [d]))))).2 =
      if z.status = d then []
      else z.subs.map (fun sid => Out.notifyZone d.zone_number sid) ++ fwdNotify s.aobjs z.fwd := by
  rw [apiStep_zoneStatus_connected s toAddr [d] hsub hst]
  simp [runSteps, zoneStatusStep, hr, hz, zoneStatusOut, zoneNotify, zoneAfterStatus, ZoneObj.id]

/-- forwarding reaches general subscribers only, and carries the AC's id -/
theorem C12_zone_forwarding_general_only_at5 (aobjs : List AcObj) (fwd : List Nat) (o : Out) :
    o ∈ fwdNotify aobjs fwd ↔
      ∃ r ∈ fwd, ∃ a, aobjs[r]? = some a ∧ ∃ sid ∈ a.subs, o = .notifyAc a.id false sid :=
  mem_fwdNotify aobjs fwd o

def exAbility : FF11.AcAbility :=
  { ac_number := 1, ac_name := [], start_zone := 0, zone_count := 1, ac_mode_support := [], fan_speed_support := [],
    min_cool_set_point := 17, max_cool_set_point := 30, min_heat_set_point := 16, max_heat_set_point := 28 }

def exAc : AcObj := { newAc exAbility [0] [.HEAT] [.LOW] with subs := ["g"], subsState := ["t"] }

/-- AC 1 (general subscriber "g", state subscriber "t") with zone 3 (subscriber "z"); AirTouch subscriber "a" -/
def exState : State :=
  { State.new [97] [] [] [] with
    st := .CONNECTED, sockOpen := true, sockSubscribed := true, subs := ["a"],
    aobjs := [exAc], acs := [(1, 0)],
    zobjs := [{ newZone 3 [] with fwd := [0], subs := ["z"] }], zones := [(3, 0)] }

def exZoneRec (damper : Nat) : C021.ZoneStatusData := { (newZone 3 []).status with damper_percentage := damper }

/-- a changed zone record notifies "z" with zone id 3 and "g" (not "t") with AC id 1; the same record again is silent -/
example :
    (apiStep exState (.msg 176 (.controlStatus (.zoneStatus (.status [exZoneRec 40]))))).2 =
      [.notifyZone 3 "z", .notifyAc 1 false "g"] ∧
    (apiStep (apiStep exState (.msg 176 (.controlStatus (.zoneStatus (.status [exZoneRec 40]))))).1
      (.msg 176 (.controlStatus (.zoneStatus (.status [exZoneRec 40]))))).2 = [] := by decide +kernel

/-- one AC status record while CONNECTED: silent when nothing changed; otherwise (after the error-information request,
if the record has an error code) the AC's general and AC-state subscribers, with the AC id -/
theorem C12_ac_notified_iff_changed_at5 (s : State) (toAddr : Nat) (d : C023.AcStatusData) (r : Nat) (a : AcObj)
    (hsub : s.sockSubscribed = true) (hst : s.st = .CONNECTED) (hopen : s.sockOpen = true)
    (hr : s.acRef d.ac_number = some r) (ha : s.aobjs[r]? = some a) :
    (apiStep s (.msg toAddr (.controlStatus (.acStatus (.status [d]))))).2 =
      if a.status = d then []
      else (if d.error_code ≠ 0 then [.send .connected (msgErrInfoRequest d.ac_number) false] else []) ++
        (a.subs.map (fun sid => Out.notifyAc d.ac_number false sid) ++
         a.subsState.map (fun sid => Out.notifyAc d.ac_number true sid)) := by
  rw [apiStep_acStatus_connected s toAddr [d] hsub hst hopen]
  simp only [runSteps, acStatusStep, hr, ha, acStatusOut, List.append_nil]
  by_cases h1 : a.status = d
  · simp [h1]
  · by_cases h2 : d.error_code ≠ 0 <;>
      simp [h1, h2, acNotifyAll, acNotifyGeneral, acAfterStatus, AcObj.id]

example :
    (apiStep exState (.msg 176 (.controlStatus (.acStatus (.status [{ exAc.status with set_point := 215 }]))))).2 =
      [.notifyAc 1 false "g", .notifyAc 1 true "t"] ∧
    (apiStep exState (.msg 176 (.controlStatus (.acStatus (.status [exAc.status]))))).2 = [] := by decide +kernel

/-- one AC timer record while CONNECTED -/
theorem C12_ac_timer_notified_iff_changed_at5 (s : State) (toAddr : Nat) (d : AcTimerStatusData) (r : Nat) (a : AcObj)
    (hsub : s.sockSubscribed = true) (hst : s.st = .CONNECTED)
    (hr : s.acRef d.ac_number = some r) (ha : s.aobjs[r]? = some a) :
    (apiStep s (.msg toAddr (.controlStatus (.acTimerStatus (.status [d]))))).2 =
      if a.timer = d then []
      else a.subs.map (fun sid => Out.notifyAc a.id false sid) ++ a.subsState.map (fun sid => Out.notifyAc a.id true sid) := by
  rw [apiStep_acTimer_connected s toAddr [d] hsub hst]
  simp only [runSteps, acTimerStep, hr, ha, acTimerOut, List.append_nil]
  by_cases h1 : a.timer = d <;> simp [h1, acNotifyAll, acNotifyGeneral, acAfterTimer, AcObj.id]

example : (apiStep exState (.msg 176 (.controlStatus (.acTimerStatus (.status [⟨1, ⟨false, 7, 0⟩, ⟨true, 0, 0⟩⟩]))))).2 =
    [.notifyAc 1 false "g", .notifyAc 1 true "t"] := by decide +kernel

/-- error information (any state) -/
theorem C12_error_info_notified_iff_changed_at5 (s : State) (toAddr : Nat) (e : FF10.AcErrorInformationMessage)
    (r : Nat) (a : AcObj) (hsub : s.sockSubscribed = true)
    (hr : s.acRef e.ac_number = some r) (ha : s.aobjs[r]? = some a) :
    (apiStep s (.msg toAddr (.extended (.errInfo (.message e))))).2 =
      if a.errInfo = e.error_info then []
      else a.subs.map (fun sid => Out.notifyAc a.id false sid) ++ a.subsState.map (fun sid => Out.notifyAc a.id true sid) := by
  rw [apiStep_errInfo s toAddr e hsub hr ha]
  by_cases h1 : a.errInfo = e.error_info <;>
    simp [h1, acErrInfoOut, acNotifyAll, acNotifyGeneral, acAfterErrInfo, AcObj.id]

example : (apiStep exState (.msg 176 (.extended (.errInfo (.message ⟨1, some [69]⟩))))).2 =
    [.notifyAc 1 false "g", .notifyAc 1 true "t"] := by decide +kernel

/-- console version while CONNECTED: the AirTouch object's subscribers are notified iff it changed -/
theorem C12_console_version_notified_iff_changed_at5 (s : State) (toAddr : Nat) (v : FF30.ConsoleVersionMessage)
    (hsub : s.sockSubscribed = true) (hst : s.st = .CONNECTED) (o : Out) (ho : o.isNotify = true) :
    o ∈ (apiStep s (.msg toAddr (.extended (.consoleVer (.message v))))).2 ↔
      (s.consoleVersion ≠ v ∧ ∃ sid ∈ s.subs, o = .notifyAt sid) := by
  simp only [apiStep]
  rw [doMsg_notify_mem s toAddr _ o ho]
  rw [handleMessage_consoleVer_connected s toAddr v hst, processConsoleVersionUpdate_spec]
  by_cases hv : s.consoleVersion = v
  · simp [hsub, hv]
  · simp only [hsub, hv, if_false, List.mem_map, ne_eq, not_false_eq_true, true_and]
    constructor
    · rintro ⟨x, hx, rfl⟩; exact ⟨x, hx, rfl⟩
    · rintro ⟨x, hx, rfl⟩; exact ⟨x, hx, rfl⟩

example : (apiStep exState (.msg 176 (.extended (.consoleVer (.message ⟨true, [[49]]⟩))))).2 = [.notifyAt "a"] := by decide +kernel

/-! ## 2. subscribe is idempotent -/

theorem C12_subscribe_idempotent_at5 (s : State) (t : Target) (sid : String) (r r' : Bool) :
    (apiStep (apiStep s (.sub t sid r)).1 (.sub t sid r')).1 = (apiStep s (.sub t sid r)).1 ∧
    (apiStep (apiStep s (.sub t sid r)).1 (.sub t sid r')).2 = (apiStep s (.sub t sid r)).2 := by
  simp only [apiStep, subTarget]
  cases t with
  | «at» => simp [subAdd_idem]
  | ac id st =>
    cases h : s.ac? id with
    | none => simp [h]
    | some ra => cases st <;> simp [h, ac?_setAc h, setAc_setAc, subAdd_idem]
  | zone id =>
    cases h : s.zone? id with
    | none => simp [h]
    | some rz =>
      obtain ⟨ref, z⟩ := rz
      simp only [h]
      have h2 := zone?_setZone (z' := { z with subs := subAdd z.subs sid }) h rfl
      simp only [h2, setZone_setZone, subAdd_idem, and_self]

/-- the set after subscribing contains the subscriber exactly once when it was duplicate-free -/
theorem C12_subscribe_set_at5 (l : List Sub) (sid : Sub) (h : l.Nodup) :
    (subAdd l sid).Nodup ∧ (∀ y, y ∈ subAdd l sid ↔ y ∈ l ∨ y = sid) :=
  ⟨subAdd_nodup l sid h, mem_subAdd l sid⟩

example : (apiStep (apiStep exState (.sub (.zone 3) "y" false)).1 (.sub (.zone 3) "y" true)).1.zobjs[0]?.map (·.subs) =
    some ["z", "y"] := by decide +kernel

/-! ## 3. unsubscribe stops notifications -/

/-- after `unsub` the subscriber is not in the target's set (and nothing else about the target changes) -/
theorem C12_unsubscribe_removes_at5 (s : State) (sid : String) :
    (sid ∉ (apiStep s (.unsub .at sid)).1.subs) ∧
    (∀ id st ref a, s.ac? id = some (ref, a) →
      (apiStep s (.unsub (.ac id st) sid)).1.ac? id =
        some (ref, if st then { a with subsState := subDel a.subsState sid } else { a with subs := subDel a.subs sid })) ∧
    (∀ id ref z, s.zone? id = some (ref, z) →
      (apiStep s (.unsub (.zone id) sid)).1.zone? id = some (ref, { z with subs := subDel z.subs sid })) := by
  refine ⟨?_, ?_, ?_⟩
  · simp [apiStep, subTarget, not_mem_subDel]
  · intro id st ref a h
    simp only [apiStep, subTarget, h]
    exact ac?_setAc h
  · intro id ref z h
    simp only [apiStep, subTarget, h]
    exact zone?_setZone h rfl

/-- … hence a later change of that zone does not notify it: no `NOTIFY zone … sid` for that object -/
theorem C12_unsubscribed_zone_silent_at5 (s : State) (toAddr : Nat) (sid : String) (id ref : Nat) (z : ZoneObj)
    (d : C021.ZoneStatusData) (hsub : s.sockSubscribed = true) (hst : s.st = .CONNECTED)
    (hz : s.zone? id = some (ref, z)) (hr : s.zones.lookup d.zone_number = some ref) :
    Out.notifyZone d.zone_number sid ∉
      (apiStep (apiStep s (.unsub (.zone id) sid)).1 (.msg toAddr (.controlStatus (.zoneStatus (.status [d]))))).2 := by
  have h1 : (apiStep s (.unsub (.zone id) sid)).1 = s.setZone ref { z with subs := subDel z.subs sid } := by
    simp [apiStep, subTarget, hz]
  rw [h1]
  have hz' := (zone?_eq.1 (zone?_setZone (z' := { z with subs := subDel z.subs sid }) hz rfl)).2
  rw [C12_zone_notified_iff_changed_at5 (s.setZone ref { z with subs := subDel z.subs sid }) toAddr d ref _ hsub hst hr hz']
  split
  · simp
  · simp only [List.mem_append, List.mem_map, not_or]
    refine ⟨?_, ?_⟩
    · rintro ⟨x, hx, hxe⟩
      cases hxe
      exact not_mem_subDel _ _ hx
    · intro h
      obtain ⟨_, _, he⟩ := fwdNotify_notifyAc h
      cases he

example : (apiStep (apiStep exState (.unsub (.zone 3) "z")).1
    (.msg 176 (.controlStatus (.zoneStatus (.status [exZoneRec 40]))))).2 = [.notifyAc 1 false "g"] := by decide +kernel

/-! ## 4. a raising subscriber is isolated -/

/-- the model's state has no record of whether a subscriber raises, and `sub` ignores the flag: nothing the model does
afterwards can depend on it -/
theorem C12_raising_subscriber_isolated_at5 (s : State) (t : Target) (sid : String) :
    apiStep s (.sub t sid true) = apiStep s (.sub t sid false) := rfl

example : (apiStep (apiStep exState (.sub (.zone 3) "y" true)).1
    (.msg 176 (.controlStatus (.zoneStatus (.status [exZoneRec 40]))))).2 =
    [.notifyZone 3 "z", .notifyZone 3 "y", .notifyAc 1 false "g"] := by decide +kernel

end PyAirtouch.Props.C12
