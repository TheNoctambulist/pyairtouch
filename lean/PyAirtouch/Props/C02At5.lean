import PyAirtouch.Lemmas.Api5Policy
/-!
# C02 (AirTouch 5) — which retry policy every message of the API layer is sent with

For every state and every op of the model `Model.Api5.apiStep`:

* user commands (`call …`) are sent with `retryNonIdempotent` exactly when the message accumulates on the console
  (AC power TOGGLE; a zone power TOGGLE or a ±step setting, which the AirTouch 5 public API cannot produce), with
  `retryIdempotent` otherwise (`check_for_updates` included);
* everything the connection handler, the frame handler and the timers send — handshake requests, the refresh after a
  reconnect, error-information requests, heartbeats — is one of the seven request messages, with `retryConnected`;
* all other ops send nothing.
-/
namespace PyAirtouch.Props.C02
open PyAirtouch.Model PyAirtouch.Model.Api5 PyAirtouch.Model.At5 PyAirtouch.Model.At5.Registry
open PyAirtouch.Gen PyAirtouch.Gen.Api5 PyAirtouch.Lemmas.Api5

/-- the three policies are the socket module's constants -/
theorem C02_policy_values_at5 :
    Policy.idempotent.value = Gen.retryIdempotent ∧ Policy.nonIdempotent.value = Gen.retryNonIdempotent ∧
    Policy.connected.value = Gen.retryConnected := ⟨rfl, rfl, rfl⟩

/-- the policy of every message sent by any op, in any state -/
theorem C02_policy_table_at5 (s : State) (op : Op) (p : Policy) (m : Msg) (b : Bool)
    (h : Out.send p m b ∈ (apiStep s op).2) : p = expectedPolicy op m := by
  have := apiStep_send s op p m b h
  cases op <;> first | exact this | exact this.1

def exAbility : FF11.AcAbility :=
  { ac_number := 1, ac_name := [], start_zone := 0, zone_count := 0, ac_mode_support := [], fan_speed_support := [],
    min_cool_set_point := 17, max_cool_set_point := 30, min_heat_set_point := 16, max_heat_set_point := 28 }

def exState : State :=
  { State.new [] [] [] [] with
    st := .CONNECTED, sockOpen := true, sockSubscribed := true,
    aobjs := [newAc exAbility [] [.HEAT] [.LOW]], acs := [(1, 0)] }

/-- TOGGLE goes out NON_IDEMPOTENT, TURN_ON IDEMPOTENT, the refresh after a reconnect CONNECTED -/
example : (apiStep exState (.callAc 1 (.setPower .TOGGLE))).2 =
      [.send .nonIdempotent (msgAcControl ⟨1, .TOGGLE, .UNCHANGED, .UNCHANGED, none⟩) false, .result "OK"] ∧
    (apiStep exState (.callAc 1 (.setPower .TURN_ON))).2 =
      [.send .idempotent (msgAcControl ⟨1, .TURN_ON, .UNCHANGED, .UNCHANGED, none⟩) false, .result "OK"] ∧
    (apiStep exState (.conn true)).2 =
      [.send .connected msgAcStatusRequest false, .send .connected msgZoneStatusRequest false] ∧
    (apiStep exState .callAt).2 = [.send .idempotent msgConsoleVersionRequest false, .result "OK"] := by decide +kernel

/-- what the handlers and timers send (ops other than `call`) is always one of the request messages -/
theorem C02_connected_sends_are_requests_at5 (s : State) (op : Op) (p : Policy) (m : Msg) (b : Bool)
    (hop : ∀ id c, op ≠ .callAc id c) (hop' : ∀ id c, op ≠ .callZone id c) (hat : op ≠ .callAt)
    (h : Out.send p m b ∈ (apiStep s op).2) : p = .connected ∧ isRequest m = true := by
  have := apiStep_send s op p m b h
  cases op <;> first | exact this | exact absurd rfl hat | exact absurd rfl (hop _ _) | exact absurd rfl (hop' _ _)

/-- a changed AC status with an error code: the error-information request goes out CONNECTED -/
example : (apiStep exState (.msg 176 (.controlStatus (.acStatus (.status
    [{ (newAc exAbility [] [] []).status with error_code := 5 }]))))).2 =
    [.send .connected (msgErrInfoRequest 1) false] := by decide +kernel

/-- the AirTouch 5 public API cannot produce an accumulating zone command: zone calls are never NON_IDEMPOTENT -/
theorem C02_zone_calls_idempotent_at5 (s : State) (id : Nat) (c : ZoneCall) (p : Policy) (m : Msg) (b : Bool)
    (h : Out.send p m b ∈ (apiStep s (.callZone id c)).2) : p = .idempotent := by
  obtain ⟨_, z, _, h⟩ := callZone_send_mem h
  exact zoneCall_zonePol _ z c _ h

/-- AC calls are NON_IDEMPOTENT exactly for `set_power(TOGGLE)` -/
theorem C02_ac_toggle_only_at5 (s : State) (id : Nat) (c : AcCall) (p : Policy) (m : Msg) (b : Bool)
    (h : Out.send p m b ∈ (apiStep s (.callAc id c)).2) : p = .nonIdempotent ↔ c = .setPower .TOGGLE := by
  obtain ⟨_, a, _, h⟩ := callAc_send_mem h
  exact acCall_acPol _ a c _ h

end PyAirtouch.Props.C02
