import PyAirtouch.Lemmas.SpecAgree5
/-!
# C05 (AirTouch 5): the decoder's reading equals the vendor reading

One section per message kind, each with non-vacuity examples (the vendor document's own example payload decoded by
both sides); proved from `PyAirtouch.Lemmas.SpecAgree5` (zone and AC status: the theorems of `StatusKind` at
`statusKind_C021`, `statusKind_C023`).

* model of the implementation's decoders: `PyAirtouch.Model.At5.*` (`decode`);
* vendor readers: `PyAirtouch.Spec.At5.*` (`readZoneStatus`, `readAcStatus`, `readZoneNames`, `readAcError`,
  `readConsoleVersion`, `readAcAbility`);
* `Agree<Kind>` (in `Lemmas.SpecAgree5`): the field correspondence of `harness/specmap.py`, relaxations as disjuncts;
* `RecordWise R xs ys`: same number of records, same order, `R` on each pair;
* `subHeader sub nr rl rc`: the 8 bytes `[sub, 0, nr_hi, nr_lo, rl_hi, rl_lo, rc_hi, rc_lo]` of a 0xC0 message.

0x1F kinds are decoded as the receive path does it: `message_length` = number of bytes present.

Hypotheses that had to be added to the literal "decoder ok ⟹ vendor reader ok and equal" (each necessary, see the
`…_needs_length` theorems):
* C021, C023: the announced data is present (`nr + rl * rc ≤ |b|`);
* FF10, FF30: the string length byte does not exceed the bytes present;
* FF11: none (the decoder advances by each record's "following data length", as the vendor reader does);
* FF13: none.
The `…_of_spec` forms need none of them: whenever BOTH sides read a payload they read the same.
The table of both generations (reader, added hypothesis, relaxations, witness of necessity per kind) is at the head of
`Props/C054.lean`.
-/
namespace PyAirtouch.Props.C05
open PyAirtouch.Model PyAirtouch.Lemmas PyAirtouch.Lemmas.SpecAgree5

/-! ## Zone status (0xC0 / 0x21) -/
section C021
open PyAirtouch.Model.At5.C021 PyAirtouch.Gen.At5.XC021ZoneStatus
open PyAirtouch.Spec.At5 (ZoneStatus readZoneStatus readZoneStatusRecord)

/-- **Zone status.**  For every sub data `b` of bytes and every header `(nr, rl, rc)`: if the decoder returns a status
message and consumes everything, the vendor reader applied to the 8-byte sub-header followed by `b` returns records
that agree with it one by one.  ADDED HYPOTHESIS `hlen` (the announced data is present: `nr + rl * rc ≤ |b|`): without it
the statement is false, see `C05_g5_decode_agrees_C021_needs_length` — the decoder reads the known 8 bytes of a
last record whose announced stride runs past the end, or zero records after announced normal data that is not
there, where the document's "Data length = 8 + normal + repeat length * repeat count" makes the vendor reader refuse. -/
theorem C05_g5_decode_agrees_C021 (b : Bytes) (nr rl rc : Nat) (hb : AllBytes b)
    (hlen : nr + rl * rc ≤ b.length) (zs : List ZoneStatusData)
    (h : decode b nr rl rc = .ok (.status zs, [])) :
    ∃ ss, readZoneStatus (subHeader 0x21 nr rl rc ++ b) = some ss ∧ RecordWise AgreeC021 zs ss :=
  SpecAgree5.statusKind_C021.decode_agrees b nr rl rc hb hlen zs h

/-- Whenever both sides read the payload, they read the same records. -/
theorem C05_g5_decode_agrees_C021_of_spec (b : Bytes) (nr rl rc : Nat) (hb : AllBytes b)
    (zs : List ZoneStatusData) (rest : Bytes) (ss : List ZoneStatus)
    (h : decode b nr rl rc = .ok (.status zs, rest))
    (hs : readZoneStatus (subHeader 0x21 nr rl rc ++ b) = some ss) : RecordWise AgreeC021 zs ss :=
  SpecAgree5.statusKind_C021.decode_agrees_of_spec b nr rl rc hb zs rest ss h hs

/-- An undefined zone power code (Byte1 Bit8-7 = 10, vendor reading `other n`) in any record makes the decoder raise. -/
theorem C05_g5_undefined_rejected_C021 (b : Bytes) (nr rl rc : Nat) (hb : AllBytes b) (ss : List ZoneStatus)
    (hs : readZoneStatus (subHeader 0x21 nr rl rc ++ b) = some ss)
    (hu : ∃ s ∈ ss, ∃ n, s.power = .other n) : ∃ e, decode b nr rl rc = .error e :=
  SpecAgree5.undefined_rejected_C021 b nr rl rc hb ss hs hu

/-- **Stride clause, decoder side.**  When the zone status decoder returns a message, the announced stride is at
least the known record size 8, there is one record per announced count, record `i` is what `decRec` reads at
offset `nonRepeat + i * stride` of the sub data, and what is left is everything after
`nonRepeat + stride * count`. -/
theorem C05_g5_stride_offsets_C021 (b : Bytes) (nr rl rc : Nat) (zs : List ZoneStatusData) (rest : Bytes)
    (h : decode b nr rl rc = .ok (.status zs, rest)) :
    8 ≤ rl ∧ zs.length = rc ∧ rest = b.drop (nr + rl * rc) ∧
      ∀ i, i < rc → ∃ z, zs[i]? = some z ∧ decRec (b.drop (nr + i * rl)) = .ok z :=
  SpecAgree5.stride_offsets_C021 b nr rl rc zs rest h

/-- **Stride clause, decoder side, converse**: for EVERY announced stride ≥ 8 (and a non-request header), if each
of the `count` offsets `nonRepeat + i * stride` holds a decodable record, the decoder returns a message. -/
theorem C05_g5_stride_accepted_C021 (b : Bytes) (nr rl rc : Nat) (h8 : 8 ≤ rl)
    (hrec : ∀ i, i < rc → ∃ z, decRec (b.drop (nr + i * rl)) = .ok z) :
    ∃ zs, decode b nr rl rc = .ok (.status zs, b.drop (nr + rl * rc)) :=
  SpecAgree5.stride_accepted_C021 b nr rl rc h8 hrec

/-- **Stride clause: a stride below the known record size is rejected** (unless the header is the request form
`repeat_length = 0 ∧ repeat_count = 0`). -/
theorem C05_g5_stride_below_known_size_rejected_C021 (b : Bytes) (nr rl rc : Nat) (h8 : rl < 8)
    (hreq : ¬ (rl = 0 ∧ rc = 0)) : decode b nr rl rc = .error .decodeError :=
  SpecAgree5.statusKind_C021.stride_below_rejected b nr rl rc h8 hreq

/-- **Stride clause, vendor side**: record `i` of the vendor reading is the documented 8-byte prefix of the block
of `stride` bytes at offset `normal + i * stride`. -/
theorem C05_g5_spec_stride_offsets_C021 (b : Bytes) (nr rl rc : Nat) (ss : List ZoneStatus)
    (h : readZoneStatus (subHeader 0x21 nr rl rc ++ b) = some ss) :
    8 ≤ rl ∧ b.length = nr + rl * rc ∧ ss.length = rc ∧
      ∀ i, i < rc → ∃ s, ss[i]? = some s ∧ readZoneStatusRecord (rawRec b nr rl i) = some s :=
  SpecAgree5.statusKind_C021.spec_stride_offsets b nr rl rc ss h

/-- the vendor reader rejects a stride below 8 as well -/
theorem C05_g5_spec_stride_below_known_size_rejected_C021 (b : Bytes) (nr rl rc : Nat) (h8 : rl < 8) :
    readZoneStatus (subHeader 0x21 nr rl rc ++ b) = none :=
  SpecAgree5.statusKind_C021.spec_stride_below_rejected b nr rl rc h8

/-- what the decoder reads as the request form is not a status message for the vendor reader either; with no
normal data announced it is the vendor's request form -/
theorem C05_g5_request_form_C021 (b : Bytes) (nr rl rc : Nat) (h : decode b nr rl rc = .ok (.request, [])) :
    readZoneStatus (subHeader 0x21 nr rl rc ++ b) = none ∧
      (nr = 0 → PyAirtouch.Spec.At5.isZoneStatusRequest (subHeader 0x21 nr rl rc ++ b) = true) :=
  SpecAgree5.request_form_C021 b nr rl rc h

/-- The length hypothesis of `C05_g5_decode_agrees_C021` cannot be dropped: announced stride 10, one record, but only the
8 known bytes present.  The decoder returns the zone and consumes everything; the vendor reader refuses
("Data length = 8 + normal + repeat length * repeat count"). -/
theorem C05_g5_decode_agrees_C021_needs_length :
    decode [0x40, 0x80, 0x96, 0x80, 0x02, 0xE7, 0x00, 0x00] 0 10 1 =
        .ok (.status [{ zone_number := 0, power_state := .ON, spill_active := false, control_method := .TEMPERATURE,
                        has_sensor := true, battery_status := .NORMAL, temperature := some 243,
                        damper_percentage := 0, set_point := some 250 }], []) ∧
      readZoneStatus (subHeader 0x21 0 10 1 ++ [0x40, 0x80, 0x96, 0x80, 0x02, 0xE7, 0x00, 0x00]) = none :=
  SpecAgree5.decode_agrees_C021_needs_length

/-! ### non-vacuity: the document's own response (4.a.ii, repeat count corrected to 2) -/

/-- the sub data (after the 8-byte sub-header) of the document's two-zone example -/
def exC021 : Bytes :=
  [0x40, 0x80, 0x96, 0x80, 0x02, 0xE7, 0x00, 0x00, 0x01, 0x64, 0xFF, 0x00, 0x07, 0xFF, 0x00, 0x00]

example : subHeader 0x21 0 8 2 ++ exC021 = PyAirtouch.Spec.At5.exZoneStatusData := by decide
example : decode exC021 0 8 2 = .ok (.status
    [{ zone_number := 0, power_state := .ON, spill_active := false, control_method := .TEMPERATURE, has_sensor := true,
       battery_status := .NORMAL, temperature := some 243, damper_percentage := 0, set_point := some 250 },
     { zone_number := 1, power_state := .OFF, spill_active := false, control_method := .DAMPER, has_sensor := false,
       battery_status := .NORMAL, temperature := none, damper_percentage := 100, set_point := none }], []) := by rfl
/-- the theorem applies to it (all hypotheses hold) -/
example : ∃ zs, decode exC021 0 8 2 = .ok (.status zs, []) ∧
    ∃ ss, readZoneStatus (subHeader 0x21 0 8 2 ++ exC021) = some ss ∧ RecordWise AgreeC021 zs ss :=
  ⟨_, by rfl, C05_g5_decode_agrees_C021 exC021 0 8 2 (by unfold AllBytes; decide) (by decide) _ (by rfl)⟩

/-- the same two zones in 10-byte records after 3 bytes of normal data (a hypothetical newer console): stride and
normal length honoured by both sides -/
def exC021Stride : Bytes :=
  [0xAA, 0xBB, 0xCC, 0x40, 0x80, 0x96, 0x80, 0x02, 0xE7, 0x00, 0x00, 0x11, 0x22,
   0x01, 0x64, 0xFF, 0x00, 0x07, 0xFF, 0x00, 0x00, 0x33, 0x44]
example : ∃ zs, decode exC021Stride 3 10 2 = .ok (.status zs, []) ∧ decode exC021 0 8 2 = .ok (.status zs, []) ∧
    ∃ ss, readZoneStatus (subHeader 0x21 3 10 2 ++ exC021Stride) = some ss ∧ RecordWise AgreeC021 zs ss :=
  ⟨_, by rfl, by rfl, C05_g5_decode_agrees_C021 exC021Stride 3 10 2 (by unfold AllBytes; decide) (by decide) _ (by rfl)⟩

/-- the relaxation AT5_C021_TEMPERATURE_ABSENT_WITHOUT_SENSOR at work: no sensor (Byte4 Bit8 = 0) but a valid
temperature field: the vendor reading has 24.3 °C, the decoder `None` -/
example : decode [0x01, 0x64, 0xFF, 0x00, 0x02, 0xE7, 0x00, 0x00] 0 8 1 = .ok (.status
    [{ zone_number := 1, power_state := .OFF, spill_active := false, control_method := .DAMPER, has_sensor := false,
       battery_status := .NORMAL, temperature := none, damper_percentage := 100, set_point := none }], []) ∧
    (readZoneStatus (subHeader 0x21 0 8 1 ++ [0x01, 0x64, 0xFF, 0x00, 0x02, 0xE7, 0x00, 0x00])).map
      (·.map (·.temperature)) = some [some 243] := ⟨by rfl, by decide⟩

/-- an undefined power code (Bit8-7 = 10) is rejected -/
example : decode [0x80, 0x64, 0xFF, 0x00, 0x02, 0xE7, 0x00, 0x00] 0 8 1 = .error .valueError := by rfl

end C021

/-! ## AC status (0xC0 / 0x23) -/
section C023
open PyAirtouch.Model.At5.C023 PyAirtouch.Gen.At5.XC023AcStatus
open PyAirtouch.Spec.At5 (AcStatus readAcStatus readAcStatusRecord)

/-- **AC status.**  As `C05_g5_decode_agrees_C021`; the same ADDED HYPOTHESIS `hlen` (announced data present), necessary by
`C05_g5_decode_agrees_C023_needs_length`. -/
theorem C05_g5_decode_agrees_C023 (b : Bytes) (nr rl rc : Nat) (hb : AllBytes b)
    (hlen : nr + rl * rc ≤ b.length) (zs : List AcStatusData)
    (h : decode b nr rl rc = .ok (.status zs, [])) :
    ∃ ss, readAcStatus (subHeader 0x23 nr rl rc ++ b) = some ss ∧ RecordWise AgreeC023 zs ss :=
  SpecAgree5.statusKind_C023.decode_agrees b nr rl rc hb hlen zs h

/-- Whenever both sides read the payload, they read the same records. -/
theorem C05_g5_decode_agrees_C023_of_spec (b : Bytes) (nr rl rc : Nat) (hb : AllBytes b)
    (zs : List AcStatusData) (rest : Bytes) (ss : List AcStatus)
    (h : decode b nr rl rc = .ok (.status zs, rest))
    (hs : readAcStatus (subHeader 0x23 nr rl rc ++ b) = some ss) : RecordWise AgreeC023 zs ss :=
  SpecAgree5.statusKind_C023.decode_agrees_of_spec b nr rl rc hb zs rest ss h hs

/-- KNOWN FINDINGS `C05:sentinel:AT5_C023_SETPOINT_HAS_NO_ABSENT_VALUE` / `..._TEMPERATURE_HAS_NO_ABSENT_VALUE`, as a theorem about
    the model of the decoder: "the documented not-available sentinels decode to absent values" FAILS for the AC status record
    `10 41 ff 00 07 ff 00 00` - the vendor reading has neither set-point (Byte3 = 255) nor temperature (VALUE = 2047), the decoder
    (plain numbers) returns 35.5 degC and 154.7 degC.  This is why `AgreeC023` carries the two extra disjuncts. -/
theorem C05_g5_sentinels_decode_to_numbers_C023 :
    (readAcStatusRecord [0x10, 0x41, 0xFF, 0x00, 0x07, 0xFF, 0, 0]).map (fun s => (s.setpoint, s.temperature)) = some (none, none) ∧
    (match decRec [0x10, 0x41, 0xFF, 0x00, 0x07, 0xFF, 0, 0] with
      | .ok z => some (z.set_point, z.temperature) | .error _ => none) = some (355, 1547) := by
  constructor <;> rfl

/-- An undefined AC power, mode or fan speed code ("Other: Not available", vendor reading `notAvailable n`) in any
record makes the decoder raise. -/
theorem C05_g5_undefined_rejected_C023 (b : Bytes) (nr rl rc : Nat) (hb : AllBytes b) (ss : List AcStatus)
    (hs : readAcStatus (subHeader 0x23 nr rl rc ++ b) = some ss)
    (hu : ∃ s ∈ ss, (∃ n, s.power = .notAvailable n) ∨ (∃ n, s.mode = .notAvailable n) ∨
      (∃ n, s.fanSpeed = .notAvailable n)) : ∃ e, decode b nr rl rc = .error e :=
  SpecAgree5.undefined_rejected_C023 b nr rl rc hb ss hs hu

/-- **Stride clause, decoder side.**  When the AC status decoder returns a message, the announced stride is at
least the known record size 8, there is one record per announced count, record `i` is what `decRec` reads at
offset `nonRepeat + i * stride` of the sub data, and what is left is everything after
`nonRepeat + stride * count`. -/
theorem C05_g5_stride_offsets_C023 (b : Bytes) (nr rl rc : Nat) (zs : List AcStatusData) (rest : Bytes)
    (h : decode b nr rl rc = .ok (.status zs, rest)) :
    8 ≤ rl ∧ zs.length = rc ∧ rest = b.drop (nr + rl * rc) ∧
      ∀ i, i < rc → ∃ z, zs[i]? = some z ∧ decRec (b.drop (nr + i * rl)) = .ok z :=
  SpecAgree5.stride_offsets_C023 b nr rl rc zs rest h

/-- **Stride clause, decoder side, converse**: for EVERY announced stride ≥ 8 (and a non-request header), if each
of the `count` offsets `nonRepeat + i * stride` holds a decodable record, the decoder returns a message. -/
theorem C05_g5_stride_accepted_C023 (b : Bytes) (nr rl rc : Nat) (h8 : 8 ≤ rl)
    (hrec : ∀ i, i < rc → ∃ z, decRec (b.drop (nr + i * rl)) = .ok z) :
    ∃ zs, decode b nr rl rc = .ok (.status zs, b.drop (nr + rl * rc)) :=
  SpecAgree5.stride_accepted_C023 b nr rl rc h8 hrec

/-- **Stride clause: a stride below the known record size is rejected** (unless the header is the request form
`repeat_length = 0 ∧ repeat_count = 0`). -/
theorem C05_g5_stride_below_known_size_rejected_C023 (b : Bytes) (nr rl rc : Nat) (h8 : rl < 8)
    (hreq : ¬ (rl = 0 ∧ rc = 0)) : decode b nr rl rc = .error .decodeError :=
  SpecAgree5.statusKind_C023.stride_below_rejected b nr rl rc h8 hreq

/-- **Stride clause, vendor side**: record `i` of the vendor reading is the documented 8-byte prefix of the block
of `stride` bytes at offset `normal + i * stride`. -/
theorem C05_g5_spec_stride_offsets_C023 (b : Bytes) (nr rl rc : Nat) (ss : List AcStatus)
    (h : readAcStatus (subHeader 0x23 nr rl rc ++ b) = some ss) :
    8 ≤ rl ∧ b.length = nr + rl * rc ∧ ss.length = rc ∧
      ∀ i, i < rc → ∃ s, ss[i]? = some s ∧ readAcStatusRecord (rawRec b nr rl i) = some s :=
  SpecAgree5.statusKind_C023.spec_stride_offsets b nr rl rc ss h

/-- the vendor reader rejects a stride below 8 as well -/
theorem C05_g5_spec_stride_below_known_size_rejected_C023 (b : Bytes) (nr rl rc : Nat) (h8 : rl < 8) :
    readAcStatus (subHeader 0x23 nr rl rc ++ b) = none :=
  SpecAgree5.statusKind_C023.spec_stride_below_rejected b nr rl rc h8

/-- what the decoder reads as the request form is not a status message for the vendor reader either; with no
normal data announced it is the vendor's request form -/
theorem C05_g5_request_form_C023 (b : Bytes) (nr rl rc : Nat) (h : decode b nr rl rc = .ok (.request, [])) :
    readAcStatus (subHeader 0x23 nr rl rc ++ b) = none ∧
      (nr = 0 → PyAirtouch.Spec.At5.isAcStatusRequest (subHeader 0x23 nr rl rc ++ b) = true) :=
  SpecAgree5.request_form_C023 b nr rl rc h

/-- The length hypothesis of `C05_g5_decode_agrees_C023` cannot be dropped: the first AC of the document's example with
announced stride 10 but only the 8 known bytes present.  The decoder returns the AC and consumes everything; the
vendor reader refuses ("Data length = 8 + normal + repeat length * repeat count"). -/
theorem C05_g5_decode_agrees_C023_needs_length :
    decode [0x10, 0x12, 0x78, 0xC0, 0x02, 0xDA, 0x00, 0x00] 0 10 1 =
        .ok (.status [{ ac_number := 0, power_state := .ON, mode := .HEAT, fan_speed := .LOW, turbo_active := false,
                        bypass_active := false, spill_active := false, timer_set := false, set_point := 220,
                        temperature := 230, error_code := 0 }], []) ∧
      readAcStatus (subHeader 0x23 0 10 1 ++ [0x10, 0x12, 0x78, 0xC0, 0x02, 0xDA, 0x00, 0x00]) = none :=
  SpecAgree5.decode_agrees_C023_needs_length

/-! ### non-vacuity: the document's own response for 2 ACs (4.a.iv), 10-byte records -/

def exC023 : Bytes :=
  [0x10, 0x12, 0x78, 0xC0, 0x02, 0xDA, 0x00, 0x00, 0x80, 0x00,
   0x01, 0x42, 0x64, 0xC0, 0x02, 0xE4, 0x00, 0x00, 0x80, 0x00]

example : subHeader 0x23 0 10 2 ++ exC023 = PyAirtouch.Spec.At5.exAcStatusData := by decide
example : decode exC023 0 10 2 = .ok (.status
    [{ ac_number := 0, power_state := .ON, mode := .HEAT, fan_speed := .LOW, turbo_active := false,
       bypass_active := false, spill_active := false, timer_set := false, set_point := 220, temperature := 230,
       error_code := 0 },
     { ac_number := 1, power_state := .OFF, mode := .COOL, fan_speed := .LOW, turbo_active := false,
       bypass_active := false, spill_active := false, timer_set := false, set_point := 200, temperature := 240,
       error_code := 0 }], []) := by rfl
example : ∃ zs, decode exC023 0 10 2 = .ok (.status zs, []) ∧
    ∃ ss, readAcStatus (subHeader 0x23 0 10 2 ++ exC023) = some ss ∧ RecordWise AgreeC023 zs ss :=
  ⟨_, by rfl, C05_g5_decode_agrees_C023 exC023 0 10 2 (by unfold AllBytes; decide) (by decide) _ (by rfl)⟩

/-- an undefined mode code (0101) is rejected -/
example : decode [0x10, 0x52, 0x78, 0xC0, 0x02, 0xDA, 0x00, 0x00] 0 8 1 = .error .valueError := by rfl

end C023

/-! ## Zone names (0x1F / 0xFF13) -/
section FF13
open PyAirtouch.Model.At5.FF13
open PyAirtouch.Spec.At5 (ZoneName readZoneNames)

/-- **Zone names.**  No extra hypothesis: called as the receive path calls it (`message_length` = the bytes present) the
decoder either raises or consumes everything, and then the vendor reader returns the records the mapping was
filled from. -/
theorem C05_g5_decode_agrees_FF13 (b : Bytes) (m : ZoneNamesMessage) (rest : Bytes)
    (h : decode b b.length = .ok (.message m, rest)) :
    rest = [] ∧ ∃ ss, readZoneNames ([0xFF, 0x13] ++ b) = some ss ∧ AgreeFF13 m ss :=
  SpecAgree5.decode_agrees_FF13 b m rest h

/-- what the decoder reads as a request (no byte: all zones; one byte: that zone) is the vendor's request of the
same meaning -/
theorem C05_g5_request_form_FF13 (b : Bytes) (r : ZoneNamesRequest) (rest : Bytes)
    (h : decode b b.length = .ok (.request r, rest)) :
    rest = [] ∧ PyAirtouch.Spec.At5.readExtendedRequest ([0xFF, 0x13] ++ b) =
      some (match r.zone_number with
        | none => .zoneNamesAll
        | some z => .zoneName z) :=
  SpecAgree5.request_form_FF13 b r rest h

/-! ### non-vacuity: the document's three-zone example (4.b.iii) and a repeated zone number -/

def exFF13 : Bytes :=
  [0x00, 0x06, 0x4C, 0x69, 0x76, 0x69, 0x6E, 0x67, 0x01, 0x07, 0x4B, 0x69, 0x74, 0x63, 0x68, 0x65, 0x6E,
   0x02, 0x07, 0x42, 0x65, 0x64, 0x72, 0x6F, 0x6F, 0x6D]

example : [0xFF, 0x13] ++ exFF13 = PyAirtouch.Spec.At5.exZoneNamesData := by decide
/-- by `simp`, not `rfl`: `utf8Valid` goes through `String.fromUTF8?`, which does not reduce -/
theorem exFF13_decodes : decode exFF13 exFF13.length = .ok (.message ⟨[(0, [0x4C, 0x69, 0x76, 0x69, 0x6E, 0x67]),
    (1, [0x4B, 0x69, 0x74, 0x63, 0x68, 0x65, 0x6E]), (2, [0x42, 0x65, 0x64, 0x72, 0x6F, 0x6F, 0x6D])]⟩, []) := by
  have v1 : utf8Valid [0x4C, 0x69, 0x76, 0x69, 0x6E, 0x67] = true := by decide
  have v2 : utf8Valid [0x4B, 0x69, 0x74, 0x63, 0x68, 0x65, 0x6E] = true := by decide
  have v3 : utf8Valid [0x42, 0x65, 0x64, 0x72, 0x6F, 0x6F, 0x6D] = true := by decide
  simp [exFF13, decode, decNames, dictInsert, v1, v2, v3]
/-- the theorem applies to it -/
example : ∃ ss, readZoneNames ([0xFF, 0x13] ++ exFF13) = some ss ∧ AgreeFF13 ⟨[(0, [0x4C, 0x69, 0x76, 0x69, 0x6E, 0x67]),
    (1, [0x4B, 0x69, 0x74, 0x63, 0x68, 0x65, 0x6E]), (2, [0x42, 0x65, 0x64, 0x72, 0x6F, 0x6F, 0x6D])]⟩ ss :=
  (C05_g5_decode_agrees_FF13 exFF13 _ [] exFF13_decodes).2
/-- zone 0 named twice ("A", then "B"): the vendor reading has two records, the mapping one entry with the last
name — relaxation NAMES_DUPLICATE_NUMBER_LAST_WINS -/
example : decode [0, 1, 0x41, 0, 1, 0x42] 6 = .ok (.message ⟨[(0, [0x42])]⟩, []) ∧
    readZoneNames ([0xFF, 0x13] ++ [0, 1, 0x41, 0, 1, 0x42]) = some [⟨0, [0x41]⟩, ⟨0, [0x42]⟩] := by
  have v1 : utf8Valid [0x41] = true := by decide
  have v2 : utf8Valid [0x42] = true := by decide
  exact ⟨by simp [decode, decNames, dictInsert, v1, v2], by decide⟩
example : AgreeFF13 ⟨[(0, [0x42])]⟩ [⟨0, [0x41]⟩, ⟨0, [0x42]⟩] := Or.inr ⟨by decide, by decide⟩

end FF13

/-! ## AC error information (0x1F / 0xFF10) -/
section FF10
open PyAirtouch.Model.At5.FF10
open PyAirtouch.Spec.At5 (AcError readAcError)

/-- **AC error information.**  ADDED HYPOTHESIS `hlen` (Byte4, the string length, does not exceed the bytes present):
without it the statement is false, see `C05_g5_decode_agrees_FF10_needs_length` — the decoder returns the short slice,
the vendor reader ("exactly as long as Byte4 says") refuses. -/
theorem C05_g5_decode_agrees_FF10 (b : Bytes) (hlen : ∀ n, b[1]? = some n → 2 + n ≤ b.length)
    (m : AcErrorInformationMessage) (h : decode b b.length = .ok (.message m, [])) :
    ∃ s, readAcError ([0xFF, 0x10] ++ b) = some s ∧ AgreeFF10 m s :=
  SpecAgree5.decode_agrees_FF10 b hlen m h

/-- Whenever both sides read the payload, they read the same. -/
theorem C05_g5_decode_agrees_FF10_of_spec (b : Bytes) (m : AcErrorInformationMessage) (rest : Bytes) (s : AcError)
    (h : decode b b.length = .ok (.message m, rest)) (hs : readAcError ([0xFF, 0x10] ++ b) = some s) :
    AgreeFF10 m s ∧ rest = [] :=
  SpecAgree5.decode_agrees_FF10_of_spec b m rest s h hs

/-- what the decoder reads as the request (one byte) is the vendor's request for that AC -/
theorem C05_g5_request_form_FF10 (b : Bytes) (r : AcErrorInformationRequest) (rest : Bytes)
    (h : decode b b.length = .ok (.request r, rest)) :
    rest = [] ∧ PyAirtouch.Spec.At5.readExtendedRequest ([0xFF, 0x10] ++ b) = some (.acError r.ac_number) :=
  SpecAgree5.request_form_FF10 b r rest h

/-- The length hypothesis of `C05_g5_decode_agrees_FF10` cannot be dropped: `ff10 01 01` announces a one-byte string
that is not there.  The decoder returns the (empty) short slice; the vendor reader refuses. -/
theorem C05_g5_decode_agrees_FF10_needs_length :
    decode [0x01, 0x01] 2 = .ok (.message ⟨1, some []⟩, []) ∧ readAcError ([0xFF, 0x10] ++ [0x01, 0x01]) = none :=
  SpecAgree5.decode_agrees_FF10_needs_length

/-! ### non-vacuity: the document's example "ER: FFFE" (4.b.ii) and "no error" -/

def exFF10 : Bytes := [0x00, 0x08, 0x45, 0x52, 0x3A, 0x20, 0x46, 0x46, 0x46, 0x45]

example : [0xFF, 0x10] ++ exFF10 = PyAirtouch.Spec.At5.exAcErrorData := by decide
example : decode exFF10 exFF10.length =
    .ok (.message ⟨0, some [0x45, 0x52, 0x3A, 0x20, 0x46, 0x46, 0x46, 0x45]⟩, []) := by rfl
example : ∃ s, readAcError ([0xFF, 0x10] ++ exFF10) = some s ∧
    AgreeFF10 ⟨0, some [0x45, 0x52, 0x3A, 0x20, 0x46, 0x46, 0x46, 0x45]⟩ s :=
  C05_g5_decode_agrees_FF10 exFF10 (by intro n hn; cases hn; decide) _ (by rfl)
/-- "If no error, will be 0": `None` against the empty string -/
example : decode [0x02, 0x00] 2 = .ok (.message ⟨2, none⟩, []) ∧
    readAcError ([0xFF, 0x10] ++ [0x02, 0x00]) = some ⟨2, []⟩ := ⟨by rfl, by decide⟩

end FF10

/-! ## Console version (0x1F / 0xFF30) -/
section FF30
open PyAirtouch.Model.At5.FF30
open PyAirtouch.Spec.At5 (ConsoleVersion readConsoleVersion)

/-- **Console version.**  ADDED HYPOTHESIS `hlen` (Byte4, the string length, does not exceed the bytes present); necessary
by `C05_g5_decode_agrees_FF30_needs_length`. -/
theorem C05_g5_decode_agrees_FF30 (b : Bytes) (hlen : ∀ n, b[1]? = some n → 2 + n ≤ b.length)
    (m : ConsoleVersionMessage) (h : decode b b.length = .ok (.message m, [])) :
    ∃ s, readConsoleVersion ([0xFF, 0x30] ++ b) = some s ∧ AgreeFF30 m s :=
  SpecAgree5.decode_agrees_FF30 b hlen m h

/-- Whenever both sides read the payload, they read the same. -/
theorem C05_g5_decode_agrees_FF30_of_spec (b : Bytes) (m : ConsoleVersionMessage) (rest : Bytes) (s : ConsoleVersion)
    (h : decode b b.length = .ok (.message m, rest)) (hs : readConsoleVersion ([0xFF, 0x30] ++ b) = some s) :
    AgreeFF30 m s ∧ rest = [] :=
  SpecAgree5.decode_agrees_FF30_of_spec b m rest s h hs

/-- what the decoder reads as the request (no byte) is the vendor's console version request -/
theorem C05_g5_request_form_FF30 (b : Bytes) (rest : Bytes) (h : decode b b.length = .ok (.request, rest)) :
    rest = [] ∧ PyAirtouch.Spec.At5.readExtendedRequest ([0xFF, 0x30] ++ b) = some .consoleVersion :=
  SpecAgree5.request_form_FF30 b rest h

/-- The length hypothesis of `C05_g5_decode_agrees_FF30` cannot be dropped: `ff30 b3 ce` announces 206 bytes that are
not there.  The decoder returns the short (empty) slice as one empty version; the vendor reader refuses. -/
theorem C05_g5_decode_agrees_FF30_needs_length :
    decode [0xB3, 0xCE] 2 = .ok (.message ⟨true, [[]]⟩, []) ∧
      readConsoleVersion ([0xFF, 0x30] ++ [0xB3, 0xCE]) = none :=
  SpecAgree5.decode_agrees_FF30_needs_length

/-! ### non-vacuity: the document's example "1.0.3,1.0.3" (4.b.iv) -/

def exFF30 : Bytes := [0x00, 0x0B, 0x31, 0x2E, 0x30, 0x2E, 0x33, 0x2C, 0x31, 0x2E, 0x30, 0x2E, 0x33]

example : [0xFF, 0x30] ++ exFF30 = PyAirtouch.Spec.At5.exConsoleVersionData := by decide
example : decode exFF30 exFF30.length =
    .ok (.message ⟨false, [[0x31, 0x2E, 0x30, 0x2E, 0x33], [0x31, 0x2E, 0x30, 0x2E, 0x33]]⟩, []) := by rfl
example : ∃ s, readConsoleVersion ([0xFF, 0x30] ++ exFF30) = some s ∧
    AgreeFF30 ⟨false, [[0x31, 0x2E, 0x30, 0x2E, 0x33], [0x31, 0x2E, 0x30, 0x2E, 0x33]]⟩ s :=
  C05_g5_decode_agrees_FF30 exFF30 (by intro n hn; cases hn; decide) _ (by rfl)

end FF30

/-! ## AC ability (0x1F / 0xFF11) -/
section FF11
open PyAirtouch.Model.At5.FF11
open PyAirtouch.Spec.At5 (readAcAbility)

/-- **AC ability.**  For EVERY following length (the decoder advances by the "following data length" byte, Byte4 of
each record, as the vendor reader does): whenever the decoder
accepts a payload as an ability message, all of the payload is consumed, the vendor reader reads it too, and the
decoder's reading is the vendor reading, record by record.  Every record's following length is at least the 24
described bytes. -/
theorem C05_g5_decode_agrees_FF11 (b : Bytes)
    (acs : List AcAbility) (rest : Bytes) (h : decode b b.length = .ok (.ability acs, rest)) :
    rest = [] ∧ ∃ ss, readAcAbility ([0xFF, 0x11] ++ b) = some ss ∧ RecordWise AgreeFF11 acs ss ∧
      ∀ s ∈ ss, 24 ≤ s.followingLength :=
  SpecAgree5.decode_agrees_FF11 b acs rest h

/-- The same in the vendor reading's terms: whenever the vendor reader reads the payload into `ss`, the decoder's
records are those, whatever their following lengths. -/
theorem C05_g5_decode_agrees_FF11_of_spec (b : Bytes) (acs : List AcAbility) (rest : Bytes) (ss : List Spec.At5.AcAbility)
    (h : decode b b.length = .ok (.ability acs, rest)) (hs : readAcAbility ([0xFF, 0x11] ++ b) = some ss) :
    RecordWise AgreeFF11 acs ss ∧ rest = [] :=
  SpecAgree5.decode_agrees_FF11_of_spec b acs rest ss h hs

/-- `ff11 00 32 <50 bytes>` is ONE AC ("UNIT") for the decoder and for the vendor
reader (following length 50) -/
theorem C05_g5_decode_FF11_long_record :
    isOneAbilityNamed [0x55, 0x4E, 0x49, 0x54] (decode longFF11 longFF11.length) = true ∧
    (∃ s, readAcAbility ([0xFF, 0x11] ++ longFF11) = some [s] ∧ s.followingLength = 50) :=
  SpecAgree5.decode_FF11_long_record

/-- what the decoder reads as a request (no byte: all ACs; one byte: that AC) is the vendor's request of the same
meaning -/
theorem C05_g5_request_form_FF11 (b : Bytes) (r : Option Nat) (rest : Bytes)
    (h : decode b b.length = .ok (.request r, rest)) :
    rest = [] ∧ PyAirtouch.Spec.At5.readExtendedRequest ([0xFF, 0x11] ++ b) =
      some (match (generalizing := false) r with
        | none => .acAbilityAll
        | some n => .acAbility n) :=
  SpecAgree5.request_form_FF11 b r rest h

/-! ### non-vacuity: the document's example "UNIT" (4.b.i) -/

def exFF11 : Bytes :=
  [0x00, 0x18, 0x55, 0x4E, 0x49, 0x54, 0, 0, 0, 0, 0, 0, 0, 0, 0, 0, 0, 0, 0x00, 0x04, 0x17, 0x1D, 0x10, 0x1F, 0x12, 0x1F]

example : [0xFF, 0x11] ++ exFF11 = PyAirtouch.Spec.At5.exAcAbilityData := by decide
example (acs : List AcAbility) (rest : Bytes) (h : decode exFF11 exFF11.length = .ok (.ability acs, rest)) :
    ∃ ss, readAcAbility ([0xFF, 0x11] ++ exFF11) = some ss ∧ RecordWise AgreeFF11 acs ss :=
  let ⟨_, ss, h1, h2, _⟩ := C05_g5_decode_agrees_FF11 exFF11 acs rest h
  ⟨ss, h1, h2⟩
-- the hypothesis is satisfiable: the decoder accepts the example as one AC named "UNIT" (taken as a hypothesis above
-- because `decode … = …` is not `rfl`: `utf8Valid` goes through `String.fromUTF8?`)
example : isOneAbilityNamed [0x55, 0x4E, 0x49, 0x54] (decode exFF11 exFF11.length) = true := by decide +kernel

-- a longer record (following length 50: the 24 described bytes and 26 more): one AC for both sides, and they agree
example (acs : List AcAbility) (rest : Bytes) (h : decode longFF11 longFF11.length = .ok (.ability acs, rest)) :
    rest = [] ∧ ∃ ss, readAcAbility ([0xFF, 0x11] ++ longFF11) = some ss ∧ RecordWise AgreeFF11 acs ss :=
  let ⟨h0, ss, h1, h2, _⟩ := C05_g5_decode_agrees_FF11 longFF11 acs rest h
  ⟨h0, ss, h1, h2⟩
example : (readAcAbility ([0xFF, 0x11] ++ longFF11)).map (·.map fun s => (s.ac, s.followingLength, s.name)) =
    some [(0, 50, [0x55, 0x4E, 0x49, 0x54])] := by decide +kernel

end FF11

end PyAirtouch.Props.C05
