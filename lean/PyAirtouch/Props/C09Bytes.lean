import PyAirtouch.Lemmas.CrossLayer
import PyAirtouch.Props.C09At4b
import PyAirtouch.Props.C09At5
import PyAirtouch.Lemmas.Api5Script
/-!
# C09 from bytes: the handshake end to end across the three layers

`Props/C09At4b` and `Props/C09At5` start from already-decoded messages.  Here the console's answers are **bytes**: each
answer is a frame (`Wire`: header and payload; `Wire.bytes`: what the send-path model writes - header bytes, payload,
CRC), the frames are concatenated, TCP cuts the concatenation into segments **in any way**, the receive-path model
(`Frame.feedAll proto`, C13) is fed the segments one by one, and every delivery becomes one op of the API model:

* AirTouch 4: `recvOp (h, m) = Op.recv m` - the AirTouch 4 API never looks at the header;
* AirTouch 5: `frameOp (h, m) = Op.msg h.to_address m` - the header's `to_address` goes with the message (the
  zero-zone echo rule reads it);
* payload level (the driver's `msg` op): the receive path that does not decode (`rawProto`) delivers
  `(h, payload)`; AirTouch 4: `msgOp (h, payload) = Op.msg h.message_id payload` (decoded inside `Api4.apiStep` by
  `decodeTop`, under `harnessHeader`); AirTouch 5: `payloadOp (h, payload) = ApiCmd5.parseMsg h.message_id payload
  h.to_address` (what the driver makes of `msg <id> <payload> <to>`).

Definitions (`Lemmas/CrossLayer`): `Sent = Wire × Msg`, `Sent.Good x` (the frame is well formed and the registry's
decoder turns its payload into `x.2`, nothing left over), `wireStream xs` (the concatenated bytes), `consoleSent pid m`
(the registry's encoding of `m` in a frame to 0xB0 from 0x80 / 0x90 with packet id `pid`; good for every `Sendable m`,
by the C03 round trip), `unknownSent` (a frame of an unregistered type; good, decoded to `UnsupportedMessage`).

* `stream_delivers_at4/_at5` - console frames of sendable messages, any packet ids, any segmentation: exactly those
  messages are delivered, with those headers, in order, and the buffer ends empty; `stream_delivers_frames_…` - the same
  for any list of good frames (any addresses, unknown types);
* `handshake_from_bytes_at4` - the conclusion of `handshake_end_to_end_at4`, for every segmentation of the bytes of the
  six answers of a consistent installation with arbitrary good frames (not of the awaited class) before, between and
  after them; `handshake_from_payloads_at4` - the same for the driver's `msg` ops;
* `handshake_from_bytes_at5` - the conclusion of `C09_handshake_completes_at5` likewise (any good frames as noise);
  `handshake_from_payloads_at5`: the driver's ops are the same op list; `handshake_clean_from_bytes_at5` - without
  noise: the six requests in order, `CONNECTED`, and the entities of `C09_entities_as_described_at5`.  The list of
  sends needs the API model alone on six answers in a row from `INIT_VERSION` (`Lemmas.Api5.answers_run`, `clean_run`).
-/
namespace PyAirtouch.Props.C09
open PyAirtouch.Model PyAirtouch.Model.Frame PyAirtouch.Lemmas.CrossLayer

section At4Part
open PyAirtouch.Model.Api4 PyAirtouch.Model.At4 PyAirtouch.Model.At4.Registry
open PyAirtouch.Lemmas.Api4 PyAirtouch.Lemmas.Api4Reach PyAirtouch.Lemmas.CrossLayer.At4
open PyAirtouch.Props.C09.At4

/-- **any list of good frames** (any addresses, any packet ids, known or unknown types), **any segmentation**: the
    receive path delivers exactly the frames' headers and decoded messages, in order, and ends with an empty buffer -/
theorem stream_delivers_frames_at4 (xs : List Sent) (hx : ∀ x ∈ xs, x.Good) (segs : List Bytes)
    (hsegs : segs.flatten = wireStream xs) :
    feedAll proto ⟨[], false⟩ segs = (xs.map (fun x => (x.1.hdr, x.2)), ⟨[], false⟩) :=
  feedAll_frames proto (by decide) (fun x : Sent => x.1.hdr) (·.2) (·.1.bytes) xs
    (fun x hxm => wire_isFrame proto rfl rfl rfl x.1 (hx x hxm).1 x.2 (hx x hxm).2) segs hsegs

/-- **console frames of sendable messages**, packet ids `pm.1`: every segmentation of the concatenated frames delivers
    exactly those messages, in order, each under the header the console wrote, and ends with an empty buffer -/
theorem stream_delivers_at4 (ms : List (Nat × Msg)) (hms : ∀ pm ∈ ms, pm.1 < 256 ∧ Sendable pm.2)
    (segs : List Bytes) (hsegs : segs.flatten = wireStream (ms.map fun pm => consoleSent pm.1 pm.2)) :
    feedAll proto ⟨[], false⟩ segs =
      (ms.map (fun pm =>
        (({ to_address := 0xB0, from_address := if pm.2.messageId = 0x1F then 0x90 else 0x80, packet_id := pm.1,
            message_id := pm.2.messageId, message_length := (payloadOf pm.2).length } : Hdr), pm.2)),
       ⟨[], false⟩) := by
  rw [stream_delivers_frames_at4 _ (by
    intro x hx
    obtain ⟨pm, hpm, rfl⟩ := List.mem_map.mp hx
    exact consoleSent_good pm.1 (hms pm hpm).1 pm.2 (hms pm hpm).2) segs hsegs, List.map_map]
  rfl

/-- the payloads themselves (receive path without the registry) -/
theorem stream_delivers_payloads_at4 (xs : List Sent) (hx : ∀ x ∈ xs, x.Good) (segs : List Bytes)
    (hsegs : segs.flatten = wireStream xs) :
    feedAll rawProto ⟨[], false⟩ segs = (xs.map (fun x => (x.1.hdr, x.1.payload)), ⟨[], false⟩) :=
  stream_delivers_raw xs hx segs hsegs

namespace At4

/-- the packet ids the console gives its six answers -/
structure Pids where
  p₁ : Nat
  p₂ : Nat
  p₃ : Nat
  p₄ : Nat
  p₅ : Nat
  p₆ : Nat

def Pids.Valid (p : Pids) : Prop := p.p₁ < 256 ∧ p.p₂ < 256 ∧ p.p₃ < 256 ∧ p.p₄ < 256 ∧ p.p₅ < 256 ∧ p.p₆ < 256

/-- the registry can encode each of the six answers and the payload fits the length field -/
def Answers.Sendable (a : Answers) : Prop :=
  PyAirtouch.Lemmas.CrossLayer.At4.Sendable a.verMsg ∧ PyAirtouch.Lemmas.CrossLayer.At4.Sendable a.namesMsg ∧ PyAirtouch.Lemmas.CrossLayer.At4.Sendable a.abilityMsg ∧
  PyAirtouch.Lemmas.CrossLayer.At4.Sendable a.acStatusMsg ∧ PyAirtouch.Lemmas.CrossLayer.At4.Sendable a.timerMsg ∧ PyAirtouch.Lemmas.CrossLayer.At4.Sendable a.groupMsg

/-- the frames that travel before, between and after the six answers -/
structure NoiseFrames where
  n₁ : List Sent
  n₂ : List Sent
  n₃ : List Sent
  n₄ : List Sent
  n₅ : List Sent
  n₆ : List Sent
  n₇ : List Sent

def NoiseFrames.Good (z : NoiseFrames) : Prop :=
  ∀ x ∈ z.n₁ ++ z.n₂ ++ z.n₃ ++ z.n₄ ++ z.n₅ ++ z.n₆ ++ z.n₇, Sent.Good x

/-- no frame travelling while a request is outstanding is of the class that answers it (after the last answer:
    anything) -/
def NoiseFrames.NotAnswers (z : NoiseFrames) : Prop :=
  (∀ x ∈ z.n₁, answerKind .INIT_VERSION x.2 = false) ∧ (∀ x ∈ z.n₂, answerKind .INIT_GROUP_NAMES x.2 = false) ∧
  (∀ x ∈ z.n₃, answerKind .INIT_AC_ABILITY x.2 = false) ∧ (∀ x ∈ z.n₄, answerKind .INIT_AC_STATUS x.2 = false) ∧
  (∀ x ∈ z.n₅, answerKind .INIT_AC_TIMER_STATUS x.2 = false) ∧ (∀ x ∈ z.n₆, answerKind .INIT_GROUP_STATUS x.2 = false)

def NoiseFrames.none : NoiseFrames := ⟨[], [], [], [], [], [], []⟩

def recvOfSent (x : Sent) : Op := .recv x.2

/-- the noise as ops of the API model -/
def NoiseFrames.ops (z : NoiseFrames) : Noise :=
  ⟨z.n₁.map recvOfSent, z.n₂.map recvOfSent, z.n₃.map recvOfSent, z.n₄.map recvOfSent, z.n₅.map recvOfSent,
   z.n₆.map recvOfSent, z.n₇.map recvOfSent⟩

/-- everything the console puts on the wire, in order -/
def onWire (a : Answers) (p : Pids) (z : NoiseFrames) : List Sent :=
  z.n₁ ++ [consoleSent p.p₁ a.verMsg] ++ z.n₂ ++ [consoleSent p.p₂ a.namesMsg] ++ z.n₃ ++
  [consoleSent p.p₃ a.abilityMsg] ++ z.n₄ ++ [consoleSent p.p₄ a.acStatusMsg] ++ z.n₅ ++
  [consoleSent p.p₅ a.timerMsg] ++ z.n₆ ++ [consoleSent p.p₆ a.groupMsg] ++ z.n₇

/-- the conclusion of `handshake_end_to_end_at4` for a run in which the connection is never lost -/
def HandshakeDone (a : Answers) (r : State × List Ev) : Prop :=
  r.1.st = .CONNECTED ∧ r.1.initialised = true ∧
  hsSends r.2 = handshakeRequests ++ [hbMessage] ∧
  (∀ c, Ev.subscriberExc c ∉ r.2) ∧
  (r.2.count (Ev.result "init True") = 1 ∧ ∀ t, Ev.result t ∈ r.2 → t = "init True") ∧
  exposedModel r.1 = describedModel a.names a.abilities

theorem onWire_good (a : Answers) (p : Pids) (z : NoiseFrames) (ha : a.Sendable) (hp : p.Valid) (hz : z.Good) :
    ∀ x ∈ onWire a p z, Sent.Good x := by
  obtain ⟨a1, a2, a3, a4, a5, a6⟩ := ha
  obtain ⟨p1, p2, p3, p4, p5, p6⟩ := hp
  simp only [NoiseFrames.Good, List.forall_mem_append] at hz
  obtain ⟨⟨⟨⟨⟨⟨z1, z2⟩, z3⟩, z4⟩, z5⟩, z6⟩, z7⟩ := hz
  simp only [onWire, List.forall_mem_append, List.mem_singleton, forall_eq]
  exact ⟨⟨⟨⟨⟨⟨⟨⟨⟨⟨⟨⟨z1, consoleSent_good _ p1 _ a1⟩, z2⟩, consoleSent_good _ p2 _ a2⟩, z3⟩, consoleSent_good _ p3 _ a3⟩, z4⟩,
    consoleSent_good _ p4 _ a4⟩, z5⟩, consoleSent_good _ p5 _ a5⟩, z6⟩, consoleSent_good _ p6 _ a6⟩, z7⟩

theorem ops_of_onWire (a : Answers) (p : Pids) (z : NoiseFrames) :
    [Op.init, .conn true] ++ ((onWire a p z).map fun x => recvOp (x.1.hdr, x.2)) = handshakeOps a z.ops := by
  simp [onWire, handshakeOps, beforeLast, NoiseFrames.ops, recvOp, consoleSent, List.append_assoc]
  rfl

theorem junk_map_recv (st : AState) (l : List Sent) (h : ∀ x ∈ l, answerKind st x.2 = false) :
    Junk st (l.map recvOfSent) := by
  intro op hop
  obtain ⟨x, hx, rfl⟩ := List.mem_map.mp hop
  exact ⟨rfl, h x hx⟩

theorem ops_valid (z : NoiseFrames) (hz : z.NotAnswers) : z.ops.Valid := by
  obtain ⟨h1, h2, h3, h4, h5, h6⟩ := hz
  refine ⟨junk_map_recv _ _ h1, junk_map_recv _ _ h2, junk_map_recv _ _ h3, junk_map_recv _ _ h4,
    junk_map_recv _ _ h5, junk_map_recv _ _ h6, junk_map_recv _ _ ?_⟩
  intro x _
  cases x.2 <;> rfl

theorem ops_lostConn (z : NoiseFrames) : z.ops.lostConn = false := by
  simp [Noise.lostConn, NoiseFrames.ops, recvOfSent, dropsConn, List.any_eq_false]

end At4
open At4

/-- **C09 from bytes (AirTouch 4).**  A consistent installation (`Consistent`, as in `handshake_end_to_end_at4`) whose six
    answers the registry can encode (`a.Sendable`); packet ids `p`; good frames `z` (none of the awaited class while a
    request is outstanding) before, between and after the answers; **every** list of segments `segs` whose
    concatenation is the concatenated frames.  Feed the segments to the receive path; run the API model on
    `init, conn true` and one `recv` per delivery.  Then: the receive path delivers exactly the frames sent and keeps
    nothing; the op list is `handshakeOps`; the API ends `CONNECTED`, initialised, has sent the six requests in order
    (then the first heartbeat), no handler raised, `RESULT init True` once and no other result, and the exposed object
    model is the described one. -/
theorem handshake_from_bytes_at4 (a : Answers) (p : Pids) (z : NoiseFrames)
    (hc : Consistent a.names a.abilities) (ha : a.Sendable) (hp : p.Valid) (hzg : z.Good) (hzn : z.NotAnswers)
    (segs : List Bytes) (hsegs : segs.flatten = wireStream (onWire a p z)) :
    (feedAll proto ⟨[], false⟩ segs).2 = ⟨[], false⟩ ∧
    (feedAll proto ⟨[], false⟩ segs).1 = (onWire a p z).map (fun x => (x.1.hdr, x.2)) ∧
    [Op.init, .conn true] ++ (feedAll proto ⟨[], false⟩ segs).1.map recvOp = handshakeOps a z.ops ∧
    HandshakeDone a (run State.initial ([.init, .conn true] ++ (feedAll proto ⟨[], false⟩ segs).1.map recvOp)) := by
  have hd := stream_delivers_frames_at4 (onWire a p z) (onWire_good a p z ha hp hzg) segs hsegs
  have hops : [Op.init, .conn true] ++ (feedAll proto ⟨[], false⟩ segs).1.map recvOp = handshakeOps a z.ops := by
    rw [hd]
    simp only [List.map_map, Function.comp_def]
    exact ops_of_onWire a p z
  refine ⟨by rw [hd], by rw [hd], hops, ?_⟩
  rw [hops]
  obtain ⟨h1, h2, h3, h4, h5, _, h7⟩ := handshake_end_to_end_at4 a z.ops hc (ops_valid z hzn)
  rw [ops_lostConn] at h3
  exact ⟨h1, h2, h3, h4, h5, h7⟩

/-- **… at the payload level**: the receive path hands the payload bytes on (`rawProto`), the driver issues
    `msg <message id> <payload>` for each delivery, and `Api4.apiStep` decodes the payload with the registry model
    (`decodeTop`).  By the C03 round trip the run is the run of `handshake_from_bytes_at4`, outputs included. -/
theorem handshake_from_payloads_at4 (a : Answers) (p : Pids) (z : NoiseFrames)
    (hc : Consistent a.names a.abilities) (ha : a.Sendable) (hp : p.Valid) (hzg : z.Good) (hzn : z.NotAnswers)
    (segs : List Bytes) (hsegs : segs.flatten = wireStream (onWire a p z)) :
    (feedAll rawProto ⟨[], false⟩ segs).2 = ⟨[], false⟩ ∧
    (feedAll rawProto ⟨[], false⟩ segs).1 = (onWire a p z).map (fun x => (x.1.hdr, x.1.payload)) ∧
    run State.initial ([.init, .conn true] ++ (feedAll rawProto ⟨[], false⟩ segs).1.map msgOp) =
      run State.initial ([.init, .conn true] ++ (feedAll proto ⟨[], false⟩ segs).1.map recvOp) ∧
    HandshakeDone a (run State.initial ([.init, .conn true] ++ (feedAll rawProto ⟨[], false⟩ segs).1.map msgOp)) := by
  have hg := onWire_good a p z ha hp hzg
  have hd := stream_delivers_frames_at4 (onWire a p z) hg segs hsegs
  have hr := stream_delivers_raw (onWire a p z) hg segs hsegs
  have hrun : run State.initial ([.init, .conn true] ++ (feedAll rawProto ⟨[], false⟩ segs).1.map msgOp) =
      run State.initial ([.init, .conn true] ++ (feedAll proto ⟨[], false⟩ segs).1.map recvOp) := by
    rw [hd, hr]
    simp only [List.map_map, Function.comp_def]
    exact run_pre_msg_eq_recv _ _ hg _
  refine ⟨by rw [hr], by rw [hr], hrun, ?_⟩
  rw [hrun]
  exact (handshake_from_bytes_at4 a p z hc ha hp hzg hzn segs hsegs).2.2.2

/-- **… without noise**: the byte stream is the six answer frames and nothing else -/
theorem handshake_clean_from_bytes_at4 (a : Answers) (p : Pids) (hc : Consistent a.names a.abilities)
    (ha : a.Sendable) (hp : p.Valid) (segs : List Bytes)
    (hsegs : segs.flatten =
      (consoleWire p.p₁ a.verMsg).bytes ++ (consoleWire p.p₂ a.namesMsg).bytes ++ (consoleWire p.p₃ a.abilityMsg).bytes ++
      (consoleWire p.p₄ a.acStatusMsg).bytes ++ (consoleWire p.p₅ a.timerMsg).bytes ++ (consoleWire p.p₆ a.groupMsg).bytes) :
    (feedAll proto ⟨[], false⟩ segs).2 = ⟨[], false⟩ ∧
    (feedAll proto ⟨[], false⟩ segs).1.map (·.2) =
      [a.verMsg, a.namesMsg, a.abilityMsg, a.acStatusMsg, a.timerMsg, a.groupMsg] ∧
    HandshakeDone a (run State.initial ([.init, .conn true] ++ (feedAll proto ⟨[], false⟩ segs).1.map recvOp)) := by
  have hz : NoiseFrames.none.Good := by intro x hx; simp [NoiseFrames.none] at hx
  have hn : NoiseFrames.none.NotAnswers := by
    refine ⟨?_, ?_, ?_, ?_, ?_, ?_⟩ <;> intro x hx <;> simp [NoiseFrames.none] at hx
  obtain ⟨h1, h2, _, h4⟩ := handshake_from_bytes_at4 a p NoiseFrames.none hc ha hp hz hn segs (by
    rw [hsegs]
    simp [wireStream, onWire, NoiseFrames.none, consoleSent])
  refine ⟨h1, ?_, h4⟩
  rw [h2]
  simp [onWire, NoiseFrames.none, consoleSent]

/-! ### non-vacuity (AirTouch 4)

The demo installation of `Props/C09At4b` (one AC `AC` with groups 0 `a` and 1 `b`; four timer slots, as the timer-status
encoder demands), packet ids including 0 and 255, and noise: an unsolicited AC status and a frame of unknown type 0x99
before the version answer, a duplicate version answer, a frame addressed to the console (0x90, from 0xB0), an
error-information message, AC statuses, and after the handshake a group status and a names message.  295 bytes, fed
**one byte per segment**. -/

namespace At4

def demoAnswersB : Answers :=
  { demoAnswersA with
    timers := [demoTimer, { demoTimer with ac_number := 1 }, { demoTimer with ac_number := 2 },
      { demoTimer with ac_number := 3 }] }

def demoPids : Pids := ⟨1, 2, 3, 250, 0, 255⟩

def demoNoiseFrames : NoiseFrames :=
  { n₁ := [consoleSent 7 demoAcStatusMsg, unknownSent 0xB0 0x80 9 0x99 [1, 2]]
    n₂ := [consoleSent 1 demoVersionMsg]
    n₃ := [(wireOf 0x90 0xB0 3 (.extended (.consoleVer .request)), .extended (.consoleVer .request))]
    n₄ := []
    n₅ := [consoleSent 4 (.extended (.errInfo (.message { ac_number := 0, error_info := some [69] })))]
    n₆ := [consoleSent 4 demoAcStatusMsg]
    n₇ := [consoleSent 8 demoGroupMsg, consoleSent 9 demoNamesMsg] }

theorem demoB_sendable : demoAnswersB.Sendable := by
  refine ⟨?_, ?_, ?_, ?_, ?_, ?_⟩ <;> exact sendable_of_bool _ (by decide +kernel)

theorem demoNoiseFrames_good : demoNoiseFrames.Good := by
  intro x hx
  simp only [demoNoiseFrames, List.cons_append, List.nil_append, List.mem_cons, List.not_mem_nil, or_false] at hx
  rcases hx with rfl | rfl | rfl | rfl | rfl | rfl | rfl | rfl
  · exact consoleSent_good _ (by decide) _ (sendable_of_bool _ (by decide +kernel))
  · exact unknownSent_good _ _ _ _ _ (by decide) (by decide) (by decide) (by decide) (by decide) (by decide)
      (by unfold AllBytes; decide)
  · exact consoleSent_good _ (by decide) _ (sendable_of_bool _ (by decide +kernel))
  · exact wireOf_good _ _ _ (by decide) (by decide) (by decide) _ (sendable_of_bool _ (by decide +kernel))
  · exact consoleSent_good _ (by decide) _ (sendable_of_bool _ (by decide +kernel))
  · exact consoleSent_good _ (by decide) _ (sendable_of_bool _ (by decide +kernel))
  · exact consoleSent_good _ (by decide) _ (sendable_of_bool _ (by decide +kernel))
  · exact consoleSent_good _ (by decide) _ (sendable_of_bool _ (by decide +kernel))

theorem demoNoiseFrames_notAnswers : demoNoiseFrames.NotAnswers := by
  simp only [NoiseFrames.NotAnswers, demoNoiseFrames]
  decide

example : (wireStream (onWire demoAnswersB demoPids demoNoiseFrames)).length = 295 := by
  rw [wireStream_length _ fun x hx =>
    (onWire_good _ _ _ demoB_sendable (by unfold Pids.Valid; decide) demoNoiseFrames_good x hx).1]
  decide +kernel

/-- the theorem applied: the exposed model after the byte-by-byte run is the described one -/
example :
    let segs := (wireStream (onWire demoAnswersB demoPids demoNoiseFrames)).map fun b => [b]
    exposedModel (run State.initial ([.init, .conn true] ++ (feedAll proto ⟨[], false⟩ segs).1.map recvOp)).1 =
      [(0, [65, 67], [(0, [97]), (1, [98])])] := by
  intro segs
  rw [(handshake_from_bytes_at4 demoAnswersB demoPids demoNoiseFrames demo_consistent demoB_sendable
    (by unfold Pids.Valid; decide) demoNoiseFrames_good demoNoiseFrames_notAnswers segs
    (flatten_singletons _)).2.2.2.2.2.2.2.2]
  decide

/-- … and for the driver's `msg` ops on the raw payloads -/
example :
    let segs := (wireStream (onWire demoAnswersB demoPids demoNoiseFrames)).map fun b => [b]
    (run State.initial ([.init, .conn true] ++ (feedAll rawProto ⟨[], false⟩ segs).1.map msgOp)).1.st = .CONNECTED := by
  intro segs
  exact (handshake_from_payloads_at4 demoAnswersB demoPids demoNoiseFrames demo_consistent demoB_sendable
    (by unfold Pids.Valid; decide) demoNoiseFrames_good demoNoiseFrames_notAnswers segs (flatten_singletons _)).2.2.2.1

/-- the same, computed by the kernel without the theorem: the 14 frames are delivered in order -/
example : (feedAll proto ⟨[], false⟩
      ((wireStream (onWire demoAnswersB demoPids demoNoiseFrames)).map fun b => [b])).1.map (·.2) =
    (onWire demoAnswersB demoPids demoNoiseFrames).map (·.2) := by decide +kernel

end At4

end At4Part

section At5Part
open PyAirtouch.Model.Api5 PyAirtouch.Model.At5 PyAirtouch.Model.At5.Registry
open PyAirtouch.Gen PyAirtouch.Gen.Api5 PyAirtouch.Lemmas.Api5 PyAirtouch.Lemmas.CrossLayer.At5
open PyAirtouch.Model.TimerCommon (AcTimerStatusData)

/-- **any list of good frames** (any addresses, any packet ids, known or unknown types), **any segmentation**: the
    receive path delivers exactly the frames' headers and decoded messages, in order, and ends with an empty buffer -/
theorem stream_delivers_frames_at5 (xs : List Sent) (hx : ∀ x ∈ xs, x.Good) (segs : List Bytes)
    (hsegs : segs.flatten = wireStream xs) :
    Frame.feedAll proto ⟨[], false⟩ segs = (xs.map (fun x => (x.1.hdr, x.2)), ⟨[], false⟩) :=
  feedAll_frames proto (by decide) (fun x : Sent => x.1.hdr) (·.2) (·.1.bytes) xs
    (fun x hxm => wire_isFrame proto rfl rfl rfl x.1 (hx x hxm).1 x.2 (hx x hxm).2) segs hsegs

/-- **console frames of sendable messages**, packet ids `pm.1`: every segmentation of the concatenated frames delivers
    exactly those messages, in order, each under the header the console wrote, and ends with an empty buffer -/
theorem stream_delivers_at5 (ms : List (Nat × Msg)) (hms : ∀ pm ∈ ms, pm.1 < 256 ∧ Sendable pm.2)
    (segs : List Bytes) (hsegs : segs.flatten = wireStream (ms.map fun pm => consoleSent pm.1 pm.2)) :
    Frame.feedAll proto ⟨[], false⟩ segs =
      (ms.map (fun pm =>
        (({ to_address := 0xB0, from_address := if pm.2.messageId ≠ 0x1F then 0x80 else 0x90, packet_id := pm.1,
            message_id := pm.2.messageId, message_length := (payloadOf pm.2).length } : Hdr), pm.2)),
       ⟨[], false⟩) := by
  rw [stream_delivers_frames_at5 _ (by
    intro x hx
    obtain ⟨pm, hpm, rfl⟩ := List.mem_map.mp hx
    exact consoleSent_good pm.1 (hms pm hpm).1 pm.2 (hms pm hpm).2) segs hsegs, List.map_map]
  rfl

/-- the payloads themselves (receive path without the registry) -/
theorem stream_delivers_payloads_at5 (xs : List Sent) (hx : ∀ x ∈ xs, x.Good) (segs : List Bytes)
    (hsegs : segs.flatten = wireStream xs) :
    Frame.feedAll rawProto ⟨[], false⟩ segs = (xs.map (fun x => (x.1.hdr, x.1.payload)), ⟨[], false⟩) :=
  stream_delivers_raw xs hx segs hsegs

namespace At5

/-- the six answer frames (any addresses: the zero-zone echoes count only when addressed to 0xB0) -/
structure AnswerFrames where
  x₁ : Sent
  x₂ : Sent
  x₃ : Sent
  x₄ : Sent
  x₅ : Sent
  x₆ : Sent

def AnswerFrames.Good (x : AnswerFrames) : Prop :=
  x.x₁.Good ∧ x.x₂.Good ∧ x.x₃.Good ∧ x.x₄.Good ∧ x.x₅.Good ∧ x.x₆.Good

/-- each frame is accepted as the answer to the request outstanding at its turn (`Lemmas.Api5.answers`, which reads
    the header's `to_address` for the zero-zone echoes) -/
def AnswerFrames.Answer (x : AnswerFrames) : Prop :=
  answers .INIT_VERSION x.x₁.1.hdr.to_address x.x₁.2 = true ∧
  answers .INIT_ZONE_NAMES x.x₂.1.hdr.to_address x.x₂.2 = true ∧
  answers .INIT_AC_ABILITY x.x₃.1.hdr.to_address x.x₃.2 = true ∧
  answers .INIT_AC_STATUS x.x₄.1.hdr.to_address x.x₄.2 = true ∧
  answers .INIT_AC_TIMER_STATUS x.x₅.1.hdr.to_address x.x₅.2 = true ∧
  answers .INIT_ZONE_STATUS x.x₆.1.hdr.to_address x.x₆.2 = true

/-- the frames that travel before, between and after the six answers: any good frames at all -/
structure NoiseFrames where
  n₁ : List Sent
  n₂ : List Sent
  n₃ : List Sent
  n₄ : List Sent
  n₅ : List Sent
  n₆ : List Sent
  n₇ : List Sent

def NoiseFrames.Good (z : NoiseFrames) : Prop :=
  ∀ x ∈ z.n₁ ++ z.n₂ ++ z.n₃ ++ z.n₄ ++ z.n₅ ++ z.n₆ ++ z.n₇, Sent.Good x

def NoiseFrames.none : NoiseFrames := ⟨[], [], [], [], [], [], []⟩

/-- the API op of a frame: the decoded message with the header's `to_address` -/
def sentOp (x : Sent) : Op := .msg x.1.hdr.to_address x.2

/-- everything the console puts on the wire, in order -/
def onWire (x : AnswerFrames) (z : NoiseFrames) : List Sent :=
  z.n₁ ++ [x.x₁] ++ z.n₂ ++ [x.x₂] ++ z.n₃ ++ [x.x₃] ++ z.n₄ ++ [x.x₄] ++ z.n₅ ++ [x.x₅] ++ z.n₆ ++ [x.x₆] ++ z.n₇

/-- the side condition `hok` of `C09_handshake_completes_at5`: if the ability answer arrives while the API waits for it,
    the zones it refers to are known (else the real code raises `KeyError` in the handler and keeps waiting) -/
def AbilityKnown (s0 : State) (x : AnswerFrames) (z : NoiseFrames) : Prop :=
  (runS s0 ([.init, .conn true] ++ (z.n₁ ++ [x.x₁] ++ z.n₂ ++ [x.x₂] ++ z.n₃).map sentOp)).st = .INIT_AC_ABILITY →
  abilityOk (runS s0 ([.init, .conn true] ++ (z.n₁ ++ [x.x₁] ++ z.n₂ ++ [x.x₂] ++ z.n₃).map sentOp)) x.x₃.2

theorem onWire_good (x : AnswerFrames) (z : NoiseFrames) (hx : x.Good) (hz : z.Good) :
    ∀ y ∈ onWire x z, Sent.Good y := by
  obtain ⟨a1, a2, a3, a4, a5, a6⟩ := hx
  simp only [NoiseFrames.Good, List.forall_mem_append] at hz
  obtain ⟨⟨⟨⟨⟨⟨z1, z2⟩, z3⟩, z4⟩, z5⟩, z6⟩, z7⟩ := hz
  simp only [onWire, List.forall_mem_append, List.mem_singleton, forall_eq]
  exact ⟨⟨⟨⟨⟨⟨⟨⟨⟨⟨⟨⟨z1, a1⟩, z2⟩, a2⟩, z3⟩, a3⟩, z4⟩, a4⟩, z5⟩, a5⟩, z6⟩, a6⟩, z7⟩

theorem isFrame_map_sentOp (l : List Sent) : ∀ o ∈ l.map sentOp, Op.isFrame o = true := by
  intro o ho
  obtain ⟨x, _, rfl⟩ := List.mem_map.mp ho
  rfl

end At5
open At5

/-- **C09 from bytes (AirTouch 5).**  A fresh object; six good frames `x` each accepted as the answer at its turn
    (`x.Answer`); **any** good frames `z` before, between and after them; the side condition of
    `C09_handshake_completes_at5` on the ability answer (`AbilityKnown`); **every** list of segments `segs` whose
    concatenation is the concatenated frames.  Feed the segments to the receive path; run the API model on
    `init, conn true` and one `msg <to_address> <message>` per delivery.  Then the receive path delivers exactly the
    frames sent and keeps nothing, and the API ends `CONNECTED` with the initialised event set. -/
theorem handshake_from_bytes_at5 (aid serial name host : Bytes) (x : AnswerFrames) (z : NoiseFrames)
    (hx : x.Good) (hans : x.Answer) (hz : z.Good) (hok : AbilityKnown (State.new aid serial name host) x z)
    (segs : List Bytes) (hsegs : segs.flatten = wireStream (onWire x z)) :
    (Frame.feedAll proto ⟨[], false⟩ segs).2 = ⟨[], false⟩ ∧
    (Frame.feedAll proto ⟨[], false⟩ segs).1 = (onWire x z).map (fun y => (y.1.hdr, y.2)) ∧
    (runS (State.new aid serial name host)
      ([.init, .conn true] ++ (Frame.feedAll proto ⟨[], false⟩ segs).1.map frameOp)).st = .CONNECTED ∧
    (runS (State.new aid serial name host)
      ([.init, .conn true] ++ (Frame.feedAll proto ⟨[], false⟩ segs).1.map frameOp)).initialised = true := by
  have hd := stream_delivers_frames_at5 (onWire x z) (onWire_good x z hx hz) segs hsegs
  obtain ⟨hs, hst, _⟩ := afterConn_facts aid serial name host
  obtain ⟨h1, h2, h3, h4, h5, h6⟩ := hans
  have other : ∀ {s' : State} {st : AirTouchState} {y : Sent}, answers st y.1.hdr.to_address y.2 = true →
      st ≠ .INIT_AC_ABILITY → s'.st = st → abilityOk s' y.2 := fun ha hne _ => abilityOk_of_other _ _ _ _ ha hne
  have key := handshake_completes (runS (State.new aid serial name host) [.init, .conn true]) hs hst
    [(z.n₁.map sentOp, x.x₁.1.hdr.to_address, x.x₁.2), (z.n₂.map sentOp, x.x₂.1.hdr.to_address, x.x₂.2),
     (z.n₃.map sentOp, x.x₃.1.hdr.to_address, x.x₃.2), (z.n₄.map sentOp, x.x₄.1.hdr.to_address, x.x₄.2),
     (z.n₅.map sentOp, x.x₅.1.hdr.to_address, x.x₅.2), (z.n₆.map sentOp, x.x₆.1.hdr.to_address, x.x₆.2)]
    ⟨isFrame_map_sentOp _, h1, other h1 (by decide), isFrame_map_sentOp _, h2, other h2 (by decide),
     isFrame_map_sentOp _, h3,
     by
       simp only [AbilityKnown, sentOp, List.map_append, List.map_cons, List.map_nil, runS_append] at hok
       simp only [runS_append]
       exact hok,
     isFrame_map_sentOp _, h4, other h4 (by decide), isFrame_map_sentOp _, h5, other h5 (by decide),
     isFrame_map_sentOp _, h6, other h6 (by decide), trivial⟩
    rfl (z.n₇.map sentOp) (isFrame_map_sentOp _)
  have e : ((onWire x z).map fun y => frameOp (y.1.hdr, y.2)) = (onWire x z).map sentOp := rfl
  rw [hd]
  simp only [List.map_map, Function.comp_def, e]
  refine ⟨trivial, trivial, ?_⟩
  simpa only [onWire, script, sentOp, List.flatMap_cons, List.flatMap_nil, List.append_nil, List.map_append,
    List.map_cons, List.map_nil, runS_append] using key

/-- **… at the payload level**: the receive path hands the payload bytes on (`rawProto`) and the driver parses
    `msg <message id> <payload> <to_address>` with `ApiCmd5.parseMsg`, which decodes the payload with the registry model.
    By the C03 round trip the op list is the very op list of `handshake_from_bytes_at5`. -/
theorem handshake_from_payloads_at5 (x : AnswerFrames) (z : NoiseFrames) (hx : x.Good) (hz : z.Good)
    (segs : List Bytes) (hsegs : segs.flatten = wireStream (onWire x z)) :
    (Frame.feedAll rawProto ⟨[], false⟩ segs).2 = ⟨[], false⟩ ∧
    (Frame.feedAll rawProto ⟨[], false⟩ segs).1 = (onWire x z).map (fun y => (y.1.hdr, y.1.payload)) ∧
    (Frame.feedAll rawProto ⟨[], false⟩ segs).1.map payloadOp = (Frame.feedAll proto ⟨[], false⟩ segs).1.map frameOp := by
  have hg := onWire_good x z hx hz
  have hd := stream_delivers_frames_at5 (onWire x z) hg segs hsegs
  have hr := stream_delivers_raw (onWire x z) hg segs hsegs
  refine ⟨by rw [hr], by rw [hr], ?_⟩
  rw [hd, hr]
  simp only [List.map_map, Function.comp_def]
  exact map_payloadOp _ hg

namespace At5

/-- the packet ids the console gives its six answers -/
structure Pids where
  p₁ : Nat
  p₂ : Nat
  p₃ : Nat
  p₄ : Nat
  p₅ : Nat
  p₆ : Nat

def Pids.Valid (p : Pids) : Prop := p.p₁ < 256 ∧ p.p₂ < 256 ∧ p.p₃ < 256 ∧ p.p₄ < 256 ∧ p.p₅ < 256 ∧ p.p₆ < 256

/-- the installation as the console describes it in its six answers -/
structure Answers where
  version : FF30.ConsoleVersionMessage
  names : FF13.ZoneNamesMessage
  abilities : List FF11.AcAbility
  acStatus : List C023.AcStatusData
  timers : List AcTimerStatusData
  zones : List C021.ZoneStatusData

def Answers.verMsg (a : Answers) : Msg := .extended (.consoleVer (.message a.version))
def Answers.namesMsg (a : Answers) : Msg := .extended (.zoneNames (.message a.names))
def Answers.abilityMsg (a : Answers) : Msg := .extended (.acAbility (.ability a.abilities))
def Answers.acStatusMsg (a : Answers) : Msg := .controlStatus (.acStatus (.status a.acStatus))
def Answers.timerMsg (a : Answers) : Msg := .controlStatus (.acTimerStatus (.status a.timers))
def Answers.zoneMsg (a : Answers) : Msg := .controlStatus (.zoneStatus (.status a.zones))

/-- the registry can encode each of the six answers and the payload fits the length fields -/
def Answers.Sendable (a : Answers) : Prop :=
  PyAirtouch.Lemmas.CrossLayer.At5.Sendable a.verMsg ∧ PyAirtouch.Lemmas.CrossLayer.At5.Sendable a.namesMsg ∧
  PyAirtouch.Lemmas.CrossLayer.At5.Sendable a.abilityMsg ∧ PyAirtouch.Lemmas.CrossLayer.At5.Sendable a.acStatusMsg ∧
  PyAirtouch.Lemmas.CrossLayer.At5.Sendable a.timerMsg ∧ PyAirtouch.Lemmas.CrossLayer.At5.Sendable a.zoneMsg

/-- the six answers as console frames -/
def Answers.frames (a : Answers) (p : Pids) : AnswerFrames :=
  ⟨consoleSent p.p₁ a.verMsg, consoleSent p.p₂ a.namesMsg, consoleSent p.p₃ a.abilityMsg,
   consoleSent p.p₄ a.acStatusMsg, consoleSent p.p₅ a.timerMsg, consoleSent p.p₆ a.zoneMsg⟩

/-- the hypothesis `hok` of `C09_entities_as_described_at5`, on the state in which the names answer arrives: the ability
    answer refers only to zones the names answer named (no `KeyError`) -/
def Answers.ZonesKnown (a : Answers) (s0 : State) : Prop :=
  (processAcAbility a.abilities
    { processZoneNames a.names.zone_names (runS s0 [.init, .conn true, .msg 0xB0 a.verMsg]) with
      st := .INIT_AC_ABILITY }).exc = none

/-- the op list of the noise-free handshake -/
def cleanOps (a : Answers) : List Op :=
  [.init, .conn true, .msg 0xB0 a.verMsg, .msg 0xB0 a.namesMsg, .msg 0xB0 a.abilityMsg, .msg 0xB0 a.acStatusMsg,
   .msg 0xB0 a.timerMsg, .msg 0xB0 a.zoneMsg]

/-- the conclusion of `C09_entities_as_described_at5` about a state `s3` -/
def EntitiesAsDescribed (zn : FF13.ZoneNamesMessage) (abs : List FF11.AcAbility) (s3 : State) : Prop :=
  s3.st = .INIT_AC_STATUS ∧
  (∀ p ∈ zn.zone_names, (s3.zones.lookup p.1).isSome) ∧
  (∀ n r, s3.zones.lookup n = some r →
    ∃ z, s3.zobjs[r]? = some z ∧ z.id = n ∧ (n, z.name) ∈ zn.zone_names ∧ z.status = (newZone n z.name).status) ∧
  (∀ ab ∈ abs, (s3.acs.lookup ab.ac_number).isSome) ∧
  (∀ n r a, s3.ac? n = some (r, a) →
    ∃ ab ∈ abs, ab.ac_number = n ∧ a = newAc ab a.zones a.supportedModes a.supportedFanSpeeds ∧
      a.zones.length = ab.zone_count ∧
      ∀ k, k < ab.zone_count → ∃ zr z, a.zones[k]? = some zr ∧ s3.zobjs[zr]? = some z ∧
        z.id = ab.start_zone + k ∧ (ab.start_zone + k, z.name) ∈ zn.zone_names ∧ r ∈ z.fwd)

theorem frames_good (a : Answers) (p : Pids) (ha : a.Sendable) (hp : p.Valid) : (a.frames p).Good := by
  obtain ⟨a1, a2, a3, a4, a5, a6⟩ := ha
  obtain ⟨p1, p2, p3, p4, p5, p6⟩ := hp
  exact ⟨consoleSent_good _ p1 _ a1, consoleSent_good _ p2 _ a2, consoleSent_good _ p3 _ a3,
    consoleSent_good _ p4 _ a4, consoleSent_good _ p5 _ a5, consoleSent_good _ p6 _ a6⟩

end At5
open At5

/-- **C09 from bytes (AirTouch 5), without noise.**  A fresh object; the six answers `a` of an installation, encodable
    (`a.Sendable`), framed by the console (to 0xB0, packet ids `p`), the ability answer referring to named zones
    (`a.ZonesKnown`: the hypothesis of `C09_entities_as_described_at5`); **every** segmentation `segs` of the six frames.
    Then: the receive path delivers the six messages and keeps nothing; the op list is `cleanOps a`; the API ends
    `CONNECTED`, initialised; the sends that are not error-information requests are the six requests in order, then
    only heartbeat requests; and after the ability answer (the first five ops) the zones and air-conditioners are those
    the console described, as `C09_entities_as_described_at5` states it. -/
theorem handshake_clean_from_bytes_at5 (aid serial name host : Bytes) (a : Answers) (p : Pids)
    (ha : a.Sendable) (hp : p.Valid) (hok : a.ZonesKnown (State.new aid serial name host))
    (segs : List Bytes)
    (hsegs : segs.flatten =
      (consoleWire p.p₁ a.verMsg).bytes ++ (consoleWire p.p₂ a.namesMsg).bytes ++ (consoleWire p.p₃ a.abilityMsg).bytes ++
      (consoleWire p.p₄ a.acStatusMsg).bytes ++ (consoleWire p.p₅ a.timerMsg).bytes ++ (consoleWire p.p₆ a.zoneMsg).bytes) :
    (Frame.feedAll proto ⟨[], false⟩ segs).2 = ⟨[], false⟩ ∧
    (Frame.feedAll proto ⟨[], false⟩ segs).1.map (·.2) =
      [a.verMsg, a.namesMsg, a.abilityMsg, a.acStatusMsg, a.timerMsg, a.zoneMsg] ∧
    [Op.init, .conn true] ++ (Frame.feedAll proto ⟨[], false⟩ segs).1.map frameOp = cleanOps a ∧
    (runS (State.new aid serial name host) (cleanOps a)).st = .CONNECTED ∧
    (runS (State.new aid serial name host) (cleanOps a)).initialised = true ∧
    (∃ post, handshakeSends (runOut (State.new aid serial name host) (cleanOps a)) =
      [(Policy.connected, msgConsoleVersionRequest), (Policy.connected, msgZoneNamesRequestAll),
       (Policy.connected, msgAcAbilityRequestAll), (Policy.connected, msgAcStatusRequest),
       (Policy.connected, msgAcTimerStatusRequest), (Policy.connected, msgZoneStatusRequest)] ++ post ∧
      ∀ q ∈ post, q = (Policy.connected, hbMessage)) ∧
    EntitiesAsDescribed a.names a.abilities (runS (State.new aid serial name host) ((cleanOps a).take 5)) := by
  obtain ⟨g1, g2, g3, g4, g5, g6⟩ := frames_good a p ha hp
  have hd := stream_delivers_frames_at5
    [consoleSent p.p₁ a.verMsg, consoleSent p.p₂ a.namesMsg, consoleSent p.p₃ a.abilityMsg,
     consoleSent p.p₄ a.acStatusMsg, consoleSent p.p₅ a.timerMsg, consoleSent p.p₆ a.zoneMsg]
    (by
      simp only [List.mem_cons, List.not_mem_nil, or_false, forall_eq_or_imp, forall_eq]
      exact ⟨g1, g2, g3, g4, g5, g6⟩)
    segs (by
      rw [hsegs]
      simp [wireStream, consoleSent])
  obtain ⟨hs, hst, hi, hout, _, _⟩ := afterConn_facts aid serial name host
  obtain ⟨hsv, hstv, hzv, hav⟩ := afterVersion_facts aid serial name host a.version
  -- the ability answer is digestible when it arrives
  have hok' : abilityOk (apiStep (runS (State.new aid serial name host)
        [.init, .conn true, .msg 0xB0 (.extended (.consoleVer (.message a.version)))])
      (.msg 0xB0 (.extended (.zoneNames (.message a.names))))).1 a.abilityMsg := by
    show (processAcAbility a.abilities _).exc = none
    rw [step_zoneNames _ _ _ hsv.sockSubscribed hstv]
    exact hok
  obtain ⟨c1, c2, post, c3, c4⟩ := clean_run (runS (State.new aid serial name host) [.init, .conn true]) hs hi
    [(0xB0, a.verMsg), (0xB0, a.namesMsg), (0xB0, a.abilityMsg), (0xB0, a.acStatusMsg), (0xB0, a.timerMsg)]
    (0xB0, a.zoneMsg) (by rw [hst]; rfl)
    (by
      rw [hst]
      exact ⟨rfl, abilityOk_of_other _ .INIT_VERSION 0xB0 _ rfl (by decide),
        rfl, abilityOk_of_other _ .INIT_ZONE_NAMES 0xB0 _ rfl (by decide),
        rfl, by simpa only [runS_cons, runS_nil, Answers.verMsg, Answers.namesMsg] using hok',
        rfl, abilityOk_of_other _ .INIT_AC_STATUS 0xB0 _ rfl (by decide),
        rfl, abilityOk_of_other _ .INIT_AC_TIMER_STATUS 0xB0 _ rfl (by decide), trivial⟩)
    rfl
  rw [hst] at c3
  have eops : cleanOps a = [.init, .conn true] ++ [.msg 0xB0 a.verMsg, .msg 0xB0 a.namesMsg, .msg 0xB0 a.abilityMsg,
      .msg 0xB0 a.acStatusMsg, .msg 0xB0 a.timerMsg, .msg 0xB0 a.zoneMsg] := rfl
  refine ⟨by rw [hd], by rw [hd]; rfl, by rw [hd]; rfl, ?_, ?_, ⟨post, ?_, c4⟩, ?_⟩
  · rw [eops, runS_append]; exact c1
  · rw [eops, runS_append]; exact c2
  · rw [eops, runOut_append, handshakeSends_append, hout]; exact congrArg (_ ++ ·) c3
  · have e : runS (State.new aid serial name host) ((cleanOps a).take 5) =
        runS (runS (State.new aid serial name host) [.init, .conn true, .msg 0xB0 (.extended (.consoleVer (.message a.version)))])
          [.msg 0xB0 (.extended (.zoneNames (.message a.names))), .msg 0xB0 (.extended (.acAbility (.ability a.abilities)))] := by
      rw [← runS_append]; rfl
    rw [e]
    exact C09_entities_as_described_at5 _ hsv hstv hzv hav 0xB0 0xB0 a.names a.abilities hok

/-! ### non-vacuity (AirTouch 5)

The installation of the examples in `Props/C09At5` (one AC `M` over zones 0 `L` and 1 `B`; the AC status reports error 5),
packet ids including 0 and 255.  The six frames are 207 bytes, fed **one byte per segment**; the noisy variant adds an
unknown frame, a zone-names echo addressed to 0x90 (not the client: ignored), a premature zone status and a duplicate
version answer. -/

namespace At5

def demoAnswers5 : Answers :=
  { version := ⟨false, [[49]]⟩, names := ⟨[(0, [76]), (1, [66])]⟩, abilities := [exAbility],
    acStatus := [{ (newAc exAbility [] [] []).status with error_code := 5, set_point := 220, temperature := 215 }],
    timers := [], zones := [] }

def demoPids5 : Pids := ⟨0, 1, 2, 3, 254, 255⟩

theorem demo5_sendable : demoAnswers5.Sendable := by
  refine ⟨?_, ?_, ?_, ?_, ?_, ?_⟩ <;> exact sendable_of_bool _ (by decide +kernel)

theorem demo5_zonesKnown : demoAnswers5.ZonesKnown exS0 := by
  unfold Answers.ZonesKnown; decide

/-- the six frames -/
def demoStream5 : Bytes :=
  (consoleWire 0 demoAnswers5.verMsg).bytes ++ (consoleWire 1 demoAnswers5.namesMsg).bytes ++
  (consoleWire 2 demoAnswers5.abilityMsg).bytes ++ (consoleWire 3 demoAnswers5.acStatusMsg).bytes ++
  (consoleWire 254 demoAnswers5.timerMsg).bytes ++ (consoleWire 255 demoAnswers5.zoneMsg).bytes

example : demoStream5.length = 207 := by
  have e : demoStream5 = wireStream (onWire (demoAnswers5.frames demoPids5) NoiseFrames.none) := by
    simp [demoStream5, wireStream, onWire, NoiseFrames.none, Answers.frames, demoPids5, consoleSent]
  rw [e, wireStream_length _ fun x hx => (onWire_good _ _
    (frames_good _ _ demo5_sendable (by unfold Pids.Valid; decide)) (by intro y hy; cases hy) x hx).1]
  decide +kernel

example :
    (runS exS0 ([.init, .conn true] ++ (Frame.feedAll proto ⟨[], false⟩ (demoStream5.map fun b => [b])).1.map frameOp)).st =
      .CONNECTED ∧
    (runS exS0 ((cleanOps demoAnswers5).take 5)).airConditioners.map (fun a => (a.id, a.zones)) = [(0, [0, 1])] := by
  obtain ⟨_, _, h3, h4, _⟩ := handshake_clean_from_bytes_at5 [] [] [] [] demoAnswers5 demoPids5 demo5_sendable
    (by unfold Pids.Valid; decide) demo5_zonesKnown (demoStream5.map fun b => [b]) (flatten_singletons _)
  rw [h3]
  exact ⟨h4, by decide⟩

def demoNoise5 : NoiseFrames :=
  { n₁ := [unknownSent 0xB0 0x80 5 0x99 [1, 2]]
    n₂ := [(wireOf 0x90 0x80 7 (.extended (.zoneNames (.request ⟨none⟩))), .extended (.zoneNames (.request ⟨none⟩)))]
    n₃ := [consoleSent 9 demoAnswers5.zoneMsg]
    n₄ := [], n₅ := [], n₆ := []
    n₇ := [consoleSent 1 demoAnswers5.verMsg] }

theorem demoNoise5_good : demoNoise5.Good := by
  intro x hx
  simp only [demoNoise5, List.cons_append, List.nil_append, List.mem_cons, List.not_mem_nil, or_false] at hx
  rcases hx with rfl | rfl | rfl | rfl
  · exact unknownSent_good _ _ _ _ _ (by decide) (by decide) (by decide) (by decide) (by decide) (by decide)
      (by unfold AllBytes; decide)
  · exact wireOf_good _ _ _ (by decide) (by decide) (by decide) _ (sendable_of_bool _ (by decide +kernel))
  · exact consoleSent_good _ (by decide) _ (sendable_of_bool _ (by decide +kernel))
  · exact consoleSent_good _ (by decide) _ (sendable_of_bool _ (by decide +kernel))

example :
    let segs := (wireStream (onWire (demoAnswers5.frames demoPids5) demoNoise5)).map fun b => [b]
    (runS exS0 ([.init, .conn true] ++ (Frame.feedAll proto ⟨[], false⟩ segs).1.map frameOp)).st = .CONNECTED ∧
    ((Frame.feedAll proto ⟨[], false⟩ segs).1.map fun d => d.1.to_address) =
      [176, 176, 144, 176, 176, 176, 176, 176, 176, 176] := by
  intro segs
  obtain ⟨_, h2, h3, _⟩ := handshake_from_bytes_at5 [] [] [] [] (demoAnswers5.frames demoPids5) demoNoise5
    (frames_good _ _ demo5_sendable (by unfold Pids.Valid; decide)) (by unfold AnswerFrames.Answer; decide)
    demoNoise5_good (by intro _; show (processAcAbility _ _).exc = none; decide) segs (flatten_singletons _)
  exact ⟨h3, by rw [h2]; decide⟩

/-- the driver's ops on the raw payloads are the same op list -/
example :
    let segs := (wireStream (onWire (demoAnswers5.frames demoPids5) demoNoise5)).map fun b => [b]
    (Frame.feedAll rawProto ⟨[], false⟩ segs).1.map payloadOp = (Frame.feedAll proto ⟨[], false⟩ segs).1.map frameOp := by
  intro segs
  exact (handshake_from_payloads_at5 (demoAnswers5.frames demoPids5) demoNoise5
    (frames_good _ _ demo5_sendable (by unfold Pids.Valid; decide)) demoNoise5_good segs (flatten_singletons _)).2.2

end At5

end At5Part

end PyAirtouch.Props.C09
