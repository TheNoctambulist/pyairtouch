import PyAirtouch.Lemmas.SockLoss
/-!
# C01 — no accepted message disappears without cause

Model: `PyAirtouch.Model.Sock`; monitors: `dropsJustified`, `noSilentLoss` of `PyAirtouch.Spec.Trace`; proofs:
`Lemmas/SockLoss.lean`.  All statements are about `ReachableWF` states: reachable by a label sequence whose
sends carry pairwise distinct identities (the identity is the only thing that links a `qdrop` / write event to its
`accept`; with a repeated identity `acceptedAt` finds the first acceptance only).

* `C01_drops_justified` — every `qdrop` in the model's trace states a true reason: `expired` only at or after the
  expiry fixed at acceptance, `encErr` only for a message accepted with `encOk = false`, `maxRetries` only after at
  least one write attempt for that message.
* `C01_in_flight_attempted` — an entry held by a task suspended in `drain()` (`drainAwait w e r`) has a write attempt
  in the trace.
* `C01_accounted_strong` — every accepted message is still in the queue, or the trace has a write attempt
  (`wire` / `deadWrite` / `writeFault`) or a `qdrop` for it, **or the socket was closed and opened again after its
  acceptance** (`reopenedSince`, defined in `Lemmas/SockLoss.lean`: the trace reads `… accept sid … apiClose … apiOpen …`).
  `C01_accounted` is the weaker form with the in-flight alternative.
* `C01_accounted_current_session`, `C01_accounted_no_close` — the three-way statement, without `reopenedSince`, for
  messages of the session that is running (`reopenedSince … = false`), in particular for histories without `close()`.
* `C01_reopen_discards_silently` — the witness: accept while the link is down; `close()`; `open_socket()`; the entry is
  gone and nothing in the trace says so.
* `C01_no_silent_loss_quiescent` — in every reachable state with an empty queue (tasks may be anywhere; in particular
  in every `Healed` state: `C01_no_silent_loss_healed`) every accepted message has a write attempt or a drop in
  the trace or was accepted before a close / re-open, and all drops are justified; `C01_no_silent_loss_quiescent_no_close`
  is the two-way form for histories without `close()`.
* `C01_no_silent_loss_marked` — the monitor `noSilentLoss` itself accepts the trace of every reachable state with an
  empty queue after the harness marker `heal th` has been inserted at an arbitrary position, for every `th`.
  The model never emits `heal`; on its own trace the monitor reduces to `dropsJustified`
  (`C01_no_silent_loss_unmarked`).

**Why `reopenedSince`.**  `open_socket()` on a socket that is not open clears the send queue
(`self._message_queue.clear()`, /repo 3897b77), so that messages of an earlier session are not transmitted ahead of the next session's
handshake.  The code logs nothing there.  A message accepted in the earlier session and still queued - it was waiting for a
connection when `close()` ran (`close()` leaves the queue alone), or a sender suspended in `drain()` put it back through the
retry path after `close()` had returned - therefore disappears without a write attempt and without a `qdrop`
(`C01_reopen_discards_silently`).  The alternative is exact: a redundant `open_socket()` on an open socket clears nothing
and does not count.  The Spec monitor `noSilentLoss` does not judge histories in which the client was closed (`hasClose`).
-/
namespace PyAirtouch.Props.C01
open PyAirtouch.Model.Sock PyAirtouch.Spec.Trace PyAirtouch.Lemmas.Sock PyAirtouch.Lemmas.SockHeal
open PyAirtouch.Lemmas.SockLoss (reopenedSince)

/-- every drop states a true reason -/
theorem C01_drops_justified {s : Sys} (h : ReachableWF s) : dropsJustified s.core.trace = true :=
  Lemmas.SockLoss.C01_drops_justified h

/-- an entry held in flight by a task suspended in `drain()` has a write attempt in the trace -/
theorem C01_in_flight_attempted {s : Sys} (h : ReachableWF s) {k : Task} (hk : k ∈ s.tasks) {w : Nat} {x : Entry}
    {r : Ret} (hpc : k.pc = .drainAwait w x r) : 1 ≤ writeAttempts s.core.trace x.sid :=
  (Lemmas.SockLoss.tinv_reachableWF h).in_flight_attempted hk hpc

/-- accounting, strong form: still queued, or a write attempt, or a drop, or accepted before the socket was closed and
    opened again.  (`open_socket()` on a closed socket discards the queue without a log record;
    without the last alternative the statement is false, see `C01_reopen_discards_silently`.) -/
theorem C01_accounted_strong {s : Sys} (h : ReachableWF s) {sid t e r : Nat} {ok : Bool}
    (hmem : Ev.accept sid t e r ok ∈ s.core.trace) :
    (∃ x ∈ s.core.queue, x.sid = sid) ∨ 1 ≤ writeAttempts s.core.trace sid ∨ dropped s.core.trace sid = true ∨
      reopenedSince s.core.trace sid = true :=
  Lemmas.SockLoss.C01_accounted_strong h hmem

/-- the three-way statement, for messages accepted in the session that is running (or in the last one, if the socket has
    not been opened again) -/
theorem C01_accounted_current_session {s : Sys} (h : ReachableWF s) {sid t e r : Nat} {ok : Bool}
    (hmem : Ev.accept sid t e r ok ∈ s.core.trace) (hcur : reopenedSince s.core.trace sid = false) :
    (∃ x ∈ s.core.queue, x.sid = sid) ∨ 1 ≤ writeAttempts s.core.trace sid ∨ dropped s.core.trace sid = true :=
  (Lemmas.SockLoss.tinv_reachableWF h).accounted_current_session hmem hcur

/-- … in particular in every history without `close()` -/
theorem C01_accounted_no_close {s : Sys} (h : ReachableWF s) {sid t e r : Nat} {ok : Bool}
    (hmem : Ev.accept sid t e r ok ∈ s.core.trace) (hnc : hasClose s.core.trace = false) :
    (∃ x ∈ s.core.queue, x.sid = sid) ∨ 1 ≤ writeAttempts s.core.trace sid ∨ dropped s.core.trace sid = true :=
  (Lemmas.SockLoss.tinv_reachableWF h).accounted_no_close hmem hnc

/-- **the history in which the unrestricted three-way statement fails**: `open_socket()`; `send(1)` accepted while the link
    is down; a complete `close()` (the entry stays queued); `open_socket()`: the queue is empty, no write attempt, no drop,
    no task holds the message, and the trace after the `accept` is `apiClose, notify false, apiCloseDone, apiOpen` -/
theorem C01_reopen_discards_silently : ∃ s, ReachableWF s ∧ Ev.accept 1 0 240 2 true ∈ s.core.trace ∧
    s.core.queue = [] ∧ writeAttempts s.core.trace 1 = 0 ∧ dropped s.core.trace 1 = false ∧
    (∀ k ∈ s.tasks, k.pc = .finished ∨ k.pc = .connStart) ∧
    s.core.trace = [.apiOpen 0, .accept 1 0 240 2 true, .apiClose 0, .notify false 0, .apiCloseDone 0, .apiOpen 0] ∧
    reopenedSince s.core.trace 1 = true ∧
    ¬ ((∃ x ∈ s.core.queue, x.sid = 1) ∨ 1 ≤ writeAttempts s.core.trace 1 ∨ dropped s.core.trace 1 = true) :=
  Lemmas.SockLoss.reopen_discards_silently

/-- accounting: still queued, or in flight in some task, or a write attempt, or a drop, or accepted before the socket was
    closed and opened again -/
theorem C01_accounted {s : Sys} (h : ReachableWF s) {sid t e r : Nat} {ok : Bool}
    (hmem : Ev.accept sid t e r ok ∈ s.core.trace) :
    (∃ x ∈ s.core.queue, x.sid = sid) ∨
    (∃ k ∈ s.tasks, ∃ w x r', k.pc = .drainAwait w x r' ∧ x.sid = sid) ∨
    1 ≤ writeAttempts s.core.trace sid ∨ dropped s.core.trace sid = true ∨ reopenedSince s.core.trace sid = true :=
  ((Lemmas.SockLoss.tinv_reachableWF h).acct sid t e r ok hmem).imp_right .inr

/-- with an empty queue every accepted message has a write attempt or a drop or was accepted before the socket was closed
    and opened again (the re-open is one of the ways the queue becomes empty), and every drop is
    justified -/
theorem C01_no_silent_loss_quiescent {s : Sys} (h : ReachableWF s) (hq : s.core.queue = []) :
    dropsJustified s.core.trace = true ∧
    ∀ sid t e r ok, Ev.accept sid t e r ok ∈ s.core.trace →
      1 ≤ writeAttempts s.core.trace sid ∨ dropped s.core.trace sid = true ∨ reopenedSince s.core.trace sid = true :=
  Lemmas.SockLoss.C01_no_silent_loss_quiescent h hq

/-- the two-way statement, for histories without `close()` -/
theorem C01_no_silent_loss_quiescent_no_close {s : Sys} (h : ReachableWF s) (hq : s.core.queue = [])
    (hnc : hasClose s.core.trace = false) :
    dropsJustified s.core.trace = true ∧
    ∀ sid t e r ok, Ev.accept sid t e r ok ∈ s.core.trace →
      1 ≤ writeAttempts s.core.trace sid ∨ dropped s.core.trace sid = true :=
  (Lemmas.SockLoss.tinv_reachableWF h).quiescent_no_close hq hnc

theorem C01_no_silent_loss_healed {s : Sys} (h : ReachableWF s) (hh : Healed s) :
    dropsJustified s.core.trace = true ∧
    ∀ sid t e r ok, Ev.accept sid t e r ok ∈ s.core.trace →
      1 ≤ writeAttempts s.core.trace sid ∨ dropped s.core.trace sid = true ∨ reopenedSince s.core.trace sid = true :=
  (Lemmas.SockLoss.tinv_reachableWF h).quiescent hh.queue

/-- the monitor accepts the trace of a state with an empty queue, with the marker `heal th` inserted anywhere -/
theorem C01_no_silent_loss_marked {s : Sys} (h : ReachableWF s) (hq : s.core.queue = []) (pre post : List Ev)
    (th : Nat) (htr : s.core.trace = pre ++ post) : noSilentLoss (pre ++ Ev.heal th :: post) = true :=
  (Lemmas.SockLoss.tinv_reachableWF h).noSilentLoss_marked hq pre post th htr

/-- the model never emits the marker -/
theorem C01_never_emits_heal {s : Sys} (h : ReachableWF s) : healTime s.core.trace = none :=
  (Lemmas.SockLoss.tinv_reachableWF h).noHeal

/-- "unmarked": the model's own trace, without the harness marker `heal`.  The monitor only judges the messages accepted
    before the marker, so without one that half is vacuous and what is left is `dropsJustified` -/
theorem C01_no_silent_loss_unmarked {s : Sys} (h : ReachableWF s) : noSilentLoss s.core.trace = true :=
  (Lemmas.SockLoss.tinv_reachableWF h).noSilentLoss_unmarked

/-! ### non-vacuity -/

/-- message 1 (life 8) is queued while the link is down and purged at time 10; message 2 cannot be encoded;
    message 3 (no retry) hits a write fault, its `drain()` raises -/
def dropsRun : List Label :=
  [.apiOpen, .apiSend 1 0 8 true, .advance 10, .run 1 .go, .run 1 .openOk, .apiSend 2 0 8 false,
   .envFailWrites 0 true, .apiSend 3 0 240 true, .envLostRan 0, .run 4 .drainErr]

/-- one drop of each kind, each with the justification the monitor asks for -/
example : ∃ s, ReachableWF s ∧
    Ev.qdrop 1 10 .expired ∈ s.core.trace ∧ acceptedAt s.core.trace 1 = some (0, 8, 0, true) ∧
    Ev.qdrop 2 10 .encErr ∈ s.core.trace ∧ acceptedAt s.core.trace 2 = some (10, 18, 0, false) ∧
    Ev.qdrop 3 10 .maxRetries ∈ s.core.trace ∧ writeAttempts s.core.trace 3 = 1 ∧
    dropsJustified s.core.trace = true :=
  ⟨_, ⟨dropsRun, by decide, rfl⟩, by decide, by decide, by decide, by decide, by decide, by decide, by decide⟩

/-- the monitor does reject unjustified drops: the same three drops, one tick before the expiry / of an encodable
    message / without a write attempt -/
example : dropsJustified [.accept 1 0 8 0 true, .qdrop 1 7 .expired] = false ∧
    dropsJustified [.accept 1 0 8 0 true, .qdrop 1 7 .encErr] = false ∧
    dropsJustified [.accept 1 0 8 0 true, .qdrop 1 7 .maxRetries] = false := by decide

/-- the run continues: the client disconnects, reconnects, and a fourth message is accepted and written -/
def healedRun : List Label :=
  dropsRun ++ [.run 4 .go, .run 4 .go, .run 5 .go, .run 5 .openOk, .run 5 .go, .run 1 .go, .run 6 .go, .run 7 .go,
    .apiSend 4 0 240 true]

/-- a healed state whose trace holds four accepted messages: three dropped (one of each kind), one written -/
example : ∃ s, ReachableWF s ∧ Healed s ∧ acceptedSids s.core.trace = [1, 2, 3, 4] ∧
    dropped s.core.trace 1 = true ∧ dropped s.core.trace 2 = true ∧ dropped s.core.trace 3 = true ∧
    dropped s.core.trace 4 = false ∧ wireCount s.core.trace 4 = 1 :=
  ⟨_, ⟨healedRun, by decide, rfl⟩, healed_of_healedB (by decide), by decide, by decide, by decide, by decide,
    by decide, by decide⟩

/-- the marker inserted after the fault (position 12, time 10): the second conjunct of `noSilentLoss` is evaluated
    (`healTime` is defined, no `close()`), and the monitor accepts -/
example : ∃ s, ReachableWF s ∧ Healed s ∧
    healTime (s.core.trace.take 12 ++ Ev.heal 10 :: s.core.trace.drop 12) = some 10 ∧
    hasClose (s.core.trace.take 12 ++ Ev.heal 10 :: s.core.trace.drop 12) = false ∧
    noSilentLoss (s.core.trace.take 12 ++ Ev.heal 10 :: s.core.trace.drop 12) = true :=
  ⟨_, ⟨healedRun, by decide, rfl⟩, healed_of_healedB (by decide), by decide, by decide,
    C01_no_silent_loss_marked ⟨healedRun, by decide, rfl⟩ rfl _ _ 10 (List.take_append_drop 12 _).symm⟩

/-- the monitor does reject a silent loss: accepted before the marker, alive at the end, never written or dropped -/
example : noSilentLoss [.accept 1 0 240 0 true, .heal 5, .census 20 0 0 1 0] = false := by decide

/-- the hypothesis "queue empty" of `C01_no_silent_loss_marked` cannot be removed: a message that is merely still
    queued (link down) is reported by the monitor if a marker is inserted -/
example : ∃ s, ReachableWF s ∧ s.core.queue ≠ [] ∧ noSilentLoss (Ev.heal 0 :: s.core.trace) = false :=
  ⟨_, ⟨[.apiOpen, .apiSend 1 0 240 true], by decide, rfl⟩, by decide, by decide⟩

end PyAirtouch.Props.C01
