import PyAirtouch.Lemmas.ApiEquiv
/-!
# C19 — the unified API behaves the same over AirTouch 4 and AirTouch 5

Statement: for consoles of the two generations describing equivalent installations and states, the unified API exposes
equal values for every attribute both generations support, accepts and rejects the same requests, and each accepted
request has the same protocol meaning on its own wire format.  Differences are confined to the documented ones
(set-point resolution, away / sleep and intelligent-auto support, bypass reporting, per-mode limits).

Restatements, and at the end one worked installation (`exMsgs`, `exRel` and the examples on it); definitions and
proofs are in `Lemmas/ApiEquiv.lean`.  The two models are `Model.Api4` / `Model.Api5`.

## Reading guide

1. **Common description** — `AbsAc` (`AbsAcInfo`, `AbsAcStatus`, timers, error text), `AbsZone` (`AbsZoneStatus`, name);
   embeddings `….to4` / `….to5` into the record types of the message models; `….WF` = transmittable by both codecs
   (`C19_*_expressible`).  `IsAt4Ac a o` / `IsAt5Ac a o` / `IsAt4Zone` / `IsAt5Zone`: the API object `o` holds the
   embedded records of `a` (the constructors produce such objects: `C19_mkAc_embedded`, `C19_newAc_embedded`).
2. **Attributes** — `C19_ac_attributes_at4/at5`, `C19_zone_attributes_at4/at5`: every getter of either model returns the
   abstract value; hence `C19_ac_attributes_equal`, `C19_zone_attributes_equal` on the projections `AcView` / `ZoneView`.
   `C19_view*_render`: the models' VIEW text is a rendering of the projection, parameterised by exactly the three
   attributes left out (model, `target_temperature_resolution`, `supported_power_controls`).
3. **States** — `Rel s4 s5` (heaps related index by index, same handshake state, sockets open, same identification).
   `C19_step_rel`: one embedded console message keeps `Rel`; `C19_rel_after_init`: base case; `C19_fresh_run_rel` /
   `C19_fresh_run_view`: whole runs from fresh objects; `C19_view_rel`, `C19_view_eq_of_allTurbo`,
   `C19_view_text_of_allTurbo`: what `Rel` means for the VIEW.  One side condition (`AbsMsg.Admissible`): an ability
   message with a *single* AC must give it exactly the named zones (`C19_single_ac_needs_covering_range`);
   `C19_handshake_admissible` discharges it for canonical handshakes.
4. **Requests** — `SameOutcome o4 o5`: same exception, or one send each with the same retry policy and
   `SameMeaning` (`AcCmdCorr` / `ZoneCmdCorr` between `meaning2C` ↔ `meaningC022`, `meaning2A` ↔ `meaningC020` through the
   explicit word maps `acPower45`, `acMode45`, `acFan45`, `acSetpoint45`, `zonePower45`, `zoneSetting45`).
   `C19_*_alike` per call; `C19_*_on_the_wire`: with C04, the same about the bytes each generation writes.

## Differences

Documented (`…_documented_difference`): resolution, away / sleep (controls and states), intelligent auto, bypass,
per-mode limits.  NOT documented, found here:
* zone `supported_power_states` / `set_power(TURBO)`: AirTouch 4 honours the console's turbo-support bit, AirTouch 5 has
  no such report and always offers / sends TURBO (`C19_zone_supported_power_states_needs_turbo`,
  `C19_zone_set_power_turbo_needs_support`);
* AirTouch 4 group control sets the control method together with a percentage / set-point, AirTouch 5's message has no
  control-type field (`ZoneCmdCorr.method4` / `.controlType5`, in every zone statement);
* a zone set-point outside 10 … 35 °C is sent by AirTouch 4 and cannot be encoded by AirTouch 5
  (`C19_zone_set_point_wire_asymmetry`);
* a single AirTouch 4 AC without group bitmap owns every named group; with a bitmap the order of `ac.zones` is CPython's
  set order (`C19_single_ac_needs_covering_range`, `C19_at4_bitmap_zone_order`).
* a console without zones (no theorem here: outside `AbsMsg`): the names answer of either generation then decodes as
  the *request* object; AirTouch 5 takes it for the answer (`at5/api.py`, "systems with no zones configured"),
  AirTouch 4 does not, and its `init()` times out (`Lemmas.Api4.answerKind`, `Lemmas.Api5.answers`).
-/
namespace PyAirtouch.Props.C19
open PyAirtouch PyAirtouch.Model PyAirtouch.Gen PyAirtouch.Lemmas.ApiEquiv
open PyAirtouch.Model.TimerCommon (AcTimerState AcTimerStatusData)
open PyAirtouch.Lemmas.SpecCmd

/-! ## 1. the common description is expressible in both protocols -/
theorem C19_acInfo_expressible : type_of% @acInfo_expressible := @acInfo_expressible
theorem C19_acStatus_expressible : type_of% @acStatus_expressible := @acStatus_expressible
theorem C19_zoneStatus_expressible : type_of% @zoneStatus_expressible := @zoneStatus_expressible
theorem C19_acStatus_embeddings_agree : type_of% @AbsAcStatus.to4_eq_iff_to5_eq := @AbsAcStatus.to4_eq_iff_to5_eq
theorem C19_mkAc_embedded : type_of% @mkAc_embedded := @mkAc_embedded
theorem C19_newAc_embedded : type_of% @newAc_embedded := @newAc_embedded
theorem C19_mkZone_embedded : type_of% @mkZone_embedded := @mkZone_embedded
theorem C19_newZone_embedded : type_of% @newZone_embedded := @newZone_embedded
theorem C19_mem_supportedModes : type_of% @mem_supportedModes := @mem_supportedModes
theorem C19_mem_supportedFanSpeeds : type_of% @mem_supportedFanSpeeds := @mem_supportedFanSpeeds
theorem C19_intelligentAuto_not_supported : type_of% @intelligentAuto_not_supported := @intelligentAuto_not_supported

/-! ## 2. equal attributes -/
theorem C19_ac_attributes_at4 : type_of% @ac_attributes_at4 := @ac_attributes_at4
theorem C19_ac_attributes_at5 : type_of% @ac_attributes_at5 := @ac_attributes_at5
theorem C19_zone_attributes_at4 : type_of% @zone_attributes_at4 := @zone_attributes_at4
theorem C19_zone_attributes_at5 : type_of% @zone_attributes_at5 := @zone_attributes_at5
theorem C19_ac_attributes_equal : type_of% @ac_attributes_equal := @ac_attributes_equal
theorem C19_zone_attributes_equal : type_of% @zone_attributes_equal := @zone_attributes_equal
theorem C19_zone_supported_power_states_iff : type_of% @zone_supported_power_states_iff := @zone_supported_power_states_iff
theorem C19_zone_supported_power_states_needs_turbo : type_of% @zone_supported_power_states_needs_turbo :=
  @zone_supported_power_states_needs_turbo
/-! the projection is faithful: the VIEW text of either model is `render… (projection)` -/
theorem C19_viewZone4_render : type_of% @viewZone4_render := @viewZone4_render
theorem C19_viewZone5_render : type_of% @viewZone5_render := @viewZone5_render
theorem C19_viewAc4_render : type_of% @viewAc4_render := @viewAc4_render
theorem C19_viewAc5_render : type_of% @viewAc5_render := @viewAc5_render
theorem C19_viewAt4_render : type_of% @viewAt4_render := @viewAt4_render
theorem C19_viewAt5_render : type_of% @viewAt5_render := @viewAt5_render

/-! ## 3. lifting to states and runs -/
theorem C19_view_rel : type_of% @view_rel := @view_rel
theorem C19_view_eq_of_allTurbo : type_of% @view_eq_of_allTurbo := @view_eq_of_allTurbo
theorem C19_view_text_of_allTurbo : type_of% @view_text_of_allTurbo := @view_text_of_allTurbo
theorem C19_onMessage_rel : type_of% @onMessage_rel := @onMessage_rel
theorem C19_step_rel : type_of% @step_rel := @step_rel
theorem C19_rel_after_init : type_of% @rel_after_init := @rel_after_init
theorem C19_run_rel : type_of% @run_rel := @run_rel
theorem C19_fresh_run_rel : type_of% @fresh_run_rel := @fresh_run_rel
theorem C19_fresh_run_view : type_of% @fresh_run_view := @fresh_run_view
theorem C19_admissibleRun_of_no_single : type_of% @admissibleRun_of_no_single := @admissibleRun_of_no_single
theorem C19_handshake_admissible : type_of% @handshake_admissible := @handshake_admissible
theorem C19_single_ac_needs_covering_range : type_of% @single_ac_needs_covering_range := @single_ac_needs_covering_range
theorem C19_at4_bitmap_zone_order : type_of% @at4_bitmap_zone_order := @at4_bitmap_zone_order
/-! the per-record lemmas behind `C19_step_rel` -/
theorem C19_acStatusStep_rel : type_of% @acStatusStep_rel := @acStatusStep_rel
theorem C19_acTimerStep_rel : type_of% @acTimerStep_rel := @acTimerStep_rel
theorem C19_errInfoStep_rel : type_of% @errInfoStep_rel := @errInfoStep_rel
theorem C19_zoneStatusStep_rel : type_of% @zoneStatusStep_rel := @zoneStatusStep_rel
theorem C19_names_rel : type_of% @names_rel := @names_rel
theorem C19_abilities_rel : type_of% @abilities_rel := @abilities_rel

/-! ## 4. requests -/
theorem C19_ac_set_power_alike : type_of% @ac_set_power_alike := @ac_set_power_alike
theorem C19_ac_set_mode_alike : type_of% @ac_set_mode_alike := @ac_set_mode_alike
theorem C19_ac_set_fan_speed_alike : type_of% @ac_set_fan_speed_alike := @ac_set_fan_speed_alike
theorem C19_ac_set_target_temperature_alike : type_of% @ac_set_target_temperature_alike :=
  @ac_set_target_temperature_alike
theorem C19_ac_set_target_temperature_accepted_alike : type_of% @ac_set_target_temperature_accepted_alike :=
  @ac_set_target_temperature_accepted_alike
theorem C19_roundsAlike_whole : type_of% @roundsAlike_whole := @roundsAlike_whole
theorem C19_clip_whole : type_of% @clip_whole := @clip_whole
theorem C19_zone_set_power_alike : type_of% @zone_set_power_alike := @zone_set_power_alike
theorem C19_zone_set_power_turbo_needs_support : type_of% @zone_set_power_turbo_needs_support :=
  @zone_set_power_turbo_needs_support
theorem C19_zone_set_damper_alike : type_of% @zone_set_damper_alike := @zone_set_damper_alike
theorem C19_zone_set_target_temperature_alike : type_of% @zone_set_target_temperature_alike :=
  @zone_set_target_temperature_alike
theorem C19_zone_set_target_temperature_accepted_alike : type_of% @zone_set_target_temperature_accepted_alike :=
  @zone_set_target_temperature_accepted_alike

/-! ### the documented differences -/
theorem C19_supported_power_controls_documented_difference : type_of% @supported_power_controls_documented_difference :=
  @supported_power_controls_documented_difference
theorem C19_resolution_documented_difference : type_of% @resolution_documented_difference :=
  @resolution_documented_difference
theorem C19_set_point_resolution_documented_difference : type_of% @set_point_resolution_documented_difference :=
  @set_point_resolution_documented_difference
theorem C19_set_point_resolution_bound : type_of% @set_point_resolution_bound := @set_point_resolution_bound
theorem C19_set_power_away_sleep_documented_difference : type_of% @set_power_away_sleep_documented_difference :=
  @set_power_away_sleep_documented_difference
theorem C19_power_state_documented_difference : type_of% @power_state_documented_difference :=
  @power_state_documented_difference
theorem C19_intelligent_auto_documented_difference : type_of% @intelligent_auto_documented_difference :=
  @intelligent_auto_documented_difference
theorem C19_bypass_documented_difference : type_of% @bypass_documented_difference := @bypass_documented_difference
theorem C19_per_mode_limits_documented_difference : type_of% @per_mode_limits_documented_difference :=
  @per_mode_limits_documented_difference

/-! ### on the wire (with C04) -/
theorem C19_ac_same_meaning_on_the_wire : type_of% @ac_same_meaning_on_the_wire := @ac_same_meaning_on_the_wire
theorem C19_zone_same_meaning_on_the_wire : type_of% @zone_same_meaning_on_the_wire := @zone_same_meaning_on_the_wire
theorem C19_ac_control_wf : type_of% @ac_control_wf := @ac_control_wf
theorem C19_ac_set_point_wf : type_of% @ac_set_point_wf := @ac_set_point_wf
theorem C19_zone_set_point_wire_asymmetry : type_of% @zone_set_point_wire_asymmetry := @zone_set_point_wire_asymmetry

/-! ## Non-vacuity: one installation, described to both generations

Two zones ("L" with a sensor, "B" without), one AC "M" covering both, HEAT / COOL, LOW / HIGH, 16 … 30 °C. -/

def exInfo : AbsAcInfo :=
  { number := 0, name := [77], modes := [.HEAT, .COOL], fans := [.LOW, .HIGH], minSetPoint := 16, maxSetPoint := 30
    firstZone := 0, zoneCount := 2 }

def exAcStatus : AbsAcStatus :=
  { number := 0, powerOn := true, mode := .AUTO_HEAT, fan := .LOW, setPoint := 22, temperature := 215, spill := false
    timerSet := true, errorCode := 5 }

def exTimers : AcTimerStatusData := { ac_number := 0, on_timer := ⟨false, 6, 45⟩, off_timer := ⟨true, 0, 0⟩ }

def exZone0 : AbsZoneStatus :=
  { number := 0, power := .ON, method := .TEMPERATURE, damper := 80, setPoint := some 22, sensor := true
    temperature := some 220, batteryLow := false, spill := false, turbo := true }

def exZone1 : AbsZoneStatus :=
  { number := 1, power := .OFF, method := .DAMPER, damper := 0, setPoint := none, sensor := false, temperature := none
    batteryLow := false, spill := true, turbo := true }

/-- the console's side of the handshake and two later reports -/
def exMsgs : List AbsMsg :=
  [.version false [[49]], .names [(0, [76]), (1, [66])], .abilities [exInfo], .acStatus [exAcStatus],
   .acTimers [exTimers], .zoneStatus [exZone0, exZone1], .errInfo 0 (some [69]),
   .zoneStatus [{ exZone1 with power := .ON, damper := 55 }]]

-- the description is within what both codecs carry
theorem exInfo_wf : exInfo.WF :=
  ⟨by decide, ⟨by decide, by decide, by decide, by intro b hb; simp [exInfo] at hb; subst hb; decide⟩, by decide, by decide⟩
example : exAcStatus.WF := ⟨by decide, by decide, by decide, by decide⟩
example : exZone0.WF ∧ exZone1.WF :=
  ⟨⟨by decide, by decide, fun _ => ⟨22, rfl, by decide, by decide⟩, by decide, by decide⟩,
   ⟨by decide, by decide, by decide, fun _ => ⟨rfl, rfl⟩, by decide⟩⟩
example : At4.FF11.WFRec exInfo.to4 ∧ At5.FF11.WFRec exInfo.to5 :=
  C19_acInfo_expressible exInfo exInfo_wf

-- the side condition of the run theorem holds for this handshake (single AC = exactly the named zones)
theorem exAdmissible : AdmissibleRun (Api4.run Api4.State.initial [.init, .conn true]).1 exMsgs :=
  C19_handshake_admissible false [[49]] [(0, [76]), (1, [66])] [exInfo] _ (by decide)
    (by intro _ i hi; simp only [List.mem_singleton] at hi; subst hi; decide)
    (by intro m hm l hl; subst hl; simp at hm)

/-- the two models, run on the two embeddings of the same console, end in related states … -/
theorem exRel : Rel (Api4.run Api4.State.initial (script4 exMsgs)).1 (Api5.run fresh5 (script5 0xB0 exMsgs)).1 :=
  C19_fresh_run_rel 0xB0 exMsgs exAdmissible

/-- … both CONNECTED and initialised … -/
example : (Api4.run Api4.State.initial (script4 exMsgs)).1.st = .CONNECTED ∧
    (Api5.run fresh5 (script5 0xB0 exMsgs)).1.st = .CONNECTED ∧
    (Api5.run fresh5 (script5 0xB0 exMsgs)).1.initialised = true := by decide +kernel

/-- … with the same projected view (every zone reports turbo support), which is this: -/
example : atView4 (Api4.run Api4.State.initial (script4 exMsgs)).1 = atView5 (Api5.run fresh5 (script5 0xB0 exMsgs)).1 :=
  C19_view_eq_of_allTurbo exRel (by unfold AllTurbo; decide)

example : (atView5 (Api5.run fresh5 (script5 0xB0 exMsgs)).1).map
      (fun v => (v.initialised, v.updateAvailable, v.consoleVersions, v.airConditioners)) = some
    (true, false, [[49]], [
        { acId := 0, name := [77], supportedModes := [.HEAT, .COOL], supportedFanSpeeds := [.LOW, .HIGH]
          powerState := .ON, selectedMode := .AUTO, activeMode := .HEAT, selectedFanSpeed := .LOW
          activeFanSpeed := .LOW, currentTemperature := 215, targetTemperature := 220, minTargetTemperature := 160
          maxTargetTemperature := 300, spillState := .NONE, offTimer := none, onTimer := some (6, 45)
          errorInfo := some (5, some [69])
          zones := [
            { zoneId := 0, name := [76], supportedPowerStates := [.OFF, .ON, .TURBO], powerState := .ON
              controlMethod := .TEMPERATURE, hasTempSensor := true, sensorBatteryStatus := .NORMAL
              currentTemperature := some 220, targetTemperature := some 220, currentDamperPercentage := 80
              spillActive := false },
            { zoneId := 1, name := [66], supportedPowerStates := [.OFF, .ON, .TURBO], powerState := .ON
              controlMethod := .DAMPER, hasTempSensor := false, sensorBatteryStatus := .NORMAL
              currentTemperature := none, targetTemperature := none, currentDamperPercentage := 55
              spillActive := true }] }]) := by decide +kernel

/-- the stated asymmetry: before the first zone status (zones still at the constructor's "no turbo") AirTouch 4
    offers OFF / ON, AirTouch 5 OFF / ON / TURBO - everything else in the views is equal (`C19_view_rel`) -/
example :
    ((atView4 (Api4.run Api4.State.initial (script4 (exMsgs.take 5))).1).map fun v =>
        v.airConditioners.map fun a => a.zones.map (·.supportedPowerStates)) = some [[[.OFF, .ON], [.OFF, .ON]]] ∧
    ((atView5 (Api5.run fresh5 (script5 0xB0 (exMsgs.take 5))).1).map fun v =>
        v.airConditioners.map fun a => a.zones.map (·.supportedPowerStates)) =
      some [[[.OFF, .ON, .TURBO], [.OFF, .ON, .TURBO]]] := by decide +kernel

/-! ### requests on these states -/

abbrev exS4 : Api4.State := (Api4.run Api4.State.initial (script4 exMsgs)).1
abbrev exS5 : Api5.State := (Api5.run fresh5 (script5 0xB0 exMsgs)).1

example : SameOutcome (Api4.apiStep exS4 (.call (.acSetMode 0 .HEAT true))).2
    (Api5.apiStep exS5 (.callAc 0 (.setMode .HEAT true))).2 :=
  C19_ac_set_mode_alike exRel.heap exRel.sockOpen_eq 0 .HEAT true

/-- … concretely: accepted, one message each, "mode heat, power on" -/
example :
    (Api4.apiStep exS4 (.call (.acSetMode 0 .HEAT true))).2 =
      [.send .idempotent (.reg (.acCtrl ⟨0, .TURN_ON, .HEAT, .UNCHANGED, .none⟩)), .result "OK"] ∧
    (Api5.apiStep exS5 (.callAc 0 (.setMode .HEAT true))).2 =
      [.send .idempotent (Api5.msgAcControl ⟨0, .TURN_ON, .HEAT, .UNCHANGED, none⟩) false, .result "OK"] ∧
    (meaning2C ⟨0, .TURN_ON, .HEAT, .UNCHANGED, .none⟩).mode = .set .heat ∧
    (meaningAcRec ⟨0, .TURN_ON, .HEAT, .UNCHANGED, none⟩).mode = .heat := by decide +kernel

/-- DRY is not supported: refused by both -/
example : (Api4.apiStep exS4 (.call (.acSetMode 0 .DRY false))).2 = [.result "ValueError"] ∧
    (Api5.apiStep exS5 (.callAc 0 (.setMode .DRY false))).2 = [.result "ValueError"] := by decide +kernel

/-- 31 °C: both clip to the limit 30 °C and say "set-point := set(300)" -/
example :
    (Api4.apiStep exS4 (.call (.acSetTemp 0 3100))).2 =
      [.send .idempotent (.reg (.acCtrl ⟨0, .UNCHANGED, .UNCHANGED, .UNCHANGED, .value 30⟩)), .result "OK"] ∧
    (Api5.apiStep exS5 (.callAc 0 (.setTargetTemperature 3100))).2 =
      [.send .idempotent (Api5.msgAcControl ⟨0, .UNCHANGED, .UNCHANGED, .UNCHANGED, some 300⟩) true, .result "OK"] ∧
    (meaning2C ⟨0, .UNCHANGED, .UNCHANGED, .UNCHANGED, .value 30⟩).setpoint = .set 300 ∧
    (meaningAcRec ⟨0, .UNCHANGED, .UNCHANGED, .UNCHANGED, some 300⟩).setpoint = .set 300 := by decide +kernel

example : SameOutcome (Api4.apiStep exS4 (.call (.acSetTemp 0 3100))).2
    (Api5.apiStep exS5 (.callAc 0 (.setTargetTemperature 3100))).2 :=
  C19_ac_set_target_temperature_alike exRel.heap exRel.sockOpen_eq 0 3100
    (C19_roundsAlike_whole 31)

/-- the documented difference on the same state: 21.5 °C goes out as 22 °C and as 21.5 °C -/
example :
    (Api4.apiStep exS4 (.call (.acSetTemp 0 2150))).2 =
      [.send .idempotent (.reg (.acCtrl ⟨0, .UNCHANGED, .UNCHANGED, .UNCHANGED, .value 22⟩)), .result "OK"] ∧
    (Api5.apiStep exS5 (.callAc 0 (.setTargetTemperature 2150))).2 =
      [.send .idempotent (Api5.msgAcControl ⟨0, .UNCHANGED, .UNCHANGED, .UNCHANGED, some 215⟩) false, .result "OK"] := by
  decide +kernel

/-- zone 1, 40 %: the noted asymmetry - AirTouch 4 also switches the group to percentage control -/
example :
    (Api4.apiStep exS4 (.call (.zoneSetDamper 1 40))).2 =
      [.send .idempotent (.reg (.groupCtrl ⟨1, .UNCHANGED, .DAMPER, .damper 40⟩)), .result "OK"] ∧
    (Api5.apiStep exS5 (.callZone 1 (.setDamperPercentage 40))).2 =
      [.send .idempotent (Api5.msgZoneControl ⟨1, .UNCHANGED, some (.damper 40)⟩) false, .result "OK"] ∧
    (meaning2A ⟨1, .UNCHANGED, .DAMPER, .damper 40⟩).controlMethod = .percentage ∧
    (meaningZoneRec ⟨1, .UNCHANGED, some (.damper 40)⟩).controlType = .keep := by decide +kernel

example : SameOutcome (Api4.apiStep exS4 (.call (.zoneSetDamper 1 40))).2
    (Api5.apiStep exS5 (.callZone 1 (.setDamperPercentage 40))).2 :=
  C19_zone_set_damper_alike exRel.heap exRel.sockOpen_eq 1 40

/-- zone 1 has no sensor: a set-point is refused by both; zone 0 accepts 23 °C -/
example : (Api4.apiStep exS4 (.call (.zoneSetTemp 1 2300))).2 = [.result "ValueError"] ∧
    (Api5.apiStep exS5 (.callZone 1 (.setTargetTemperature 2300))).2 = [.result "ValueError"] ∧
    (Api4.apiStep exS4 (.call (.zoneSetTemp 0 2300))).2 =
      [.send .idempotent (.reg (.groupCtrl ⟨0, .UNCHANGED, .TEMPERATURE, .setPoint 23⟩)), .result "OK"] ∧
    (Api5.apiStep exS5 (.callZone 0 (.setTargetTemperature 2300))).2 =
      [.send .idempotent (Api5.msgZoneControl ⟨0, .UNCHANGED, some (.setPoint 230)⟩) false, .result "OK"] := by decide +kernel

/-- away: refused by AirTouch 4, sent by AirTouch 5 -/
example : (Api4.apiStep exS4 (.call (.acSetPower 0 .SET_TO_AWAY))).2 = [.result "ValueError"] ∧
    (Api5.apiStep exS5 (.callAc 0 (.setPower .SET_TO_AWAY))).2 =
      [.send .idempotent (Api5.msgAcControl ⟨0, .SET_TO_AWAY, .UNCHANGED, .UNCHANGED, none⟩) false, .result "OK"] := by
  decide +kernel

/-- on the wire: the frames of the 31 °C request, read by each vendor's reader, carry corresponding commands -/
example : ∃ fr4 fr5 f c5,
    At4.Registry.frameOf 1 (.acCtrl ⟨0, .UNCHANGED, .UNCHANGED, .UNCHANGED, .value 30⟩) = .ok fr4 ∧
    Spec.At4.readWire fr4 = some (.acControl (meaning2C ⟨0, .UNCHANGED, .UNCHANGED, .UNCHANGED, .value 30⟩)) ∧
    At5.Registry.frameOf 1 (.controlStatus (.acCtrl ⟨[⟨0, .UNCHANGED, .UNCHANGED, .UNCHANGED, some 300⟩]⟩)) = .ok fr5 ∧
    Spec.At5.readFrame (fr5.drop 10) = some f ∧ Spec.At5.frameOk (fr5.drop 10) = true ∧
    Spec.At5.readControlStatus f.data = some (.acControl [c5]) ∧
    AcCmdCorr (meaning2C ⟨0, .UNCHANGED, .UNCHANGED, .UNCHANGED, .value 30⟩) c5 :=
  C19_ac_same_meaning_on_the_wire 1 1 (by decide) (by decide) _ _ (by decide) (by decide)
    ⟨_, rfl, ⟨rfl, rfl, rfl, rfl, rfl⟩⟩

end PyAirtouch.Props.C19
