import PyAirtouch.Lemmas.SpecAgree4
/-!
# C05 (AirTouch 4; with the table of both generations) — what the decoders read is what the vendor document says

For the six AirTouch 4 status kinds (0x2B group status, 0x2D AC status, 0x1F/FF11 AC ability, FF12 group names,
FF10 AC error information, FF30 console version):

* `C05_g4_decode_agrees_<kind>` — for EVERY payload (all elements `< 256`) and every announced length: if the model
  decoder returns the response message with nothing left over, the reader written from the vendor document returns
  records that agree with it record by record (`Agree…`: the field correspondence of `harness/specmap.py`, each named
  relaxation an explicit disjunct).  Added hypotheses, each with a `…_refuted` witness showing it is needed:
  FF12 `msgLen = b.length` (what the receive path guarantees); FF10 / FF30 "the length byte does not exceed the bytes
  that follow".  FF11 (AC ability) holds for EVERY "following length" (the decoder advances by that byte, as the vendor
  reader does; not only for the documented lengths 22 / 24): `…_FF11` whenever the vendor
  reading exists, `…_FF11_strong` proves it exists when the announced bytes are there (`msgLen ≤ b.length`, what the
  receive path guarantees; `…_FF11_needs_length`, and `…_FF11_vendor_reads_iff`: that is the exact condition).
* `C05_g4_request_form_<kind>` — a payload decoded as the request form sharing the id is `none` / zero records for
  the vendor's response reader.
* `C05_g4_undefined_rejected_<kind>` (2B, 2D: the kinds whose public type has enum fields) — a payload whose vendor
  reading holds an undefined code is rejected (`.error`), never decoded to a defined value.

What is compared with what (AirTouch 4 here, AirTouch 5 in `Props/C055.lean`); every decoder is `Model.At4.* / At5.*.decode`,
every reader is in `Spec.At4` / `Spec.At5`:

| kind | vendor reader | hypothesis added to the literal reading | relaxations (disjuncts of `Agree…`) | witness that it is needed |
| 2B group status | `readGroupStatus` | none | set-point / temperature absent without sensor | - |
| 2D AC status | `readAcStatus` | none | KNOWN FINDING temperature has no absent value | `…_sentinel_decodes_to_number_2D` |
| FF11 AC ability | `readAcAbility` | announced bytes present (`_strong`) | none | `…_FF11_needs_length` |
| FF12 group names | `readGroupNames` | `msgLen = b.length` | repeated number: last name wins | `…_FF12_short_refuted` |
| FF10 / FF30 | `readAcError` / `readConsoleVersion` | length byte ≤ bytes that follow | none | `…_FF10_refuted` / `…_FF30_refuted` |
| C021 zone, C023 AC status | `readZoneStatus` / `readAcStatus` | announced data present | temperature absent without sensor; KNOWN FINDINGS set-point / temperature have no absent value (C023) | `…_needs_length` |
| FF10 / FF30 (AirTouch 5) | `readAcError` / `readConsoleVersion` | length byte ≤ bytes present | none | `…_needs_length` |
| FF11 / FF13 (AirTouch 5) | `readAcAbility` / `readZoneNames` | none | FF13: repeated number: last name wins | - |

Deliberately absent from C05: the control kinds (encoder direction, C04) and the AC timer kinds (0x36/0x37, 0xC0/0x32,
0x33: not in the vendor documents; absent from C04 too).
-/
namespace PyAirtouch.Props.C05
open PyAirtouch.Model PyAirtouch.Model.At4 PyAirtouch.Lemmas.SpecAgree4

theorem C05_g4_decode_agrees_2B : type_of% @decode_agrees_2B := @decode_agrees_2B
theorem C05_g4_request_form_2B : type_of% @request_form_2B := @request_form_2B
theorem C05_g4_undefined_rejected_2B : type_of% @undefined_rejected_2B := @undefined_rejected_2B

theorem C05_g4_decode_agrees_2D : type_of% @decode_agrees_2D := @decode_agrees_2D
theorem C05_g4_temperature_exact_2D : type_of% @temperature_exact_2D := @temperature_exact_2D
theorem C05_g4_request_form_2D : type_of% @request_form_2D := @request_form_2D
theorem C05_g4_undefined_rejected_2D : type_of% @undefined_rejected_2D := @undefined_rejected_2D

theorem C05_g4_decode_agrees_FF12 : type_of% @decode_agrees_FF12 := @decode_agrees_FF12
theorem C05_g4_decode_agrees_FF12_short_refuted : type_of% @decode_agrees_FF12_short_refuted :=
  @decode_agrees_FF12_short_refuted
theorem C05_g4_collapse_nodup : type_of% @collapse_nodup := @collapse_nodup
theorem C05_g4_request_form_FF12 : type_of% @request_form_FF12 := @request_form_FF12

theorem C05_g4_decode_agrees_FF10 : type_of% @decode_agrees_FF10 := @decode_agrees_FF10
theorem C05_g4_decode_agrees_FF10_refuted : type_of% @decode_agrees_FF10_refuted := @decode_agrees_FF10_refuted
theorem C05_g4_request_form_FF10 : type_of% @request_form_FF10 := @request_form_FF10

theorem C05_g4_decode_agrees_FF30 : type_of% @decode_agrees_FF30 := @decode_agrees_FF30
theorem C05_g4_decode_agrees_FF30_refuted : type_of% @decode_agrees_FF30_refuted := @decode_agrees_FF30_refuted
theorem C05_g4_request_form_FF30 : type_of% @request_form_FF30 := @request_form_FF30

theorem C05_g4_decode_agrees_FF11 : type_of% @decode_agrees_FF11 := @decode_agrees_FF11
theorem C05_g4_decode_agrees_FF11_strong : type_of% @decode_agrees_FF11_strong := @decode_agrees_FF11_strong
theorem C05_g4_decode_agrees_FF11_needs_length : type_of% @decode_agrees_FF11_needs_length :=
  @decode_agrees_FF11_needs_length
theorem C05_g4_decode_FF11_vendor_reads_iff : type_of% @decode_FF11_vendor_reads_iff := @decode_FF11_vendor_reads_iff
theorem C05_g4_decode_FF11_long_record : type_of% @decode_FF11_long_record := @decode_FF11_long_record
theorem C05_g4_request_form_FF11 : type_of% @request_form_FF11 := @request_form_FF11

/-! ## Non-vacuity: the vendor document's own example payloads, decoded by both sides -/

/-- 4.b example, two groups: `40 64 00 00 ff 00 | 41 e4 1a 80 61 80` -/
def vendor2B : Bytes := [0x40, 0x64, 0x00, 0x00, 0xff, 0x00, 0x41, 0xe4, 0x1a, 0x80, 0x61, 0x80]

-- group 0: on, percentage 100 %, no sensor (set-point and temperature absent through the two relaxations);
-- group 1: on, temperature control, set-point 26 °C, 28.0 °C
example : ∃ recs, Spec.At4.readGroupStatus vendor2B = some recs ∧ AgreeList AgreeGroupStatus
    [⟨0, .ON, .DAMPER, false, false, false, .NORMAL, none, 100, none⟩,
     ⟨1, .ON, .TEMPERATURE, false, false, true, .NORMAL, some 280, 100, some 26⟩] recs :=
  C05_g4_decode_agrees_2B vendor2B 12 (by decide) _ (by rfl)

example : Spec.At4.readGroupStatus vendor2B = some
    [⟨0, .on, .percentage, 100, false, false, 0, false, none, false⟩,
     ⟨1, .on, .temperature, 100, false, false, 260, true, some 280, false⟩] := by decide

-- undefined group power code `10` in the second group of the same payload
example : ∃ e, X2B.decode (vendor2B.set 6 0x81) 12 = .error e :=
  C05_g4_undefined_rejected_2B (vendor2B.set 6 0x81) _ (by rfl) ⟨_, List.mem_cons_of_mem _ (List.mem_cons_self ..), 2, rfl⟩

/-- 4.d example, two ACs: `40 42 1a 00 61 80 00 00 | 01 00 1a 00 61 80 ff fe` -/
def vendor2D : Bytes :=
  [0x40, 0x42, 0x1a, 0x00, 0x61, 0x80, 0x00, 0x00, 0x01, 0x00, 0x1a, 0x00, 0x61, 0x80, 0xff, 0xfe]

example : ∃ recs, Spec.At4.readAcStatus vendor2D = some recs ∧ AgreeList AgreeAcStatus
    [⟨0, .ON, .COOL, .LOW, false, false, 26, 280, 0⟩, ⟨1, .OFF, .AUTO, .AUTO, false, false, 26, 280, 65534⟩] recs :=
  C05_g4_decode_agrees_2D vendor2D 16 (by decide) _ (by rfl)

example : Spec.At4.readAcStatus vendor2D = some
    [⟨0, .on, .cool, .low, false, false, 260, some 280, 0⟩, ⟨1, .off, .auto, .auto, false, false, 260, some 280, 65534⟩] := by
  decide

-- the "not available" temperature (Byte5 = 0xff): the relaxation's disjunct is inhabited, value 154.0 + 0.4
example : ∃ recs, Spec.At4.readAcStatus [0x40, 0x42, 0x1a, 0x00, 0xff, 0x80, 0, 0] = some recs ∧ AgreeList AgreeAcStatus
    [⟨0, .ON, .COOL, .LOW, false, false, 26, 1544, 0⟩] recs :=
  C05_g4_decode_agrees_2D _ 8 (by decide) _ (by rfl)

/-- KNOWN FINDING `C05:sentinel:AT4_2D_TEMPERATURE_HAS_NO_ABSENT_VALUE`, as a theorem about the model of the decoder: the
    statement "the documented not-available sentinels decode to absent values" FAILS for the AC status temperature - the vendor
    reading of this payload has no temperature, the decoder (whose field is a plain number) returns 154.4 degC.  This is why
    `C05_g4_decode_agrees_2D` carries the second disjunct in `AgreeAcStatus`; without it the theorem would be false. -/
theorem C05_g4_sentinel_decodes_to_number_2D :
    (Spec.At4.readAcStatus [0x40, 0x42, 0x1a, 0x00, 0xff, 0x80, 0, 0]).map (fun recs => recs.map (·.temperature)) = some [none] ∧
    X2D.decode [0x40, 0x42, 0x1a, 0x00, 0xff, 0x80, 0, 0] 8 = .ok (.status [⟨0, .ON, .COOL, .LOW, false, false, 26, 1544, 0⟩], []) := by
  constructor <;> rfl

-- undefined AC mode code `0101` in the first AC
example : ∃ e, X2D.decode (vendor2D.set 1 0x52) 16 = .error e :=
  C05_g4_undefined_rejected_2D (vendor2D.set 1 0x52) _ (by rfl) ⟨_, List.mem_cons_self .., Or.inr (Or.inl ⟨5, rfl⟩)⟩

/-- 4.e.iii example, three groups "Living", "Kitchen", "Bedroom" -/
def vendorFF12 : Bytes := [0x00, 0x4c, 0x69, 0x76, 0x69, 0x6e, 0x67, 0x00, 0x00,
  0x01, 0x4b, 0x69, 0x74, 0x63, 0x68, 0x65, 0x6e, 0x00, 0x02, 0x42, 0x65, 0x64, 0x72, 0x6f, 0x6f, 0x6d, 0x00]

example : ∃ recs, Spec.At4.readGroupNames ([0xFF, 0x12] ++ vendorFF12) = some recs ∧ AgreeGroupNames
    [(0, [0x4c, 0x69, 0x76, 0x69, 0x6e, 0x67]), (1, [0x4b, 0x69, 0x74, 0x63, 0x68, 0x65, 0x6e]),
     (2, [0x42, 0x65, 0x64, 0x72, 0x6f, 0x6f, 0x6d])] recs :=
  C05_g4_decode_agrees_FF12 vendorFF12 27 (by decide) rfl ⟨_⟩ (by rfl)

-- a repeated group number: the mapping keeps the first position and the last name ("B" for group 7)
example : ∃ recs, Spec.At4.readGroupNames ([0xFF, 0x12] ++ [7, 0x41, 0, 0, 0, 0, 0, 0, 0, 7, 0x42, 0, 0, 0, 0, 0, 0, 0]) = some recs ∧
    AgreeGroupNames [(7, [0x42])] recs :=
  C05_g4_decode_agrees_FF12 _ 18 (by decide) rfl ⟨_⟩ (by rfl)

/-- 4.e.ii example: AC 0, "ER: FFFE" -/
def vendorFF10 : Bytes := [0x00, 0x08, 0x45, 0x52, 0x3a, 0x20, 0x46, 0x46, 0x46, 0x45]

example : ∃ s, Spec.At4.readAcError ([0xFF, 0x10] ++ vendorFF10) = some s ∧
    AgreeAcError ⟨0, some [0x45, 0x52, 0x3a, 0x20, 0x46, 0x46, 0x46, 0x45]⟩ s :=
  C05_g4_decode_agrees_FF10 vendorFF10 10 (by decide)
    (by intro ac n body h; injection h with _ h; injection h with h1 h2; subst h1 h2; decide) _ (by rfl)

/-- 4.e.iv example: no update, "1.3.3|1.3.3" -/
def vendorFF30 : Bytes := [0x00, 0x0b, 0x31, 0x2e, 0x33, 0x2e, 0x33, 0x7c, 0x31, 0x2e, 0x33, 0x2e, 0x33]

example : ∃ s, Spec.At4.readConsoleVersion ([0xFF, 0x30] ++ vendorFF30) = some s ∧
    AgreeConsoleVersion ⟨false, [[0x31, 0x2e, 0x33, 0x2e, 0x33], [0x31, 0x2e, 0x33, 0x2e, 0x33]]⟩ s :=
  C05_g4_decode_agrees_FF30 vendorFF30 13 (by decide)
    (by intro u n body h; injection h with _ h; injection h with h1 h2; subst h1 h2; decide) _ (by rfl)

/-- 4.e.i example: AC 0 "UNIT", following length 22, groups 0-3, modes 0x17, fan speeds 0x1d, 17-31 °C -/
def vendorFF11 : Bytes := [0x00, 0x16, 0x55, 0x4e, 0x49, 0x54, 0, 0, 0, 0, 0, 0, 0, 0, 0, 0, 0, 0,
  0x00, 0x04, 0x17, 0x1d, 0x11, 0x1f]

def isOneAbility : Except DecErr (FF11.Msg × Bytes) → Bool
  | .ok (.ability [_], []) => true
  | _ => false

-- the decoder accepts it (one AC) and the announced 24 bytes are there, so both theorems apply (the theorem takes the
-- decoding as a hypothesis because `decode … = …` is not `rfl`: `utf8Valid` goes through `String.fromUTF8?`)
example : isOneAbility (FF11.decode vendorFF11 24) = true := by decide +kernel
example : (Spec.At4.readAcAbility ([0xFF, 0x11] ++ vendorFF11)).map (·.map fun r => (r.ac, r.followingLength, r.name)) =
    some [(0, 22, [0x55, 0x4e, 0x49, 0x54])] := by decide

example (acs : List FF11.AcAbility) (h : FF11.decode vendorFF11 24 = .ok (.ability acs, [])) :
    ∃ recs, Spec.At4.readAcAbility ([0xFF, 0x11] ++ vendorFF11) = some recs ∧ AgreeList AgreeAcAbility acs recs :=
  C05_g4_decode_agrees_FF11_strong vendorFF11 24 (by decide) acs h (by decide)

-- a longer record (following length 46: the described bytes, display bytes `05 80`, 22 bytes of a future console):
-- the decoder accepts it as ONE AC with groups {0, 2, 15}, the vendor reader reads one record of following length 46
-- with 22 undescribed bytes, and the theorem applies
example : isOneAbility (FF11.decode ff11LongRecord 48) = true := by decide +kernel
example : (Spec.At4.readAcAbility ([0xFF, 0x11] ++ ff11LongRecord)).map
      (·.map fun r => (r.ac, r.followingLength, r.name, r.extra.length)) =
    some [(0, 46, [0x55, 0x4e, 0x49, 0x54], 22)] := by decide +kernel

example (acs : List FF11.AcAbility) (h : FF11.decode ff11LongRecord 48 = .ok (.ability acs, [])) :
    ∃ recs, Spec.At4.readAcAbility ([0xFF, 0x11] ++ ff11LongRecord) = some recs ∧ AgreeList AgreeAcAbility acs recs :=
  C05_g4_decode_agrees_FF11_strong ff11LongRecord 48 (by decide) acs h (by decide)

end PyAirtouch.Props.C05
